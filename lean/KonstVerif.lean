import KonstVerif.Model.Basic
import KonstVerif.Model.Slice
import KonstVerif.Spec.Slice
import KonstVerif.Props.C02
import KonstVerif.Spec.Utf8
import KonstVerif.Props.C10
import KonstVerif.Model.SliceIter
import KonstVerif.Spec.SliceIter
import KonstVerif.Lemmas.Deque
import KonstVerif.Lemmas.SliceIterSpec
import KonstVerif.Lemmas.SliceIter
import KonstVerif.Props.C08
import KonstVerif.Model.ParseInt
import KonstVerif.Spec.ParseInt
import KonstVerif.Lemmas.ParseInt
import KonstVerif.Props.C12
import KonstVerif.Model.OptRes
import KonstVerif.Spec.OptRes
import KonstVerif.Lemmas.OptRes
import KonstVerif.Props.C19
import KonstVerif.Model.Trace
import KonstVerif.Model.OptResEval
import KonstVerif.Spec.OptResEval
import KonstVerif.Props.C19Eval
import KonstVerif.Legacy.Rebind
import KonstVerif.Legacy.OptResCapture
import KonstVerif.Model.Utf8
import KonstVerif.Model.Chr
import KonstVerif.Model.Hist
import KonstVerif.Model.Chars
import KonstVerif.Spec.Str
import KonstVerif.Spec.Chars
import KonstVerif.Lemmas.Slice
import KonstVerif.Lemmas.Utf8
import KonstVerif.Lemmas.Deque
import KonstVerif.Lemmas.DequeInv
import KonstVerif.Lemmas.Chars
import KonstVerif.Props.C03
import KonstVerif.Props.C07
import KonstVerif.Model.Bytes
import KonstVerif.Model.StrFns
import KonstVerif.Spec.Bytes
import KonstVerif.Lemmas.Bytes
import KonstVerif.Lemmas.SyncMatch
import KonstVerif.Props.C04
import KonstVerif.Props.C05
import KonstVerif.Legacy.Find
import KonstVerif.Model.Guards
import KonstVerif.Props.C17
import KonstVerif.Model.Cmp
import KonstVerif.Spec.Cmp
import KonstVerif.Lemmas.Cmp
import KonstVerif.Props.C16
import KonstVerif.Legacy.Cmp
import KonstVerif.Props.C18
import KonstVerif.Legacy.ParserMethodUse
import KonstVerif.Spec.Concat
import KonstVerif.Model.Concat
import KonstVerif.Model.CStr
import KonstVerif.Lemmas.Concat
import KonstVerif.Lemmas.CStr
import KonstVerif.Props.C20
import KonstVerif.Lemmas.Hyg
import KonstVerif.Props.C11
import KonstVerif.Props.C11Eval
import KonstVerif.Legacy.ArrayEval
import KonstVerif.Props.C15
import KonstVerif.Model.Range
import KonstVerif.Spec.Range
import KonstVerif.Lemmas.Deque
import KonstVerif.Lemmas.RangeStep
import KonstVerif.Lemmas.Range
import KonstVerif.Props.C09
import KonstVerif.Model.Split
import KonstVerif.Spec.Split
import KonstVerif.Lemmas.Split
import KonstVerif.Lemmas.SplitDeque
import KonstVerif.Props.C06
import KonstVerif.Model.Parser
import KonstVerif.Spec.ParserInv
import KonstVerif.Spec.ParserSplit
import KonstVerif.Spec.ParserRef
import KonstVerif.Lemmas.Parser
import KonstVerif.Props.C13
import KonstVerif.Legacy.ParserTrim
import KonstVerif.Lemmas.ParserSplit
import KonstVerif.Lemmas.ParserFn
import KonstVerif.Props.C14
import KonstVerif.Lemmas.ParserPM
import KonstVerif.Lemmas.StrValid
import KonstVerif.Props.C01
import KonstVerif.Rs.Prelude
import KonstVerif.Rs.EvalAttr
import KonstVerif.Rs.LoopLemmas
import KonstVerif.Extracted.Gen.Slice
import KonstVerif.Extracted.Gen.Chr
import KonstVerif.Extracted.Gen.Str
import KonstVerif.Extracted.Gen.Bytes
import KonstVerif.Extracted.Gen.SliceFns
import KonstVerif.Extracted.Gen.StrFns
import KonstVerif.Extracted.Gen.Cmp
import KonstVerif.Extracted.Equiv.Slice
import KonstVerif.Extracted.Equiv.Bytes
import KonstVerif.Extracted.Equiv.Bytes2
import KonstVerif.Extracted.Equiv.SliceFns
import KonstVerif.Extracted.Equiv.Cmp
import KonstVerif.Extracted.Equiv.Chr
import KonstVerif.Extracted.Equiv.Str
import KonstVerif.Extracted.Equiv.BytesTrim
import KonstVerif.Extracted.Equiv.StrFns
import KonstVerif.Extracted.Gen.Parser
import KonstVerif.Extracted.Gen.ParseInt
import KonstVerif.Extracted.Gen.Chars
import KonstVerif.Extracted.Gen.SliceIter
import KonstVerif.Extracted.Equiv.ParserCommon
import KonstVerif.Extracted.Equiv.ParserA
import KonstVerif.Extracted.Equiv.ParserB
import KonstVerif.Extracted.Gen.Split
import KonstVerif.Extracted.Gen.Range
import KonstVerif.Extracted.Gen.ParsePrim
import KonstVerif.Extracted.Gen.SplitTerm
import KonstVerif.Extracted.Equiv.SliceIter
import KonstVerif.Extracted.Equiv.ParseInt
import KonstVerif.Extracted.Equiv.Chars
import KonstVerif.Extracted.Equiv.Split
import KonstVerif.Extracted.Gen.CStr
import KonstVerif.Extracted.Equiv.SplitTerm
import KonstVerif.Extracted.Equiv.ParsePrim
import KonstVerif.Extracted.Equiv.CStr
import KonstVerif.Extracted.Gen.Array
import KonstVerif.Extracted.Equiv.Range
import KonstVerif.Extracted.Equiv.Array
import KonstVerif.Extracted.Gen.Cmp2
import KonstVerif.Extracted.Gen.SliceIter2
import KonstVerif.Extracted.Gen.RangeIter
import KonstVerif.Extracted.Gen.ProbesOpt
import KonstVerif.Extracted.Gen.ProbesIter
import KonstVerif.Extracted.Gen.ProbesPm
import KonstVerif.Extracted.Gen.ProbesMisc
import KonstVerif.Extracted.Gen.ProbesArr
import KonstVerif.Extracted.Gen.Concat
import KonstVerif.Extracted.Gen.SliceConcat
import KonstVerif.Extracted.Gen.Cmp3
import KonstVerif.Extracted.Gen.ParseInt2
import KonstVerif.Extracted.Gen.Range2
import KonstVerif.Extracted.Gen.Cmp4
import KonstVerif.Extracted.Equiv.Cmp2
import KonstVerif.Extracted.Equiv.SliceIter2
import KonstVerif.Extracted.Equiv.RangeIter
import KonstVerif.Extracted.Equiv.ProbesOpt
import KonstVerif.Extracted.Equiv.ProbesIter
import KonstVerif.Extracted.Equiv.ProbesIterModel
import KonstVerif.Extracted.Equiv.ProbesPm
import KonstVerif.Extracted.Equiv.ProbesMisc
import KonstVerif.Extracted.Equiv.ProbesArr
import KonstVerif.Extracted.Equiv.ParseWith
import KonstVerif.Extracted.Equiv.CStr2
import KonstVerif.Extracted.Equiv.Concat
import KonstVerif.Extracted.Equiv.SliceConcat
import KonstVerif.Extracted.Equiv.Cmp3
import KonstVerif.Extracted.Equiv.ParseInt2
import KonstVerif.Extracted.Equiv.Range2
import KonstVerif.Extracted.Equiv.Cmp4
import KonstVerif.Extracted.Equiv.BytesPub
import KonstVerif.Extracted.Equiv.Cmp5
import KonstVerif.Extracted.Equiv.Cmp7
import KonstVerif.Extracted.Equiv.CmpFor
import KonstVerif.Extracted.Equiv.Cmp6
import KonstVerif.Extracted.Equiv.Rest
import KonstVerif.Rs.BridgeLemmas
