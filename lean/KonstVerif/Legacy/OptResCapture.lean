import KonstVerif.Model.OptResEval
import KonstVerif.Spec.OptRes
/-
  F19 (fixed in /repo by a6790b3) — documentation only, contributes no obligation.

  As found, two identifier patterns of the family stood where a pattern is ALLOWED to fail:

      opt_filter!     match $e { Some(x) if <pred on &x> => Some(x), _ => None }
      rebind_if_ok!   if let Ok(tuple) = $expression { <walker> $code }

  `macro_rules!` hygiene does not cover items: with a caller `const x` (resp. `const tuple`) in scope the pattern is
  the CONSTANT.  Everywhere else in the family that is a compile error; here the program compiled and only the
  constant's value took the `Some` / `Ok` branch:

      const x: i64 = 1;      konst::option::filter!(Some(5), |v| *v > 0)   ==  None      (std: Some(5); predicate not called)
      const tuple: i64 = 10; konst::rebind_if_ok!{p = Ok::<i64, i64>(5)}   assigns nothing (if let Ok(t) = .. { p = t }: 5)

  The repair makes both matches exhaustive (`Some(x) => if .. {Some(x)} else {None}, None => None`;
  `match $expression { Ok(tuple) => {..} Err(_) => {} }`), so the clash is the ordinary compile error
  (`Eval.verdict .. = .reject`).  This file keeps the as-found behaviour with kernel-checked witnesses.
-/
namespace Konst.Legacy.OptResCapture
open Konst Konst.OptRes Konst.OptRes.Eval

variable {α : Type}

/-- the binders that stood in a pattern which may fail (a constant there compiled) -/
def refutableBinders (mac : String) : List String :=
  match mac with
  | "opt.filter" => ["x"]
  | "rebind.rebind_if_ok" | "rebind.rebind_if_ok_nc" => ["tuple"]
  | _ => []

inductive Verdict where
  | transparent | reject
  | captured        -- compiles, the pattern matches only the constant
deriving DecidableEq, Repr

/-- the verdict before a6790b3 -/
def verdict (mac form : String) (d : Decl) (name : String) : Verdict :=
  if d = .fn_ ∨ d = .local_ then .transparent
  else if name ∈ binders mac form then
    if d = .const_ ∧ name ∈ refutableBinders mac then .captured else .reject
  else .transparent

/-- `opt_filter!` when `x` named a caller constant of value `c`: `Some(c) if p(&c) => Some(c), _ => None` -/
def optFilterCaptured [DecidableEq α] (c : α) (o : Option α) (p : α → Bool) : Ev (Option α) :=
  match o with
  | some v => if v = c then do
      let keep ← Ev.call p c
      if keep then pure (some c) else pure none
    else pure none
  | none => pure none

/-- `rebind_if_ok!{pat = e => code}` when `tuple` named a caller constant `c`: `if let Ok(c) = e { pat = c; code }` -/
def rebindIfOkCaptured (c : Int) (u : UserPat) (n : Nat) (annot : Bool) (r : Except Int (List Int)) : RebindOut :=
  match r with
  | .ok [v] => if v = c then rebindIfOk u n annot r else .skip
  | .ok _ => .reject
  | .error _ => rebindIfOk u n annot r

/-- with a caller constant `x = c` in scope `option::filter!` kept only `Some(c)`: it equalled std's `filter`
    exactly on `None`, on `Some(c)`, and on every `Some(v)` the predicate rejects -/
theorem optFilterCaptured_eq_std_iff [DecidableEq α] (c : α) (o : Option α) (p : α → Bool) :
    ((optFilterCaptured c o p).run).1 = (Spec.OptRes.optFilter o p).1 ↔
      (o = none ∨ o = some c ∨ ∃ v, o = some v ∧ p v = false) := by
  cases o with
  | none => simp [optFilterCaptured, Spec.OptRes.optFilter, Ev.run, pure, Ev.pure]
  | some v =>
    by_cases hv : v = c
    · subst hv
      cases hp : p v <;>
        simp [optFilterCaptured, Spec.OptRes.optFilter, Ev.run, bind, Ev.bind, Ev.call,
          Option.filter, pure, Ev.pure, hp]
    · cases hp : p v <;>
        simp [optFilterCaptured, Spec.OptRes.optFilter, Ev.run, hv, pure, Ev.pure, Option.filter, hp]

/-- the two failing call sites -/
example : (optFilterCaptured (1 : Int) (some 5) (fun v => decide (v > 0))).run = (none, 0) ∧
    Spec.OptRes.optFilter (some (5 : Int)) (fun v => decide (v > 0)) = (some 5, 1) := by decide +kernel
example : rebindIfOkCaptured 10 ⟨true, [.place]⟩ 1 true (.ok [5]) = .skip ∧
    rebindIfOk ⟨true, [.place]⟩ 1 true (.ok [5]) = .ok [(⟨0, .place⟩, .scalar 5)] := by decide +kernel
example : verdict "opt.filter" "cl" .const_ "x" = .captured ∧ verdict "rebind.rebind_if_ok" "p" .const_ "tuple" = .captured ∧
    Eval.verdict "opt.filter" "cl" .const_ "x" = .reject ∧ Eval.verdict "rebind.rebind_if_ok" "p" .const_ "tuple" = .reject := by decide +kernel

end Konst.Legacy.OptResCapture
