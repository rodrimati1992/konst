import KonstVerif.Lemmas.Cmp
/-
  Two findings, as models of the code AS FOUND; the file contributes no obligation to C16.

  F2 (fixed in /repo by 5d1d77b): the slice comparators (`cmp_inner` of `__declare_slice_cmp_fns!`,
  `const_cmp_for!(slice; …)`) compared the lengths BEFORE the elements.  The old comparator is a total order
  (short-lex), which is why no law-based test could notice; `cmp_slice([2], [1, 1])` was `Less`, `Ord::cmp` says
  `Greater`.  The corpus line that exposes a revert of the fix is `cmp.fn slice_u8 [2] [1;1]` (and the same pair
  through `cmp.for`, `cmp.macro`, `cmp.opt`); the exhaustive generator of `harness/src/c16.rs` contains it.

  F10 (fixed in /repo by e16d62f): `__cmp_assert_inner!` (`assertc_eq!` / `assertc_ne!`) bound both arguments with
  `match (&$left, &$right)` and then wrote `coerce_to_cmp!($left).const_eq(right)`: the left argument EXPRESSION was
  evaluated twice and the value of the second evaluation was compared.  No difference for variables, constants and
  pure calls, which is why konst's own uses never showed it.  The corpus lines that expose a revert of the fix are
  `assertc.se.eq u8 0/1 0` (and every `assertc.<se|sb>.<eq|ne>` request: `…|2|1|lrl` instead of `…|1|1|lr`),
  vlib/progs/c16.py.
-/
namespace Konst.Legacy.Cmp
open Konst.Cmp Konst.Spec.Cmp Konst.Lemmas.Cmp

/-- as found: `__priv_ret_if_ne!{left_len, right.len()}` FIRST, then
    `while i < left_len { __priv_ret_if_ne!{left[i], right[i]} … }`, then `EQUAL` -/
def legacyCmpSliceInner (left right : List Int) : Option U8Ordering :=
  let leftLen := left.length
  match retIfNe leftLen right.length with
  | some o => some o
  | none => elemLoop left right leftLen U8Ordering.EQUAL 0

/-- as-found `cmp_slice_*` -/
def legacyCmpSlice (left right : List Int) : Option Ordering :=
  (legacyCmpSliceInner left right).map U8Ordering.toOrdering

/-- the as-found inner loop of `const_cmp_for!(slice; …)` (only entered on equal lengths):
    `if let ([l, l_rem@..], [r, r_rem@..]) = … { …; if ord != Equal { break ord } } else { break Equal }` -/
def legacyForLoop {α : Type} (cmp : α → α → Option Ordering) : List α → List α → Option Ordering
  | l :: lRem, r :: rRem =>
    match cmp l r with
    | some ord => if ord ≠ .eq then some ord else legacyForLoop cmp lRem rRem
    | none => none
  | _, _ => some .eq

/-- as-found `const_cmp_for!(slice; left, right, cmp)`:
    `if left.len() == right.len() { loop } else if left.len() < right.len() { Less } else { Greater }` -/
def legacyConstCmpForSlice {α : Type} (cmp : α → α → Option Ordering) (left right : List α) : Option Ordering :=
  if left.length = right.length then legacyForLoop cmp left right
  else if left.length < right.length then some .lt
  else some .gt

/-- short-lex: lengths first, elements only between slices of the same length -/
def shortLex {α : Type} (c : α → α → Ordering) (l r : List α) : Ordering :=
  (lenOrd l.length r.length).then (lexCmp c l r)

/-- what the as-found `cmp_slice_*` computed (it never panicked either) -/
theorem legacyCmpSlice_eq_shortLex (l r : List Int) :
    legacyCmpSlice l r = some (shortLex stdCmpScalar l r) := by
  unfold legacyCmpSlice legacyCmpSliceInner shortLex lenOrd
  dsimp only
  rcases Nat.lt_trichotomy l.length r.length with h | h | h
  · rw [retIfNe_of_not_gt (Nat.ne_of_lt h) (Nat.lt_asymm h), if_pos h]
    rfl
  · rw [(h ▸ retIfNe_self _ : retIfNe l.length r.length = none),
      if_neg (Nat.not_lt.2 (Nat.le_of_eq h.symm)), if_pos h]
    exact elemLoop_spec l r _ _ (by rw [h, Nat.min_self])
      (toOrdering_EQUAL.trans ((lenOrd_eq_eq _ _).2 h).symm)
  · rw [retIfNe_of_gt (Nat.ne_of_gt h) h, if_neg (Nat.lt_asymm h), if_neg (Nat.ne_of_gt h)]
    rfl

theorem legacyForLoop_spec {α : Type} (cmp : α → α → Option Ordering) (c : α → α → Ordering)
    (hc : ∀ a b, cmp a b = some (c a b)) (l r : List α) (hlen : l.length = r.length) :
    legacyForLoop cmp l r = some (lexCmp c l r) := by
  induction l generalizing r with
  | nil => cases r <;> simp_all [legacyForLoop, lexCmp]
  | cons a as ih =>
    cases r with
    | nil => simp at hlen
    | cons b bs =>
      simp only [legacyForLoop, hc, lexCmp, ih bs (by simpa using hlen)]
      cases c a b <;> simp [Ordering.then]

/-- what the as-found `const_cmp_for!(slice; …)` computed -/
theorem legacyConstCmpForSlice_eq_shortLex {α : Type} (cmp : α → α → Option Ordering)
    (c : α → α → Ordering) (hc : ∀ a b, cmp a b = some (c a b)) (l r : List α) :
    legacyConstCmpForSlice cmp l r = some (shortLex c l r) := by
  unfold legacyConstCmpForSlice shortLex
  by_cases hlen : l.length = r.length
  · have hl : lenOrd l.length r.length = .eq := (lenOrd_eq_eq _ _).2 hlen
    rw [hl, legacyForLoop_spec cmp c hc l r hlen]
    simp [hlen, Ordering.then]
  · by_cases hlt : l.length < r.length
    · simp [hlen, hlt, (lenOrd_eq_lt _ _).2 hlt, Ordering.then]
    · have : lenOrd l.length r.length = .gt := by
        unfold lenOrd; simp [hlt, hlen]
      simp [hlen, hlt, this, Ordering.then]

/-- short-lex is a total order whenever the element comparison is -/
theorem shortLex_isTotalOrder {α : Type} {c : α → α → Ordering} (h : IsTotalOrder c) :
    IsTotalOrder (shortLex c) where
  eq_iff l r := by
    unfold shortLex
    rw [then_eq_eq, lenOrd_eq_eq, (lex_isTotalOrder h).eq_iff]
    exact ⟨fun hh => hh.2, fun hh => ⟨by rw [hh], hh⟩⟩
  swap l r := by
    unfold shortLex
    rw [swap_then, ← lenOrd_swap, ← (lex_isTotalOrder h).swap]
  trans_lt x y z := by
    unfold shortLex
    simp only [then_eq_lt, lenOrd_eq_lt, lenOrd_eq_eq]
    intro h1 h2
    rcases h1 with h1 | ⟨h1, h1'⟩ <;> rcases h2 with h2 | ⟨h2, h2'⟩
    · left; omega
    · left; omega
    · left; omega
    · right; exact ⟨by omega, (lex_isTotalOrder h).trans_lt x y z h1' h2'⟩

/-- **the as-found comparator satisfies every order law** (total, antisymmetric, transitive,
    `Equal` iff equal): a test of the laws cannot tell it from `Ord::cmp` -/
theorem legacy_is_total_order :
    ∃ c, (∀ l r, legacyCmpSlice l r = some (c l r)) ∧ IsTotalOrder c :=
  ⟨_, legacyCmpSlice_eq_shortLex, shortLex_isTotalOrder int_isTotalOrder⟩

/-- the same for the as-found `const_cmp_for!(slice; …)` over any total element order -/
theorem legacy_for_is_total_order {α : Type} (cmp : α → α → Option Ordering) (c : α → α → Ordering)
    (hc : ∀ a b, cmp a b = some (c a b)) (hord : IsTotalOrder c) :
    ∃ c', (∀ l r, legacyConstCmpForSlice cmp l r = some (c' l r)) ∧ IsTotalOrder c' :=
  ⟨_, legacyConstCmpForSlice_eq_shortLex cmp c hc, shortLex_isTotalOrder hord⟩

/-- **F2 witness** (kernel-checked): `cmp_slice_u8(&[2], &[1, 1])` was `Less`; `Ord::cmp` is `Greater` -/
theorem legacy_ne_lex :
    legacyCmpSlice [2] [1, 1] = some .lt ∧ lexCmp stdCmpScalar [2] [1, 1] = .gt := by
  decide +kernel

/-- the same witness for the as-found `const_cmp_for!(slice; …)` -/
theorem legacy_for_ne_lex :
    legacyConstCmpForSlice (fun a b => some (cmpInt a b)) [2] [1, 1] = some .lt ∧
      lexCmp stdCmpScalar [2] [1, 1] = .gt := by
  decide +kernel

/-- where old and repaired code agree: slices of the same length -/
theorem legacy_eq_lex_of_length_eq (l r : List Int) (h : l.length = r.length) :
    legacyCmpSlice l r = cmpSlice l r := by
  rw [legacyCmpSlice_eq_shortLex, shortLex, (lenOrd_eq_eq _ _).2 h]
  exact (cmpSliceInner_spec l r).symm

/-! ## F10: `assertc_eq!` / `assertc_ne!` evaluated `$left` twice -/

/-- as found: `match (&$left, &$right) { (left, right) => if let $is_equal =
    coerce_to_cmp!($left).const_eq(right) { … } }` — `$left`, `$right`, `$left` again; the second
    value of `$left` is compared with the value of `$right` -/
def legacyCmpAssertArgs : ArgUse := ⟨[.left, .right, .left], 1, 0⟩

/-- as found: `$left` evaluated TWICE (`$right` once), second value compared -/
theorem legacyCmpAssertArgs_left_twice {α : Type} (l r : ArgExpr α) :
    legacyCmpAssertArgs.evals = [.left, .right, .left] ∧ legacyCmpAssertArgs.count .left = 2 ∧
      legacyCmpAssertArgs.count .right = 1 ∧ legacyCmpAssertArgs.operands l r = (l.eval 1, r.eval 0) :=
  ⟨rfl, by decide, by decide, rfl⟩

/-- as found, the operands were those of `assert_eq!` whenever a second evaluation of `$left`
    produced the same value as the first -/
theorem legacyCmpAssertArgs_operands_of_idempotent {α : Type} (l r : ArgExpr α) (h : l.eval 1 = l.eval 0) :
    legacyCmpAssertArgs.operands l r = ArgUse.once.operands l r := by
  simp [ArgUse.operands, legacyCmpAssertArgs, ArgUse.once, h]

/-- **F10 witness** (kernel-checked): `assertc_eq!(next(), 0u8)` with `next()` yielding 0, then 1:
    the as-found expansion compared 1 with 0 and panicked; `assert_eq!` (and the repaired macro)
    compare 0 with 0 and pass -/
theorem legacy_assert_ne_std :
    let l : ArgExpr Int := ⟨0, [1]⟩
    let r : ArgExpr Int := ⟨0, []⟩
    assertcEq (some (eqPrim (legacyCmpAssertArgs.operands l r).1 (legacyCmpAssertArgs.operands l r).2)) = .panic ∧
      assertcEq (some (eqPrim (cmpAssertArgs.operands l r).1 (cmpAssertArgs.operands l r).2)) = .ok ∧
      stdEq (ArgUse.once.operands l r).1 (ArgUse.once.operands l r).2 = true := by
  decide +kernel

end Konst.Legacy.Cmp
