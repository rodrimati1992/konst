import KonstVerif.Model.OptRes
/-
  F4 (fixed in /repo by bac3b9b) — documentation only, contributes no obligation.

  Before the repair the third arm of `__priv_next_ai_access` read

      $($lhs)* = $var.$field;
      $crate::__priv_assign_tuple!($var,($($rem_fields:tt)*), $($rem)+)

  i.e. the transcriber wrote the fragment specifier `:tt` after every remaining field token, so the
  field list handed to the next step was `1 : tt 2 : tt 3 : tt 4 : tt 5 : tt`.  The second pattern
  still found the token `1` at the head, the third found `:`.

  This file is the token-level model of that walker (identical to `Model/OptRes.lean` except for the
  transcription) with kernel-checked witnesses: arity 1 and 2 expand as intended, every pattern list
  with three or more elements yields `tuple.:` for its third element, which no payload type-checks.
-/
namespace Konst.Legacy.Rebind
open Konst Konst.OptRes

/-- `$($rem_fields:tt)*` in a transcriber: each remaining token followed by `:` and `tt` -/
def transcribeStray (remFields : List Tok) : List Tok :=
  remFields.flatMap fun t => [t, .colon, .ttkw]

def assignTuple (fields : List Tok) (pos : Nat) : List PatKind → Option (List Stmt)
  | [] => none
  | p :: rem =>
    let pre : List Stmt := if p = .typedPlace then [.assertTy pos] else []
    let lhs : Lhs := ⟨pos, p⟩
    match fields, rem with
    | .idx 0 :: _, [] => some (pre ++ [.assign lhs .whole])
    | f :: _, [] => some (pre ++ [.assign lhs (.field f)])
    | f :: remFields, _ :: _ =>
      (assignTuple (transcribeStray remFields) (pos + 1) rem).map fun rest =>
        pre ++ .assign lhs (.field f) :: rest
    | [], _ => none

def preprocess (u : UserPat) : Option (List Stmt) := assignTuple fields0 0 u.pats

/-- the statements, if the expansion type-checks against a payload of arity `n` -/
def emitted (u : UserPat) (n : Nat) (annot : Bool) : Option (List Stmt) :=
  match preprocess u with
  | some stmts => if stmts.all (stmtOk n annot) then some stmts else none
  | none => none

/-- a single pattern was unaffected: it never reaches the third arm -/
theorem arity1_unaffected (b : Bool) (p : PatKind) :
    preprocess ⟨b, [p]⟩ = OptRes.preprocess ⟨b, [p]⟩ := rfl

/-- so were two: the second step still finds the token `1` at the head of `1 : tt 2 : tt …` -/
theorem arity2_unaffected (b : Bool) (p q : PatKind) :
    preprocess ⟨b, [p, q]⟩ = OptRes.preprocess ⟨b, [p, q]⟩ := by
  rfl

/-- the old walker on a pattern that is not the last: arm 3 of `__priv_next_ai_access` hands the remaining
    field tokens on with `: tt` after each -/
theorem assignTuple_cons_cons (f : Tok) (fs : List Tok) (pos : Nat) (p q : PatKind) (rem : List PatKind) :
    assignTuple (f :: fs) pos (p :: q :: rem) =
      (assignTuple (transcribeStray fs) (pos + 1) (q :: rem)).map fun rest =>
        (if p = .typedPlace then [Stmt.assertTy pos] else []) ++ .assign ⟨pos, p⟩ (.field f) :: rest := by
  rcases f with (_ | _) | _ | _ <;> rfl

/-- a `:` at the head of the field list becomes the field of the head pattern's assignment -/
theorem colon_head_mem (fs : List Tok) (pos : Nat) (p : PatKind) (rem : List PatKind) (st : List Stmt)
    (h : assignTuple (Tok.colon :: fs) pos (p :: rem) = some st) :
    Stmt.assign ⟨pos, p⟩ (.field .colon) ∈ st := by
  cases rem with
  | nil =>
    cases h
    exact List.mem_append_right _ (List.mem_singleton_self _)
  | cons q rem =>
    rw [assignTuple_cons_cons] at h
    obtain ⟨a, _, rfl⟩ := Option.map_eq_some_iff.1 h
    exact List.mem_append_right _ (List.mem_cons_self ..)

/-- for EVERY pattern list with at least three elements the old walker, if it expands at all,
    emits an ill-formed field access for the third element -/
theorem arity_ge3_illformed (b : Bool) (p q r : PatKind) (rest : List PatKind) (stmts : List Stmt)
    (h : preprocess ⟨b, p :: q :: r :: rest⟩ = some stmts) :
    Stmt.assign ⟨2, r⟩ (.field .colon) ∈ stmts := by
  rw [preprocess, fields0, assignTuple_cons_cons] at h
  obtain ⟨a, ha, rfl⟩ := Option.map_eq_some_iff.1 h
  -- the second step sees `1 : tt 2 : tt …` and hands `: : tt tt : tt 2 : tt …` to the third
  change assignTuple (Tok.idx 1 :: Tok.colon :: Tok.ttkw :: _) 1 (q :: r :: rest) = some a at ha
  rw [assignTuple_cons_cons] at ha
  obtain ⟨a', ha', rfl⟩ := Option.map_eq_some_iff.1 ha
  have hr := colon_head_mem _ 2 r rest a' ha'
  exact List.mem_append_right _ (List.mem_cons_of_mem _ (List.mem_append_right _ (List.mem_cons_of_mem _ hr)))

/-- hence no pattern list of three or more elements compiled, for any payload -/
theorem arity_ge3_rejected (b : Bool) (p q r : PatKind) (rest : List PatKind) (n : Nat) (annot : Bool) :
    emitted ⟨b, p :: q :: r :: rest⟩ n annot = none := by
  unfold emitted
  cases h : preprocess ⟨b, p :: q :: r :: rest⟩ with
  | none => rfl
  | some stmts =>
    have : stmts.all (stmtOk n annot) = false :=
      List.all_eq_false.2 ⟨_, arity_ge3_illformed b p q r rest stmts h, Bool.false_ne_true⟩
    exact if_neg (this ▸ Bool.false_ne_true)

/-- the witness: three places — the third assignment reads `p2 = tuple.:` -/
theorem arity3_witness :
    preprocess ⟨false, [.place, .place, .place]⟩ =
      some [.assign ⟨0, .place⟩ (.field (.idx 0)), .assign ⟨1, .place⟩ (.field (.idx 1)),
            .assign ⟨2, .place⟩ (.field .colon)] := by decide +kernel

/-- … which rustc rejects whatever the payload is, while the repaired walker is accepted -/
theorem arity3_rejected (n : Nat) (annot : Bool) :
    emitted ⟨false, [.place, .place, .place]⟩ n annot = none := by
  exact arity_ge3_rejected ..

theorem arity3_fixed_accepted :
    OptRes.emitted true ⟨false, [.place, .place, .place]⟩ 3 false =
      some [.assign ⟨0, .place⟩ (.field (.idx 0)), .assign ⟨1, .place⟩ (.field (.idx 1)),
            .assign ⟨2, .place⟩ (.field (.idx 2))] := by decide +kernel

end Konst.Legacy.Rebind
