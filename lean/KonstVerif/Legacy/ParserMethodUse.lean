import KonstVerif.Model.ParserMethodUse
/-
  `parser_method!` AS FOUND (before ff38c77 / 5e6c5eb), kept as documentation of F18b and F18c (no obligation).

  F18b  `__priv_pa_find_skip_either` pasted the branch bodies INSIDE its own `loop` (`break $e` / `break $default`):
        an unlabeled `break` / `continue` written in a body targeted that hidden loop instead of the caller's.
  F18c  the expansion bound the plain identifiers `bytes`, `rem`, `brem`; a caller constant / static / unit struct of
        that name in scope made the identifier pattern a path pattern (error E0530).
-/
namespace Konst.Legacy.PMUse
open Konst Konst.PM Konst.PM.Use

def bodiesInHiddenLoop : Form → Bool
  | .findSkip | .rfindSkip => true
  | _ => false

/-- as found, a body's `continue` repeated `match bytes` on the same `bytes`: the same arm with the same `rem`,
    `set` once more (relative to the already advanced parser) and the body once more -/
def reSet (f : Form) (arms : List (Nat × List Nat)) (before after : PState) : PState :=
  match matchPart f arms before.rem with
  | none => after
  | some (_, rem) => (setFrom f after after rem).getD after

def binders : Form → List String
  | .stripPrefix | .stripSuffix => ["rem"]
  | .findSkip | .rfindSkip => ["bytes", "rem", "brem"]
  | .trimStart | .trimEnd => ["bytes", "rem"]

def callerItemRejects : Form → String → String → Bool := itemRejects binders

theorem bodies_in_hidden_loop_iff (f : Form) :
    bodiesInHiddenLoop f = true ↔ f = .findSkip ∨ f = .rfindSkip := by
  cases f <;> simp [bodiesInHiddenLoop]

/-- the repeated `set` was a no-op on the parser: what the caller could observe of the capture was that the body ran
    again and that the caller's loop was not continued -/
theorem reSet_noop_example :
    reSet .findSkip [(0, [97])] ⟨0, [120, 97, 98]⟩ (run .findSkip [(0, [97])] ⟨0, [120, 97, 98]⟩).2
      = (run .findSkip [(0, [97])] ⟨0, [120, 97, 98]⟩).2 := by decide

/-- witnesses: caller items the expansion before ff38c77 rejected and the one at /repo's HEAD (`Use.callerItemRejects`)
    accepts -/
theorem legacy_rejects_now_accepted :
    callerItemRejects .stripPrefix "const" "rem" = true ∧ Use.callerItemRejects .stripPrefix "const" "rem" = false ∧
    callerItemRejects .findSkip "unit" "brem" = true ∧ Use.callerItemRejects .findSkip "unit" "brem" = false ∧
    callerItemRejects .trimEnd "static" "bytes" = true ∧ Use.callerItemRejects .trimEnd "static" "bytes" = false := by
  decide

end Konst.Legacy.PMUse
