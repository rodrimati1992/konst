import KonstVerif.Spec.Bytes
/-
  Legacy: the pattern matcher of `__bytes_find` / `__bytes_rfind` as it was BEFORE commit 116b24e
  ("fix: byte pattern search misses matches that overlap a failed partial match"); finding F1.
  Documentation of the finding only — contributes no proof obligation, is not used by the driver.

  The old code made a single pass over the haystack keeping `matching`, the part of the pattern
  still to be matched; on a mismatch it restarted with the whole pattern, or with the pattern
  minus its first byte when the current byte equals the pattern's first byte
  ("For when the string is "lawlawn" and we are trying to find "lawn"").  That forgets every
  occurrence that begins inside the partial match other than at its last byte.
-/
namespace Konst.Legacy.Find
open Konst.Spec.Bytes

/-- old `__bytes_find`: `for_range!{i in 0..left.len() => match matching { … }}`;
    arguments: the rest of the haystack `left[i..]`, `matching`, `i` -/
def findGo (pat : List Nat) : List Nat → List Nat → Nat → Option Nat
  | [], matching, i =>
      -- after the loop: `if matching.is_empty() { Some(left.len() - pattern.len()) } else { None }`
      if matching.isEmpty then some (i - pat.length) else none
  | b :: rest, matching, i =>
    match matching with
    | [] => some (i - pat.length)                    -- `[] => return Some(i - pattern.len())`
    | mb :: mrem =>
      let matching' :=
        if b == mb then mrem
        else match pat with
          | mb2 :: mrem2 => if b == mb2 then mrem2 else pat
          | [] => pat
      findGo pat rest matching' (i + 1)

def bytesFindLegacy (left pat : List Nat) : Option Nat := findGo pat left pat 0

/-- old `__bytes_rfind`: `while i != 0 { i -= 1; match matching { [m_rem @ .., mb] => …,
    [] => return Some(i + (!pattern.is_empty()) as usize) } }`, then
    `if matching.is_empty() { Some(i) } else { None }`.
    Modelled on the reversed lists: arguments = `left[..i]` reversed, `matching` reversed. -/
def rfindGo (patR : List Nat) : List Nat → List Nat → Option Nat
  | [], matching => if matching.isEmpty then some 0 else none
  | b :: rest, matching =>
    match matching with
    | [] => some (rest.length + (if patR.isEmpty then 0 else 1))
    | mb :: mrem =>
      let matching' :=
        if b == mb then mrem
        else match patR with
          | mb2 :: mrem2 => if b == mb2 then mrem2 else patR
          | [] => patR
      rfindGo patR rest matching'

def bytesRfindLegacy (left pat : List Nat) : Option Nat := rfindGo pat.reverse left.reverse pat.reverse

/-- invariant of the single pass: the matched part `done` of the pattern is a suffix of the
    consumed haystack `pre` -/
theorem findGo_sound (pat : List Nat) : ∀ (rest pre matching done : List Nat) (k : Nat),
    pat = done ++ matching → done <:+ pre →
    findGo pat rest matching pre.length = some k → pat <+: (pre ++ rest).drop k := by
  intro rest
  induction rest with
  | nil =>
    intro pre matching done k hpat hsuf hr
    simp only [findGo] at hr
    by_cases hm : matching = []
    · subst hm
      simp only [List.isEmpty_nil, if_true, Option.some.injEq] at hr
      simp only [List.append_nil] at hpat
      subst hpat
      obtain ⟨x, hx⟩ := hsuf
      subst hx; subst hr
      simp
    · have : matching.isEmpty = false := List.isEmpty_eq_false_iff.mpr hm
      simp [this] at hr
  | cons b rest ih =>
    intro pre matching done k hpat hsuf hr
    cases matching with
    | nil =>
      simp only [findGo, Option.some.injEq] at hr
      simp only [List.append_nil] at hpat
      subst hpat
      obtain ⟨x, hx⟩ := hsuf
      subst hx; subst hr
      simp
    | cons mb mrem =>
      simp only [findGo] at hr
      have hlen : (pre ++ [b]).length = pre.length + 1 := by simp
      rw [← hlen] at hr
      have happ : pre ++ b :: rest = (pre ++ [b]) ++ rest := by simp
      rw [happ]
      by_cases hb : b = mb
      · subst hb
        simp only [beq_self_eq_true, if_true] at hr
        refine ih (pre ++ [b]) mrem (done ++ [b]) k (by simp [hpat]) ?_ hr
        obtain ⟨x, hx⟩ := hsuf
        exact ⟨x, by simp [← hx]⟩
      · have hb' : (b == mb) = false := by simpa using hb
        simp only [hb', Bool.false_eq_true, if_false] at hr
        cases hp : pat with
        | nil => rw [hp] at hpat; simp at hpat
        | cons mb2 mrem2 =>
          rw [hp] at hr
          simp only [] at hr
          by_cases hb2 : b = mb2
          · subst hb2
            simp only [beq_self_eq_true, if_true] at hr
            rw [← hp] at hr ⊢
            exact ih (pre ++ [b]) mrem2 [b] k (by simp [hp]) ⟨pre, rfl⟩ hr
          · have hb2' : (b == mb2) = false := by simpa using hb2
            simp only [hb2', Bool.false_eq_true, if_false] at hr
            rw [← hp] at hr ⊢
            exact ih (pre ++ [b]) pat [] k (by simp) (List.nil_suffix) hr

/-- PARTIAL (what held before the fix): every offset the old matcher reports is a real occurrence
    of the pattern.  FULL statement, false for this matcher: `bytesFindLegacy h p = findSpec h p`. -/
theorem find_sound (h p : List Nat) (k : Nat) (hr : bytesFindLegacy h p = some k) :
    p <+: h.drop k := by
  have := findGo_sound p h [] p [] k (by simp) (List.nil_suffix) hr
  simpa using this

/-- the counterexample of F1 (kernel-checked): "aab" in "aaab" -/
theorem legacy_misses :
    bytesFindLegacy [97, 97, 97, 98] [97, 97, 98] = none ∧
    findSpec [97, 97, 97, 98] [97, 97, 98] = some 1 := by decide

/-- "aab" in "aaabaab": a later occurrence is reported -/
theorem legacy_not_first :
    bytesFindLegacy [97, 97, 97, 98, 97, 97, 98] [97, 97, 98] = some 4 ∧
    findSpec [97, 97, 97, 98, 97, 97, 98] [97, 97, 98] = some 1 := by decide

/-- the reverse twin: "abb" in "abbb" -/
theorem legacy_rfind_misses :
    bytesRfindLegacy [97, 98, 98, 98] [97, 98, 98] = none ∧
    rfindSpec [97, 98, 98, 98] [97, 98, 98] = some 0 := by decide

-- the old matcher on inputs without overlap (what the test-suite exercised)
example : bytesFindLegacy [1, 2, 3, 1, 2, 3, 4] [1, 2, 3, 4] = some 3 := by decide   -- "lawlawn"/"lawn"
example : bytesRfindLegacy [1, 2, 3, 4, 2, 3, 4] [1, 2, 3, 4] = some 0 := by decide +kernel
example : bytesRfindLegacy [1, 2, 3] [] = some 2 := by decide                         -- the value a konst test fixes (std: 3)

end Konst.Legacy.Find
