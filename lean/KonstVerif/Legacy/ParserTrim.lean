import KonstVerif.Model.Parser
import KonstVerif.Spec.ParserInv
/-
  Legacy: `Parser::trim` / `Parser::trim_matches` as they were BEFORE commit f0b3228
  ("fix: Parser::trim/trim_matches add only the start trim to start_offset"); finding F3.
  Documentation of the finding only — contributes no proof obligation, is not used by the driver.

  The old code was
      pub const fn trim(mut self) -> Self {
          parsing!{self, FromBoth; self.str = crate::string::trim(self.str); }
      }
  and `enable_if_start!` keeps `start_offset += (copy.str.len() - self.str.len()) as u32` for
  `FromBoth`: the bytes removed from BOTH ends were added to `start_offset`.

  * `legacy_trim_breaks_inv`           kernel-checked counterexample to the C13 invariant:
                                       `Parser::new("  a  ").trim()` reports start 4 / end 5 for the
                                       remainder "a", which sits at 2..3
  * `legacy_trim_matches_breaks_inv`   the same for `trim_matches(",")` on ",,a,,"
  * `legacy_trim_error_offset`         how it shows later: an error raised from the start after the
                                       trim reports offset 4 (base 0), not 2
  * `legacy_trim_remainder_ok`         what DID hold: the remainder itself was right
-/
namespace Konst.Legacy.ParserTrim
open Konst Konst.Parser Konst.Spec.Utf8 Konst.Spec.ParserInv

def trimLegacy (self : Parser) : Res :=
  parsing self .fromBoth fun self => some (self.setStr (StrFns.trim self.str))

def trimMatchesLegacy (self : Parser) (needle : List Nat) : Res :=
  parsing self .fromBoth fun self => some (self.setStr (StrFns.trimMatches self.str needle))

/-- "  a  " -/
def spaced : List Nat := [32, 32, 97, 32, 32]
/-- ",,a,," -/
def commas : List Nat := [44, 44, 97, 44, 44]

theorem legacy_trim_remainder_ok :
    trimLegacy (Parser.new (encs spaced)) = .ok ⟨.fromBoth, false, 4, [97]⟩ .unit ∧
    trim (Parser.new (encs spaced)) = .ok ⟨.fromBoth, false, 2, [97]⟩ .unit := by decide

theorem legacy_trim_breaks_inv :
    ∃ p', trimLegacy (Parser.new (encs spaced)) = .ok p' .unit ∧ ¬ Inv spaced 0 p' := by
  refine ⟨⟨.fromBoth, false, 4, [97]⟩, legacy_trim_remainder_ok.1, ?_⟩
  intro h
  have := h.str_eq
  revert this
  decide

theorem legacy_trim_matches_breaks_inv :
    ∃ p', trimMatchesLegacy (Parser.new (encs commas)) [44] = .ok p' .unit ∧ ¬ Inv commas 0 p' := by
  refine ⟨⟨.fromBoth, false, 4, [97]⟩, by decide, ?_⟩
  intro h
  have := h.str_eq
  revert this
  decide

theorem legacy_trim_error_offset :
    (match trimLegacy (Parser.new (encs spaced)) with
     | .ok p' _ => (match stripPrefix p' [98] with | .err e => some e.offset | _ => none)
     | _ => none) = some 4 ∧
    (match trim (Parser.new (encs spaced)) with
     | .ok p' _ => (match stripPrefix p' [98] with | .err e => some e.offset | _ => none)
     | _ => none) = some 2 := by decide

end Konst.Legacy.ParserTrim
