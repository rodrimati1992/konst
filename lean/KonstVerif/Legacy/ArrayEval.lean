import KonstVerif.Lemmas.ArrayEval
import KonstVerif.Lemmas.Hyg
/-
  F11a / F11b / F11c (found by the programs of vlib/progs/c11x.py; fixed in /repo by 76ed0a3, 5af8e6b, c6bef38).
  F11d (b7532cf): see the last section.
  This file documents the findings on the AS-FOUND expansions of `array::map!` / `from_fn!` / `map_!` /
  `from_fn_!`; it contributes NO obligation to C11.

  F11a — method calls of the expansions were resolved with the CALLER's traits.
    * `legacyMethodCalls`          — `$array.len()` (`<[T]>::len`, found only after unsizing), `consumer.next()` /
                                     `builder.push(..)` (inherent `&mut self`), `builder.infer_length_from_consumer(..)`
                                     (inherent `&self`), `builder.build()` (inherent, by value)
    * `legacy_hijacked_by_ref`     — which of them a caller trait method with a `&self` / `self` receiver displaced
    * `legacy_arrayMapL_short_ub`, `legacy_arrayFromFnL_short_ub` — when `$array.len()` evaluated to `lenSeen < N`
                                     a well-behaved closure ran for the first `lenSeen` elements, `assert!(i == len)`
                                     passed and `array_assume_init` ran on an array whose slot `lenSeen` was never
                                     written: undefined behaviour from safe code
    * `legacy_arrayFromFnL_long_panic` — `lenSeen > N`: a panic (bounds-checked write), never an array
    * `legacyMapByValNoNext`, `legacyMapByValNoPush` — `map_!` with a displaced `next` (returns `None`) / `push` (no-op):
                                     `build()` panics for N > 0
    Witness program: `trait Hj { fn len(&self) -> usize { 1 } } impl<T, const N: usize> Hj for [T; N] {}` in scope,
    `konst::array::map!([10u64, 11], |x| 2 * x + 1)`. Regression rows: `arr.meth.map len/ref/arr:1 2` (was
    `[21;U]|calls=1`, std `[21;23]|calls=2`) and every `arr.meth.<mac> (len|next|push)/..` request.

  F11b — `map_!($array, $f)` with `$f` not a closure literal evaluated `$f` BEFORE `$array`.
    * `legacyArrayMapByValArgs`, `legacy_mapByVal_args_fn_first`
    Regression rows: `arr.ev.map_.<ashape>.(fnexpr|fnblock) ..` (was `..|F;A;..`, std `..|A;F;..`).

  F11c — the expansions bound their local variables under plain names; a caller const / static / unit struct with
    such a name (mentioned or not) turned the binding into a constant pattern (E0005 / E0530).
    * `legacyArrayMapSk`, … (skeletons with the plain names), `legacy_transparent_witnesses`
    Regression rows: `arr.compile <mac> (const|static|ustruct)/.. (array|len|out|i|input|arr|consumer|builder|elem|mapped|func|__x)`.
-/
namespace Konst.Legacy.ArrayEval
open Konst Konst.ArrayMacros Konst.ArrayEval Konst.Concat.Hyg
variable {α β : Type}

/-! ### F11b -/

/-- as found: `__parse_closure_1!{ (__array_map2__with_parsed_closure) ($array,) .., $closure }` handed `$array` on
    UNEVALUATED; the `expr` arm wrapped the whole expansion: `match $v { func => match ArrayConsumer::new($array) { .. } }` -/
def legacyArrayMapByValArgs : ClosureArm → ArgUse
  | .literal => ⟨[.arr], 0, 0⟩
  | .expr => ⟨[.fn, .arr], 0, 0⟩

theorem legacy_mapByVal_args_fn_first :
    (legacyArrayMapByValArgs .expr).evals = [.fn, .arr] ∧ (stdMapArgs .expr).evals = [.arr, .fn] ∧
    (legacyArrayMapByValArgs .expr).clockAtFn = 0 ∧ (stdMapArgs .expr).clockAtFn = 1 := by decide

/-- each argument was still evaluated exactly once -/
theorem legacy_mapByVal_args_once (arm : ClosureArm) (a : Arg) :
    (legacyArrayMapByValArgs arm).count a = (stdMapArgs arm).count a := by
  cases arm <;> cases a <;> decide

/-! ### F11a -/

def legacyMethodCalls : String → List (String × Step)
  | "map" => [("len", .unsize)]
  | "from_fn" => [("len", .unsize)]
  | "map_" => [("next", .autorefMut), ("infer_length_from_consumer", .autoref), ("push", .autorefMut), ("build", .byValue)]
  | "from_fn_" => [("next", .autorefMut), ("infer_length_from_consumer", .autoref), ("push", .autorefMut), ("build", .byValue)]
  | "cc" => [("reachability_hint", .byValue), ("to_right", .byValue)]
  | _ => []

def legacyHijacked (mac name : String) (s : Step) : Bool := hijackedBy legacyMethodCalls mac name s

theorem legacy_hijacked_by_ref :
    legacyHijacked "map" "len" .autoref = true ∧ legacyHijacked "from_fn" "len" .autoref = true ∧
    legacyHijacked "map" "len" .byValue = true ∧ legacyHijacked "from_fn" "len" .byValue = true ∧
    legacyHijacked "map_" "next" .autoref = true ∧ legacyHijacked "map_" "push" .autoref = true ∧
    legacyHijacked "from_fn_" "next" .autoref = true ∧ legacyHijacked "from_fn_" "push" .autoref = true ∧
    legacyHijacked "map_" "build" .autoref = false ∧ legacyHijacked "map_" "build" .byValue = false ∧
    legacyHijacked "map_" "infer_length_from_consumer" .autoref = false := by decide

/-- `map_!` when `consumer.next()` was a caller method that returns `None`: the loop body never ran -/
def legacyMapByValNoNext (xs : List α) : ByVal α β :=
  byValFinish [] (ArrayConsumer.new xs) (ArrayBuilder.new xs.length)

/-- `map_!` when `builder.push(..)` was a caller method that does nothing: every value computed and dropped -/
def legacyMapByValNoPush (fuel : Nat) (xs : List α) (c : Nat → α → Outcome β) : ByVal α β :=
  arrayMapByVal fuel xs (fun t a => match c t a with | .value _ => .cont | o => o)

theorem legacy_arrayMapL_short_ub (xs : List α) (f : α → β) (c : Nat → α → Outcome β) (lenSeen fuel : Nat)
    (hlt : lenSeen < xs.length) (hf : lenSeen < fuel) (hc : ∀ t a, c t a = .value (f a)) :
    (arrayMapL lenSeen fuel xs c).res = .ub ∧
    (arrayMapL lenSeen fuel xs c).calls = stdCalls (xs.take lenSeen) ∧
    (arrayMapL lenSeen fuel xs c).out[lenSeen]? = some none := by
  have h := mapLoopL_value lenSeen xs.length (fun j => xs[j]?) f c (fun i a _ _ => hc i a)
    (by intro j hj; simp; omega) (by omega) fuel hf
  have hne : lenSeen ≠ xs.length := by omega
  refine ⟨by simp [arrayMapL, h, hne], ?_, ?_⟩
  · simp [arrayMapL, h, fetched_eq_go xs lenSeen 0 (by omega), stdCalls]
  · simp only [arrayMapL, h, outOf, List.length_map]
    have hl : (fetched (fun j => xs[j]?) 0 lenSeen).length = lenSeen :=
      fetched_length _ lenSeen 0 (by intro j hj; simp; omega)
    rw [List.getElem?_append_right (by simp [hl]), List.length_map, List.length_map, hl, Nat.sub_self,
      List.getElem?_replicate]
    simp
    omega

theorem legacy_arrayFromFnL_short_ub (n : Nat) (f : Nat → β) (c : Nat → Nat → Outcome β) (lenSeen fuel : Nat)
    (hlt : lenSeen < n) (hf : lenSeen < fuel) (hc : ∀ t i, c t i = .value (f i)) :
    (arrayFromFnL lenSeen fuel n c).res = .ub ∧
    (arrayFromFnL lenSeen fuel n c).calls = (List.range lenSeen).map (fun i => (i, i)) := by
  have h := mapLoopL_value lenSeen n (fun j => some j) f c (fun i a _ _ => hc i a) (fun _ _ => rfl) (by omega) fuel hf
  have hne : lenSeen ≠ n := by omega
  exact ⟨by simp [arrayFromFnL, h, hne], by simp [arrayFromFnL, h, fetched, List.range_eq_range']⟩

theorem legacy_arrayFromFnL_long_panic (n : Nat) (f : Nat → β) (c : Nat → Nat → Outcome β) (lenSeen fuel : Nat)
    (hlt : n < lenSeen) (hf : n < fuel) (hc : ∀ t i, c t i = .value (f i)) :
    (arrayFromFnL lenSeen fuel n c).res = .panic :=
  mapLoopL_long_panic lenSeen n f c hc hlt fuel hf

/-- kernel-checked witnesses: a `len` that returns 1, resp. 5, for an array of 3; a displaced `next` / `push` -/
example : (arrayMapL 1 10 [10, 11, 12] (fun _ a => .value (2 * a + 1))).res = Res.ub := by decide +kernel
example : (arrayMapL 1 10 [10, 11, 12] (fun _ a => .value (2 * a + 1))).out = [some 21, none, none] := by decide +kernel
example : (arrayMapL 5 10 [10, 11, 12] (fun _ a => .value (2 * a + 1))).res = Res.panic := by decide +kernel
example : (arrayFromFnL 5 10 2 (fun _ i => .value (3 * i + 2))).calls = [(0, 0), (1, 1), (2, 2)] := by decide +kernel
example : (legacyMapByValNoNext [10, 11] : ByVal Nat Nat).res = Res.panic := by decide +kernel
example : (legacyMapByValNoPush 10 [10, 11] (fun _ a => Outcome.value (2 * a + 1))).res = Res.panic := by decide +kernel

/-! ### F11c -/

def legacyFnArmBinders : ClosureArm → List Sk
  | .literal => []
  | .expr => [.bind "func", .bind "__x"]

/-- as found: `match $array { ref array => { let array = ..; [match $v { func =>] { let len; let mut out; let mut i; .. } } }` -/
def legacyArrayMapSk (arm : ClosureArm) : Sk :=
  .block ([.hole "array", .bind "array", .bind "array", .hole "closure"] ++ legacyFnArmBinders arm ++
    [.block [.bind "len", .bind "out", .bind "i", .hole "closure"]])

def legacyArrayFromFnSk (arm : ClosureArm) : Sk :=
  .block ([.bind "input", .bind "arr", .hole "type", .hole "closure"] ++ legacyFnArmBinders arm ++
    [.block [.bind "len", .bind "out", .bind "i", .hole "closure"]])

/-- as found: `[match $v { func =>] match ArrayConsumer::new($array) { mut consumer => { let mut builder; .. elem .. mapped } }` -/
def legacyArrayMapByValSk (arm : ClosureArm) : Sk :=
  .block ([.hole "closure"] ++ legacyFnArmBinders arm ++
    [.hole "array", .bind "consumer", .block [.bind "builder", .bind "elem", .bind "elem", .hole "closure", .bind "mapped"]])

def legacyArrayFromFnByValSk (arm : ClosureArm) : Sk :=
  .block ([.bind "i", .bind "arr", .hole "type", .hole "closure"] ++ legacyFnArmBinders arm ++
    [.bind "consumer", .block [.bind "builder", .bind "elem", .bind "elem", .hole "closure", .bind "mapped"]])

def legacyArrayBinders (mac : String) (arm : ClosureArm) : List String :=
  (match mac with
   | "map" => ["array", "len", "out", "i"]
   | "from_fn" => ["input", "arr", "len", "out", "i"]
   | "map_" => ["consumer", "builder", "elem", "mapped"]
   | _ => ["i", "arr", "consumer", "builder", "elem", "mapped"]) ++
  (match arm with | .literal => [] | .expr => ["func", "__x"])

theorem legacy_arrayMap_transparent_iff (arm : ClosureArm) (frag : Option String) (d : Decl) (n : String) :
    transparentD (legacyArrayMapSk arm) frag d n = true ↔
      ¬ (d.shadowable = false ∧ n ∈ legacyArrayBinders "map" arm) := by
  have hb : binders (legacyArrayMapSk arm) =
      ["array", "array"] ++ bindersL (legacyFnArmBinders arm) ++ ["len", "out", "i"] := by
    cases arm <;> rfl
  have ha : legacyArrayBinders "map" arm = ["array", "len", "out", "i"] ++ bindersL (legacyFnArmBinders arm) := by
    cases arm <;> rfl
  rw [transparentD_iff_binders _ (by cases arm <;> decide) (by cases arm <;> rfl), hb, ha]
  simp only [List.mem_append, List.mem_cons, List.not_mem_nil, or_false]
  grind

/-- `const len: usize = 7; map!([1u8, 2], |x| x + 1)` did not compile; a fn / variable called `len` did -/
theorem legacy_transparent_witnesses :
    transparentD (legacyArrayMapSk .literal) none (.item .const) "len" = false ∧
    transparentD (legacyArrayMapSk .literal) (some "closure") (.item .static) "out" = false ∧
    transparentD (legacyArrayFromFnSk .literal) none .ustruct "input" = false ∧
    transparentD (legacyArrayMapByValSk .literal) (some "closure") (.item .const) "elem" = false ∧
    transparentD (legacyArrayFromFnByValSk .expr) (some "closure") (.item .const) "func" = false ∧
    transparentD (legacyArrayMapSk .literal) (some "closure") (.item .const) "func" = true ∧
    transparentD (legacyArrayMapSk .literal) (some "closure") (.item .fn) "len" = true ∧
    transparentD (legacyArrayMapSk .literal) (some "closure") .var "len" = true := by decide

/-! ### F11d (fixed in /repo by b7532cf) — `from_fn!` bound the closure parameter PATTERN to its own loop counter

  As found `array_from_fn!` passed `|i| i` as `$get_input`, so `__array_map` emitted `let $pattern = i;` with the
  loop counter itself on the right: `from_fn!([u8; 4] => |ref mut i| { *i += 1; 7u8 })` compiled, the closure advanced
  the counter, the loop ended after two calls, `assert!(i == len)` held and `array_assume_init` read two slots that
  were never written (observed `[214, 7, 0, 7]`). Regression rows: `arr.pat.from_fn.refmut7.* 4`
  (was `UNWRITTEN|calls=2`), `arr.safe.pat.from_fn.refmut*`. -/

def legacyPatPlace : String → PatPlace
  | "from_fn" => .counter
  | m => patPlace m

theorem legacy_fromFn_refMut_aliases (used : Bool) :
    patVerdict (legacyPatPlace "from_fn") .refMut used = .aliasesCounter := by cases used <;> rfl

/-- the loop of `__array_map` when the closure body holds `&mut` to the counter: `c t i` = (outcome, the value it
    leaves in the counter); `out[i] = ..` uses the counter AFTER the body ran, then `i += 1` -/
def legacyAliasLoop (len : Nat) (c : Nat → Nat → Outcome β × Nat) :
    Nat → Nat → Nat → List (Option β) → List (Nat × Nat) → Run Nat β
  | 0, _, _, out, calls => ⟨.diverge, out, calls⟩
  | fuel + 1, t, i, out, calls =>
    if i < len then
      match c t i with
      | (.value v, i') =>
        if i' < out.length then legacyAliasLoop len c fuel (t + 1) (i' + 1) (out.set i' (some v)) (calls ++ [(t, i)])
        else ⟨.panic, out, calls ++ [(t, i)]⟩
      | (.cont, i') => legacyAliasLoop len c fuel (t + 1) i' out (calls ++ [(t, i)])
      | (.brk, i') => ⟨afterLoop len i' out, out, calls ++ [(t, i)]⟩
      | (.ret, _) => ⟨.returned, out, calls ++ [(t, i)]⟩
      | (.panic, _) => ⟨.panic, out, calls ++ [(t, i)]⟩
    else ⟨afterLoop len i out, out, calls⟩

/-- kernel-checked witness: `from_fn!([u8; 4] => |ref mut i| { *i += 1; 7 })` — two calls, slots 0 and 2 unwritten,
    the assert passes, `assume_init` of unwritten slots -/
theorem legacy_fromFn_refMut_ub :
    let r := legacyAliasLoop 4 (fun _ i => (Outcome.value 7, i + 1)) 10 0 0 (List.replicate 4 none) []
    r.res = Res.ub ∧ r.out = [none, some 7, none, some 7] ∧ r.calls = [(0, 0), (1, 2)] := by decide

/-- a body that leaves the counter alone: the loop fills every slot -/
example : (legacyAliasLoop 3 (fun _ i => (Outcome.value (3 * i + 2), i)) 10 0 0 (List.replicate 3 none) []).res
    = Res.array [2, 5, 8] := by decide +kernel

end Konst.Legacy.ArrayEval
