import KonstVerif.Extracted.Gen.Cmp5
import KonstVerif.Extracted.Equiv.Cmp3
import KonstVerif.Model.Cmp
/-
  Extracted = Model for the `NonZero*` comparison functions of group `Cmp5` (C16, `konst/src/nonzero/cmp.rs`):
  `eq_nonzeroT`, `cmp_nonzeroT`, `eq_option_nonzeroT`, `cmp_option_nonzeroT` for the twelve integer types.

  The translator reads a `NonZeroT` as its integer value and `get()` as the identity (`translator/src/tr.rs`
  `nonzero_int`), as the model does.  THE NON-ZERO INVARIANT IS NOT NEEDED BY ANY THEOREM of this file: the code only
  compares the two `.get()` values, so every statement holds for all `Nat` / `Int` arguments.

  `cmp_nonzero*`, `eq_option_nonzero*`, `cmp_option_nonzero*` are the texts `cmpScalarFn`, `eqOptionFn`, `cmpOptionFn`
  of `Equiv/Cmp2.lean`; `eq_nonzero*` (`left.get() == right.get()`) is `eqScalarFn` below.  `<f>_eq` states the model
  (`eqNonZero`, `cmpNonZero`, `eqOption` / `cmpOption` over them; unsigned types through `Int.ofNat`), once per carrier
  and instantiated.  That the model functions are std's `==` / `Ord::cmp` is `Props/C16.lean`.
-/
namespace Extracted.Equiv
open Rs Konst Konst.Cmp

/-! ### the text of `eq_nonzero*`, and every function of a carrier type at once

  `f` ranges over functions equal to the common text; the `*_fn` equations below supply the
  hypothesis for each generated definition.  `eqNonZero` / `cmpNonZero` unfold to `eqPrim` /
  `cmpInt` (definitionally), which is how the `Cmp2` / `Cmp3` lemmas apply. -/

/-- `left.get() == right.get()` over an arbitrary carrier type -/
def eqScalarFn {α : Type} [DecidableEq α] (left right : α) : Res Bool := Ctl.run (ρ := Bool) do
  pure (decide (left = right))

theorem eqScalarFn_eq {α : Type} [DecidableEq α] (g : α → Int) (hinj : ∀ a b, g a = g b ↔ a = b)
    (l r : α) : eqScalarFn l r = .ok (eqNonZero (g l) (g r)) := by
  simp [eqScalarFn, eqNonZero, hinj]

theorem eq_nonzero_nat_eq {f : Nat → Nat → Res Bool} (hf : f = eqScalarFn (α := Nat)) (left right : Nat) :
    f left right = .ok (eqNonZero (Int.ofNat left) (Int.ofNat right)) :=
  hf ▸ eqScalarFn_eq Int.ofNat ofNat_inj left right

theorem eq_nonzero_int_eq {f : Int → Int → Res Bool} (hf : f = eqScalarFn (α := Int)) (left right : Int) :
    f left right = .ok (eqNonZero left right) :=
  hf ▸ eqScalarFn_eq id id_inj left right

theorem cmp_nonzero_nat_eq {f : Nat → Nat → Res Ordering} (hf : f = cmpScalarFn (α := Nat))
    (left right : Nat) : f left right = .ok (cmpNonZero (Int.ofNat left) (Int.ofNat right)) :=
  cmp_nat_eq hf left right

theorem cmp_nonzero_int_eq {f : Int → Int → Res Ordering} (hf : f = cmpScalarFn (α := Int))
    (left right : Int) : f left right = .ok (cmpNonZero left right) :=
  cmp_int_eq hf left right

theorem eq_option_nonzero_nat_eq {f : Option Nat → Option Nat → Res Bool} (hf : f = eqOptionFn (α := Nat))
    (left right : Option Nat) :
    ∃ b, eqOption (fun a b => some (eqNonZero a b)) (left.map Int.ofNat) (right.map Int.ofNat) = some b ∧
      f left right = .ok b :=
  eq_option_nat_eq hf left right

theorem eq_option_nonzero_int_eq {f : Option Int → Option Int → Res Bool} (hf : f = eqOptionFn (α := Int))
    (left right : Option Int) :
    ∃ b, eqOption (fun a b => some (eqNonZero a b)) left right = some b ∧ f left right = .ok b :=
  eq_option_int_eq hf left right

theorem cmp_option_nonzero_nat_eq {f : Option Nat → Option Nat → Res Ordering}
    (hf : f = cmpOptionFn (α := Nat)) (left right : Option Nat) :
    ∃ c, cmpOption (fun a b => some (cmpNonZero a b)) (left.map Int.ofNat) (right.map Int.ofNat) = some c ∧
      f left right = .ok c :=
  cmp_option_nat_eq hf left right

theorem cmp_option_nonzero_int_eq {f : Option Int → Option Int → Res Ordering}
    (hf : f = cmpOptionFn (α := Int)) (left right : Option Int) :
    ∃ c, cmpOption (fun a b => some (cmpNonZero a b)) left right = some c ∧ f left right = .ok c :=
  cmp_option_int_eq hf left right

/-! ### each generated definition is the common text

  `rfl` for the scalar functions; the `match` of every `Option` function is its own auxiliary
  matcher, so those are `rfl` after `cases` on the two arguments (as in `Equiv/Cmp2.lean`). -/

theorem eq_nonzerou8_fn : Extracted.eq_nonzerou8 = eqScalarFn (α := Nat) := rfl
theorem cmp_nonzerou8_fn : Extracted.cmp_nonzerou8 = cmpScalarFn (α := Nat) := rfl
theorem eq_nonzeroi8_fn : Extracted.eq_nonzeroi8 = eqScalarFn (α := Int) := rfl
theorem cmp_nonzeroi8_fn : Extracted.cmp_nonzeroi8 = cmpScalarFn (α := Int) := rfl
theorem eq_nonzerou16_fn : Extracted.eq_nonzerou16 = eqScalarFn (α := Nat) := rfl
theorem cmp_nonzerou16_fn : Extracted.cmp_nonzerou16 = cmpScalarFn (α := Nat) := rfl
theorem eq_nonzeroi16_fn : Extracted.eq_nonzeroi16 = eqScalarFn (α := Int) := rfl
theorem cmp_nonzeroi16_fn : Extracted.cmp_nonzeroi16 = cmpScalarFn (α := Int) := rfl
theorem eq_nonzerou32_fn : Extracted.eq_nonzerou32 = eqScalarFn (α := Nat) := rfl
theorem cmp_nonzerou32_fn : Extracted.cmp_nonzerou32 = cmpScalarFn (α := Nat) := rfl
theorem eq_nonzeroi32_fn : Extracted.eq_nonzeroi32 = eqScalarFn (α := Int) := rfl
theorem cmp_nonzeroi32_fn : Extracted.cmp_nonzeroi32 = cmpScalarFn (α := Int) := rfl
theorem eq_nonzerou64_fn : Extracted.eq_nonzerou64 = eqScalarFn (α := Nat) := rfl
theorem cmp_nonzerou64_fn : Extracted.cmp_nonzerou64 = cmpScalarFn (α := Nat) := rfl
theorem eq_nonzeroi64_fn : Extracted.eq_nonzeroi64 = eqScalarFn (α := Int) := rfl
theorem cmp_nonzeroi64_fn : Extracted.cmp_nonzeroi64 = cmpScalarFn (α := Int) := rfl
theorem eq_nonzerou128_fn : Extracted.eq_nonzerou128 = eqScalarFn (α := Nat) := rfl
theorem cmp_nonzerou128_fn : Extracted.cmp_nonzerou128 = cmpScalarFn (α := Nat) := rfl
theorem eq_nonzeroi128_fn : Extracted.eq_nonzeroi128 = eqScalarFn (α := Int) := rfl
theorem cmp_nonzeroi128_fn : Extracted.cmp_nonzeroi128 = cmpScalarFn (α := Int) := rfl
theorem eq_nonzerousize_fn : Extracted.eq_nonzerousize = eqScalarFn (α := Nat) := rfl
theorem cmp_nonzerousize_fn : Extracted.cmp_nonzerousize = cmpScalarFn (α := Nat) := rfl
theorem eq_nonzeroisize_fn : Extracted.eq_nonzeroisize = eqScalarFn (α := Int) := rfl
theorem cmp_nonzeroisize_fn : Extracted.cmp_nonzeroisize = cmpScalarFn (α := Int) := rfl
theorem eq_option_nonzerou8_fn : Extracted.eq_option_nonzerou8 = eqOptionFn (α := Nat) := by
  funext l r; cases l <;> cases r <;> rfl
theorem cmp_option_nonzerou8_fn : Extracted.cmp_option_nonzerou8 = cmpOptionFn (α := Nat) := by
  funext l r; cases l <;> cases r <;> rfl
theorem eq_option_nonzeroi8_fn : Extracted.eq_option_nonzeroi8 = eqOptionFn (α := Int) := by
  funext l r; cases l <;> cases r <;> rfl
theorem cmp_option_nonzeroi8_fn : Extracted.cmp_option_nonzeroi8 = cmpOptionFn (α := Int) := by
  funext l r; cases l <;> cases r <;> rfl
theorem eq_option_nonzerou16_fn : Extracted.eq_option_nonzerou16 = eqOptionFn (α := Nat) := by
  funext l r; cases l <;> cases r <;> rfl
theorem cmp_option_nonzerou16_fn : Extracted.cmp_option_nonzerou16 = cmpOptionFn (α := Nat) := by
  funext l r; cases l <;> cases r <;> rfl
theorem eq_option_nonzeroi16_fn : Extracted.eq_option_nonzeroi16 = eqOptionFn (α := Int) := by
  funext l r; cases l <;> cases r <;> rfl
theorem cmp_option_nonzeroi16_fn : Extracted.cmp_option_nonzeroi16 = cmpOptionFn (α := Int) := by
  funext l r; cases l <;> cases r <;> rfl
theorem eq_option_nonzerou32_fn : Extracted.eq_option_nonzerou32 = eqOptionFn (α := Nat) := by
  funext l r; cases l <;> cases r <;> rfl
theorem cmp_option_nonzerou32_fn : Extracted.cmp_option_nonzerou32 = cmpOptionFn (α := Nat) := by
  funext l r; cases l <;> cases r <;> rfl
theorem eq_option_nonzeroi32_fn : Extracted.eq_option_nonzeroi32 = eqOptionFn (α := Int) := by
  funext l r; cases l <;> cases r <;> rfl
theorem cmp_option_nonzeroi32_fn : Extracted.cmp_option_nonzeroi32 = cmpOptionFn (α := Int) := by
  funext l r; cases l <;> cases r <;> rfl
theorem eq_option_nonzerou64_fn : Extracted.eq_option_nonzerou64 = eqOptionFn (α := Nat) := by
  funext l r; cases l <;> cases r <;> rfl
theorem cmp_option_nonzerou64_fn : Extracted.cmp_option_nonzerou64 = cmpOptionFn (α := Nat) := by
  funext l r; cases l <;> cases r <;> rfl
theorem eq_option_nonzeroi64_fn : Extracted.eq_option_nonzeroi64 = eqOptionFn (α := Int) := by
  funext l r; cases l <;> cases r <;> rfl
theorem cmp_option_nonzeroi64_fn : Extracted.cmp_option_nonzeroi64 = cmpOptionFn (α := Int) := by
  funext l r; cases l <;> cases r <;> rfl
theorem eq_option_nonzerou128_fn : Extracted.eq_option_nonzerou128 = eqOptionFn (α := Nat) := by
  funext l r; cases l <;> cases r <;> rfl
theorem cmp_option_nonzerou128_fn : Extracted.cmp_option_nonzerou128 = cmpOptionFn (α := Nat) := by
  funext l r; cases l <;> cases r <;> rfl
theorem eq_option_nonzeroi128_fn : Extracted.eq_option_nonzeroi128 = eqOptionFn (α := Int) := by
  funext l r; cases l <;> cases r <;> rfl
theorem cmp_option_nonzeroi128_fn : Extracted.cmp_option_nonzeroi128 = cmpOptionFn (α := Int) := by
  funext l r; cases l <;> cases r <;> rfl
theorem eq_option_nonzerousize_fn : Extracted.eq_option_nonzerousize = eqOptionFn (α := Nat) := by
  funext l r; cases l <;> cases r <;> rfl
theorem cmp_option_nonzerousize_fn : Extracted.cmp_option_nonzerousize = cmpOptionFn (α := Nat) := by
  funext l r; cases l <;> cases r <;> rfl
theorem eq_option_nonzeroisize_fn : Extracted.eq_option_nonzeroisize = eqOptionFn (α := Int) := by
  funext l r; cases l <;> cases r <;> rfl
theorem cmp_option_nonzeroisize_fn : Extracted.cmp_option_nonzeroisize = cmpOptionFn (α := Int) := by
  funext l r; cases l <;> cases r <;> rfl

/-! ### the equivalence theorems: `NonZero*` -/

theorem eq_nonzerou8_eq (left right : Nat) :
    Extracted.eq_nonzerou8 left right = .ok (eqNonZero (Int.ofNat left) (Int.ofNat right)) :=
  eq_nonzero_nat_eq eq_nonzerou8_fn left right

theorem cmp_nonzerou8_eq (left right : Nat) :
    Extracted.cmp_nonzerou8 left right = .ok (cmpNonZero (Int.ofNat left) (Int.ofNat right)) :=
  cmp_nonzero_nat_eq cmp_nonzerou8_fn left right

example : Extracted.eq_nonzerou8 255 255 = .ok true := by decide +kernel
example : Extracted.eq_nonzerou8 1 255 = .ok (eqNonZero 1 255) := eq_nonzerou8_eq _ _
example : Extracted.cmp_nonzerou8 255 1 = .ok .gt := by decide +kernel
example : Extracted.cmp_nonzerou8 3 255 = .ok (cmpNonZero 3 255) := cmp_nonzerou8_eq _ _

theorem eq_nonzeroi8_eq (left right : Int) :
    Extracted.eq_nonzeroi8 left right = .ok (eqNonZero left right) :=
  eq_nonzero_int_eq eq_nonzeroi8_fn left right

theorem cmp_nonzeroi8_eq (left right : Int) :
    Extracted.cmp_nonzeroi8 left right = .ok (cmpNonZero left right) :=
  cmp_nonzero_int_eq cmp_nonzeroi8_fn left right

example : Extracted.eq_nonzeroi8 (-128) (-128) = .ok true := by decide +kernel
example : Extracted.eq_nonzeroi8 (-1) 1 = .ok (eqNonZero (-1) 1) := eq_nonzeroi8_eq _ _
example : Extracted.cmp_nonzeroi8 (-128) 127 = .ok .lt := by decide +kernel
example : Extracted.cmp_nonzeroi8 (-1) (-2) = .ok (cmpNonZero (-1) (-2)) := cmp_nonzeroi8_eq _ _

theorem eq_nonzerou16_eq (left right : Nat) :
    Extracted.eq_nonzerou16 left right = .ok (eqNonZero (Int.ofNat left) (Int.ofNat right)) :=
  eq_nonzero_nat_eq eq_nonzerou16_fn left right

theorem cmp_nonzerou16_eq (left right : Nat) :
    Extracted.cmp_nonzerou16 left right = .ok (cmpNonZero (Int.ofNat left) (Int.ofNat right)) :=
  cmp_nonzero_nat_eq cmp_nonzerou16_fn left right

example : Extracted.eq_nonzerou16 65535 65535 = .ok true := by decide +kernel
example : Extracted.eq_nonzerou16 1 65535 = .ok (eqNonZero 1 65535) := eq_nonzerou16_eq _ _
example : Extracted.cmp_nonzerou16 65535 1 = .ok .gt := by decide +kernel
example : Extracted.cmp_nonzerou16 3 65535 = .ok (cmpNonZero 3 65535) := cmp_nonzerou16_eq _ _

theorem eq_nonzeroi16_eq (left right : Int) :
    Extracted.eq_nonzeroi16 left right = .ok (eqNonZero left right) :=
  eq_nonzero_int_eq eq_nonzeroi16_fn left right

theorem cmp_nonzeroi16_eq (left right : Int) :
    Extracted.cmp_nonzeroi16 left right = .ok (cmpNonZero left right) :=
  cmp_nonzero_int_eq cmp_nonzeroi16_fn left right

example : Extracted.eq_nonzeroi16 (-32768) (-32768) = .ok true := by decide +kernel
example : Extracted.eq_nonzeroi16 (-1) 1 = .ok (eqNonZero (-1) 1) := eq_nonzeroi16_eq _ _
example : Extracted.cmp_nonzeroi16 (-32768) 32767 = .ok .lt := by decide +kernel
example : Extracted.cmp_nonzeroi16 (-1) (-2) = .ok (cmpNonZero (-1) (-2)) := cmp_nonzeroi16_eq _ _

theorem eq_nonzerou32_eq (left right : Nat) :
    Extracted.eq_nonzerou32 left right = .ok (eqNonZero (Int.ofNat left) (Int.ofNat right)) :=
  eq_nonzero_nat_eq eq_nonzerou32_fn left right

theorem cmp_nonzerou32_eq (left right : Nat) :
    Extracted.cmp_nonzerou32 left right = .ok (cmpNonZero (Int.ofNat left) (Int.ofNat right)) :=
  cmp_nonzero_nat_eq cmp_nonzerou32_fn left right

example : Extracted.eq_nonzerou32 4294967295 4294967295 = .ok true := by decide +kernel
example : Extracted.eq_nonzerou32 1 4294967295 = .ok (eqNonZero 1 4294967295) := eq_nonzerou32_eq _ _
example : Extracted.cmp_nonzerou32 4294967295 1 = .ok .gt := by decide +kernel
example : Extracted.cmp_nonzerou32 3 4294967295 = .ok (cmpNonZero 3 4294967295) := cmp_nonzerou32_eq _ _

theorem eq_nonzeroi32_eq (left right : Int) :
    Extracted.eq_nonzeroi32 left right = .ok (eqNonZero left right) :=
  eq_nonzero_int_eq eq_nonzeroi32_fn left right

theorem cmp_nonzeroi32_eq (left right : Int) :
    Extracted.cmp_nonzeroi32 left right = .ok (cmpNonZero left right) :=
  cmp_nonzero_int_eq cmp_nonzeroi32_fn left right

example : Extracted.eq_nonzeroi32 (-2147483648) (-2147483648) = .ok true := by decide +kernel
example : Extracted.eq_nonzeroi32 (-1) 1 = .ok (eqNonZero (-1) 1) := eq_nonzeroi32_eq _ _
example : Extracted.cmp_nonzeroi32 (-2147483648) 2147483647 = .ok .lt := by decide +kernel
example : Extracted.cmp_nonzeroi32 (-1) (-2) = .ok (cmpNonZero (-1) (-2)) := cmp_nonzeroi32_eq _ _

theorem eq_nonzerou64_eq (left right : Nat) :
    Extracted.eq_nonzerou64 left right = .ok (eqNonZero (Int.ofNat left) (Int.ofNat right)) :=
  eq_nonzero_nat_eq eq_nonzerou64_fn left right

theorem cmp_nonzerou64_eq (left right : Nat) :
    Extracted.cmp_nonzerou64 left right = .ok (cmpNonZero (Int.ofNat left) (Int.ofNat right)) :=
  cmp_nonzero_nat_eq cmp_nonzerou64_fn left right

example : Extracted.eq_nonzerou64 18446744073709551615 18446744073709551615 = .ok true := by decide +kernel
example : Extracted.eq_nonzerou64 1 18446744073709551615 = .ok (eqNonZero 1 18446744073709551615) := eq_nonzerou64_eq _ _
example : Extracted.cmp_nonzerou64 18446744073709551615 1 = .ok .gt := by decide +kernel
example : Extracted.cmp_nonzerou64 3 18446744073709551615 = .ok (cmpNonZero 3 18446744073709551615) := cmp_nonzerou64_eq _ _

theorem eq_nonzeroi64_eq (left right : Int) :
    Extracted.eq_nonzeroi64 left right = .ok (eqNonZero left right) :=
  eq_nonzero_int_eq eq_nonzeroi64_fn left right

theorem cmp_nonzeroi64_eq (left right : Int) :
    Extracted.cmp_nonzeroi64 left right = .ok (cmpNonZero left right) :=
  cmp_nonzero_int_eq cmp_nonzeroi64_fn left right

example : Extracted.eq_nonzeroi64 (-9223372036854775808) (-9223372036854775808) = .ok true := by decide +kernel
example : Extracted.eq_nonzeroi64 (-1) 1 = .ok (eqNonZero (-1) 1) := eq_nonzeroi64_eq _ _
example : Extracted.cmp_nonzeroi64 (-9223372036854775808) 9223372036854775807 = .ok .lt := by decide +kernel
example : Extracted.cmp_nonzeroi64 (-1) (-2) = .ok (cmpNonZero (-1) (-2)) := cmp_nonzeroi64_eq _ _

theorem eq_nonzerou128_eq (left right : Nat) :
    Extracted.eq_nonzerou128 left right = .ok (eqNonZero (Int.ofNat left) (Int.ofNat right)) :=
  eq_nonzero_nat_eq eq_nonzerou128_fn left right

theorem cmp_nonzerou128_eq (left right : Nat) :
    Extracted.cmp_nonzerou128 left right = .ok (cmpNonZero (Int.ofNat left) (Int.ofNat right)) :=
  cmp_nonzero_nat_eq cmp_nonzerou128_fn left right

example : Extracted.eq_nonzerou128 340282366920938463463374607431768211455 340282366920938463463374607431768211455 = .ok true := by decide +kernel
example : Extracted.eq_nonzerou128 1 340282366920938463463374607431768211455 = .ok (eqNonZero 1 340282366920938463463374607431768211455) := eq_nonzerou128_eq _ _
example : Extracted.cmp_nonzerou128 340282366920938463463374607431768211455 1 = .ok .gt := by decide +kernel
example : Extracted.cmp_nonzerou128 3 340282366920938463463374607431768211455 = .ok (cmpNonZero 3 340282366920938463463374607431768211455) := cmp_nonzerou128_eq _ _

theorem eq_nonzeroi128_eq (left right : Int) :
    Extracted.eq_nonzeroi128 left right = .ok (eqNonZero left right) :=
  eq_nonzero_int_eq eq_nonzeroi128_fn left right

theorem cmp_nonzeroi128_eq (left right : Int) :
    Extracted.cmp_nonzeroi128 left right = .ok (cmpNonZero left right) :=
  cmp_nonzero_int_eq cmp_nonzeroi128_fn left right

example : Extracted.eq_nonzeroi128 (-170141183460469231731687303715884105728) (-170141183460469231731687303715884105728) = .ok true := by decide +kernel
example : Extracted.eq_nonzeroi128 (-1) 1 = .ok (eqNonZero (-1) 1) := eq_nonzeroi128_eq _ _
example : Extracted.cmp_nonzeroi128 (-170141183460469231731687303715884105728) 170141183460469231731687303715884105727 = .ok .lt := by decide +kernel
example : Extracted.cmp_nonzeroi128 (-1) (-2) = .ok (cmpNonZero (-1) (-2)) := cmp_nonzeroi128_eq _ _

theorem eq_nonzerousize_eq (left right : Nat) :
    Extracted.eq_nonzerousize left right = .ok (eqNonZero (Int.ofNat left) (Int.ofNat right)) :=
  eq_nonzero_nat_eq eq_nonzerousize_fn left right

theorem cmp_nonzerousize_eq (left right : Nat) :
    Extracted.cmp_nonzerousize left right = .ok (cmpNonZero (Int.ofNat left) (Int.ofNat right)) :=
  cmp_nonzero_nat_eq cmp_nonzerousize_fn left right

example : Extracted.eq_nonzerousize 18446744073709551615 18446744073709551615 = .ok true := by decide +kernel
example : Extracted.eq_nonzerousize 1 18446744073709551615 = .ok (eqNonZero 1 18446744073709551615) := eq_nonzerousize_eq _ _
example : Extracted.cmp_nonzerousize 18446744073709551615 1 = .ok .gt := by decide +kernel
example : Extracted.cmp_nonzerousize 3 18446744073709551615 = .ok (cmpNonZero 3 18446744073709551615) := cmp_nonzerousize_eq _ _

theorem eq_nonzeroisize_eq (left right : Int) :
    Extracted.eq_nonzeroisize left right = .ok (eqNonZero left right) :=
  eq_nonzero_int_eq eq_nonzeroisize_fn left right

theorem cmp_nonzeroisize_eq (left right : Int) :
    Extracted.cmp_nonzeroisize left right = .ok (cmpNonZero left right) :=
  cmp_nonzero_int_eq cmp_nonzeroisize_fn left right

example : Extracted.eq_nonzeroisize (-9223372036854775808) (-9223372036854775808) = .ok true := by decide +kernel
example : Extracted.eq_nonzeroisize (-1) 1 = .ok (eqNonZero (-1) 1) := eq_nonzeroisize_eq _ _
example : Extracted.cmp_nonzeroisize (-9223372036854775808) 9223372036854775807 = .ok .lt := by decide +kernel
example : Extracted.cmp_nonzeroisize (-1) (-2) = .ok (cmpNonZero (-1) (-2)) := cmp_nonzeroisize_eq _ _

/-! ### the equivalence theorems: `Option` of a `NonZero*` -/

theorem eq_option_nonzerou8_eq (left right : Option Nat) :
    ∃ b, eqOption (fun a b => some (eqNonZero a b)) (left.map Int.ofNat) (right.map Int.ofNat) = some b ∧
      Extracted.eq_option_nonzerou8 left right = .ok b :=
  eq_option_nonzero_nat_eq eq_option_nonzerou8_fn left right

theorem cmp_option_nonzerou8_eq (left right : Option Nat) :
    ∃ c, cmpOption (fun a b => some (cmpNonZero a b)) (left.map Int.ofNat) (right.map Int.ofNat) = some c ∧
      Extracted.cmp_option_nonzerou8 left right = .ok c :=
  cmp_option_nonzero_nat_eq cmp_option_nonzerou8_fn left right

example : Extracted.eq_option_nonzerou8 (some 255) (some 255) = .ok true := by decide +kernel
example : Extracted.eq_option_nonzerou8 (some 3) none = .ok false := by decide +kernel
example : Extracted.cmp_option_nonzerou8 none (some 1) = .ok .lt := by decide +kernel
example : Extracted.cmp_option_nonzerou8 (some 9) (some 255) = .ok .lt := by decide +kernel
example : ∃ c, cmpOption (fun a b => some (cmpNonZero a b)) (some 9) none = some c ∧
    Extracted.cmp_option_nonzerou8 (some 9) none = .ok c := cmp_option_nonzerou8_eq (some 9) none

theorem eq_option_nonzeroi8_eq (left right : Option Int) :
    ∃ b, eqOption (fun a b => some (eqNonZero a b)) left right = some b ∧
      Extracted.eq_option_nonzeroi8 left right = .ok b :=
  eq_option_nonzero_int_eq eq_option_nonzeroi8_fn left right

theorem cmp_option_nonzeroi8_eq (left right : Option Int) :
    ∃ c, cmpOption (fun a b => some (cmpNonZero a b)) left right = some c ∧
      Extracted.cmp_option_nonzeroi8 left right = .ok c :=
  cmp_option_nonzero_int_eq cmp_option_nonzeroi8_fn left right

example : Extracted.eq_option_nonzeroi8 (some (-1)) (some 1) = .ok false := by decide +kernel
example : Extracted.eq_option_nonzeroi8 none none = .ok true := by decide +kernel
example : Extracted.cmp_option_nonzeroi8 (some (-128)) (some 127) = .ok .lt := by decide +kernel
example : Extracted.cmp_option_nonzeroi8 (some (-128)) none = .ok .gt := by decide +kernel
example : ∃ c, cmpOption (fun a b => some (cmpNonZero a b)) (some (-3)) (some (-3)) = some c ∧
    Extracted.cmp_option_nonzeroi8 (some (-3)) (some (-3)) = .ok c :=
  cmp_option_nonzeroi8_eq (some (-3)) (some (-3))

theorem eq_option_nonzerou16_eq (left right : Option Nat) :
    ∃ b, eqOption (fun a b => some (eqNonZero a b)) (left.map Int.ofNat) (right.map Int.ofNat) = some b ∧
      Extracted.eq_option_nonzerou16 left right = .ok b :=
  eq_option_nonzero_nat_eq eq_option_nonzerou16_fn left right

theorem cmp_option_nonzerou16_eq (left right : Option Nat) :
    ∃ c, cmpOption (fun a b => some (cmpNonZero a b)) (left.map Int.ofNat) (right.map Int.ofNat) = some c ∧
      Extracted.cmp_option_nonzerou16 left right = .ok c :=
  cmp_option_nonzero_nat_eq cmp_option_nonzerou16_fn left right

example : Extracted.eq_option_nonzerou16 (some 65535) (some 65535) = .ok true := by decide +kernel
example : Extracted.eq_option_nonzerou16 (some 3) none = .ok false := by decide +kernel
example : Extracted.cmp_option_nonzerou16 none (some 1) = .ok .lt := by decide +kernel
example : Extracted.cmp_option_nonzerou16 (some 9) (some 65535) = .ok .lt := by decide +kernel
example : ∃ c, cmpOption (fun a b => some (cmpNonZero a b)) (some 9) none = some c ∧
    Extracted.cmp_option_nonzerou16 (some 9) none = .ok c := cmp_option_nonzerou16_eq (some 9) none

theorem eq_option_nonzeroi16_eq (left right : Option Int) :
    ∃ b, eqOption (fun a b => some (eqNonZero a b)) left right = some b ∧
      Extracted.eq_option_nonzeroi16 left right = .ok b :=
  eq_option_nonzero_int_eq eq_option_nonzeroi16_fn left right

theorem cmp_option_nonzeroi16_eq (left right : Option Int) :
    ∃ c, cmpOption (fun a b => some (cmpNonZero a b)) left right = some c ∧
      Extracted.cmp_option_nonzeroi16 left right = .ok c :=
  cmp_option_nonzero_int_eq cmp_option_nonzeroi16_fn left right

example : Extracted.eq_option_nonzeroi16 (some (-1)) (some 1) = .ok false := by decide +kernel
example : Extracted.eq_option_nonzeroi16 none none = .ok true := by decide +kernel
example : Extracted.cmp_option_nonzeroi16 (some (-32768)) (some 32767) = .ok .lt := by decide +kernel
example : Extracted.cmp_option_nonzeroi16 (some (-32768)) none = .ok .gt := by decide +kernel
example : ∃ c, cmpOption (fun a b => some (cmpNonZero a b)) (some (-3)) (some (-3)) = some c ∧
    Extracted.cmp_option_nonzeroi16 (some (-3)) (some (-3)) = .ok c :=
  cmp_option_nonzeroi16_eq (some (-3)) (some (-3))

theorem eq_option_nonzerou32_eq (left right : Option Nat) :
    ∃ b, eqOption (fun a b => some (eqNonZero a b)) (left.map Int.ofNat) (right.map Int.ofNat) = some b ∧
      Extracted.eq_option_nonzerou32 left right = .ok b :=
  eq_option_nonzero_nat_eq eq_option_nonzerou32_fn left right

theorem cmp_option_nonzerou32_eq (left right : Option Nat) :
    ∃ c, cmpOption (fun a b => some (cmpNonZero a b)) (left.map Int.ofNat) (right.map Int.ofNat) = some c ∧
      Extracted.cmp_option_nonzerou32 left right = .ok c :=
  cmp_option_nonzero_nat_eq cmp_option_nonzerou32_fn left right

example : Extracted.eq_option_nonzerou32 (some 4294967295) (some 4294967295) = .ok true := by decide +kernel
example : Extracted.eq_option_nonzerou32 (some 3) none = .ok false := by decide +kernel
example : Extracted.cmp_option_nonzerou32 none (some 1) = .ok .lt := by decide +kernel
example : Extracted.cmp_option_nonzerou32 (some 9) (some 4294967295) = .ok .lt := by decide +kernel
example : ∃ c, cmpOption (fun a b => some (cmpNonZero a b)) (some 9) none = some c ∧
    Extracted.cmp_option_nonzerou32 (some 9) none = .ok c := cmp_option_nonzerou32_eq (some 9) none

theorem eq_option_nonzeroi32_eq (left right : Option Int) :
    ∃ b, eqOption (fun a b => some (eqNonZero a b)) left right = some b ∧
      Extracted.eq_option_nonzeroi32 left right = .ok b :=
  eq_option_nonzero_int_eq eq_option_nonzeroi32_fn left right

theorem cmp_option_nonzeroi32_eq (left right : Option Int) :
    ∃ c, cmpOption (fun a b => some (cmpNonZero a b)) left right = some c ∧
      Extracted.cmp_option_nonzeroi32 left right = .ok c :=
  cmp_option_nonzero_int_eq cmp_option_nonzeroi32_fn left right

example : Extracted.eq_option_nonzeroi32 (some (-1)) (some 1) = .ok false := by decide +kernel
example : Extracted.eq_option_nonzeroi32 none none = .ok true := by decide +kernel
example : Extracted.cmp_option_nonzeroi32 (some (-2147483648)) (some 2147483647) = .ok .lt := by decide +kernel
example : Extracted.cmp_option_nonzeroi32 (some (-2147483648)) none = .ok .gt := by decide +kernel
example : ∃ c, cmpOption (fun a b => some (cmpNonZero a b)) (some (-3)) (some (-3)) = some c ∧
    Extracted.cmp_option_nonzeroi32 (some (-3)) (some (-3)) = .ok c :=
  cmp_option_nonzeroi32_eq (some (-3)) (some (-3))

theorem eq_option_nonzerou64_eq (left right : Option Nat) :
    ∃ b, eqOption (fun a b => some (eqNonZero a b)) (left.map Int.ofNat) (right.map Int.ofNat) = some b ∧
      Extracted.eq_option_nonzerou64 left right = .ok b :=
  eq_option_nonzero_nat_eq eq_option_nonzerou64_fn left right

theorem cmp_option_nonzerou64_eq (left right : Option Nat) :
    ∃ c, cmpOption (fun a b => some (cmpNonZero a b)) (left.map Int.ofNat) (right.map Int.ofNat) = some c ∧
      Extracted.cmp_option_nonzerou64 left right = .ok c :=
  cmp_option_nonzero_nat_eq cmp_option_nonzerou64_fn left right

example : Extracted.eq_option_nonzerou64 (some 18446744073709551615) (some 18446744073709551615) = .ok true := by decide +kernel
example : Extracted.eq_option_nonzerou64 (some 3) none = .ok false := by decide +kernel
example : Extracted.cmp_option_nonzerou64 none (some 1) = .ok .lt := by decide +kernel
example : Extracted.cmp_option_nonzerou64 (some 9) (some 18446744073709551615) = .ok .lt := by decide +kernel
example : ∃ c, cmpOption (fun a b => some (cmpNonZero a b)) (some 9) none = some c ∧
    Extracted.cmp_option_nonzerou64 (some 9) none = .ok c := cmp_option_nonzerou64_eq (some 9) none

theorem eq_option_nonzeroi64_eq (left right : Option Int) :
    ∃ b, eqOption (fun a b => some (eqNonZero a b)) left right = some b ∧
      Extracted.eq_option_nonzeroi64 left right = .ok b :=
  eq_option_nonzero_int_eq eq_option_nonzeroi64_fn left right

theorem cmp_option_nonzeroi64_eq (left right : Option Int) :
    ∃ c, cmpOption (fun a b => some (cmpNonZero a b)) left right = some c ∧
      Extracted.cmp_option_nonzeroi64 left right = .ok c :=
  cmp_option_nonzero_int_eq cmp_option_nonzeroi64_fn left right

example : Extracted.eq_option_nonzeroi64 (some (-1)) (some 1) = .ok false := by decide +kernel
example : Extracted.eq_option_nonzeroi64 none none = .ok true := by decide +kernel
example : Extracted.cmp_option_nonzeroi64 (some (-9223372036854775808)) (some 9223372036854775807) = .ok .lt := by decide +kernel
example : Extracted.cmp_option_nonzeroi64 (some (-9223372036854775808)) none = .ok .gt := by decide +kernel
example : ∃ c, cmpOption (fun a b => some (cmpNonZero a b)) (some (-3)) (some (-3)) = some c ∧
    Extracted.cmp_option_nonzeroi64 (some (-3)) (some (-3)) = .ok c :=
  cmp_option_nonzeroi64_eq (some (-3)) (some (-3))

theorem eq_option_nonzerou128_eq (left right : Option Nat) :
    ∃ b, eqOption (fun a b => some (eqNonZero a b)) (left.map Int.ofNat) (right.map Int.ofNat) = some b ∧
      Extracted.eq_option_nonzerou128 left right = .ok b :=
  eq_option_nonzero_nat_eq eq_option_nonzerou128_fn left right

theorem cmp_option_nonzerou128_eq (left right : Option Nat) :
    ∃ c, cmpOption (fun a b => some (cmpNonZero a b)) (left.map Int.ofNat) (right.map Int.ofNat) = some c ∧
      Extracted.cmp_option_nonzerou128 left right = .ok c :=
  cmp_option_nonzero_nat_eq cmp_option_nonzerou128_fn left right

example : Extracted.eq_option_nonzerou128 (some 340282366920938463463374607431768211455) (some 340282366920938463463374607431768211455) = .ok true := by decide +kernel
example : Extracted.eq_option_nonzerou128 (some 3) none = .ok false := by decide +kernel
example : Extracted.cmp_option_nonzerou128 none (some 1) = .ok .lt := by decide +kernel
example : Extracted.cmp_option_nonzerou128 (some 9) (some 340282366920938463463374607431768211455) = .ok .lt := by decide +kernel
example : ∃ c, cmpOption (fun a b => some (cmpNonZero a b)) (some 9) none = some c ∧
    Extracted.cmp_option_nonzerou128 (some 9) none = .ok c := cmp_option_nonzerou128_eq (some 9) none

theorem eq_option_nonzeroi128_eq (left right : Option Int) :
    ∃ b, eqOption (fun a b => some (eqNonZero a b)) left right = some b ∧
      Extracted.eq_option_nonzeroi128 left right = .ok b :=
  eq_option_nonzero_int_eq eq_option_nonzeroi128_fn left right

theorem cmp_option_nonzeroi128_eq (left right : Option Int) :
    ∃ c, cmpOption (fun a b => some (cmpNonZero a b)) left right = some c ∧
      Extracted.cmp_option_nonzeroi128 left right = .ok c :=
  cmp_option_nonzero_int_eq cmp_option_nonzeroi128_fn left right

example : Extracted.eq_option_nonzeroi128 (some (-1)) (some 1) = .ok false := by decide +kernel
example : Extracted.eq_option_nonzeroi128 none none = .ok true := by decide +kernel
example : Extracted.cmp_option_nonzeroi128 (some (-170141183460469231731687303715884105728)) (some 170141183460469231731687303715884105727) = .ok .lt := by decide +kernel
example : Extracted.cmp_option_nonzeroi128 (some (-170141183460469231731687303715884105728)) none = .ok .gt := by decide +kernel
example : ∃ c, cmpOption (fun a b => some (cmpNonZero a b)) (some (-3)) (some (-3)) = some c ∧
    Extracted.cmp_option_nonzeroi128 (some (-3)) (some (-3)) = .ok c :=
  cmp_option_nonzeroi128_eq (some (-3)) (some (-3))

theorem eq_option_nonzerousize_eq (left right : Option Nat) :
    ∃ b, eqOption (fun a b => some (eqNonZero a b)) (left.map Int.ofNat) (right.map Int.ofNat) = some b ∧
      Extracted.eq_option_nonzerousize left right = .ok b :=
  eq_option_nonzero_nat_eq eq_option_nonzerousize_fn left right

theorem cmp_option_nonzerousize_eq (left right : Option Nat) :
    ∃ c, cmpOption (fun a b => some (cmpNonZero a b)) (left.map Int.ofNat) (right.map Int.ofNat) = some c ∧
      Extracted.cmp_option_nonzerousize left right = .ok c :=
  cmp_option_nonzero_nat_eq cmp_option_nonzerousize_fn left right

example : Extracted.eq_option_nonzerousize (some 18446744073709551615) (some 18446744073709551615) = .ok true := by decide +kernel
example : Extracted.eq_option_nonzerousize (some 3) none = .ok false := by decide +kernel
example : Extracted.cmp_option_nonzerousize none (some 1) = .ok .lt := by decide +kernel
example : Extracted.cmp_option_nonzerousize (some 9) (some 18446744073709551615) = .ok .lt := by decide +kernel
example : ∃ c, cmpOption (fun a b => some (cmpNonZero a b)) (some 9) none = some c ∧
    Extracted.cmp_option_nonzerousize (some 9) none = .ok c := cmp_option_nonzerousize_eq (some 9) none

theorem eq_option_nonzeroisize_eq (left right : Option Int) :
    ∃ b, eqOption (fun a b => some (eqNonZero a b)) left right = some b ∧
      Extracted.eq_option_nonzeroisize left right = .ok b :=
  eq_option_nonzero_int_eq eq_option_nonzeroisize_fn left right

theorem cmp_option_nonzeroisize_eq (left right : Option Int) :
    ∃ c, cmpOption (fun a b => some (cmpNonZero a b)) left right = some c ∧
      Extracted.cmp_option_nonzeroisize left right = .ok c :=
  cmp_option_nonzero_int_eq cmp_option_nonzeroisize_fn left right

example : Extracted.eq_option_nonzeroisize (some (-1)) (some 1) = .ok false := by decide +kernel
example : Extracted.eq_option_nonzeroisize none none = .ok true := by decide +kernel
example : Extracted.cmp_option_nonzeroisize (some (-9223372036854775808)) (some 9223372036854775807) = .ok .lt := by decide +kernel
example : Extracted.cmp_option_nonzeroisize (some (-9223372036854775808)) none = .ok .gt := by decide +kernel
example : ∃ c, cmpOption (fun a b => some (cmpNonZero a b)) (some (-3)) (some (-3)) = some c ∧
    Extracted.cmp_option_nonzeroisize (some (-3)) (some (-3)) = .ok c :=
  cmp_option_nonzeroisize_eq (some (-3)) (some (-3))

end Extracted.Equiv
