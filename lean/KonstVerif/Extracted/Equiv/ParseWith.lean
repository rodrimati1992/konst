import KonstVerif.Extracted.Gen.ParsePrim
/-
  `parse_with!(parser, T)` dispatches (through `<T as HasParser>::Parser`) to `StdParser::<T>::parse_with`, generated
  by `impl_std_parser_one!` in konst/src/parsing/get_parser.rs.  For every outcome — value, error (with the offset and
  direction `Parser::parse_T` stamps on it), panic, out of fuel — the generated definition IS the corresponding
  `Parser::parse_T`, whose equivalence with the model is proved in Equiv/ParseInt.lean (C12, C13, C14).
  In particular the error is the one `Parser::parse_T` builds (its offsets and direction), not one rebuilt from the
  incoming parser.
-/
namespace Extracted.Equiv
open Rs

theorem pw_run_call {α : Type} (r : Res α) :
    Ctl.run (ρ := α) (do let t ← Ctl.call r; pure t) = r := by
  cases r <;> rfl

theorem StdParser_u8_parse_with_eq (fuel : Nat) (p : Extracted.Parser) :
    Extracted.StdParser_u8.parse_with fuel p = Extracted.Parser.parse_u8 fuel p := pw_run_call _
theorem StdParser_i8_parse_with_eq (fuel : Nat) (p : Extracted.Parser) :
    Extracted.StdParser_i8.parse_with fuel p = Extracted.Parser.parse_i8 fuel p := pw_run_call _
theorem StdParser_u32_parse_with_eq (fuel : Nat) (p : Extracted.Parser) :
    Extracted.StdParser_u32.parse_with fuel p = Extracted.Parser.parse_u32 fuel p := pw_run_call _
theorem StdParser_i64_parse_with_eq (fuel : Nat) (p : Extracted.Parser) :
    Extracted.StdParser_i64.parse_with fuel p = Extracted.Parser.parse_i64 fuel p := pw_run_call _
theorem StdParser_u128_parse_with_eq (fuel : Nat) (p : Extracted.Parser) :
    Extracted.StdParser_u128.parse_with fuel p = Extracted.Parser.parse_u128 fuel p := pw_run_call _
theorem StdParser_i128_parse_with_eq (fuel : Nat) (p : Extracted.Parser) :
    Extracted.StdParser_i128.parse_with fuel p = Extracted.Parser.parse_i128 fuel p := pw_run_call _
theorem StdParser_usize_parse_with_eq (fuel : Nat) (p : Extracted.Parser) :
    Extracted.StdParser_usize.parse_with fuel p = Extracted.Parser.parse_usize fuel p := pw_run_call _
theorem StdParser_bool_parse_with_eq (p : Extracted.Parser) :
    Extracted.StdParser_bool.parse_with p = Extracted.Parser.parse_bool p := pw_run_call _

/- a failing parse after an operation that worked from the end: the error is the one `parse_u8` builds -/
example : Extracted.StdParser_u8.parse_with 10
      ({ parse_direction := .FromEnd, yielded_last_split := false, start_offset := 100, str := [55, 48, 48, 48, 48, 120] } : Extracted.Parser)
    = Extracted.Parser.parse_u8 10
      ({ parse_direction := .FromEnd, yielded_last_split := false, start_offset := 100, str := [55, 48, 48, 48, 48, 120] } : Extracted.Parser) :=
  StdParser_u8_parse_with_eq _ _

end Extracted.Equiv
