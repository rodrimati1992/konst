import KonstVerif.Extracted.Gen.ParseInt
import KonstVerif.Extracted.Equiv.Str
import KonstVerif.Model.Parser
import KonstVerif.Lemmas.ParseInt
import KonstVerif.Lemmas.Parser
/-
  Extracted = Model, for `Parser::parse_u8 / parse_i8 / parse_u32 / parse_i64 /
  parse_u128 / parse_i128 / parse_usize` (the instances of `parse_integer!`) and `Parser::parse_bool` (C12).

  Model: `Konst.Parser.parseInt self signed bits` / `Konst.Parser.parseBool self` (`Model/Parser.lean`, whose
  bodies are `Model/ParseInt.lean`'s `parseIntegerPrefix` / `parseBoolPrefix`), compared through explicit
  conversions (`toParser` on the argument; `resOf natVal/intVal/boolVal` on the result, built from
  `ofParser`, `ofError`): model `.ok q (.int n)` ↦ `.ok (Ok((n, q)))`, `.err e` ↦ `.ok (Err(e))` (with the two
  constant fields `extra_message: &""`, `_lifetime` the model omits), `.panic` ↦ `.panic`.

  Structure: the seven integer functions are instances of ONE text.  `intLoop bits T` is the loop body,
  `digits` the first digit and the loop (with what follows as a continuation, so that the unsigned and the
  signed function share it), `strTail` the `str_from` at the end, `signStep` the `@apply_sign` of the signed
  ones; `parseU bits` / `parseI bits MAX MIN` put them inside `frame` (`try_parsing!`).  Every generated
  definition is an instance BY `rfl` (`parse_*_loop1_eq`, `parse_*_shape`).  Each piece has one specification
  for every `bits ≥ 4` (`intLoop_spec`: the digit loop = `accLoop`, by induction on the fuel; `digits_spec`,
  `signStep_spec`, `frame_strTail`), from which `parseU_eq` and `parseI_eq` follow.

  Hypotheses of every theorem: `start_offset + str.len() < 2^32` (the `u32` offsets do not wrap; the same
  assumption the model states), bytes `< 256` (for `str_from`'s `as i8` cast), fuel `≥ str.len()`.
  A panic is possible on a byte list that is not a `&str` ("1\x80": `str_from` at a non-boundary); the
  theorems say the code panics exactly when the model does, and `Parser.parse_*_ok` show that on valid UTF-8
  (`Spec.Utf8.Valid`) neither does: the result is `Ok`/`Err` — in particular
  `Err(ParseError::new(copy, ErrorKind::ParseInteger))` is returned without the checked `u32` addition in
  `ParseError::new` overflowing.
-/
namespace Extracted.Equiv
open Rs Konst

/- so that a concrete `Result` of a `parse_*` can be compared by the kernel alone (`decide +kernel` in the tests) -/
deriving instance DecidableEq for Except

/-! ### the one text behind the instances of `parse_integer!` -/

/-- the loop body of `parse_integer!` with the width of `$uns` (`bits`) and the value type of the
    enclosing function (`T`) as parameters: the text of `Extracted.Parser.parse_u8.loop1` with `8 ↦ bits`
    in the two `$uns::overflowing_*` calls (`*byte - b'0'` stays a `u8` subtraction) -/
def intLoop (bits : Nat) (T : Type) (copy : Parser) : ((List Nat) × Nat) → Ctl (LoopExit (LoopExit (Except ParseError (T × Parser)) Unit (T × Parser)) ((List Nat) × Nat) ((List Nat) × Nat)) ((List Nat) × Nat) := fun (bytes, num) => do
  (match bytes with
    | (byte :: rem) => if (decide ((48 : Nat) ≤ byte) && decide (byte ≤ (57 : Nat))) then do
          let bytes := rem
          let (next_mul, overflowed_mul) := (Rs.uOverflowingMul bits num (10 : Nat))
          let t4_ ← Rs.usub 8 byte (48 : Nat)
          let (next_add, overflowed_add) := (Rs.uOverflowingAdd bits next_mul (id t4_))
          let _ ← (if (overflowed_mul || overflowed_add) then do
                let t5_ ← Ctl.call (ParseError.new copy ErrorKind.ParseInteger)
                Ctl.exit (.out (.out (Except.error t5_)))
              else do
                pure ())
          let num := next_add
          pure (bytes, num)
        else
          (do
              Ctl.exit (.brk (bytes, num)))
    | _ =>
        (do
            Ctl.exit (.brk (bytes, num))))

theorem parse_u8_loop1_eq : Extracted.Parser.parse_u8.loop1 = intLoop 8 Nat := rfl
theorem parse_i8_loop1_eq : Extracted.Parser.parse_i8.loop1 = intLoop 8 Int := rfl
theorem parse_u32_loop1_eq : Extracted.Parser.parse_u32.loop1 = intLoop 32 Nat := rfl
theorem parse_i64_loop1_eq : Extracted.Parser.parse_i64.loop1 = intLoop 64 Int := rfl
theorem parse_u128_loop1_eq : Extracted.Parser.parse_u128.loop1 = intLoop 128 Nat := rfl
theorem parse_i128_loop1_eq : Extracted.Parser.parse_i128.loop1 = intLoop 128 Int := rfl
theorem parse_usize_loop1_eq : Extracted.Parser.parse_usize.loop1 = intLoop 64 Nat := rfl

/-- the frame `try_parsing!{self, FromStart, ret; …}` puts around the `'ret` block `blk`:
    the text of `Extracted.Parser.parse_i8` around the `Rs.block` -/
def frame {T : Type} (copy : Parser)
    (blk : Ctl (LoopExit (Except ParseError (T × Parser)) Unit (T × Parser)) (T × Parser)) :
    Res (Except ParseError (T × Parser)) := Ctl.run (ρ := (Except ParseError (T × Parser))) do
  let (t15_, self) ← (Rs.block blk)
  let ret := t15_
  let t16_ ← Rs.usub 64 copy.str.length self.str.length
  let t17_ ← Rs.uadd 32 self.start_offset (Rs.castUU 32 t16_)
  let self := { self with start_offset := t17_ }
  pure (Except.ok (ret, self))

/-- `@parse_signed unsigned` (the first digit) and the `while let` loop; `k` is what the `'ret` block does
    with `(bytes, num)` at the loop exit -/
def digits (bits : Nat) {T β : Type} (fuel : Nat) (copy : Parser) (bytes : List Nat)
    (k : List Nat × Nat → Ctl (LoopExit (Except ParseError (T × Parser)) Unit (T × Parser)) β) :
    Ctl (LoopExit (Except ParseError (T × Parser)) Unit (T × Parser)) β := do
  let (t3_, bytes) ← (match bytes with
      | (byte :: rem) => if (decide ((48 : Nat) ≤ byte) && decide (byte ≤ (57 : Nat))) then do
            let bytes := rem
            let t1_ ← Rs.usub 8 byte (48 : Nat)
            pure ((id t1_), bytes)
          else
            (do
                let t2_ ← Ctl.call (ParseError.new copy ErrorKind.ParseInteger)
                Ctl.exit (.out (Except.error t2_)))
      | _ =>
          (do
              let t2_ ← Ctl.call (ParseError.new copy ErrorKind.ParseInteger)
              Ctl.exit (.out (Except.error t2_))))
  let num := t3_
  let (bytes, num) ← (Rs.loop fuel (intLoop bits T copy) (bytes, num))
  k (bytes, num)

/-- the end of the `'ret` block: `self.str = str_from(self.str, self.str.len() - bytes.len()); num` -/
def strTail {T : Type} (self : Parser) (num : T) (bytes : List Nat) :
    Ctl (LoopExit (Except ParseError (T × Parser)) Unit (T × Parser)) (T × Parser) := do
  let t6_ ← Rs.usub 64 self.str.length bytes.length
  let t7_ ← Ctl.call (str_from self.str t6_)
  let self := { self with str := t7_ }
  pure (num, self)

/-- the unsigned instances (no `@apply_sign`): the text of `Extracted.Parser.parse_u8` with `8 ↦ bits` -/
def parseU (bits : Nat) (fuel : Nat) (self : Parser) : Res (Except ParseError (Nat × Parser)) :=
  let self := { self with parse_direction := ParseDirection.FromStart }
  frame self (digits bits fuel self self.str fun (bytes, num) => strTail self num bytes)

theorem parse_u8_shape : Extracted.Parser.parse_u8 = parseU 8 := rfl
theorem parse_u32_shape : Extracted.Parser.parse_u32 = parseU 32 := rfl
theorem parse_u128_shape : Extracted.Parser.parse_u128 = parseU 128 := rfl
theorem parse_usize_shape : Extracted.Parser.parse_usize = parseU 64 := rfl

/-- `@apply_sign` of the signed instances, with `8 ↦ bits` in the casts and `wrapping_neg` and the two
    literals `<$type>::MAX`, `<$type>::MIN` as parameters -/
def signStep (bits : Nat) (tmax tmin : Int) {T : Type} (copy : Parser) (sign : Bool) (num : Nat) :
    Ctl (LoopExit (Except ParseError (T × Parser)) Unit (T × Parser)) Int :=
  let MAX_POS := (Rs.castIU bits tmax)
  let MAX_NEG := (Rs.castIU bits tmin)
  (if sign then do
        let t9_ ← (if (decide (num ≤ MAX_NEG)) then do
              pure (Rs.iWrappingNeg bits (Rs.castUI bits num))
            else do
              let t8_ ← Ctl.call (ParseError.new copy ErrorKind.ParseInteger)
              Ctl.exit (.out (Except.error t8_)))
        pure t9_
      else do
        let t11_ ← (if (decide (num ≤ MAX_POS)) then do
              pure (Rs.castUI bits num)
            else do
              let t10_ ← Ctl.call (ParseError.new copy ErrorKind.ParseInteger)
              Ctl.exit (.out (Except.error t10_)))
        pure t11_)

/-- `@parse_signed signed` in front of the same text: what the sign `match` yields -/
def signOf (bytes : List Nat) : Ctl (LoopExit (Except ParseError (Int × Parser)) Unit (Int × Parser)) (Bool × List Nat) :=
  (match bytes with
      | (p1_ :: rem) => if decide (p1_ = (45 : Nat)) then do
            let bytes := rem
            pure (true, bytes)
          else
            (do
                pure (false, bytes))
      | _ =>
          (do
              pure (false, bytes)))

/-- the signed instances: the text of `Extracted.Parser.parse_i8` -/
def parseI (bits : Nat) (tmax tmin : Int) (fuel : Nat) (self : Parser) : Res (Except ParseError (Int × Parser)) :=
  let self := { self with parse_direction := ParseDirection.FromStart }
  frame self (do
        let (sign, bytes) ← signOf self.str
        digits bits fuel self bytes fun (bytes, num) => do
          let t12_ ← signStep bits tmax tmin self sign num
          strTail self t12_ bytes)

theorem parse_i8_shape : Extracted.Parser.parse_i8 = parseI 8 127 (-128) := rfl
theorem parse_i64_shape : Extracted.Parser.parse_i64 = parseI 64 9223372036854775807 (-9223372036854775808) := rfl
theorem parse_i128_shape : Extracted.Parser.parse_i128 =
    parseI 128 170141183460469231731687303715884105727 (-170141183460469231731687303715884105728) := rfl

/-! ### the digit loop, once for all widths -/

/-- the `while let [byte @ b'0'..=b'9', rem @ ..] = bytes` loop of `parse_integer!` is the model's
    `accLoop`: it falls out of the loop with the model's `(num, bytes)`, and leaves the function with
    `Err(ParseError::new(copy, ParseInteger))` exactly when the model's loop throws. `n` = fuel. -/
theorem intLoop_spec (bits : Nat) (h4 : 4 ≤ bits) (T : Type) (copy : Parser) (e : ParseError)
    (he : ParseError.new copy ErrorKind.ParseInteger = .ok e) (n : Nat) :
    ∀ (bytes : List Nat) (num : Nat), bytes.length + 1 ≤ n →
      Rs.loop n (intLoop bits T copy) (bytes, num) =
        match ParseInt.accLoop bits bytes num with
        | some (num', rest) => Ctl.val (rest, num')
        | none => Ctl.exit (.out (Except.error e)) := by
  induction n with
  | zero => intro _ _ h; omega
  | succ n ih =>
    intro bytes num hn
    rw [Rs.loop_succ]
    cases bytes with
    | nil => rfl
    | cons b rest =>
      by_cases hd : ParseInt.isDigit b = true
      · have h48 : 48 ≤ b ∧ b ≤ 57 := by simpa [ParseInt.isDigit] using hd
        have hda := Konst.Lemmas.ParseInt.digitAs_eq bits b h4 hd
        have hm : Rs.uOverflowingMul bits num 10 = ParseInt.overflowingMul bits num 10 := rfl
        have ha : ∀ x y, Rs.uOverflowingAdd bits x y = ParseInt.overflowingAdd bits x y := fun _ _ => rfl
        simp only [intLoop, ParseInt.accLoop, hd, h48.1, h48.2, Rs.usub, hda, hm, ha, id, decide_true,
          Bool.and_self, ↓reduceIte, Ctl.bind_eq, Ctl.bind_val, Ctl.pure_eq, he, Ctl.call_ok]
        by_cases hfl : ((ParseInt.overflowingMul bits num 10).snd ||
            (ParseInt.overflowingAdd bits (ParseInt.overflowingMul bits num 10).fst (b - 48)).snd) = true
        · simp only [hfl, ↓reduceIte, Ctl.bind_exit]
        · simp only [hfl, Bool.false_eq_true, ↓reduceIte, Ctl.bind_val]
          exact ih _ _ (by simp only [List.length_cons] at hn; omega)
      · have hc : (decide (48 ≤ b) && decide (b ≤ 57)) = false := by
          simpa [ParseInt.isDigit] using hd
        simp only [intLoop, ParseInt.accLoop, hd, hc, Bool.false_eq_true, ↓reduceIte]

/-- first digit and loop together are `Lemmas.ParseInt.magPrefix` (the model's `firstDigit` followed by its
    `accLoop`); `k` takes over at the loop exit -/
theorem digits_spec (bits : Nat) (h4 : 4 ≤ bits) {T β : Type} (copy : Parser) (e : ParseError)
    (he : ParseError.new copy ErrorKind.ParseInteger = .ok e) (fuel : Nat) (bytes : List Nat)
    (hf : bytes.length ≤ fuel)
    (k : List Nat × Nat → Ctl (LoopExit (Except ParseError (T × Parser)) Unit (T × Parser)) β) :
    digits bits fuel copy bytes k =
      match Konst.Lemmas.ParseInt.magPrefix bits bytes with
      | none => Ctl.exit (.out (Except.error e))
      | some (num, rest) => k (rest, num) := by
  cases bytes with
  | nil => simp only [digits, Konst.Lemmas.ParseInt.magPrefix, ParseInt.firstDigit, he, Ctl.call_ok, Ctl.bind_eq, Ctl.bind_val, Ctl.bind_exit]
  | cons b rem =>
    by_cases hd : ParseInt.isDigit b = true
    · have h48 : 48 ≤ b ∧ b ≤ 57 := by simpa [ParseInt.isDigit] using hd
      simp only [digits, Konst.Lemmas.ParseInt.magPrefix, ParseInt.firstDigit, hd, h48.1, h48.2, decide_true, Bool.and_self, ↓reduceIte,
        Rs.usub, Konst.Lemmas.ParseInt.digitAs_eq bits b h4 hd, id, Ctl.bind_eq, Ctl.bind_val, Ctl.pure_eq,
        intLoop_spec bits h4 T copy e he fuel rem (b - 48) (by simp only [List.length_cons] at hf; omega)]
      cases ParseInt.accLoop bits rem (b - 48) with
      | none => rfl
      | some nr => rfl
    · have hc : (decide (48 ≤ b) && decide (b ≤ 57)) = false := Bool.eq_false_iff.mpr hd
      simp only [digits, Konst.Lemmas.ParseInt.magPrefix, ParseInt.firstDigit, hd, hc, Bool.false_eq_true, ↓reduceIte, he, Ctl.call_ok,
        Ctl.bind_eq, Ctl.bind_val, Ctl.bind_exit]

/-! ### conversions between the extracted structures and the model's -/

def toDir : ParseDirection → Konst.Parser.ParseDirection
  | .FromStart => .fromStart
  | .FromEnd => .fromEnd
  | .FromBoth => .fromBoth

def ofDir : Konst.Parser.ParseDirection → ParseDirection
  | .fromStart => .FromStart
  | .fromEnd => .FromEnd
  | .fromBoth => .FromBoth

def ofKind : Konst.Parser.ErrorKind → ErrorKind
  | .parseInteger => .ParseInteger
  | .parseBool => .ParseBool
  | .find => .Find
  | .strip => .Strip
  | .splitExhausted => .SplitExhausted
  | .delimiterNotFound => .DelimiterNotFound
  | .other => .Other

def toParser (p : Parser) : Konst.Parser.Parser :=
  ⟨toDir p.parse_direction, p.yielded_last_split, p.start_offset, p.str⟩

def ofParser (q : Konst.Parser.Parser) : Parser :=
  { parse_direction := ofDir q.dir, yielded_last_split := q.yieldedLastSplit,
    start_offset := q.startOffset, str := q.str }

/-- a model `ParseError` as the extracted structure; the two fields the model leaves out are the
    constants `ParseError::new` writes: `extra_message: &""`, `_lifetime: PhantomData` -/
def ofError (e : Konst.Parser.ParseError) : ParseError :=
  { start_offset := e.startOffset, end_offset := e.endOffset, direction := ofDir e.dir,
    kind := ofKind e.kind, extra_message := [], _lifetime := () }

/-- the value next to the parser, as the Rust type `T` of the `parse_*` function: unsigned integers
    are `Nat` in the extraction (`none` for anything that is not a value of the type) -/
def natVal : Konst.Parser.Value → Option Nat
  | .int n => if 0 ≤ n then some n.toNat else none
  | _ => none
def intVal : Konst.Parser.Value → Option Int
  | .int n => some n
  | _ => none
def boolVal : Konst.Parser.Value → Option Bool
  | .bool b => some b
  | _ => none

/-- the model's `Res` as the result of the extracted `parse_*`: `Ok((value, parser))`,
    `Err(ParseError)`, a panic.  (A model value of the wrong kind has no counterpart in `T`: `.ub` as a
    marker; `parseInt` / `parseBool` never produce one — `parseInt_value`, `parseBool_value` below.) -/
def resOf {T : Type} (f : Konst.Parser.Value → Option T) : Konst.Parser.Res → Res (Except ParseError (T × Parser))
  | .ok q v =>
    match f v with
    | some t => .ok (.ok (t, ofParser q))
    | none => .ub
  | .err e => .ok (.error (ofError e))
  | .panic => .panic

/-! ### `natVal`, `intVal` on the values `parseInt` returns -/

theorem natVal_of_nonneg (n : Int) (h : 0 ≤ n) : natVal (.int n) = some n.toNat := if_pos h

theorem natVal_natCast (n : Nat) : natVal (.int n) = some n := natVal_of_nonneg n (Int.natCast_nonneg n)

theorem natVal_some (n : Int) (h : 0 ≤ n) : ∃ t, natVal (.int n) = some t := ⟨_, natVal_of_nonneg n h⟩

theorem natVal_int (n : Int) (h : 0 ≤ n) : natVal (.int n) = some n.toNat ∧ n = ((n.toNat : Nat) : Int) :=
  ⟨natVal_of_nonneg n h, (Int.toNat_of_nonneg h).symm⟩

theorem intVal_some (n : Int) : ∃ t, intVal (.int n) = some t := ⟨n, rfl⟩

/-- `natVal_some` as the hypothesis `hf` of `parseInt_resOf_ok` / `primInt_eq` at `signed := false`
    (there the premise reads `signed = false → 0 ≤ n`) -/
theorem natVal_ok (n : Int) (hn : false = false → 0 ≤ n) : ∃ t, natVal (.int n) = some t := natVal_some n (hn rfl)

/-! ### the model's `parseInt` in closed form, `ParseError::new`, the frame -/

theorem parseInt_closed (p : Parser) (signed : Bool) (bits : Nat) :
    Konst.Parser.parseInt (toParser p) signed bits =
      match ParseInt.parseIntegerBody signed bits p.str with
      | none => .err ⟨p.start_offset, p.start_offset + p.str.length, .fromStart, .parseInteger⟩
      | some (v, rest) =>
        match Utf8.strFrom p.str (p.str.length - rest.length) with
        | .error _ => .panic
        | .ok w => .ok ⟨.fromStart, p.yielded_last_split,
            p.start_offset + (p.str.length - (w.apply p.str).length), w.apply p.str⟩ (.int v) := by
  unfold Konst.Parser.parseInt Konst.Parser.tryParsing ParseInt.parseIntegerPrefix
  cases h : ParseInt.parseIntegerBody signed bits p.str with
  | none => simp [toParser, h, Konst.Parser.ParseError.new]
  | some vr =>
    obtain ⟨v, rest⟩ := vr
    simp only [toParser, h, Option.map_some]
    cases Utf8.strFrom p.str (p.str.length - rest.length) with
    | error _ => rfl
    | ok w => rfl

theorem new_error_ok (y : Bool) (o : Nat) (s : List Nat) (k : ErrorKind) (hoff : o + s.length < 2 ^ 32) :
    ParseError.new ⟨.FromStart, y, o, s⟩ k =
      .ok { start_offset := o, end_offset := o + s.length, direction := .FromStart, kind := k,
            extra_message := [], _lifetime := () } := by
  have h1 : s.length % 2 ^ 32 = s.length := Nat.mod_eq_of_lt (by omega)
  simp [ParseError.new, Rs.uadd, Rs.castUU, h1, hoff]

theorem frame_exit {T : Type} (copy : Parser) (x : Except ParseError (T × Parser)) :
    frame copy (Ctl.exit (.out x)) = .ok x := rfl

/-- the frame when the block reaches `self.str = str_from(self.str, k); v` -/
theorem frame_val {T : Type} (y : Bool) (o : Nat) (s : List Nat) (hoff : o + s.length < 2 ^ 32)
    (hb : ∀ b ∈ s, b < 256) (v : T) (k : Nat) :
    frame (T := T) ⟨.FromStart, y, o, s⟩
        ((Ctl.call (str_from s k)).bind fun t => Ctl.val (v, (⟨.FromStart, y, o, t⟩ : Parser))) =
      match Utf8.strFrom s k with
      | .error _ => .panic
      | .ok w => .ok (.ok (v, (⟨.FromStart, y, o + (s.length - (w.apply s).length), w.apply s⟩ : Parser))) := by
  rw [str_from_eq _ _ hb]
  cases Utf8.strFrom s k with
  | error _ => rfl
  | ok w =>
    have hw := Lemmas.Slice.apply_length_le w s
    have hlt : o + (s.length - (w.apply s).length) < 2 ^ 32 :=
      Nat.lt_of_le_of_lt (Nat.add_le_add_left (Nat.sub_le _ _) o) hoff
    have hmod : (s.length - (w.apply s).length) % 2 ^ 32 = s.length - (w.apply s).length :=
      Nat.mod_eq_of_lt (Nat.lt_of_le_of_lt (Nat.le_add_left _ o) hlt)
    simp only [frame, block, resOfExcept_ok, Ctl.call_ok, Ctl.bind_val, usub, uadd, castUU, Ctl.pure_eq, Ctl.bind_eq,
      hw, ↓reduceIte, hmod, hlt, Ctl.run_val]

theorem frame_strTail {T : Type} (y : Bool) (o : Nat) (s : List Nat) (hoff : o + s.length < 2 ^ 32)
    (hb : ∀ b ∈ s, b < 256) (v : T) (rest : List Nat) (hl : rest.length ≤ s.length) :
    frame (T := T) ⟨.FromStart, y, o, s⟩ (strTail ⟨.FromStart, y, o, s⟩ v rest) =
      match Utf8.strFrom s (s.length - rest.length) with
      | .error _ => .panic
      | .ok w => .ok (.ok (v, (⟨.FromStart, y, o + (s.length - (w.apply s).length), w.apply s⟩ : Parser))) := by
  rw [← frame_val y o s hoff hb]
  simp only [strTail, Rs.usub, hl, ↓reduceIte, Ctl.bind_eq, Ctl.bind_val, Ctl.pure_eq]

/-! ### the unsigned instances -/

theorem parseU_eq (bits : Nat) (h4 : 4 ≤ bits) (fuel : Nat) (p : Parser)
    (hoff : p.start_offset + p.str.length < 2 ^ 32) (hb : ∀ b ∈ p.str, b < 256)
    (hf : p.str.length ≤ fuel) :
    parseU bits fuel p = resOf natVal (Konst.Parser.parseInt (toParser p) false bits) := by
  rw [parseInt_closed, Konst.Lemmas.ParseInt.parseIntegerBody_eq]
  obtain ⟨d, y, o, s⟩ := p
  have he := new_error_ok y o s .ParseInteger hoff
  unfold parseU
  simp only []
  rw [digits_spec bits h4 _ _ he fuel s hf]
  change _ = resOf natVal (match (match Konst.Lemmas.ParseInt.magPrefix bits s with
      | none => none
      | some (num, rest) => some ((num : Int), rest)) with
    | none => _
    | some (v, rest) => _)
  cases hm : Konst.Lemmas.ParseInt.magPrefix bits s with
  | none => rfl
  | some nr =>
    obtain ⟨num, rest⟩ := nr
    simp only []
    rw [frame_strTail y o s hoff hb num rest (Konst.Lemmas.ParseInt.magPrefix_length_le bits h4 s num rest hm)]
    cases Utf8.strFrom s (s.length - rest.length) with
    | error _ => rfl
    | ok w => simp only [resOf, natVal_natCast]; rfl

/-! ### the casts and `wrapping_neg` of the signed instances -/

theorem pow_cast (k : Nat) : (2 ^ k : Int) = ((2 ^ k : Nat) : Int) := (Int.natCast_pow 2 k).symm

theorem wrapI_mid (bits : Nat) (h1 : 1 ≤ bits) (r : Int)
    (hlo : -((2 ^ (bits - 1) : Nat) : Int) ≤ r) (hhi : r < ((2 ^ (bits - 1) : Nat) : Int)) :
    Rs.wrapI bits r = r := by
  have h2 := Konst.Lemmas.ParseInt.two_pow_pred bits h1
  have hpos := Nat.two_pow_pos (bits - 1)
  unfold Rs.wrapI Rs.imax
  rw [pow_cast bits, pow_cast (bits - 1), h2]
  generalize 2 ^ (bits - 1) = P at *
  by_cases h0 : 0 ≤ r
  · simp only [Int.emod_eq_of_lt h0 (show r < ((2 * P : Nat) : Int) by omega)]
    split <;> omega
  · have hm : r % ((2 * P : Nat) : Int) = r + ((2 * P : Nat) : Int) := by
      rw [← Int.add_emod_right]; exact Int.emod_eq_of_lt (by omega) (by omega)
    simp only [hm]
    split <;> omega

theorem wrapI_top (bits : Nat) (h1 : 1 ≤ bits) :
    Rs.wrapI bits ((2 ^ (bits - 1) : Nat) : Int) = -((2 ^ (bits - 1) : Nat) : Int) := by
  have h2 := Konst.Lemmas.ParseInt.two_pow_pred bits h1
  have hpos := Nat.two_pow_pos (bits - 1)
  unfold Rs.wrapI Rs.imax
  rw [pow_cast bits, pow_cast (bits - 1), h2]
  generalize 2 ^ (bits - 1) = P at *
  simp only [Int.emod_eq_of_lt (show (0 : Int) ≤ (P : Int) by omega) (show (P : Int) < ((2 * P : Nat) : Int) by omega)]
  split <;> omega

/-- `num as $type` below `2^(bits-1)` -/
theorem castUI_small (bits : Nat) (h1 : 1 ≤ bits) (num : Nat) (h : num < 2 ^ (bits - 1)) :
    Rs.castUI bits num = (num : Int) :=
  wrapI_mid bits h1 _ (by omega) (by omega)

/-- `(num as $type).wrapping_neg()` for `num ≤ MAX_NEG` -/
theorem wrappingNeg_castUI (bits : Nat) (h1 : 1 ≤ bits) (num : Nat) (h : num ≤ 2 ^ (bits - 1)) :
    Rs.iWrappingNeg bits (Rs.castUI bits num) = -(num : Int) := by
  unfold Rs.iWrappingNeg
  by_cases hlt : num < 2 ^ (bits - 1)
  · rw [castUI_small bits h1 num hlt]
    exact wrapI_mid bits h1 _ (by omega) (by omega)
  · have he : num = 2 ^ (bits - 1) := by omega
    subst he
    unfold Rs.castUI
    rw [wrapI_top bits h1, Int.neg_neg, wrapI_top bits h1]

/-- `<$type>::MAX as $uns`, `<$type>::MIN as $uns` -/
theorem castIU_eq (bits : Nat) (x : Int) : Rs.castIU bits x = ParseInt.asUnsigned bits x := by
  unfold Rs.castIU Rs.wrapU ParseInt.asUnsigned
  rw [pow_cast]

/-! ### the signed instances -/

theorem signOf_eq (s : List Nat) : signOf s = Ctl.val (ParseInt.parseSign true s) := by
  cases s with
  | nil => rfl
  | cons c rem =>
    by_cases hc : c = 45
    · subst hc; rfl
    · rw [Konst.Lemmas.ParseInt.parseSign_cons_ne c rem hc]
      simp only [signOf, hc, decide_false, Bool.false_eq_true, ↓reduceIte, Ctl.pure_eq]

/-- `@apply_sign` is the model's `applySign`; `tmax`, `tmin` are the literals `<$type>::MAX`, `<$type>::MIN` -/
theorem signStep_spec (bits : Nat) (h1 : 1 ≤ bits) (tmax tmin : Int)
    (hmax : tmax = ParseInt.tMax bits) (hmin : tmin = ParseInt.tMin bits) {T : Type}
    (copy : Parser) (e : ParseError) (he : ParseError.new copy ErrorKind.ParseInteger = .ok e)
    (isneg : Bool) (num : Nat) :
    signStep bits tmax tmin (T := T) copy isneg num =
      match ParseInt.applySign true bits num isneg with
      | none => Ctl.exit (.out (Except.error e))
      | some v => Ctl.val v := by
  have hP : Rs.castIU bits tmax = 2 ^ (bits - 1) - 1 := by
    rw [hmax, castIU_eq]; exact Konst.Lemmas.ParseInt.maxPos_eq bits h1
  have hN : Rs.castIU bits tmin = 2 ^ (bits - 1) := by
    rw [hmin, castIU_eq]; exact Konst.Lemmas.ParseInt.maxNeg_eq bits h1
  have hpos := Nat.two_pow_pos (bits - 1)
  simp only [signStep, Konst.Lemmas.ParseInt.applySign_signed bits num isneg h1, hP, hN, Ctl.bind_eq, Ctl.pure_eq]
  cases isneg with
  | true =>
    by_cases hc : num ≤ 2 ^ (bits - 1)
    · simp only [↓reduceIte, hc, decide_true, wrappingNeg_castUI bits h1 num hc]
    · simp only [↓reduceIte, hc, decide_false, Bool.false_eq_true, he, Ctl.call_ok, Ctl.bind_val]
  | false =>
    by_cases hc : num < 2 ^ (bits - 1)
    · have hc' : num ≤ 2 ^ (bits - 1) - 1 := by omega
      simp only [Bool.false_eq_true, ↓reduceIte, hc, hc', decide_true, castUI_small bits h1 num hc]
    · have hc' : ¬ num ≤ 2 ^ (bits - 1) - 1 := by omega
      simp only [↓reduceIte, hc, hc', decide_false, Bool.false_eq_true, he, Ctl.call_ok, Ctl.bind_val]

theorem parseI_eq (bits : Nat) (h4 : 4 ≤ bits) (tmax tmin : Int)
    (hmax : tmax = ParseInt.tMax bits) (hmin : tmin = ParseInt.tMin bits) (fuel : Nat) (p : Parser)
    (hoff : p.start_offset + p.str.length < 2 ^ 32) (hb : ∀ b ∈ p.str, b < 256)
    (hf : p.str.length ≤ fuel) :
    parseI bits tmax tmin fuel p = resOf intVal (Konst.Parser.parseInt (toParser p) true bits) := by
  rw [parseInt_closed, Konst.Lemmas.ParseInt.parseIntegerBody_eq]
  obtain ⟨d, y, o, s⟩ := p
  have he := new_error_ok y o s .ParseInteger hoff
  have hl := Konst.Lemmas.ParseInt.parseSign_length_le true s
  unfold parseI
  simp only [signOf_eq, Ctl.bind_eq, Ctl.bind_val]
  generalize ParseInt.parseSign true s = ps at hl ⊢
  obtain ⟨isneg, b1⟩ := ps
  rw [digits_spec bits h4 _ _ he fuel b1 (Nat.le_trans hl hf)]
  cases hm : Konst.Lemmas.ParseInt.magPrefix bits b1 with
  | none => rfl
  | some nr =>
    obtain ⟨num, rest⟩ := nr
    simp only [signStep_spec bits (by omega) tmax tmin hmax hmin _ _ he]
    cases ParseInt.applySign true bits num isneg with
    | none => rfl
    | some v =>
      simp only [Ctl.bind_val]
      rw [frame_strTail y o s hoff hb v rest (Nat.le_trans (Konst.Lemmas.ParseInt.magPrefix_length_le bits h4 b1 num rest hm) hl)]
      cases Utf8.strFrom s (s.length - rest.length) with
      | error _ => rfl
      | ok w => rfl

/-! ### `parse_bool` -/

/-- the `'ret` block of `Extracted.Parser.parse_bool` (its text) -/
def boolBlock (self copy : Parser) :
    Ctl (LoopExit (Except ParseError (Bool × Parser)) Unit (Bool × Parser)) (Bool × Parser) := do
        let (t13_, self) ← (match self.str with
            | (p1_ :: p2_ :: p3_ :: p4_ :: _) => if decide (p1_ = (116 : Nat)) && decide (p2_ = (114 : Nat)) && decide (p3_ = (117 : Nat)) && decide (p4_ = (101 : Nat)) then do
                  let t10_ ← Ctl.call (str_from self.str (4 : Nat))
                  let self := { self with str := t10_ }
                  pure (true, self)
                else
                  (match self.str with
                    | (p5_ :: p6_ :: p7_ :: p8_ :: p9_ :: _) => if decide (p5_ = (102 : Nat)) && decide (p6_ = (97 : Nat)) && decide (p7_ = (108 : Nat)) && decide (p8_ = (115 : Nat)) && decide (p9_ = (101 : Nat)) then do
                          let t11_ ← Ctl.call (str_from self.str (5 : Nat))
                          let self := { self with str := t11_ }
                          pure (false, self)
                        else
                          (do
                              let t12_ ← Ctl.call (ParseError.new copy ErrorKind.ParseBool)
                              Ctl.exit (.out (Except.error t12_)))
                    | _ =>
                        (do
                            let t12_ ← Ctl.call (ParseError.new copy ErrorKind.ParseBool)
                            Ctl.exit (.out (Except.error t12_))))
            | _ =>
                (match self.str with
                  | (p5_ :: p6_ :: p7_ :: p8_ :: p9_ :: _) => if decide (p5_ = (102 : Nat)) && decide (p6_ = (97 : Nat)) && decide (p7_ = (108 : Nat)) && decide (p8_ = (115 : Nat)) && decide (p9_ = (101 : Nat)) then do
                        let t11_ ← Ctl.call (str_from self.str (5 : Nat))
                        let self := { self with str := t11_ }
                        pure (false, self)
                      else
                        (do
                            let t12_ ← Ctl.call (ParseError.new copy ErrorKind.ParseBool)
                            Ctl.exit (.out (Except.error t12_)))
                  | _ =>
                      (do
                          let t12_ ← Ctl.call (ParseError.new copy ErrorKind.ParseBool)
                          Ctl.exit (.out (Except.error t12_)))))
        pure (t13_, self)

theorem parse_bool_shape (self : Parser) :
    Extracted.Parser.parse_bool self =
      frame { self with parse_direction := ParseDirection.FromStart }
        (boolBlock { self with parse_direction := ParseDirection.FromStart }
          { self with parse_direction := ParseDirection.FromStart }) := rfl

theorem parseBool_closed (p : Parser) :
    Konst.Parser.parseBool (toParser p) =
      match ParseInt.parseBoolPrefix p.str with
      | none => .err ⟨p.start_offset, p.start_offset + p.str.length, .fromStart, .parseBool⟩
      | some (v, k) =>
        match Utf8.strFrom p.str k with
        | .error _ => .panic
        | .ok w => .ok ⟨.fromStart, p.yielded_last_split,
            p.start_offset + (p.str.length - (w.apply p.str).length), w.apply p.str⟩ (.bool v) := by
  unfold Konst.Parser.parseBool Konst.Parser.tryParsing
  cases h : ParseInt.parseBoolPrefix p.str with
  | none => simp [toParser, h, Konst.Parser.ParseError.new]
  | some vr =>
    obtain ⟨v, k⟩ := vr
    simp only [toParser, h]
    cases Utf8.strFrom p.str k with
    | error _ => rfl
    | ok w => rfl

theorem boolBlock_spec (y : Bool) (o : Nat) (s : List Nat) (e : ParseError)
    (he : ParseError.new ⟨.FromStart, y, o, s⟩ ErrorKind.ParseBool = .ok e) :
    boolBlock ⟨.FromStart, y, o, s⟩ ⟨.FromStart, y, o, s⟩ =
      match ParseInt.parseBoolPrefix s with
      | none => Ctl.exit (.out (Except.error e))
      | some (v, k) =>
        (Ctl.call (str_from s k)).bind fun t => Ctl.val (v, (⟨.FromStart, y, o, t⟩ : Parser)) := by
  rcases Konst.Lemmas.ParseInt.bool_cases s with ⟨t, rfl⟩ | ⟨t, rfl⟩ | ⟨h1', h2'⟩
  · simp only [boolBlock, ParseInt.parseBoolPrefix, decide_true, Bool.and_self, ↓reduceIte, Ctl.bind_eq,
      Ctl.pure_eq]
    cases str_from (116 :: 114 :: 117 :: 101 :: t) 4 <;> rfl
  · simp only [boolBlock, ParseInt.parseBoolPrefix, decide_true, decide_false, Bool.and_self,
      Bool.false_eq_true, Nat.reduceEqDiff, ↓reduceIte, Ctl.bind_eq, Ctl.pure_eq]
    cases str_from (102 :: 97 :: 108 :: 115 :: 101 :: t) 5 <;> rfl
  · rw [Konst.Lemmas.ParseInt.parseBoolPrefix_none s h1' h2']
    rcases s with _ | ⟨a, _ | ⟨b, _ | ⟨c, _ | ⟨d, s⟩⟩⟩⟩
    · simp only [boolBlock, he, Ctl.call_ok, Ctl.bind_eq, Ctl.bind_val, Ctl.pure_eq, Ctl.bind_exit]
    · simp only [boolBlock, he, Ctl.call_ok, Ctl.bind_eq, Ctl.bind_val, Ctl.pure_eq, Ctl.bind_exit]
    · simp only [boolBlock, he, Ctl.call_ok, Ctl.bind_eq, Ctl.bind_val, Ctl.pure_eq, Ctl.bind_exit]
    · simp only [boolBlock, he, Ctl.call_ok, Ctl.bind_eq, Ctl.bind_val, Ctl.pure_eq, Ctl.bind_exit]
    · have n1 : ¬ (((a = 116 ∧ b = 114) ∧ c = 117) ∧ d = 101) := by
        rintro ⟨⟨⟨rfl, rfl⟩, rfl⟩, rfl⟩; exact h1' _ rfl
      cases s with
      | nil =>
        simp only [boolBlock, Bool.and_eq_true, decide_eq_true_eq, n1, ↓reduceIte, he, Ctl.call_ok, Ctl.bind_eq,
          Ctl.bind_val, Ctl.pure_eq, Ctl.bind_exit]
      | cons e' s =>
        have n2 : ¬ ((((a = 102 ∧ b = 97) ∧ c = 108) ∧ d = 115) ∧ e' = 101) := by
          rintro ⟨⟨⟨⟨rfl, rfl⟩, rfl⟩, rfl⟩, rfl⟩; exact h2' _ rfl
        simp only [boolBlock, Bool.and_eq_true, decide_eq_true_eq, n1, n2, ↓reduceIte, he, Ctl.call_ok, Ctl.bind_eq,
          Ctl.bind_val, Ctl.pure_eq, Ctl.bind_exit]

/-- `Parser::parse_bool` = the model's `parseBool`: `Ok((bool, parser))` / `Err(ParseError::new(copy,
    ErrorKind::ParseBool))` as the model says; a panic (inside `str_from`, when byte 4 resp. 5 of the
    remainder is a UTF-8 continuation byte — impossible for a `&str`) exactly when the model panics. -/
theorem Parser.parse_bool_eq (p : Parser)
    (hoff : p.start_offset + p.str.length < 2 ^ 32) (hb : ∀ b ∈ p.str, b < 256) :
    Extracted.Parser.parse_bool p = resOf boolVal (Konst.Parser.parseBool (toParser p)) := by
  rw [parseBool_closed, parse_bool_shape]
  obtain ⟨d, y, o, s⟩ := p
  simp only [] at hoff hb ⊢
  have he := new_error_ok y o s .ParseBool hoff
  rw [boolBlock_spec y o s _ he]
  cases ParseInt.parseBoolPrefix s with
  | none => simp [frame_exit, resOf, ofError, ofDir, ofKind]
  | some vk =>
    obtain ⟨v, k⟩ := vk
    simp only []
    rw [frame_val y o s hoff hb]
    cases Utf8.strFrom s k with
    | error _ => rfl
    | ok w => rfl

/- "true!" at offset 3, "trux" -/
example : Extracted.Parser.parse_bool ⟨.FromEnd, true, 3, [116, 114, 117, 101, 33]⟩
    = resOf boolVal (Konst.Parser.parseBool (toParser ⟨.FromEnd, true, 3, [116, 114, 117, 101, 33]⟩)) :=
  Parser.parse_bool_eq _ (by decide) (by decide)
example : Extracted.Parser.parse_bool ⟨.FromEnd, true, 3, [116, 114, 117, 101, 33]⟩
    = .ok (.ok (true, ⟨.FromStart, true, 7, [33]⟩)) := by decide +kernel
example : Extracted.Parser.parse_bool ⟨.FromStart, false, 0, [102, 97, 108, 115, 101]⟩
    = .ok (.ok (false, ⟨.FromStart, false, 5, []⟩)) := by decide +kernel
example : Extracted.Parser.parse_bool ⟨.FromEnd, true, 3, [116, 114, 117, 120]⟩
    = .ok (.error ⟨3, 7, .FromStart, .ParseBool, [], ()⟩) := by decide +kernel

/-! ### the seven integer functions -/

/-- `Parser::parse_u8` = the model's `parseInt · false 8`.  The result is exactly the model's:
    `Ok((num, parser))`, `Err(ParseError::new(copy, ErrorKind::ParseInteger))` (the checked `u32` addition
    inside `ParseError::new` does not overflow under `hoff`), and a panic (inside `str_from`, when the byte
    behind the digits is a UTF-8 continuation byte — impossible for a `&str`, see `Parser.parse_u8_ok`)
    exactly when the model panics.  Fuel: one loop iteration per digit behind the first, plus the exit. -/
theorem Parser.parse_u8_eq (fuel : Nat) (p : Parser)
    (hoff : p.start_offset + p.str.length < 2 ^ 32) (hb : ∀ b ∈ p.str, b < 256)
    (hf : p.str.length ≤ fuel) :
    Extracted.Parser.parse_u8 fuel p = resOf natVal (Konst.Parser.parseInt (toParser p) false 8) := by
  rw [parse_u8_shape]; exact parseU_eq 8 (by decide) fuel p hoff hb hf

/- "12x" at offset 7 (direction and flag arbitrary): the theorem applies, and both sides are `Ok((12, "x" at 9))` -/
example : Extracted.Parser.parse_u8 3 ⟨.FromEnd, true, 7, [49, 50, 120]⟩
    = resOf natVal (Konst.Parser.parseInt (toParser ⟨.FromEnd, true, 7, [49, 50, 120]⟩) false 8) :=
  Parser.parse_u8_eq _ _ (by decide) (by decide) (by decide)
example : resOf natVal (Konst.Parser.parseInt (toParser ⟨.FromEnd, true, 7, [49, 50, 120]⟩) false 8)
    = .ok (.ok (12, ⟨.FromStart, true, 9, [120]⟩)) := by decide +kernel
/- "256": `Err(ParseError { start_offset: 0, end_offset: 3, FromStart, ParseInteger })`, no panic -/
example : Extracted.Parser.parse_u8 3 ⟨.FromStart, false, 0, [50, 53, 54]⟩
    = .ok (.error ⟨0, 3, .FromStart, .ParseInteger, [], ()⟩) := by decide +kernel
/- "1\x80" (not a `&str`): `str_from(.., 1)` panics, in the code and in the model -/
example : Extracted.Parser.parse_u8 2 ⟨.FromStart, false, 0, [49, 0x80]⟩ = .panic := by decide +kernel
example : Konst.Parser.parseInt (toParser ⟨.FromStart, false, 0, [49, 0x80]⟩) false 8 = .panic := by decide +kernel

theorem Parser.parse_i8_eq (fuel : Nat) (p : Parser)
    (hoff : p.start_offset + p.str.length < 2 ^ 32) (hb : ∀ b ∈ p.str, b < 256)
    (hf : p.str.length ≤ fuel) :
    Extracted.Parser.parse_i8 fuel p = resOf intVal (Konst.Parser.parseInt (toParser p) true 8) := by
  rw [parse_i8_shape]; exact parseI_eq 8 (by decide) _ _ (by decide) (by decide) fuel p hoff hb hf

/- "-128" and "128" -/
example : Extracted.Parser.parse_i8 4 ⟨.FromStart, false, 0, [45, 49, 50, 56]⟩
    = resOf intVal (Konst.Parser.parseInt (toParser ⟨.FromStart, false, 0, [45, 49, 50, 56]⟩) true 8) :=
  Parser.parse_i8_eq _ _ (by decide) (by decide) (by decide)
example : Extracted.Parser.parse_i8 4 ⟨.FromStart, false, 0, [45, 49, 50, 56]⟩
    = .ok (.ok (-128, ⟨.FromStart, false, 4, []⟩)) := by decide +kernel
example : Extracted.Parser.parse_i8 3 ⟨.FromStart, false, 0, [49, 50, 56]⟩
    = .ok (.error ⟨0, 3, .FromStart, .ParseInteger, [], ()⟩) := by decide +kernel

theorem Parser.parse_u32_eq (fuel : Nat) (p : Parser)
    (hoff : p.start_offset + p.str.length < 2 ^ 32) (hb : ∀ b ∈ p.str, b < 256)
    (hf : p.str.length ≤ fuel) :
    Extracted.Parser.parse_u32 fuel p = resOf natVal (Konst.Parser.parseInt (toParser p) false 32) := by
  rw [parse_u32_shape]; exact parseU_eq 32 (by decide) fuel p hoff hb hf

/- "4294967295," and "4294967296" -/
example : Extracted.Parser.parse_u32 11 ⟨.FromStart, false, 5, [52,50,57,52,57,54,55,50,57,53,44]⟩
    = resOf natVal (Konst.Parser.parseInt (toParser ⟨.FromStart, false, 5, [52,50,57,52,57,54,55,50,57,53,44]⟩) false 32) :=
  Parser.parse_u32_eq _ _ (by decide) (by decide) (by decide)
example : Extracted.Parser.parse_u32 11 ⟨.FromStart, false, 5, [52,50,57,52,57,54,55,50,57,53,44]⟩
    = .ok (.ok (4294967295, ⟨.FromStart, false, 15, [44]⟩)) := by decide +kernel
example : Extracted.Parser.parse_u32 10 ⟨.FromStart, false, 0, [52,50,57,52,57,54,55,50,57,54]⟩
    = .ok (.error ⟨0, 10, .FromStart, .ParseInteger, [], ()⟩) := by decide +kernel

theorem Parser.parse_i64_eq (fuel : Nat) (p : Parser)
    (hoff : p.start_offset + p.str.length < 2 ^ 32) (hb : ∀ b ∈ p.str, b < 256)
    (hf : p.str.length ≤ fuel) :
    Extracted.Parser.parse_i64 fuel p = resOf intVal (Konst.Parser.parseInt (toParser p) true 64) := by
  rw [parse_i64_shape]; exact parseI_eq 64 (by decide) _ _ (by decide) (by decide) fuel p hoff hb hf

/- "-9223372036854775808" and "9223372036854775808" -/
example : Extracted.Parser.parse_i64 20 ⟨.FromStart, false, 0, [45,57,50,50,51,51,55,50,48,51,54,56,53,52,55,55,53,56,48,56]⟩
    = resOf intVal (Konst.Parser.parseInt (toParser ⟨.FromStart, false, 0, [45,57,50,50,51,51,55,50,48,51,54,56,53,52,55,55,53,56,48,56]⟩) true 64) :=
  Parser.parse_i64_eq _ _ (by decide) (by decide) (by decide)
example : Extracted.Parser.parse_i64 20 ⟨.FromStart, false, 0, [45,57,50,50,51,51,55,50,48,51,54,56,53,52,55,55,53,56,48,56]⟩
    = .ok (.ok (-9223372036854775808, ⟨.FromStart, false, 20, []⟩)) := by decide +kernel
example : Extracted.Parser.parse_i64 19 ⟨.FromStart, false, 0, [57,50,50,51,51,55,50,48,51,54,56,53,52,55,55,53,56,48,56]⟩
    = .ok (.error ⟨0, 19, .FromStart, .ParseInteger, [], ()⟩) := by decide +kernel

theorem Parser.parse_u128_eq (fuel : Nat) (p : Parser)
    (hoff : p.start_offset + p.str.length < 2 ^ 32) (hb : ∀ b ∈ p.str, b < 256)
    (hf : p.str.length ≤ fuel) :
    Extracted.Parser.parse_u128 fuel p = resOf natVal (Konst.Parser.parseInt (toParser p) false 128) := by
  rw [parse_u128_shape]; exact parseU_eq 128 (by decide) fuel p hoff hb hf

/- "007 " and "" -/
example : Extracted.Parser.parse_u128 4 ⟨.FromStart, false, 0, [48, 48, 55, 32]⟩
    = resOf natVal (Konst.Parser.parseInt (toParser ⟨.FromStart, false, 0, [48, 48, 55, 32]⟩) false 128) :=
  Parser.parse_u128_eq _ _ (by decide) (by decide) (by decide)
example : Extracted.Parser.parse_u128 4 ⟨.FromStart, false, 0, [48, 48, 55, 32]⟩
    = .ok (.ok (7, ⟨.FromStart, false, 3, [32]⟩)) := by decide +kernel
example : Extracted.Parser.parse_u128 0 ⟨.FromBoth, false, 9, []⟩
    = .ok (.error ⟨9, 9, .FromStart, .ParseInteger, [], ()⟩) := by decide +kernel

theorem Parser.parse_i128_eq (fuel : Nat) (p : Parser)
    (hoff : p.start_offset + p.str.length < 2 ^ 32) (hb : ∀ b ∈ p.str, b < 256)
    (hf : p.str.length ≤ fuel) :
    Extracted.Parser.parse_i128 fuel p = resOf intVal (Konst.Parser.parseInt (toParser p) true 128) := by
  rw [parse_i128_shape]; exact parseI_eq 128 (by decide) _ _ (by decide) (by decide) fuel p hoff hb hf

/- "-0" and "-" and "+1" -/
example : Extracted.Parser.parse_i128 2 ⟨.FromStart, false, 0, [45, 48]⟩
    = resOf intVal (Konst.Parser.parseInt (toParser ⟨.FromStart, false, 0, [45, 48]⟩) true 128) :=
  Parser.parse_i128_eq _ _ (by decide) (by decide) (by decide)
example : Extracted.Parser.parse_i128 2 ⟨.FromStart, false, 0, [45, 48]⟩
    = .ok (.ok (0, ⟨.FromStart, false, 2, []⟩)) := by decide +kernel
example : Extracted.Parser.parse_i128 1 ⟨.FromStart, false, 0, [45]⟩
    = .ok (.error ⟨0, 1, .FromStart, .ParseInteger, [], ()⟩) := by decide +kernel
example : Extracted.Parser.parse_i128 2 ⟨.FromStart, false, 0, [43, 49]⟩
    = .ok (.error ⟨0, 2, .FromStart, .ParseInteger, [], ()⟩) := by decide +kernel

/-- `usize` is 64 bits wide (`Konst.USIZE`) -/
theorem Parser.parse_usize_eq (fuel : Nat) (p : Parser)
    (hoff : p.start_offset + p.str.length < 2 ^ 32) (hb : ∀ b ∈ p.str, b < 256)
    (hf : p.str.length ≤ fuel) :
    Extracted.Parser.parse_usize fuel p = resOf natVal (Konst.Parser.parseInt (toParser p) false 64) := by
  rw [parse_usize_shape]; exact parseU_eq 64 (by decide) fuel p hoff hb hf

/- "18446744073709551615" and "18446744073709551616" -/
example : Extracted.Parser.parse_usize 20 ⟨.FromStart, false, 0, [49,56,52,52,54,55,52,52,48,55,51,55,48,57,53,53,49,54,49,53]⟩
    = resOf natVal (Konst.Parser.parseInt (toParser ⟨.FromStart, false, 0, [49,56,52,52,54,55,52,52,48,55,51,55,48,57,53,53,49,54,49,53]⟩) false 64) :=
  Parser.parse_usize_eq _ _ (by decide) (by decide) (by decide)
example : Extracted.Parser.parse_usize 20 ⟨.FromStart, false, 0, [49,56,52,52,54,55,52,52,48,55,51,55,48,57,53,53,49,54,49,53]⟩
    = .ok (.ok (18446744073709551615, ⟨.FromStart, false, 20, []⟩)) := by decide +kernel
example : Extracted.Parser.parse_usize 20 ⟨.FromStart, false, 0, [49,56,52,52,54,55,52,52,48,55,51,55,48,57,53,53,49,54,49,54]⟩
    = .ok (.error ⟨0, 20, .FromStart, .ParseInteger, [], ()⟩) := by decide +kernel

/-! ### no panic on a `&str` -/

theorem resOf_ok_of {T : Type} (f : Konst.Parser.Value → Option T) (r : Konst.Parser.Res)
    (hp : r ≠ .panic) (hv : ∀ q v, r = .ok q v → ∃ t, f v = some t) :
    (∃ q v t, r = .ok q v ∧ f v = some t ∧ resOf f r = .ok (.ok (t, ofParser q))) ∨
    (∃ e, r = .err e ∧ resOf f r = .ok (.error (ofError e))) := by
  cases r with
  | ok q v =>
    obtain ⟨t, ht⟩ := hv q v rfl
    exact .inl ⟨q, v, t, rfl, ht, by simp [resOf, ht]⟩
  | err e => exact .inr ⟨e, rfl, rfl⟩
  | panic => exact absurd rfl hp

theorem parseInt_ne_panic (q : Konst.Parser.Parser) (signed : Bool) (bits : Nat)
    (hv : Konst.Spec.Utf8.Valid q.str) : Konst.Parser.parseInt q signed bits ≠ .panic := by
  intro h
  have := Konst.Lemmas.Parser.parseInt_good q signed bits hv
  rw [h] at this
  exact this

theorem parseBool_ne_panic (q : Konst.Parser.Parser)
    (hv : Konst.Spec.Utf8.Valid q.str) : Konst.Parser.parseBool q ≠ .panic := by
  intro h
  have := Konst.Lemmas.Parser.parseBool_good q hv
  rw [h] at this
  exact this

theorem parseInt_value (p : Parser) (signed : Bool) (bits : Nat) (q : Konst.Parser.Parser)
    (v : Konst.Parser.Value) (h : Konst.Parser.parseInt (toParser p) signed bits = .ok q v) :
    ∃ n : Int, v = .int n ∧ (signed = false → 0 ≤ n) := by
  rw [parseInt_closed] at h
  cases hbody : ParseInt.parseIntegerBody signed bits p.str with
  | none => rw [hbody] at h; cases h
  | some vr =>
    obtain ⟨n, rest⟩ := vr
    rw [hbody] at h
    simp only [] at h
    cases hs : Utf8.strFrom p.str (p.str.length - rest.length) with
    | error _ => rw [hs] at h; cases h
    | ok w =>
      rw [hs] at h
      simp only [Konst.Parser.Res.ok.injEq] at h
      refine ⟨n, h.2.symm, ?_⟩
      intro hsg
      subst hsg
      exact Konst.Lemmas.ParseInt.parseIntegerBody_unsigned_nonneg bits p.str n rest hbody

theorem parseBool_value (q0 q : Konst.Parser.Parser) (v : Konst.Parser.Value)
    (h : Konst.Parser.parseBool q0 = .ok q v) : ∃ b : Bool, v = .bool b := by
  unfold Konst.Parser.parseBool Konst.Parser.tryParsing at h
  simp only [] at h
  split at h
  · cases h
  · cases h
  · rename_i ret self' hc
    split at hc
    · cases hc
    · split at hc
      · cases hc
      · simp only [Konst.Parser.Body.done.injEq] at hc
        simp only [Konst.Parser.Res.ok.injEq] at h
        exact ⟨_, by rw [← h.2, ← hc.1]⟩

/-- on a `&str` (valid UTF-8: `Spec.Utf8.Valid`) every integer `parse_*` returns normally — `Ok` with
    the model's value and parser, or `Err` with the model's error; stated once for the two shapes -/
theorem parseInt_resOf_ok {T : Type} (f : Konst.Parser.Value → Option T) (p : Parser) (signed : Bool)
    (bits : Nat) (hv : Konst.Spec.Utf8.Valid p.str)
    (hf : ∀ n : Int, (signed = false → 0 ≤ n) → ∃ t, f (.int n) = some t) :
    let r := Konst.Parser.parseInt (toParser p) signed bits
    (∃ q v t, r = .ok q v ∧ f v = some t ∧ resOf f r = .ok (.ok (t, ofParser q))) ∨
    (∃ e, r = .err e ∧ resOf f r = .ok (.error (ofError e))) := by
  intro r
  refine resOf_ok_of f r (parseInt_ne_panic _ _ _ hv) ?_
  intro q v h
  obtain ⟨n, rfl, hn⟩ := parseInt_value p signed bits q v h
  exact hf n hn

theorem pi_valid_lt_256 {s : List Nat} (hv : Konst.Spec.Utf8.Valid s) : ∀ b ∈ s, b < 256 :=
  Konst.Lemmas.Utf8.valid_lt_256 hv

theorem Parser.parse_u8_ok (fuel : Nat) (p : Parser)
    (hoff : p.start_offset + p.str.length < 2 ^ 32) (hv : Konst.Spec.Utf8.Valid p.str)
    (hf : p.str.length ≤ fuel) :
    let r := Konst.Parser.parseInt (toParser p) false 8
    (∃ q v t, r = .ok q v ∧ natVal v = some t ∧ Extracted.Parser.parse_u8 fuel p = .ok (.ok (t, ofParser q))) ∨
    (∃ e, r = .err e ∧ Extracted.Parser.parse_u8 fuel p = .ok (.error (ofError e))) := by
  rw [Parser.parse_u8_eq fuel p hoff (pi_valid_lt_256 hv) hf]
  exact parseInt_resOf_ok natVal p false 8 hv natVal_ok

theorem Parser.parse_i8_ok (fuel : Nat) (p : Parser)
    (hoff : p.start_offset + p.str.length < 2 ^ 32) (hv : Konst.Spec.Utf8.Valid p.str)
    (hf : p.str.length ≤ fuel) :
    let r := Konst.Parser.parseInt (toParser p) true 8
    (∃ q v t, r = .ok q v ∧ intVal v = some t ∧ Extracted.Parser.parse_i8 fuel p = .ok (.ok (t, ofParser q))) ∨
    (∃ e, r = .err e ∧ Extracted.Parser.parse_i8 fuel p = .ok (.error (ofError e))) := by
  rw [Parser.parse_i8_eq fuel p hoff (pi_valid_lt_256 hv) hf]
  exact parseInt_resOf_ok intVal p true 8 hv fun n _ => intVal_some n

theorem Parser.parse_u32_ok (fuel : Nat) (p : Parser)
    (hoff : p.start_offset + p.str.length < 2 ^ 32) (hv : Konst.Spec.Utf8.Valid p.str)
    (hf : p.str.length ≤ fuel) :
    let r := Konst.Parser.parseInt (toParser p) false 32
    (∃ q v t, r = .ok q v ∧ natVal v = some t ∧ Extracted.Parser.parse_u32 fuel p = .ok (.ok (t, ofParser q))) ∨
    (∃ e, r = .err e ∧ Extracted.Parser.parse_u32 fuel p = .ok (.error (ofError e))) := by
  rw [Parser.parse_u32_eq fuel p hoff (pi_valid_lt_256 hv) hf]
  exact parseInt_resOf_ok natVal p false 32 hv natVal_ok

theorem Parser.parse_i64_ok (fuel : Nat) (p : Parser)
    (hoff : p.start_offset + p.str.length < 2 ^ 32) (hv : Konst.Spec.Utf8.Valid p.str)
    (hf : p.str.length ≤ fuel) :
    let r := Konst.Parser.parseInt (toParser p) true 64
    (∃ q v t, r = .ok q v ∧ intVal v = some t ∧ Extracted.Parser.parse_i64 fuel p = .ok (.ok (t, ofParser q))) ∨
    (∃ e, r = .err e ∧ Extracted.Parser.parse_i64 fuel p = .ok (.error (ofError e))) := by
  rw [Parser.parse_i64_eq fuel p hoff (pi_valid_lt_256 hv) hf]
  exact parseInt_resOf_ok intVal p true 64 hv fun n _ => intVal_some n

theorem Parser.parse_u128_ok (fuel : Nat) (p : Parser)
    (hoff : p.start_offset + p.str.length < 2 ^ 32) (hv : Konst.Spec.Utf8.Valid p.str)
    (hf : p.str.length ≤ fuel) :
    let r := Konst.Parser.parseInt (toParser p) false 128
    (∃ q v t, r = .ok q v ∧ natVal v = some t ∧ Extracted.Parser.parse_u128 fuel p = .ok (.ok (t, ofParser q))) ∨
    (∃ e, r = .err e ∧ Extracted.Parser.parse_u128 fuel p = .ok (.error (ofError e))) := by
  rw [Parser.parse_u128_eq fuel p hoff (pi_valid_lt_256 hv) hf]
  exact parseInt_resOf_ok natVal p false 128 hv natVal_ok

theorem Parser.parse_i128_ok (fuel : Nat) (p : Parser)
    (hoff : p.start_offset + p.str.length < 2 ^ 32) (hv : Konst.Spec.Utf8.Valid p.str)
    (hf : p.str.length ≤ fuel) :
    let r := Konst.Parser.parseInt (toParser p) true 128
    (∃ q v t, r = .ok q v ∧ intVal v = some t ∧ Extracted.Parser.parse_i128 fuel p = .ok (.ok (t, ofParser q))) ∨
    (∃ e, r = .err e ∧ Extracted.Parser.parse_i128 fuel p = .ok (.error (ofError e))) := by
  rw [Parser.parse_i128_eq fuel p hoff (pi_valid_lt_256 hv) hf]
  exact parseInt_resOf_ok intVal p true 128 hv fun n _ => intVal_some n

theorem Parser.parse_usize_ok (fuel : Nat) (p : Parser)
    (hoff : p.start_offset + p.str.length < 2 ^ 32) (hv : Konst.Spec.Utf8.Valid p.str)
    (hf : p.str.length ≤ fuel) :
    let r := Konst.Parser.parseInt (toParser p) false 64
    (∃ q v t, r = .ok q v ∧ natVal v = some t ∧ Extracted.Parser.parse_usize fuel p = .ok (.ok (t, ofParser q))) ∨
    (∃ e, r = .err e ∧ Extracted.Parser.parse_usize fuel p = .ok (.error (ofError e))) := by
  rw [Parser.parse_usize_eq fuel p hoff (pi_valid_lt_256 hv) hf]
  exact parseInt_resOf_ok natVal p false 64 hv natVal_ok

theorem Parser.parse_bool_ok (p : Parser)
    (hoff : p.start_offset + p.str.length < 2 ^ 32) (hv : Konst.Spec.Utf8.Valid p.str) :
    let r := Konst.Parser.parseBool (toParser p)
    (∃ q v t, r = .ok q v ∧ boolVal v = some t ∧ Extracted.Parser.parse_bool p = .ok (.ok (t, ofParser q))) ∨
    (∃ e, r = .err e ∧ Extracted.Parser.parse_bool p = .ok (.error (ofError e))) := by
  rw [Parser.parse_bool_eq p hoff (pi_valid_lt_256 hv)]
  refine resOf_ok_of boolVal _ (parseBool_ne_panic _ hv) ?_
  intro q v h
  obtain ⟨b, rfl⟩ := parseBool_value _ q v h
  exact ⟨b, rfl⟩

end Extracted.Equiv
