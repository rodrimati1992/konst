import KonstVerif.Extracted.Gen.Cmp7
import KonstVerif.Extracted.Equiv.Cmp2
import KonstVerif.Model.Cmp
import KonstVerif.Spec.Cmp
/-
  Extracted = Model for the comparison functions of group `Cmp7` (C16):

  * `konst::range::cmp::eq_range_T` and `eq_rangeinc_T` for `T = u8 u16 u32 u64 u128 usize char`
    (model: `eqRange`, `eqRangeInc` of `Model/Cmp.lean`),
  * `konst::other::cmp::eq_ordering`, `cmp_ordering`, `eq_option_ordering`, `cmp_option_ordering`
    (model: `eqOrdering`, `cmpOrdering`, and `eqOption` / `cmpOption` over them),
  * `konst::other::cmp::eq_phantomdata`, `cmp_phantomdata`, `eq_phantompinned`, `cmp_phantompinned`
    (no definition in `Model/Cmp.lean`: the bodies are the constants `true` / `Ordering::Equal`; the
    theorems state that constant, and `eq_*_std` that `true` is `==` on the one-valued type).

  Representation (translator, `conv_ty`): a `core::ops::Range<T>` is the pair `(start, end)`, a
  `core::ops::RangeInclusive<T>` the triple `(start, end, exhausted)`, which are the shapes of the
  model's `eqRange : Int × Int → …` and `eqRangeInc : Int × Int × Bool → …`; `PhantomData<T>` and
  `PhantomPinned` are `Unit`; `ordering as i8` is `Rs.orderingToInt` (`Less = -1`, `Equal = 0`,
  `Greater = 1`).  The extraction keeps every `uN` and `char` (scalar value) as `Nat`; the bounds are
  handed to the model through `Int.ofNat` (`rangeInt`, `rangeIncInt`; the `exhausted` flag is kept).

  `eq_rangeinc_T` compares the bounds only — `eqRangeInc` does exactly the same (known finding F8,
  `Props/C16.lean` `eqRangeInc_exhausted_differs`).

  All functions are loop-free and total: every theorem holds for ALL arguments, without hypotheses
  (no bounds, no fuel).  Where the model has a panic channel (`eqOption` / `cmpOption`: `Option` as
  result type) the statement is `∃ v, model = some v ∧ extracted = .ok v`, as in `Equiv/Cmp2.lean`.
-/
namespace Extracted.Equiv
open Rs Konst Konst.Cmp Konst.Spec.Cmp

/-! ### the embeddings into the model's range values -/

def rangeInt (r : Nat × Nat) : Int × Int := (Int.ofNat r.1, Int.ofNat r.2)

def rangeIncInt (r : Nat × Nat × Bool) : Int × Int × Bool := (Int.ofNat r.1, Int.ofNat r.2.1, r.2.2)

/-! ### `eq_range_T`: the seven generated definitions are the same text -/

def eqRangeFn (left right : Nat × Nat) : Res Bool := Ctl.run (ρ := Bool) do
  pure ((decide (left.1 = right.1)) && (decide (left.2 = right.2)))

def eqRangeIncFn (left right : Nat × Nat × Bool) : Res Bool := Ctl.run (ρ := Bool) do
  pure ((decide (left.1 = right.1)) && (decide (left.2.1 = right.2.1)))

theorem eqRangeFn_eq (left right : Nat × Nat) :
    eqRangeFn left right = .ok (eqRange (rangeInt left) (rangeInt right)) := by
  simp only [eqRangeFn, eqRange, rangeInt, ofNat_inj, Ctl.pure_eq, Ctl.run_val]

theorem eqRangeIncFn_eq (left right : Nat × Nat × Bool) :
    eqRangeIncFn left right = .ok (eqRangeInc (rangeIncInt left) (rangeIncInt right)) := by
  simp only [eqRangeIncFn, eqRangeInc, rangeIncInt, ofNat_inj, Ctl.pure_eq, Ctl.run_val]

theorem eq_range_nat_eq {f : Nat × Nat → Nat × Nat → Res Bool} (hf : f = eqRangeFn)
    (left right : Nat × Nat) : f left right = .ok (eqRange (rangeInt left) (rangeInt right)) :=
  hf ▸ eqRangeFn_eq left right

theorem eq_rangeinc_nat_eq {f : Nat × Nat × Bool → Nat × Nat × Bool → Res Bool} (hf : f = eqRangeIncFn)
    (left right : Nat × Nat × Bool) :
    f left right = .ok (eqRangeInc (rangeIncInt left) (rangeIncInt right)) :=
  hf ▸ eqRangeIncFn_eq left right

theorem eq_range_u8_eq (left right : Nat × Nat) :
    Extracted.eq_range_u8 left right = .ok (eqRange (rangeInt left) (rangeInt right)) :=
  eq_range_nat_eq rfl left right
theorem eq_range_u16_eq (left right : Nat × Nat) :
    Extracted.eq_range_u16 left right = .ok (eqRange (rangeInt left) (rangeInt right)) :=
  eq_range_nat_eq rfl left right
theorem eq_range_u32_eq (left right : Nat × Nat) :
    Extracted.eq_range_u32 left right = .ok (eqRange (rangeInt left) (rangeInt right)) :=
  eq_range_nat_eq rfl left right
theorem eq_range_u64_eq (left right : Nat × Nat) :
    Extracted.eq_range_u64 left right = .ok (eqRange (rangeInt left) (rangeInt right)) :=
  eq_range_nat_eq rfl left right
theorem eq_range_u128_eq (left right : Nat × Nat) :
    Extracted.eq_range_u128 left right = .ok (eqRange (rangeInt left) (rangeInt right)) :=
  eq_range_nat_eq rfl left right
theorem eq_range_usize_eq (left right : Nat × Nat) :
    Extracted.eq_range_usize left right = .ok (eqRange (rangeInt left) (rangeInt right)) :=
  eq_range_nat_eq rfl left right
theorem eq_range_char_eq (left right : Nat × Nat) :
    Extracted.eq_range_char left right = .ok (eqRange (rangeInt left) (rangeInt right)) :=
  eq_range_nat_eq rfl left right

example : Extracted.eq_range_u8 (3, 200) (3, 200) = .ok true := by decide +kernel
example : Extracted.eq_range_u8 (3, 200) (3, 201) = .ok false := by decide +kernel
example : Extracted.eq_range_u64 (0, 18446744073709551615) (1, 18446744073709551615) = .ok false := by decide +kernel
example : Extracted.eq_range_char (0x61, 0x10FFFF) (0x61, 0x10FFFF) = .ok (eqRange (0x61, 0x10FFFF) (0x61, 0x10FFFF)) :=
  eq_range_char_eq (0x61, 0x10FFFF) (0x61, 0x10FFFF)

theorem eq_rangeinc_u8_eq (left right : Nat × Nat × Bool) :
    Extracted.eq_rangeinc_u8 left right = .ok (eqRangeInc (rangeIncInt left) (rangeIncInt right)) :=
  eq_rangeinc_nat_eq rfl left right
theorem eq_rangeinc_u16_eq (left right : Nat × Nat × Bool) :
    Extracted.eq_rangeinc_u16 left right = .ok (eqRangeInc (rangeIncInt left) (rangeIncInt right)) :=
  eq_rangeinc_nat_eq rfl left right
theorem eq_rangeinc_u32_eq (left right : Nat × Nat × Bool) :
    Extracted.eq_rangeinc_u32 left right = .ok (eqRangeInc (rangeIncInt left) (rangeIncInt right)) :=
  eq_rangeinc_nat_eq rfl left right
theorem eq_rangeinc_u64_eq (left right : Nat × Nat × Bool) :
    Extracted.eq_rangeinc_u64 left right = .ok (eqRangeInc (rangeIncInt left) (rangeIncInt right)) :=
  eq_rangeinc_nat_eq rfl left right
theorem eq_rangeinc_u128_eq (left right : Nat × Nat × Bool) :
    Extracted.eq_rangeinc_u128 left right = .ok (eqRangeInc (rangeIncInt left) (rangeIncInt right)) :=
  eq_rangeinc_nat_eq rfl left right
theorem eq_rangeinc_usize_eq (left right : Nat × Nat × Bool) :
    Extracted.eq_rangeinc_usize left right = .ok (eqRangeInc (rangeIncInt left) (rangeIncInt right)) :=
  eq_rangeinc_nat_eq rfl left right
theorem eq_rangeinc_char_eq (left right : Nat × Nat × Bool) :
    Extracted.eq_rangeinc_char left right = .ok (eqRangeInc (rangeIncInt left) (rangeIncInt right)) :=
  eq_rangeinc_nat_eq rfl left right

example : Extracted.eq_rangeinc_u8 (3, 200, false) (3, 200, false) = .ok true := by decide +kernel
example : Extracted.eq_rangeinc_u16 (3, 200, false) (4, 200, false) = .ok false := by decide +kernel
/-- F8: the `exhausted` flag is not compared -/
example : Extracted.eq_rangeinc_u8 (0, 0, true) (0, 0, false) = .ok true := by decide +kernel
example : Extracted.eq_rangeinc_usize (0, 5, true) (0, 5, false) = .ok (eqRangeInc (0, 5, true) (0, 5, false)) :=
  eq_rangeinc_usize_eq (0, 5, true) (0, 5, false)

/-! ### `Ordering` -/

theorem orderingToInt_eq (o : Ordering) : Rs.orderingToInt o = orderingAsI8 o := by
  cases o <;> rfl

theorem eq_ordering_eq (left right : Ordering) :
    Extracted.eq_ordering left right = .ok (eqOrdering left right) := by
  cases left <;> cases right <;> rfl

theorem eq_ordering_std (left right : Ordering) :
    Extracted.eq_ordering left right = .ok (stdEq left right) := by
  cases left <;> cases right <;> rfl

theorem cmp_ordering_eq (left right : Ordering) :
    Extracted.cmp_ordering left right = .ok (cmpOrdering left right) := by
  cases left <;> cases right <;> rfl

theorem cmp_ordering_std (left right : Ordering) :
    Extracted.cmp_ordering left right = .ok (stdCmpOrdering left right) := by
  cases left <;> cases right <;> rfl

example : Extracted.eq_ordering .lt .lt = .ok true := by decide +kernel
example : Extracted.eq_ordering .lt .gt = .ok false := by decide +kernel
example : Extracted.cmp_ordering .lt .eq = .ok .lt := by decide +kernel
example : Extracted.cmp_ordering .gt .eq = .ok .gt := by decide +kernel
example : Extracted.cmp_ordering .gt .lt = .ok (cmpOrdering .gt .lt) := cmp_ordering_eq _ _

theorem eq_option_ordering_eq (left right : Option Ordering) :
    ∃ b, eqOption (fun a b => some (eqOrdering a b)) left right = some b ∧
      Extracted.eq_option_ordering left right = .ok b := by
  cases left with
  | none => cases right <;> exact ⟨_, rfl, rfl⟩
  | some l =>
    cases right with
    | none => exact ⟨_, rfl, rfl⟩
    | some r => cases l <;> cases r <;> exact ⟨_, rfl, rfl⟩

theorem eq_option_ordering_std (left right : Option Ordering) :
    Extracted.eq_option_ordering left right = .ok (stdEq left right) := by
  cases left with
  | none => cases right <;> rfl
  | some l =>
    cases right with
    | none => rfl
    | some r => cases l <;> cases r <;> rfl

theorem cmp_option_ordering_eq (left right : Option Ordering) :
    ∃ c, cmpOption (fun a b => some (cmpOrdering a b)) left right = some c ∧
      Extracted.cmp_option_ordering left right = .ok c := by
  cases left with
  | none => cases right <;> exact ⟨_, rfl, rfl⟩
  | some l =>
    cases right with
    | none => exact ⟨_, rfl, rfl⟩
    | some r => cases l <;> cases r <;> exact ⟨_, rfl, rfl⟩

theorem cmp_option_ordering_std (left right : Option Ordering) :
    Extracted.cmp_option_ordering left right = .ok (optCmp stdCmpOrdering left right) := by
  cases left with
  | none => cases right <;> rfl
  | some l =>
    cases right with
    | none => rfl
    | some r => cases l <;> cases r <;> rfl

example : Extracted.eq_option_ordering (some .lt) (some .lt) = .ok true := by decide +kernel
example : Extracted.eq_option_ordering (some .lt) none = .ok false := by decide +kernel
example : Extracted.cmp_option_ordering none (some .lt) = .ok .lt := by decide +kernel
example : Extracted.cmp_option_ordering (some .gt) (some .eq) = .ok .gt := by decide +kernel
example : ∃ c, cmpOption (fun a b => some (cmpOrdering a b)) (some .eq) (some .gt) = some c ∧
    Extracted.cmp_option_ordering (some .eq) (some .gt) = .ok c := cmp_option_ordering_eq (some .eq) (some .gt)

/-! ### `PhantomData<T>` / `PhantomPinned` (one-valued types: `Unit`) -/

theorem eq_phantomdata_eq {T : Type} (l r : Unit) :
    Extracted.eq_phantomdata (T := T) l r = .ok true := rfl

theorem eq_phantomdata_std {T : Type} (l r : Unit) :
    Extracted.eq_phantomdata (T := T) l r = .ok (stdEq l r) := rfl

theorem cmp_phantomdata_eq {T : Type} (l r : Unit) :
    Extracted.cmp_phantomdata (T := T) l r = .ok Ordering.eq := rfl

theorem eq_phantompinned_eq (l r : Unit) : Extracted.eq_phantompinned l r = .ok true := rfl

theorem eq_phantompinned_std (l r : Unit) : Extracted.eq_phantompinned l r = .ok (stdEq l r) := rfl

theorem cmp_phantompinned_eq (l r : Unit) : Extracted.cmp_phantompinned l r = .ok Ordering.eq := rfl

example : Extracted.eq_phantomdata (T := Nat) () () = .ok true := by decide +kernel
example : Extracted.cmp_phantomdata (T := Nat) () () = .ok .eq := by decide +kernel
example : Extracted.eq_phantompinned () () = .ok true := by decide +kernel
example : Extracted.cmp_phantompinned () () = .ok .eq := by decide +kernel

end Extracted.Equiv
