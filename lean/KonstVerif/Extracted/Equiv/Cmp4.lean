import KonstVerif.Extracted.Gen.Cmp4
import KonstVerif.Extracted.Equiv.Cmp
import KonstVerif.Extracted.Equiv.Cmp2
/-
  Extracted = Model for the remaining instances of `__declare_slice_cmp_fns!` (C16):
  `eq_slice_T`, `cmp_slice_T::cmp_inner`, `cmp_slice_T` for
  T ∈ {u16, u32, u128, usize, i16, i32, i64, i128, isize, bool, char}.

  Everything is an instance of the element-type-generic development of `Equiv/Cmp.lean`:
  the generated loop bodies `eq_slice_T.loop1` / `cmp_slice_T_inner.loop1` unfold to `eqBody` / `cmpBody` at the
  carrier type, the generated functions are (by `rfl`) `eqFn` / `cmpInnerFn`, and the theorems are
  `eqFn_eq` / `cmpInnerFn_eq` / `cmp_of_inner` with the embedding of the carrier into the model's `Int`:

    * `u16`, `u32`, `u128`, `usize`, `char` (`Nat`; a `char` is its scalar value): `Int.ofNat`
      (`ofNat_inj`, `ofNat_gt`), the model is applied to `left.map Int.ofNat`
    * `i16`, `i32`, `i64`, `i128`, `isize` (`Int`): `id`, the model is applied to `left` itself
    * `bool` (`Bool`): `boolInt` of `Equiv/Cmp2.lean` (`false = 0`, `true = 1`, the model's convention);
      the generated `l != r` / `l > r` are the ones of `Bool` (`false < true`), `boolInt_inj` / `boolInt_gt`

  Same statements, bound and fuel hypotheses as the siblings `eq_slice_i8/u64`, `cmp_slice_i8/u64(_inner)`:

      ∃ v, Model.f left' right' = some v ∧ Extracted.f fuel left right = .ok v

  (model and extraction both return normally with the same value).  No hypothesis on the element values is needed
  (the code only compares them), so the width of `T` does not occur in the statements; in particular the theorems
  hold for all lists of values of the type.  The `bool` and `char` bodies have exactly the shape of the integer
  ones (the macro compares with the built-in `!=` / `>`; `cmp_bool` / `cmp_char` are not called).
-/
namespace Extracted.Equiv
open Rs Konst Konst.Cmp

/-! ### the generated functions are instances of `eqFn` / `cmpInnerFn` -/

theorem eq_slice_u16_fn : Extracted.eq_slice_u16 = eqFn (α := Nat) := rfl
theorem eq_slice_u32_fn : Extracted.eq_slice_u32 = eqFn (α := Nat) := rfl
theorem eq_slice_u128_fn : Extracted.eq_slice_u128 = eqFn (α := Nat) := rfl
theorem eq_slice_usize_fn : Extracted.eq_slice_usize = eqFn (α := Nat) := rfl
theorem eq_slice_i16_fn : Extracted.eq_slice_i16 = eqFn (α := Int) := rfl
theorem eq_slice_i32_fn : Extracted.eq_slice_i32 = eqFn (α := Int) := rfl
theorem eq_slice_i64_fn : Extracted.eq_slice_i64 = eqFn (α := Int) := rfl
theorem eq_slice_i128_fn : Extracted.eq_slice_i128 = eqFn (α := Int) := rfl
theorem eq_slice_isize_fn : Extracted.eq_slice_isize = eqFn (α := Int) := rfl
theorem eq_slice_bool_fn : Extracted.eq_slice_bool = eqFn (α := Bool) := rfl
theorem eq_slice_char_fn : Extracted.eq_slice_char = eqFn (α := Nat) := rfl
theorem cmp_slice_u16_inner_fn : Extracted.cmp_slice_u16_inner = cmpInnerFn (α := Nat) := rfl
theorem cmp_slice_u32_inner_fn : Extracted.cmp_slice_u32_inner = cmpInnerFn (α := Nat) := rfl
theorem cmp_slice_u128_inner_fn : Extracted.cmp_slice_u128_inner = cmpInnerFn (α := Nat) := rfl
theorem cmp_slice_usize_inner_fn : Extracted.cmp_slice_usize_inner = cmpInnerFn (α := Nat) := rfl
theorem cmp_slice_i16_inner_fn : Extracted.cmp_slice_i16_inner = cmpInnerFn (α := Int) := rfl
theorem cmp_slice_i32_inner_fn : Extracted.cmp_slice_i32_inner = cmpInnerFn (α := Int) := rfl
theorem cmp_slice_i64_inner_fn : Extracted.cmp_slice_i64_inner = cmpInnerFn (α := Int) := rfl
theorem cmp_slice_i128_inner_fn : Extracted.cmp_slice_i128_inner = cmpInnerFn (α := Int) := rfl
theorem cmp_slice_isize_inner_fn : Extracted.cmp_slice_isize_inner = cmpInnerFn (α := Int) := rfl
theorem cmp_slice_bool_inner_fn : Extracted.cmp_slice_bool_inner = cmpInnerFn (α := Bool) := rfl
theorem cmp_slice_char_inner_fn : Extracted.cmp_slice_char_inner = cmpInnerFn (α := Nat) := rfl

/-! ### the generic loop lemmas `eq_loop` / `cmp_loop` of `Equiv/Cmp.lean`, instantiated at every generated loop body -/

theorem eq_slice_u16_loop (n : Nat) (left right : List Nat) (i : Nat)
    (hlen : left.length = right.length) (hb : left.length < 2 ^ 64)
    (hn : left.length + 1 ≤ n + i) (hi : i ≤ left.length) :
    (eqLoop (left.map Int.ofNat) (right.map Int.ofNat) i = some false ∧
        Rs.loop n (Extracted.eq_slice_u16.loop1 left right) i = (Ctl.exit false : Ctl Bool Nat)) ∨
    (eqLoop (left.map Int.ofNat) (right.map Int.ofNat) i = some true ∧
        ∃ j, Rs.loop n (Extracted.eq_slice_u16.loop1 left right) i = (Ctl.val j : Ctl Bool Nat)) :=
  eq_loop Int.ofNat ofNat_inj n left right i hlen hb hn hi

theorem cmp_slice_u16_inner_loop (n : Nat) (left right : List Nat) (minLen : Nat) (tail : Konst.Cmp.U8Ordering)
    (i : Nat) (hl : minLen ≤ left.length) (hr : minLen ≤ right.length) (hb : minLen < 2 ^ 64)
    (hn : minLen + 1 ≤ n + i) (hi : i ≤ minLen) :
    (∃ o, elemLoop (left.map Int.ofNat) (right.map Int.ofNat) minLen tail i = some o ∧
        Rs.loop n (Extracted.cmp_slice_u16_inner.loop1 minLen left right) i
          = (Ctl.exit (u8ordOfModel o) : Ctl Extracted.U8Ordering Nat)) ∨
    (elemLoop (left.map Int.ofNat) (right.map Int.ofNat) minLen tail i = some tail ∧
        ∃ j, Rs.loop n (Extracted.cmp_slice_u16_inner.loop1 minLen left right) i
          = (Ctl.val j : Ctl Extracted.U8Ordering Nat)) :=
  cmp_loop Int.ofNat ofNat_inj ofNat_gt n left right minLen tail i hl hr hb hn hi

theorem eq_slice_u32_loop (n : Nat) (left right : List Nat) (i : Nat)
    (hlen : left.length = right.length) (hb : left.length < 2 ^ 64)
    (hn : left.length + 1 ≤ n + i) (hi : i ≤ left.length) :
    (eqLoop (left.map Int.ofNat) (right.map Int.ofNat) i = some false ∧
        Rs.loop n (Extracted.eq_slice_u32.loop1 left right) i = (Ctl.exit false : Ctl Bool Nat)) ∨
    (eqLoop (left.map Int.ofNat) (right.map Int.ofNat) i = some true ∧
        ∃ j, Rs.loop n (Extracted.eq_slice_u32.loop1 left right) i = (Ctl.val j : Ctl Bool Nat)) :=
  eq_loop Int.ofNat ofNat_inj n left right i hlen hb hn hi

theorem cmp_slice_u32_inner_loop (n : Nat) (left right : List Nat) (minLen : Nat) (tail : Konst.Cmp.U8Ordering)
    (i : Nat) (hl : minLen ≤ left.length) (hr : minLen ≤ right.length) (hb : minLen < 2 ^ 64)
    (hn : minLen + 1 ≤ n + i) (hi : i ≤ minLen) :
    (∃ o, elemLoop (left.map Int.ofNat) (right.map Int.ofNat) minLen tail i = some o ∧
        Rs.loop n (Extracted.cmp_slice_u32_inner.loop1 minLen left right) i
          = (Ctl.exit (u8ordOfModel o) : Ctl Extracted.U8Ordering Nat)) ∨
    (elemLoop (left.map Int.ofNat) (right.map Int.ofNat) minLen tail i = some tail ∧
        ∃ j, Rs.loop n (Extracted.cmp_slice_u32_inner.loop1 minLen left right) i
          = (Ctl.val j : Ctl Extracted.U8Ordering Nat)) :=
  cmp_loop Int.ofNat ofNat_inj ofNat_gt n left right minLen tail i hl hr hb hn hi

theorem eq_slice_u128_loop (n : Nat) (left right : List Nat) (i : Nat)
    (hlen : left.length = right.length) (hb : left.length < 2 ^ 64)
    (hn : left.length + 1 ≤ n + i) (hi : i ≤ left.length) :
    (eqLoop (left.map Int.ofNat) (right.map Int.ofNat) i = some false ∧
        Rs.loop n (Extracted.eq_slice_u128.loop1 left right) i = (Ctl.exit false : Ctl Bool Nat)) ∨
    (eqLoop (left.map Int.ofNat) (right.map Int.ofNat) i = some true ∧
        ∃ j, Rs.loop n (Extracted.eq_slice_u128.loop1 left right) i = (Ctl.val j : Ctl Bool Nat)) :=
  eq_loop Int.ofNat ofNat_inj n left right i hlen hb hn hi

theorem cmp_slice_u128_inner_loop (n : Nat) (left right : List Nat) (minLen : Nat) (tail : Konst.Cmp.U8Ordering)
    (i : Nat) (hl : minLen ≤ left.length) (hr : minLen ≤ right.length) (hb : minLen < 2 ^ 64)
    (hn : minLen + 1 ≤ n + i) (hi : i ≤ minLen) :
    (∃ o, elemLoop (left.map Int.ofNat) (right.map Int.ofNat) minLen tail i = some o ∧
        Rs.loop n (Extracted.cmp_slice_u128_inner.loop1 minLen left right) i
          = (Ctl.exit (u8ordOfModel o) : Ctl Extracted.U8Ordering Nat)) ∨
    (elemLoop (left.map Int.ofNat) (right.map Int.ofNat) minLen tail i = some tail ∧
        ∃ j, Rs.loop n (Extracted.cmp_slice_u128_inner.loop1 minLen left right) i
          = (Ctl.val j : Ctl Extracted.U8Ordering Nat)) :=
  cmp_loop Int.ofNat ofNat_inj ofNat_gt n left right minLen tail i hl hr hb hn hi

theorem eq_slice_usize_loop (n : Nat) (left right : List Nat) (i : Nat)
    (hlen : left.length = right.length) (hb : left.length < 2 ^ 64)
    (hn : left.length + 1 ≤ n + i) (hi : i ≤ left.length) :
    (eqLoop (left.map Int.ofNat) (right.map Int.ofNat) i = some false ∧
        Rs.loop n (Extracted.eq_slice_usize.loop1 left right) i = (Ctl.exit false : Ctl Bool Nat)) ∨
    (eqLoop (left.map Int.ofNat) (right.map Int.ofNat) i = some true ∧
        ∃ j, Rs.loop n (Extracted.eq_slice_usize.loop1 left right) i = (Ctl.val j : Ctl Bool Nat)) :=
  eq_loop Int.ofNat ofNat_inj n left right i hlen hb hn hi

theorem cmp_slice_usize_inner_loop (n : Nat) (left right : List Nat) (minLen : Nat) (tail : Konst.Cmp.U8Ordering)
    (i : Nat) (hl : minLen ≤ left.length) (hr : minLen ≤ right.length) (hb : minLen < 2 ^ 64)
    (hn : minLen + 1 ≤ n + i) (hi : i ≤ minLen) :
    (∃ o, elemLoop (left.map Int.ofNat) (right.map Int.ofNat) minLen tail i = some o ∧
        Rs.loop n (Extracted.cmp_slice_usize_inner.loop1 minLen left right) i
          = (Ctl.exit (u8ordOfModel o) : Ctl Extracted.U8Ordering Nat)) ∨
    (elemLoop (left.map Int.ofNat) (right.map Int.ofNat) minLen tail i = some tail ∧
        ∃ j, Rs.loop n (Extracted.cmp_slice_usize_inner.loop1 minLen left right) i
          = (Ctl.val j : Ctl Extracted.U8Ordering Nat)) :=
  cmp_loop Int.ofNat ofNat_inj ofNat_gt n left right minLen tail i hl hr hb hn hi

theorem eq_slice_i16_loop (n : Nat) (left right : List Int) (i : Nat)
    (hlen : left.length = right.length) (hb : left.length < 2 ^ 64)
    (hn : left.length + 1 ≤ n + i) (hi : i ≤ left.length) :
    (eqLoop left right i = some false ∧
        Rs.loop n (Extracted.eq_slice_i16.loop1 left right) i = (Ctl.exit false : Ctl Bool Nat)) ∨
    (eqLoop left right i = some true ∧
        ∃ j, Rs.loop n (Extracted.eq_slice_i16.loop1 left right) i = (Ctl.val j : Ctl Bool Nat)) := by
  have h := eq_loop id id_inj n left right i hlen hb hn hi
  rwa [List.map_id, List.map_id] at h

theorem cmp_slice_i16_inner_loop (n : Nat) (left right : List Int) (minLen : Nat) (tail : Konst.Cmp.U8Ordering)
    (i : Nat) (hl : minLen ≤ left.length) (hr : minLen ≤ right.length) (hb : minLen < 2 ^ 64)
    (hn : minLen + 1 ≤ n + i) (hi : i ≤ minLen) :
    (∃ o, elemLoop left right minLen tail i = some o ∧
        Rs.loop n (Extracted.cmp_slice_i16_inner.loop1 minLen left right) i
          = (Ctl.exit (u8ordOfModel o) : Ctl Extracted.U8Ordering Nat)) ∨
    (elemLoop left right minLen tail i = some tail ∧
        ∃ j, Rs.loop n (Extracted.cmp_slice_i16_inner.loop1 minLen left right) i
          = (Ctl.val j : Ctl Extracted.U8Ordering Nat)) := by
  have h := cmp_loop id id_inj id_gt n left right minLen tail i hl hr hb hn hi
  rwa [List.map_id, List.map_id] at h

theorem eq_slice_i32_loop (n : Nat) (left right : List Int) (i : Nat)
    (hlen : left.length = right.length) (hb : left.length < 2 ^ 64)
    (hn : left.length + 1 ≤ n + i) (hi : i ≤ left.length) :
    (eqLoop left right i = some false ∧
        Rs.loop n (Extracted.eq_slice_i32.loop1 left right) i = (Ctl.exit false : Ctl Bool Nat)) ∨
    (eqLoop left right i = some true ∧
        ∃ j, Rs.loop n (Extracted.eq_slice_i32.loop1 left right) i = (Ctl.val j : Ctl Bool Nat)) := by
  have h := eq_loop id id_inj n left right i hlen hb hn hi
  rwa [List.map_id, List.map_id] at h

theorem cmp_slice_i32_inner_loop (n : Nat) (left right : List Int) (minLen : Nat) (tail : Konst.Cmp.U8Ordering)
    (i : Nat) (hl : minLen ≤ left.length) (hr : minLen ≤ right.length) (hb : minLen < 2 ^ 64)
    (hn : minLen + 1 ≤ n + i) (hi : i ≤ minLen) :
    (∃ o, elemLoop left right minLen tail i = some o ∧
        Rs.loop n (Extracted.cmp_slice_i32_inner.loop1 minLen left right) i
          = (Ctl.exit (u8ordOfModel o) : Ctl Extracted.U8Ordering Nat)) ∨
    (elemLoop left right minLen tail i = some tail ∧
        ∃ j, Rs.loop n (Extracted.cmp_slice_i32_inner.loop1 minLen left right) i
          = (Ctl.val j : Ctl Extracted.U8Ordering Nat)) := by
  have h := cmp_loop id id_inj id_gt n left right minLen tail i hl hr hb hn hi
  rwa [List.map_id, List.map_id] at h

theorem eq_slice_i64_loop (n : Nat) (left right : List Int) (i : Nat)
    (hlen : left.length = right.length) (hb : left.length < 2 ^ 64)
    (hn : left.length + 1 ≤ n + i) (hi : i ≤ left.length) :
    (eqLoop left right i = some false ∧
        Rs.loop n (Extracted.eq_slice_i64.loop1 left right) i = (Ctl.exit false : Ctl Bool Nat)) ∨
    (eqLoop left right i = some true ∧
        ∃ j, Rs.loop n (Extracted.eq_slice_i64.loop1 left right) i = (Ctl.val j : Ctl Bool Nat)) := by
  have h := eq_loop id id_inj n left right i hlen hb hn hi
  rwa [List.map_id, List.map_id] at h

theorem cmp_slice_i64_inner_loop (n : Nat) (left right : List Int) (minLen : Nat) (tail : Konst.Cmp.U8Ordering)
    (i : Nat) (hl : minLen ≤ left.length) (hr : minLen ≤ right.length) (hb : minLen < 2 ^ 64)
    (hn : minLen + 1 ≤ n + i) (hi : i ≤ minLen) :
    (∃ o, elemLoop left right minLen tail i = some o ∧
        Rs.loop n (Extracted.cmp_slice_i64_inner.loop1 minLen left right) i
          = (Ctl.exit (u8ordOfModel o) : Ctl Extracted.U8Ordering Nat)) ∨
    (elemLoop left right minLen tail i = some tail ∧
        ∃ j, Rs.loop n (Extracted.cmp_slice_i64_inner.loop1 minLen left right) i
          = (Ctl.val j : Ctl Extracted.U8Ordering Nat)) := by
  have h := cmp_loop id id_inj id_gt n left right minLen tail i hl hr hb hn hi
  rwa [List.map_id, List.map_id] at h

theorem eq_slice_i128_loop (n : Nat) (left right : List Int) (i : Nat)
    (hlen : left.length = right.length) (hb : left.length < 2 ^ 64)
    (hn : left.length + 1 ≤ n + i) (hi : i ≤ left.length) :
    (eqLoop left right i = some false ∧
        Rs.loop n (Extracted.eq_slice_i128.loop1 left right) i = (Ctl.exit false : Ctl Bool Nat)) ∨
    (eqLoop left right i = some true ∧
        ∃ j, Rs.loop n (Extracted.eq_slice_i128.loop1 left right) i = (Ctl.val j : Ctl Bool Nat)) := by
  have h := eq_loop id id_inj n left right i hlen hb hn hi
  rwa [List.map_id, List.map_id] at h

theorem cmp_slice_i128_inner_loop (n : Nat) (left right : List Int) (minLen : Nat) (tail : Konst.Cmp.U8Ordering)
    (i : Nat) (hl : minLen ≤ left.length) (hr : minLen ≤ right.length) (hb : minLen < 2 ^ 64)
    (hn : minLen + 1 ≤ n + i) (hi : i ≤ minLen) :
    (∃ o, elemLoop left right minLen tail i = some o ∧
        Rs.loop n (Extracted.cmp_slice_i128_inner.loop1 minLen left right) i
          = (Ctl.exit (u8ordOfModel o) : Ctl Extracted.U8Ordering Nat)) ∨
    (elemLoop left right minLen tail i = some tail ∧
        ∃ j, Rs.loop n (Extracted.cmp_slice_i128_inner.loop1 minLen left right) i
          = (Ctl.val j : Ctl Extracted.U8Ordering Nat)) := by
  have h := cmp_loop id id_inj id_gt n left right minLen tail i hl hr hb hn hi
  rwa [List.map_id, List.map_id] at h

theorem eq_slice_isize_loop (n : Nat) (left right : List Int) (i : Nat)
    (hlen : left.length = right.length) (hb : left.length < 2 ^ 64)
    (hn : left.length + 1 ≤ n + i) (hi : i ≤ left.length) :
    (eqLoop left right i = some false ∧
        Rs.loop n (Extracted.eq_slice_isize.loop1 left right) i = (Ctl.exit false : Ctl Bool Nat)) ∨
    (eqLoop left right i = some true ∧
        ∃ j, Rs.loop n (Extracted.eq_slice_isize.loop1 left right) i = (Ctl.val j : Ctl Bool Nat)) := by
  have h := eq_loop id id_inj n left right i hlen hb hn hi
  rwa [List.map_id, List.map_id] at h

theorem cmp_slice_isize_inner_loop (n : Nat) (left right : List Int) (minLen : Nat) (tail : Konst.Cmp.U8Ordering)
    (i : Nat) (hl : minLen ≤ left.length) (hr : minLen ≤ right.length) (hb : minLen < 2 ^ 64)
    (hn : minLen + 1 ≤ n + i) (hi : i ≤ minLen) :
    (∃ o, elemLoop left right minLen tail i = some o ∧
        Rs.loop n (Extracted.cmp_slice_isize_inner.loop1 minLen left right) i
          = (Ctl.exit (u8ordOfModel o) : Ctl Extracted.U8Ordering Nat)) ∨
    (elemLoop left right minLen tail i = some tail ∧
        ∃ j, Rs.loop n (Extracted.cmp_slice_isize_inner.loop1 minLen left right) i
          = (Ctl.val j : Ctl Extracted.U8Ordering Nat)) := by
  have h := cmp_loop id id_inj id_gt n left right minLen tail i hl hr hb hn hi
  rwa [List.map_id, List.map_id] at h

theorem eq_slice_bool_loop (n : Nat) (left right : List Bool) (i : Nat)
    (hlen : left.length = right.length) (hb : left.length < 2 ^ 64)
    (hn : left.length + 1 ≤ n + i) (hi : i ≤ left.length) :
    (eqLoop (left.map boolInt) (right.map boolInt) i = some false ∧
        Rs.loop n (Extracted.eq_slice_bool.loop1 left right) i = (Ctl.exit false : Ctl Bool Nat)) ∨
    (eqLoop (left.map boolInt) (right.map boolInt) i = some true ∧
        ∃ j, Rs.loop n (Extracted.eq_slice_bool.loop1 left right) i = (Ctl.val j : Ctl Bool Nat)) :=
  eq_loop boolInt boolInt_inj n left right i hlen hb hn hi

theorem cmp_slice_bool_inner_loop (n : Nat) (left right : List Bool) (minLen : Nat) (tail : Konst.Cmp.U8Ordering)
    (i : Nat) (hl : minLen ≤ left.length) (hr : minLen ≤ right.length) (hb : minLen < 2 ^ 64)
    (hn : minLen + 1 ≤ n + i) (hi : i ≤ minLen) :
    (∃ o, elemLoop (left.map boolInt) (right.map boolInt) minLen tail i = some o ∧
        Rs.loop n (Extracted.cmp_slice_bool_inner.loop1 minLen left right) i
          = (Ctl.exit (u8ordOfModel o) : Ctl Extracted.U8Ordering Nat)) ∨
    (elemLoop (left.map boolInt) (right.map boolInt) minLen tail i = some tail ∧
        ∃ j, Rs.loop n (Extracted.cmp_slice_bool_inner.loop1 minLen left right) i
          = (Ctl.val j : Ctl Extracted.U8Ordering Nat)) :=
  cmp_loop boolInt boolInt_inj boolInt_gt n left right minLen tail i hl hr hb hn hi

theorem eq_slice_char_loop (n : Nat) (left right : List Nat) (i : Nat)
    (hlen : left.length = right.length) (hb : left.length < 2 ^ 64)
    (hn : left.length + 1 ≤ n + i) (hi : i ≤ left.length) :
    (eqLoop (left.map Int.ofNat) (right.map Int.ofNat) i = some false ∧
        Rs.loop n (Extracted.eq_slice_char.loop1 left right) i = (Ctl.exit false : Ctl Bool Nat)) ∨
    (eqLoop (left.map Int.ofNat) (right.map Int.ofNat) i = some true ∧
        ∃ j, Rs.loop n (Extracted.eq_slice_char.loop1 left right) i = (Ctl.val j : Ctl Bool Nat)) :=
  eq_loop Int.ofNat ofNat_inj n left right i hlen hb hn hi

theorem cmp_slice_char_inner_loop (n : Nat) (left right : List Nat) (minLen : Nat) (tail : Konst.Cmp.U8Ordering)
    (i : Nat) (hl : minLen ≤ left.length) (hr : minLen ≤ right.length) (hb : minLen < 2 ^ 64)
    (hn : minLen + 1 ≤ n + i) (hi : i ≤ minLen) :
    (∃ o, elemLoop (left.map Int.ofNat) (right.map Int.ofNat) minLen tail i = some o ∧
        Rs.loop n (Extracted.cmp_slice_char_inner.loop1 minLen left right) i
          = (Ctl.exit (u8ordOfModel o) : Ctl Extracted.U8Ordering Nat)) ∨
    (elemLoop (left.map Int.ofNat) (right.map Int.ofNat) minLen tail i = some tail ∧
        ∃ j, Rs.loop n (Extracted.cmp_slice_char_inner.loop1 minLen left right) i
          = (Ctl.val j : Ctl Extracted.U8Ordering Nat)) :=
  cmp_loop Int.ofNat ofNat_inj ofNat_gt n left right minLen tail i hl hr hb hn hi

/-! ### the equivalence theorems -/

theorem eq_slice_u16_eq (fuel : Nat) (left right : List Nat)
    (hb : min left.length right.length < 2 ^ 64) (hf : min left.length right.length + 1 ≤ fuel) :
    ∃ b, eqSlice (left.map Int.ofNat) (right.map Int.ofNat) = some b ∧
      Extracted.eq_slice_u16 fuel left right = .ok b :=
  eqFn_eq Int.ofNat ofNat_inj fuel left right hb hf

example : ∃ b, eqSlice [65535, 0] [65535, 1] = some b ∧ Extracted.eq_slice_u16 3 [65535, 0] [65535, 1] = .ok b :=
  eq_slice_u16_eq 3 [65535, 0] [65535, 1] (by decide +kernel) (by decide +kernel)
example : Extracted.eq_slice_u16 3 [65535, 0] [65535, 1] = .ok false := by decide +kernel
example : Extracted.eq_slice_u16 3 [65535, 0] [65535, 0] = .ok true := by decide +kernel
example : Extracted.eq_slice_u16 3 [65535, 0] [65535] = .ok false := by decide +kernel

theorem cmp_slice_u16_inner_eq (fuel : Nat) (left right : List Nat)
    (hb : min left.length right.length < 2 ^ 64) (hf : min left.length right.length + 1 ≤ fuel) :
    ∃ o, cmpSliceInner (left.map Int.ofNat) (right.map Int.ofNat) = some o ∧
      Extracted.cmp_slice_u16_inner fuel left right = .ok (u8ordOfModel o) :=
  cmpInnerFn_eq Int.ofNat ofNat_inj ofNat_gt fuel left right hb hf

example : Extracted.cmp_slice_u16_inner 3 [65535, 0] [65535, 1] = .ok ⟨0⟩ := by decide +kernel
example : Extracted.cmp_slice_u16_inner 3 [65535, 1] [65535, 0] = .ok ⟨1⟩ := by decide +kernel
example : Extracted.cmp_slice_u16_inner 3 [65535, 0] [65535, 0] = .ok ⟨2⟩ := by decide +kernel

theorem cmp_slice_u16_eq (fuel : Nat) (left right : List Nat)
    (hb : min left.length right.length < 2 ^ 64) (hf : min left.length right.length + 1 ≤ fuel) :
    ∃ c, cmpSlice (left.map Int.ofNat) (right.map Int.ofNat) = some c ∧
      Extracted.cmp_slice_u16 fuel left right = .ok c := by
  obtain ⟨o, h1, h2⟩ := cmp_slice_u16_inner_eq fuel left right hb hf
  exact cmp_of_inner h1 h2

example : ∃ c, cmpSlice [65535, 0] [65535] = some c ∧
    Extracted.cmp_slice_u16 2 [65535, 0] [65535] = .ok c :=
  cmp_slice_u16_eq 2 [65535, 0] [65535] (by decide +kernel) (by decide +kernel)
example : Extracted.cmp_slice_u16 2 [65535, 0] [65535] = .ok .gt := by decide +kernel
example : Extracted.cmp_slice_u16 3 [65535, 0] [65535, 1] = .ok .lt := by decide +kernel
example : Extracted.cmp_slice_u16 3 [65535, 0] [65535, 0] = .ok .eq := by decide +kernel

theorem eq_slice_u32_eq (fuel : Nat) (left right : List Nat)
    (hb : min left.length right.length < 2 ^ 64) (hf : min left.length right.length + 1 ≤ fuel) :
    ∃ b, eqSlice (left.map Int.ofNat) (right.map Int.ofNat) = some b ∧
      Extracted.eq_slice_u32 fuel left right = .ok b :=
  eqFn_eq Int.ofNat ofNat_inj fuel left right hb hf

example : ∃ b, eqSlice [4294967295, 0] [4294967295, 1] = some b ∧ Extracted.eq_slice_u32 3 [4294967295, 0] [4294967295, 1] = .ok b :=
  eq_slice_u32_eq 3 [4294967295, 0] [4294967295, 1] (by decide +kernel) (by decide +kernel)
example : Extracted.eq_slice_u32 3 [4294967295, 0] [4294967295, 1] = .ok false := by decide +kernel
example : Extracted.eq_slice_u32 3 [4294967295, 0] [4294967295, 0] = .ok true := by decide +kernel
example : Extracted.eq_slice_u32 3 [4294967295, 0] [4294967295] = .ok false := by decide +kernel

theorem cmp_slice_u32_inner_eq (fuel : Nat) (left right : List Nat)
    (hb : min left.length right.length < 2 ^ 64) (hf : min left.length right.length + 1 ≤ fuel) :
    ∃ o, cmpSliceInner (left.map Int.ofNat) (right.map Int.ofNat) = some o ∧
      Extracted.cmp_slice_u32_inner fuel left right = .ok (u8ordOfModel o) :=
  cmpInnerFn_eq Int.ofNat ofNat_inj ofNat_gt fuel left right hb hf

example : Extracted.cmp_slice_u32_inner 3 [4294967295, 0] [4294967295, 1] = .ok ⟨0⟩ := by decide +kernel
example : Extracted.cmp_slice_u32_inner 3 [4294967295, 1] [4294967295, 0] = .ok ⟨1⟩ := by decide +kernel
example : Extracted.cmp_slice_u32_inner 3 [4294967295, 0] [4294967295, 0] = .ok ⟨2⟩ := by decide +kernel

theorem cmp_slice_u32_eq (fuel : Nat) (left right : List Nat)
    (hb : min left.length right.length < 2 ^ 64) (hf : min left.length right.length + 1 ≤ fuel) :
    ∃ c, cmpSlice (left.map Int.ofNat) (right.map Int.ofNat) = some c ∧
      Extracted.cmp_slice_u32 fuel left right = .ok c := by
  obtain ⟨o, h1, h2⟩ := cmp_slice_u32_inner_eq fuel left right hb hf
  exact cmp_of_inner h1 h2

example : ∃ c, cmpSlice [4294967295, 0] [4294967295] = some c ∧
    Extracted.cmp_slice_u32 2 [4294967295, 0] [4294967295] = .ok c :=
  cmp_slice_u32_eq 2 [4294967295, 0] [4294967295] (by decide +kernel) (by decide +kernel)
example : Extracted.cmp_slice_u32 2 [4294967295, 0] [4294967295] = .ok .gt := by decide +kernel
example : Extracted.cmp_slice_u32 3 [4294967295, 0] [4294967295, 1] = .ok .lt := by decide +kernel
example : Extracted.cmp_slice_u32 3 [4294967295, 0] [4294967295, 0] = .ok .eq := by decide +kernel

theorem eq_slice_u128_eq (fuel : Nat) (left right : List Nat)
    (hb : min left.length right.length < 2 ^ 64) (hf : min left.length right.length + 1 ≤ fuel) :
    ∃ b, eqSlice (left.map Int.ofNat) (right.map Int.ofNat) = some b ∧
      Extracted.eq_slice_u128 fuel left right = .ok b :=
  eqFn_eq Int.ofNat ofNat_inj fuel left right hb hf

example : ∃ b, eqSlice [340282366920938463463374607431768211455, 0] [340282366920938463463374607431768211455, 1] = some b ∧ Extracted.eq_slice_u128 3 [340282366920938463463374607431768211455, 0] [340282366920938463463374607431768211455, 1] = .ok b :=
  eq_slice_u128_eq 3 [340282366920938463463374607431768211455, 0] [340282366920938463463374607431768211455, 1] (by decide +kernel) (by decide +kernel)
example : Extracted.eq_slice_u128 3 [340282366920938463463374607431768211455, 0] [340282366920938463463374607431768211455, 1] = .ok false := by decide +kernel
example : Extracted.eq_slice_u128 3 [340282366920938463463374607431768211455, 0] [340282366920938463463374607431768211455, 0] = .ok true := by decide +kernel
example : Extracted.eq_slice_u128 3 [340282366920938463463374607431768211455, 0] [340282366920938463463374607431768211455] = .ok false := by decide +kernel

theorem cmp_slice_u128_inner_eq (fuel : Nat) (left right : List Nat)
    (hb : min left.length right.length < 2 ^ 64) (hf : min left.length right.length + 1 ≤ fuel) :
    ∃ o, cmpSliceInner (left.map Int.ofNat) (right.map Int.ofNat) = some o ∧
      Extracted.cmp_slice_u128_inner fuel left right = .ok (u8ordOfModel o) :=
  cmpInnerFn_eq Int.ofNat ofNat_inj ofNat_gt fuel left right hb hf

example : Extracted.cmp_slice_u128_inner 3 [340282366920938463463374607431768211455, 0] [340282366920938463463374607431768211455, 1] = .ok ⟨0⟩ := by decide +kernel
example : Extracted.cmp_slice_u128_inner 3 [340282366920938463463374607431768211455, 1] [340282366920938463463374607431768211455, 0] = .ok ⟨1⟩ := by decide +kernel
example : Extracted.cmp_slice_u128_inner 3 [340282366920938463463374607431768211455, 0] [340282366920938463463374607431768211455, 0] = .ok ⟨2⟩ := by decide +kernel

theorem cmp_slice_u128_eq (fuel : Nat) (left right : List Nat)
    (hb : min left.length right.length < 2 ^ 64) (hf : min left.length right.length + 1 ≤ fuel) :
    ∃ c, cmpSlice (left.map Int.ofNat) (right.map Int.ofNat) = some c ∧
      Extracted.cmp_slice_u128 fuel left right = .ok c := by
  obtain ⟨o, h1, h2⟩ := cmp_slice_u128_inner_eq fuel left right hb hf
  exact cmp_of_inner h1 h2

example : ∃ c, cmpSlice [340282366920938463463374607431768211455, 0] [340282366920938463463374607431768211455] = some c ∧
    Extracted.cmp_slice_u128 2 [340282366920938463463374607431768211455, 0] [340282366920938463463374607431768211455] = .ok c :=
  cmp_slice_u128_eq 2 [340282366920938463463374607431768211455, 0] [340282366920938463463374607431768211455] (by decide +kernel) (by decide +kernel)
example : Extracted.cmp_slice_u128 2 [340282366920938463463374607431768211455, 0] [340282366920938463463374607431768211455] = .ok .gt := by decide +kernel
example : Extracted.cmp_slice_u128 3 [340282366920938463463374607431768211455, 0] [340282366920938463463374607431768211455, 1] = .ok .lt := by decide +kernel
example : Extracted.cmp_slice_u128 3 [340282366920938463463374607431768211455, 0] [340282366920938463463374607431768211455, 0] = .ok .eq := by decide +kernel

theorem eq_slice_usize_eq (fuel : Nat) (left right : List Nat)
    (hb : min left.length right.length < 2 ^ 64) (hf : min left.length right.length + 1 ≤ fuel) :
    ∃ b, eqSlice (left.map Int.ofNat) (right.map Int.ofNat) = some b ∧
      Extracted.eq_slice_usize fuel left right = .ok b :=
  eqFn_eq Int.ofNat ofNat_inj fuel left right hb hf

example : ∃ b, eqSlice [18446744073709551615, 0] [18446744073709551615, 1] = some b ∧ Extracted.eq_slice_usize 3 [18446744073709551615, 0] [18446744073709551615, 1] = .ok b :=
  eq_slice_usize_eq 3 [18446744073709551615, 0] [18446744073709551615, 1] (by decide +kernel) (by decide +kernel)
example : Extracted.eq_slice_usize 3 [18446744073709551615, 0] [18446744073709551615, 1] = .ok false := by decide +kernel
example : Extracted.eq_slice_usize 3 [18446744073709551615, 0] [18446744073709551615, 0] = .ok true := by decide +kernel
example : Extracted.eq_slice_usize 3 [18446744073709551615, 0] [18446744073709551615] = .ok false := by decide +kernel

theorem cmp_slice_usize_inner_eq (fuel : Nat) (left right : List Nat)
    (hb : min left.length right.length < 2 ^ 64) (hf : min left.length right.length + 1 ≤ fuel) :
    ∃ o, cmpSliceInner (left.map Int.ofNat) (right.map Int.ofNat) = some o ∧
      Extracted.cmp_slice_usize_inner fuel left right = .ok (u8ordOfModel o) :=
  cmpInnerFn_eq Int.ofNat ofNat_inj ofNat_gt fuel left right hb hf

example : Extracted.cmp_slice_usize_inner 3 [18446744073709551615, 0] [18446744073709551615, 1] = .ok ⟨0⟩ := by decide +kernel
example : Extracted.cmp_slice_usize_inner 3 [18446744073709551615, 1] [18446744073709551615, 0] = .ok ⟨1⟩ := by decide +kernel
example : Extracted.cmp_slice_usize_inner 3 [18446744073709551615, 0] [18446744073709551615, 0] = .ok ⟨2⟩ := by decide +kernel

theorem cmp_slice_usize_eq (fuel : Nat) (left right : List Nat)
    (hb : min left.length right.length < 2 ^ 64) (hf : min left.length right.length + 1 ≤ fuel) :
    ∃ c, cmpSlice (left.map Int.ofNat) (right.map Int.ofNat) = some c ∧
      Extracted.cmp_slice_usize fuel left right = .ok c := by
  obtain ⟨o, h1, h2⟩ := cmp_slice_usize_inner_eq fuel left right hb hf
  exact cmp_of_inner h1 h2

example : ∃ c, cmpSlice [18446744073709551615, 0] [18446744073709551615] = some c ∧
    Extracted.cmp_slice_usize 2 [18446744073709551615, 0] [18446744073709551615] = .ok c :=
  cmp_slice_usize_eq 2 [18446744073709551615, 0] [18446744073709551615] (by decide +kernel) (by decide +kernel)
example : Extracted.cmp_slice_usize 2 [18446744073709551615, 0] [18446744073709551615] = .ok .gt := by decide +kernel
example : Extracted.cmp_slice_usize 3 [18446744073709551615, 0] [18446744073709551615, 1] = .ok .lt := by decide +kernel
example : Extracted.cmp_slice_usize 3 [18446744073709551615, 0] [18446744073709551615, 0] = .ok .eq := by decide +kernel

theorem eq_slice_i16_eq (fuel : Nat) (left right : List Int)
    (hb : min left.length right.length < 2 ^ 64) (hf : min left.length right.length + 1 ≤ fuel) :
    ∃ b, eqSlice left right = some b ∧ Extracted.eq_slice_i16 fuel left right = .ok b := by
  have h := eqFn_eq id id_inj fuel left right hb hf
  rwa [List.map_id, List.map_id] at h

example : ∃ b, eqSlice [-1, -32768] [-1, 32767] = some b ∧ Extracted.eq_slice_i16 3 [-1, -32768] [-1, 32767] = .ok b :=
  eq_slice_i16_eq 3 _ _ (by decide +kernel) (by decide +kernel)
example : Extracted.eq_slice_i16 3 [-1, -32768] [-1, 32767] = .ok false := by decide +kernel
example : Extracted.eq_slice_i16 3 [-1, -32768] [-1, -32768] = .ok true := by decide +kernel
example : Extracted.eq_slice_i16 3 [-1, -32768] [-1] = .ok false := by decide +kernel

theorem cmp_slice_i16_inner_eq (fuel : Nat) (left right : List Int)
    (hb : min left.length right.length < 2 ^ 64) (hf : min left.length right.length + 1 ≤ fuel) :
    ∃ o, cmpSliceInner left right = some o ∧
      Extracted.cmp_slice_i16_inner fuel left right = .ok (u8ordOfModel o) := by
  have h := cmpInnerFn_eq id id_inj id_gt fuel left right hb hf
  rwa [List.map_id, List.map_id] at h

example : Extracted.cmp_slice_i16_inner 3 [-1, -32768] [-1, 32767] = .ok ⟨0⟩ := by decide +kernel
example : Extracted.cmp_slice_i16_inner 3 [-1, 32767] [-1, -32768] = .ok ⟨1⟩ := by decide +kernel
example : Extracted.cmp_slice_i16_inner 3 [-1, -32768] [-1, -32768] = .ok ⟨2⟩ := by decide +kernel

theorem cmp_slice_i16_eq (fuel : Nat) (left right : List Int)
    (hb : min left.length right.length < 2 ^ 64) (hf : min left.length right.length + 1 ≤ fuel) :
    ∃ c, cmpSlice left right = some c ∧ Extracted.cmp_slice_i16 fuel left right = .ok c := by
  obtain ⟨o, h1, h2⟩ := cmp_slice_i16_inner_eq fuel left right hb hf
  exact cmp_of_inner h1 h2

example : ∃ c, cmpSlice [-1, -32768] [-1, 32767] = some c ∧
    Extracted.cmp_slice_i16 3 [-1, -32768] [-1, 32767] = .ok c :=
  cmp_slice_i16_eq 3 _ _ (by decide +kernel) (by decide +kernel)
example : Extracted.cmp_slice_i16 3 [-1, -32768] [-1, 32767] = .ok .lt := by decide +kernel
example : Extracted.cmp_slice_i16 2 [-1, -32768] [-1] = .ok .gt := by decide +kernel
example : Extracted.cmp_slice_i16 3 [-1, -32768] [-1, -32768] = .ok .eq := by decide +kernel

theorem eq_slice_i32_eq (fuel : Nat) (left right : List Int)
    (hb : min left.length right.length < 2 ^ 64) (hf : min left.length right.length + 1 ≤ fuel) :
    ∃ b, eqSlice left right = some b ∧ Extracted.eq_slice_i32 fuel left right = .ok b := by
  have h := eqFn_eq id id_inj fuel left right hb hf
  rwa [List.map_id, List.map_id] at h

example : ∃ b, eqSlice [-1, -2147483648] [-1, 2147483647] = some b ∧ Extracted.eq_slice_i32 3 [-1, -2147483648] [-1, 2147483647] = .ok b :=
  eq_slice_i32_eq 3 _ _ (by decide +kernel) (by decide +kernel)
example : Extracted.eq_slice_i32 3 [-1, -2147483648] [-1, 2147483647] = .ok false := by decide +kernel
example : Extracted.eq_slice_i32 3 [-1, -2147483648] [-1, -2147483648] = .ok true := by decide +kernel
example : Extracted.eq_slice_i32 3 [-1, -2147483648] [-1] = .ok false := by decide +kernel

theorem cmp_slice_i32_inner_eq (fuel : Nat) (left right : List Int)
    (hb : min left.length right.length < 2 ^ 64) (hf : min left.length right.length + 1 ≤ fuel) :
    ∃ o, cmpSliceInner left right = some o ∧
      Extracted.cmp_slice_i32_inner fuel left right = .ok (u8ordOfModel o) := by
  have h := cmpInnerFn_eq id id_inj id_gt fuel left right hb hf
  rwa [List.map_id, List.map_id] at h

example : Extracted.cmp_slice_i32_inner 3 [-1, -2147483648] [-1, 2147483647] = .ok ⟨0⟩ := by decide +kernel
example : Extracted.cmp_slice_i32_inner 3 [-1, 2147483647] [-1, -2147483648] = .ok ⟨1⟩ := by decide +kernel
example : Extracted.cmp_slice_i32_inner 3 [-1, -2147483648] [-1, -2147483648] = .ok ⟨2⟩ := by decide +kernel

theorem cmp_slice_i32_eq (fuel : Nat) (left right : List Int)
    (hb : min left.length right.length < 2 ^ 64) (hf : min left.length right.length + 1 ≤ fuel) :
    ∃ c, cmpSlice left right = some c ∧ Extracted.cmp_slice_i32 fuel left right = .ok c := by
  obtain ⟨o, h1, h2⟩ := cmp_slice_i32_inner_eq fuel left right hb hf
  exact cmp_of_inner h1 h2

example : ∃ c, cmpSlice [-1, -2147483648] [-1, 2147483647] = some c ∧
    Extracted.cmp_slice_i32 3 [-1, -2147483648] [-1, 2147483647] = .ok c :=
  cmp_slice_i32_eq 3 _ _ (by decide +kernel) (by decide +kernel)
example : Extracted.cmp_slice_i32 3 [-1, -2147483648] [-1, 2147483647] = .ok .lt := by decide +kernel
example : Extracted.cmp_slice_i32 2 [-1, -2147483648] [-1] = .ok .gt := by decide +kernel
example : Extracted.cmp_slice_i32 3 [-1, -2147483648] [-1, -2147483648] = .ok .eq := by decide +kernel

theorem eq_slice_i64_eq (fuel : Nat) (left right : List Int)
    (hb : min left.length right.length < 2 ^ 64) (hf : min left.length right.length + 1 ≤ fuel) :
    ∃ b, eqSlice left right = some b ∧ Extracted.eq_slice_i64 fuel left right = .ok b := by
  have h := eqFn_eq id id_inj fuel left right hb hf
  rwa [List.map_id, List.map_id] at h

example : ∃ b, eqSlice [-1, -9223372036854775808] [-1, 9223372036854775807] = some b ∧ Extracted.eq_slice_i64 3 [-1, -9223372036854775808] [-1, 9223372036854775807] = .ok b :=
  eq_slice_i64_eq 3 _ _ (by decide +kernel) (by decide +kernel)
example : Extracted.eq_slice_i64 3 [-1, -9223372036854775808] [-1, 9223372036854775807] = .ok false := by decide +kernel
example : Extracted.eq_slice_i64 3 [-1, -9223372036854775808] [-1, -9223372036854775808] = .ok true := by decide +kernel
example : Extracted.eq_slice_i64 3 [-1, -9223372036854775808] [-1] = .ok false := by decide +kernel

theorem cmp_slice_i64_inner_eq (fuel : Nat) (left right : List Int)
    (hb : min left.length right.length < 2 ^ 64) (hf : min left.length right.length + 1 ≤ fuel) :
    ∃ o, cmpSliceInner left right = some o ∧
      Extracted.cmp_slice_i64_inner fuel left right = .ok (u8ordOfModel o) := by
  have h := cmpInnerFn_eq id id_inj id_gt fuel left right hb hf
  rwa [List.map_id, List.map_id] at h

example : Extracted.cmp_slice_i64_inner 3 [-1, -9223372036854775808] [-1, 9223372036854775807] = .ok ⟨0⟩ := by decide +kernel
example : Extracted.cmp_slice_i64_inner 3 [-1, 9223372036854775807] [-1, -9223372036854775808] = .ok ⟨1⟩ := by decide +kernel
example : Extracted.cmp_slice_i64_inner 3 [-1, -9223372036854775808] [-1, -9223372036854775808] = .ok ⟨2⟩ := by decide +kernel

theorem cmp_slice_i64_eq (fuel : Nat) (left right : List Int)
    (hb : min left.length right.length < 2 ^ 64) (hf : min left.length right.length + 1 ≤ fuel) :
    ∃ c, cmpSlice left right = some c ∧ Extracted.cmp_slice_i64 fuel left right = .ok c := by
  obtain ⟨o, h1, h2⟩ := cmp_slice_i64_inner_eq fuel left right hb hf
  exact cmp_of_inner h1 h2

example : ∃ c, cmpSlice [-1, -9223372036854775808] [-1, 9223372036854775807] = some c ∧
    Extracted.cmp_slice_i64 3 [-1, -9223372036854775808] [-1, 9223372036854775807] = .ok c :=
  cmp_slice_i64_eq 3 _ _ (by decide +kernel) (by decide +kernel)
example : Extracted.cmp_slice_i64 3 [-1, -9223372036854775808] [-1, 9223372036854775807] = .ok .lt := by decide +kernel
example : Extracted.cmp_slice_i64 2 [-1, -9223372036854775808] [-1] = .ok .gt := by decide +kernel
example : Extracted.cmp_slice_i64 3 [-1, -9223372036854775808] [-1, -9223372036854775808] = .ok .eq := by decide +kernel

theorem eq_slice_i128_eq (fuel : Nat) (left right : List Int)
    (hb : min left.length right.length < 2 ^ 64) (hf : min left.length right.length + 1 ≤ fuel) :
    ∃ b, eqSlice left right = some b ∧ Extracted.eq_slice_i128 fuel left right = .ok b := by
  have h := eqFn_eq id id_inj fuel left right hb hf
  rwa [List.map_id, List.map_id] at h

example : ∃ b, eqSlice [-1, -170141183460469231731687303715884105728] [-1, 170141183460469231731687303715884105727] = some b ∧ Extracted.eq_slice_i128 3 [-1, -170141183460469231731687303715884105728] [-1, 170141183460469231731687303715884105727] = .ok b :=
  eq_slice_i128_eq 3 _ _ (by decide +kernel) (by decide +kernel)
example : Extracted.eq_slice_i128 3 [-1, -170141183460469231731687303715884105728] [-1, 170141183460469231731687303715884105727] = .ok false := by decide +kernel
example : Extracted.eq_slice_i128 3 [-1, -170141183460469231731687303715884105728] [-1, -170141183460469231731687303715884105728] = .ok true := by decide +kernel
example : Extracted.eq_slice_i128 3 [-1, -170141183460469231731687303715884105728] [-1] = .ok false := by decide +kernel

theorem cmp_slice_i128_inner_eq (fuel : Nat) (left right : List Int)
    (hb : min left.length right.length < 2 ^ 64) (hf : min left.length right.length + 1 ≤ fuel) :
    ∃ o, cmpSliceInner left right = some o ∧
      Extracted.cmp_slice_i128_inner fuel left right = .ok (u8ordOfModel o) := by
  have h := cmpInnerFn_eq id id_inj id_gt fuel left right hb hf
  rwa [List.map_id, List.map_id] at h

example : Extracted.cmp_slice_i128_inner 3 [-1, -170141183460469231731687303715884105728] [-1, 170141183460469231731687303715884105727] = .ok ⟨0⟩ := by decide +kernel
example : Extracted.cmp_slice_i128_inner 3 [-1, 170141183460469231731687303715884105727] [-1, -170141183460469231731687303715884105728] = .ok ⟨1⟩ := by decide +kernel
example : Extracted.cmp_slice_i128_inner 3 [-1, -170141183460469231731687303715884105728] [-1, -170141183460469231731687303715884105728] = .ok ⟨2⟩ := by decide +kernel

theorem cmp_slice_i128_eq (fuel : Nat) (left right : List Int)
    (hb : min left.length right.length < 2 ^ 64) (hf : min left.length right.length + 1 ≤ fuel) :
    ∃ c, cmpSlice left right = some c ∧ Extracted.cmp_slice_i128 fuel left right = .ok c := by
  obtain ⟨o, h1, h2⟩ := cmp_slice_i128_inner_eq fuel left right hb hf
  exact cmp_of_inner h1 h2

example : ∃ c, cmpSlice [-1, -170141183460469231731687303715884105728] [-1, 170141183460469231731687303715884105727] = some c ∧
    Extracted.cmp_slice_i128 3 [-1, -170141183460469231731687303715884105728] [-1, 170141183460469231731687303715884105727] = .ok c :=
  cmp_slice_i128_eq 3 _ _ (by decide +kernel) (by decide +kernel)
example : Extracted.cmp_slice_i128 3 [-1, -170141183460469231731687303715884105728] [-1, 170141183460469231731687303715884105727] = .ok .lt := by decide +kernel
example : Extracted.cmp_slice_i128 2 [-1, -170141183460469231731687303715884105728] [-1] = .ok .gt := by decide +kernel
example : Extracted.cmp_slice_i128 3 [-1, -170141183460469231731687303715884105728] [-1, -170141183460469231731687303715884105728] = .ok .eq := by decide +kernel

theorem eq_slice_isize_eq (fuel : Nat) (left right : List Int)
    (hb : min left.length right.length < 2 ^ 64) (hf : min left.length right.length + 1 ≤ fuel) :
    ∃ b, eqSlice left right = some b ∧ Extracted.eq_slice_isize fuel left right = .ok b := by
  have h := eqFn_eq id id_inj fuel left right hb hf
  rwa [List.map_id, List.map_id] at h

example : ∃ b, eqSlice [-1, -9223372036854775808] [-1, 9223372036854775807] = some b ∧ Extracted.eq_slice_isize 3 [-1, -9223372036854775808] [-1, 9223372036854775807] = .ok b :=
  eq_slice_isize_eq 3 _ _ (by decide +kernel) (by decide +kernel)
example : Extracted.eq_slice_isize 3 [-1, -9223372036854775808] [-1, 9223372036854775807] = .ok false := by decide +kernel
example : Extracted.eq_slice_isize 3 [-1, -9223372036854775808] [-1, -9223372036854775808] = .ok true := by decide +kernel
example : Extracted.eq_slice_isize 3 [-1, -9223372036854775808] [-1] = .ok false := by decide +kernel

theorem cmp_slice_isize_inner_eq (fuel : Nat) (left right : List Int)
    (hb : min left.length right.length < 2 ^ 64) (hf : min left.length right.length + 1 ≤ fuel) :
    ∃ o, cmpSliceInner left right = some o ∧
      Extracted.cmp_slice_isize_inner fuel left right = .ok (u8ordOfModel o) := by
  have h := cmpInnerFn_eq id id_inj id_gt fuel left right hb hf
  rwa [List.map_id, List.map_id] at h

example : Extracted.cmp_slice_isize_inner 3 [-1, -9223372036854775808] [-1, 9223372036854775807] = .ok ⟨0⟩ := by decide +kernel
example : Extracted.cmp_slice_isize_inner 3 [-1, 9223372036854775807] [-1, -9223372036854775808] = .ok ⟨1⟩ := by decide +kernel
example : Extracted.cmp_slice_isize_inner 3 [-1, -9223372036854775808] [-1, -9223372036854775808] = .ok ⟨2⟩ := by decide +kernel

theorem cmp_slice_isize_eq (fuel : Nat) (left right : List Int)
    (hb : min left.length right.length < 2 ^ 64) (hf : min left.length right.length + 1 ≤ fuel) :
    ∃ c, cmpSlice left right = some c ∧ Extracted.cmp_slice_isize fuel left right = .ok c := by
  obtain ⟨o, h1, h2⟩ := cmp_slice_isize_inner_eq fuel left right hb hf
  exact cmp_of_inner h1 h2

example : ∃ c, cmpSlice [-1, -9223372036854775808] [-1, 9223372036854775807] = some c ∧
    Extracted.cmp_slice_isize 3 [-1, -9223372036854775808] [-1, 9223372036854775807] = .ok c :=
  cmp_slice_isize_eq 3 _ _ (by decide +kernel) (by decide +kernel)
example : Extracted.cmp_slice_isize 3 [-1, -9223372036854775808] [-1, 9223372036854775807] = .ok .lt := by decide +kernel
example : Extracted.cmp_slice_isize 2 [-1, -9223372036854775808] [-1] = .ok .gt := by decide +kernel
example : Extracted.cmp_slice_isize 3 [-1, -9223372036854775808] [-1, -9223372036854775808] = .ok .eq := by decide +kernel

theorem eq_slice_bool_eq (fuel : Nat) (left right : List Bool)
    (hb : min left.length right.length < 2 ^ 64) (hf : min left.length right.length + 1 ≤ fuel) :
    ∃ b, eqSlice (left.map boolInt) (right.map boolInt) = some b ∧
      Extracted.eq_slice_bool fuel left right = .ok b :=
  eqFn_eq boolInt boolInt_inj fuel left right hb hf

example : ∃ b, eqSlice [1, 0] [1, 1] = some b ∧ Extracted.eq_slice_bool 3 [true, false] [true, true] = .ok b :=
  eq_slice_bool_eq 3 [true, false] [true, true] (by decide +kernel) (by decide +kernel)
example : Extracted.eq_slice_bool 3 [true, false] [true, true] = .ok false := by decide +kernel
example : Extracted.eq_slice_bool 3 [true, false] [true, false] = .ok true := by decide +kernel
example : Extracted.eq_slice_bool 3 [true, false] [true] = .ok false := by decide +kernel

theorem cmp_slice_bool_inner_eq (fuel : Nat) (left right : List Bool)
    (hb : min left.length right.length < 2 ^ 64) (hf : min left.length right.length + 1 ≤ fuel) :
    ∃ o, cmpSliceInner (left.map boolInt) (right.map boolInt) = some o ∧
      Extracted.cmp_slice_bool_inner fuel left right = .ok (u8ordOfModel o) :=
  cmpInnerFn_eq boolInt boolInt_inj boolInt_gt fuel left right hb hf

example : Extracted.cmp_slice_bool_inner 3 [true, false] [true, true] = .ok ⟨0⟩ := by decide +kernel
example : Extracted.cmp_slice_bool_inner 3 [true, true] [true, false] = .ok ⟨1⟩ := by decide +kernel
example : Extracted.cmp_slice_bool_inner 3 [true, false] [true, false] = .ok ⟨2⟩ := by decide +kernel

theorem cmp_slice_bool_eq (fuel : Nat) (left right : List Bool)
    (hb : min left.length right.length < 2 ^ 64) (hf : min left.length right.length + 1 ≤ fuel) :
    ∃ c, cmpSlice (left.map boolInt) (right.map boolInt) = some c ∧
      Extracted.cmp_slice_bool fuel left right = .ok c := by
  obtain ⟨o, h1, h2⟩ := cmp_slice_bool_inner_eq fuel left right hb hf
  exact cmp_of_inner h1 h2

example : ∃ c, cmpSlice [1, 0] [1, 1] = some c ∧
    Extracted.cmp_slice_bool 3 [true, false] [true, true] = .ok c :=
  cmp_slice_bool_eq 3 [true, false] [true, true] (by decide +kernel) (by decide +kernel)
example : Extracted.cmp_slice_bool 3 [true, false] [true, true] = .ok .lt := by decide +kernel
example : Extracted.cmp_slice_bool 3 [true, true] [false, true] = .ok .gt := by decide +kernel
example : Extracted.cmp_slice_bool 2 [false, false] [false] = .ok .gt := by decide +kernel
example : Extracted.cmp_slice_bool 3 [false, true] [false, true] = .ok .eq := by decide +kernel

theorem eq_slice_char_eq (fuel : Nat) (left right : List Nat)
    (hb : min left.length right.length < 2 ^ 64) (hf : min left.length right.length + 1 ≤ fuel) :
    ∃ b, eqSlice (left.map Int.ofNat) (right.map Int.ofNat) = some b ∧
      Extracted.eq_slice_char fuel left right = .ok b :=
  eqFn_eq Int.ofNat ofNat_inj fuel left right hb hf

example : ∃ b, eqSlice [0x10FFFF, 0x61] [0x10FFFF, 0xE000] = some b ∧ Extracted.eq_slice_char 3 [0x10FFFF, 0x61] [0x10FFFF, 0xE000] = .ok b :=
  eq_slice_char_eq 3 [0x10FFFF, 0x61] [0x10FFFF, 0xE000] (by decide +kernel) (by decide +kernel)
example : Extracted.eq_slice_char 3 [0x10FFFF, 0x61] [0x10FFFF, 0xE000] = .ok false := by decide +kernel
example : Extracted.eq_slice_char 3 [0x10FFFF, 0x61] [0x10FFFF, 0x61] = .ok true := by decide +kernel
example : Extracted.eq_slice_char 3 [0x10FFFF, 0x61] [0x10FFFF] = .ok false := by decide +kernel

theorem cmp_slice_char_inner_eq (fuel : Nat) (left right : List Nat)
    (hb : min left.length right.length < 2 ^ 64) (hf : min left.length right.length + 1 ≤ fuel) :
    ∃ o, cmpSliceInner (left.map Int.ofNat) (right.map Int.ofNat) = some o ∧
      Extracted.cmp_slice_char_inner fuel left right = .ok (u8ordOfModel o) :=
  cmpInnerFn_eq Int.ofNat ofNat_inj ofNat_gt fuel left right hb hf

example : Extracted.cmp_slice_char_inner 3 [0x10FFFF, 0x61] [0x10FFFF, 0xE000] = .ok ⟨0⟩ := by decide +kernel
example : Extracted.cmp_slice_char_inner 3 [0x10FFFF, 0xE000] [0x10FFFF, 0x61] = .ok ⟨1⟩ := by decide +kernel
example : Extracted.cmp_slice_char_inner 3 [0x10FFFF, 0x61] [0x10FFFF, 0x61] = .ok ⟨2⟩ := by decide +kernel

theorem cmp_slice_char_eq (fuel : Nat) (left right : List Nat)
    (hb : min left.length right.length < 2 ^ 64) (hf : min left.length right.length + 1 ≤ fuel) :
    ∃ c, cmpSlice (left.map Int.ofNat) (right.map Int.ofNat) = some c ∧
      Extracted.cmp_slice_char fuel left right = .ok c := by
  obtain ⟨o, h1, h2⟩ := cmp_slice_char_inner_eq fuel left right hb hf
  exact cmp_of_inner h1 h2

example : ∃ c, cmpSlice [0x10FFFF, 0x61] [0x10FFFF] = some c ∧
    Extracted.cmp_slice_char 2 [0x10FFFF, 0x61] [0x10FFFF] = .ok c :=
  cmp_slice_char_eq 2 [0x10FFFF, 0x61] [0x10FFFF] (by decide +kernel) (by decide +kernel)
example : Extracted.cmp_slice_char 2 [0x10FFFF, 0x61] [0x10FFFF] = .ok .gt := by decide +kernel
example : Extracted.cmp_slice_char 3 [0x10FFFF, 0x61] [0x10FFFF, 0xE000] = .ok .lt := by decide +kernel
example : Extracted.cmp_slice_char 3 [0x10FFFF, 0x61] [0x10FFFF, 0x61] = .ok .eq := by decide +kernel

end Extracted.Equiv
