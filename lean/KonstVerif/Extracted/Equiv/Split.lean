import KonstVerif.Extracted.Gen.Split
import KonstVerif.Extracted.Equiv.StrFns
import KonstVerif.Model.Split
import KonstVerif.Rs.LoopLemmas
/-
  Extracted = Model, for the string split iterators of `konst::string::splitting`
  (group `Split`, 11 functions): `split`, and for each of the two struct types `Split` / `RSplit`
  `next_from_empty`, `next_back_from_empty`, `next`, `next_back`, `remainder`.
  Model: `Konst.Split` (Model/Split.lean, the definitions Props/C06.lean is about).

  Conversion maps.  The model has ONE iterator type `Konst.Split.Iter = {fwd, this : Str, state}` for both
  structs (`fwd = true` is `Split`, `fwd = false` is `RSplit`), and a `&str` held or yielded by the iterator
  is a `Konst.Split.Str = {off, bytes}`: its bytes together with its byte offset in the original haystack.
  The extraction has the two structs `Extracted.Split` / `Extracted.RSplit = {this_ : List Nat, state}`: a
  `&str` is its byte list only (no address).  Hence
    * `splitToModel off s` / `rsplitToModel off s : Iter`  put an extracted iterator at an ARBITRARY haystack
      offset `off` (the theorems hold for every `off`: the code never looks at the address);
    * `splitOfModel it` / `rsplitOfModel it`  forget `fwd` and the offset (`it.this.bytes`);
      `splitOfModel (splitToModel off s) = s`, and `splitToModel it.this.off (splitOfModel it) = it` when
      `it.fwd = true` (same for `rsplit…` with `fwd = false`), so either side can be taken as the primary one;
    * `stateToModel` / `stateOfModel`, `emptyStateToModel` / `emptyStateOfModel`: the enums, constructor by
      constructor (mutually inverse);
    * results: `resStep f : E (Option (Str × Iter)) → Res (Option (List Nat × σ))`,
      `.ok (some (piece, it')) ↦ .ok (some (piece.bytes, f it'))`, `.ok none ↦ .ok none`, `.error _ ↦ .panic`.
      The model's pieces are not `View`s but `Str`s whose `bytes` are already the view applied
      (`Str.cut x v = ⟨x.off + v.off, v.apply x.bytes⟩`), so the conversion of a piece is `.bytes`.

  Panics.  The callees `str_from` / `str_up_to` / `split_at` panic on a non-char-boundary and
  `__find_prev_char_boundary` panics on `position -= 1` at 0.  The MODEL HAS these outcomes
  (`E = Except Utf8.Panic`), so every theorem is an equality with the model's result INCLUDING the panic
  outcome (`.error _ ↦ .panic`): the code panics exactly when the model says `.error`.  No UTF-8 validity
  hypothesis on the string or the delimiter is needed (Props/C06.lean proves `.error` unreachable for valid
  ones).  The panic message is not observable in the extraction.

  Hypotheses.
    * `hb : ∀ b ∈ s.this_, b < 256`: the remainder is a byte list (the char-boundary tests cast `as i8`).
    * machine bound / fuel of the search used:  `string::find` (`Split::next`, `RSplit::next_back`):
      `len + delim.len + 1 < 2^64`, fuel `len + delim.len + 2`;  `string::rfind` (`Split::next_back`,
      `RSplit::next`): `len < 2^64`, fuel `len + 1`;  `next_from_empty`: `len < 2^64`, fuel `len + 1`
      (`__find_next_char_boundary`); `next_back_from_empty`: fuel `len + 1`, no bound.
      `stateDelim st` is the delimiter of `State::Normal{delim}` (`[]` for the other states).
      The checked `pos + delim.len()` cannot overflow under these bounds (`bytesFind_le`, `rfind_add_le`).
    * `split`, `remainder`: none.
-/
namespace Extracted.Equiv
open Rs Konst

def emptyStateToModel : Extracted.EmptyState → Konst.Split.EmptyState
  | .Start => .start
  | .Continue => .cont

def emptyStateOfModel : Konst.Split.EmptyState → Extracted.EmptyState
  | .start => .Start
  | .cont => .Continue

def stateToModel : Extracted.State → Konst.Split.State
  | .Normal delim => .normal delim
  | .Empty es => .empty (emptyStateToModel es)
  | .Finished => .finished

def stateOfModel : Konst.Split.State → Extracted.State
  | .normal delim => .Normal delim
  | .empty es => .Empty (emptyStateOfModel es)
  | .finished => .Finished

@[simp] theorem stateOfModel_normal (d : List Nat) : stateOfModel (.normal d) = .Normal d := rfl
@[simp] theorem stateOfModel_empty (es : Konst.Split.EmptyState) :
    stateOfModel (.empty es) = .Empty (emptyStateOfModel es) := rfl
@[simp] theorem stateOfModel_finished : stateOfModel .finished = .Finished := rfl
@[simp] theorem emptyStateOfModel_start : emptyStateOfModel .start = .Start := rfl
@[simp] theorem emptyStateOfModel_cont : emptyStateOfModel .cont = .Continue := rfl

@[simp] theorem emptyStateOfModel_toModel (es : Extracted.EmptyState) :
    emptyStateOfModel (emptyStateToModel es) = es := by cases es <;> rfl
@[simp] theorem emptyStateToModel_ofModel (es : Konst.Split.EmptyState) :
    emptyStateToModel (emptyStateOfModel es) = es := by cases es <;> rfl
@[simp] theorem stateOfModel_toModel (st : Extracted.State) : stateOfModel (stateToModel st) = st := by
  cases st <;> simp [stateToModel, stateOfModel]
@[simp] theorem stateToModel_ofModel (st : Konst.Split.State) : stateToModel (stateOfModel st) = st := by
  cases st <;> simp [stateToModel, stateOfModel]

def splitToModel (off : Nat) (s : Extracted.Split) : Konst.Split.Iter :=
  { fwd := true, this := ⟨off, s.this_⟩, state := stateToModel s.state }

def splitOfModel (it : Konst.Split.Iter) : Extracted.Split :=
  { this_ := it.this.bytes, state := stateOfModel it.state }

def rsplitToModel (off : Nat) (s : Extracted.RSplit) : Konst.Split.Iter :=
  { fwd := false, this := ⟨off, s.this_⟩, state := stateToModel s.state }

def rsplitOfModel (it : Konst.Split.Iter) : Extracted.RSplit :=
  { this_ := it.this.bytes, state := stateOfModel it.state }

@[simp] theorem splitOfModel_toModel (off : Nat) (s : Extracted.Split) :
    splitOfModel (splitToModel off s) = s := by
  cases s; simp [splitOfModel, splitToModel]
@[simp] theorem rsplitOfModel_toModel (off : Nat) (s : Extracted.RSplit) :
    rsplitOfModel (rsplitToModel off s) = s := by
  cases s; simp [rsplitOfModel, rsplitToModel]

theorem splitToModel_ofModel (it : Konst.Split.Iter) (h : it.fwd = true) :
    splitToModel it.this.off (splitOfModel it) = it := by
  obtain ⟨fwd, ⟨off, bytes⟩, state⟩ := it
  simp only at h
  simp [splitToModel, splitOfModel, h]
theorem rsplitToModel_ofModel (it : Konst.Split.Iter) (h : it.fwd = false) :
    rsplitToModel it.this.off (rsplitOfModel it) = it := by
  obtain ⟨fwd, ⟨off, bytes⟩, state⟩ := it
  simp only at h
  simp [rsplitToModel, rsplitOfModel, h]

def stateDelim : Extracted.State → List Nat
  | .Normal delim => delim
  | _ => []

def resStep {σ : Type} (f : Konst.Split.Iter → σ) :
    Konst.Split.E (Option (Konst.Split.Str × Konst.Split.Iter)) → Res (Option (List Nat × σ))
  | .ok (some (p, it)) => .ok (some (p.bytes, f it))
  | .ok none => .ok none
  | .error _ => .panic

@[simp] theorem resStep_some {σ : Type} (f : Konst.Split.Iter → σ) (p : Konst.Split.Str) (it : Konst.Split.Iter) :
    resStep f (.ok (some (p, it))) = .ok (some (p.bytes, f it)) := rfl
@[simp] theorem resStep_none {σ : Type} (f : Konst.Split.Iter → σ) : resStep f (.ok none) = .ok none := rfl
@[simp] theorem resStep_error {σ : Type} (f : Konst.Split.Iter → σ) (e : Utf8.Panic) :
    resStep f (.error e) = .panic := rfl

theorem split_eq (this delim : List Nat) :
    Extracted.split this delim = .ok (splitOfModel (Konst.Split.split this delim)) := by
  unfold Extracted.split Konst.Split.split splitOfModel
  cases delim <;> simp [stateOfModel, emptyStateOfModel]

example : Extracted.split [97, 44, 98] [44] = .ok ⟨[97, 44, 98], .Normal [44]⟩ := by decide +kernel
example : Extracted.split [97, 44, 98] [] = .ok ⟨[97, 44, 98], .Empty .Start⟩ := by decide +kernel

/-- the checked `pos + delim.len()` after `string::find` stays in range under the bound of `str_find_eq` -/
theorem find_add_lt (left pat : List Nat) (k : Nat) (h : StrFns.find left pat = some k)
    (hl : left.length + pat.length + 1 < 2 ^ 64) : k + pat.length < 2 ^ 64 :=
  Nat.lt_trans (Nat.lt_succ_of_le (Nat.add_le_add_right (bytesFind_le left pat k h) _)) hl

/-- the checked `pos + delim.len()` after `string::rfind` stays in range -/
theorem rfind_add_lt (left pat : List Nat) (k : Nat) (h : StrFns.rfind left pat = some k)
    (hl : left.length < 2 ^ 64) : k + pat.length < 2 ^ 64 :=
  Nat.lt_of_le_of_lt (rfind_add_le left pat k h) hl

/-- `Split::next_from_empty`: `Start` yields `""`; `Continue` cuts the first char off the front
    (`split_at(this, __find_next_char_boundary(this, 0))`), with the model's `split_at` error branch carried along
    as a panic (unreachable in both: the search stops on a position that passes the forgiving boundary test) -/
theorem Split.next_from_empty_eq (fuel off : Nat) (s : Extracted.Split) (es : Extracted.EmptyState)
    (hb : ∀ b ∈ s.this_, b < 256) (hl : s.this_.length < 2 ^ 64) (hf : s.this_.length + 1 ≤ fuel) :
    Extracted.Split.next_from_empty fuel s es
      = resStep splitOfModel (Konst.Split.nextFromEmpty (splitToModel off s) (emptyStateToModel es)) := by
  obtain ⟨this_, state⟩ := s
  cases es with
  | Start => rfl
  | Continue =>
    obtain ⟨st, rfl⟩ : ∃ st, state = stateOfModel st := ⟨_, (stateOfModel_toModel state).symm⟩
    unfold Extracted.Split.next_from_empty Konst.Split.nextFromEmpty
    simp only [rs_eval, str_split_at_eq _ _ hb, emptyStateToModel, splitToModel, stateToModel_ofModel,
      find_next_char_boundary_eq fuel this_ 0 hb (by decide) hl (Nat.le_trans (Nat.succ_le_succ (Nat.sub_le _ _)) hf),
      Konst.Split.splitAtStr]
    cases Utf8.splitAt this_ (Utf8.findNextCharBoundary this_ 0) with
    | error e => cases this_ <;> rfl
    | ok p => cases this_ <;> rfl

example : Extracted.Split.next_from_empty 5 ⟨[0xE2, 0x82, 0xAC, 0x41], .Empty .Continue⟩ .Continue
    = .ok (some ([0xE2, 0x82, 0xAC], ⟨[0x41], .Empty .Continue⟩)) := by decide +kernel
example : Extracted.Split.next_from_empty 5 ⟨[0xE2, 0x82, 0xAC, 0x41], .Empty .Continue⟩ .Continue
    = resStep splitOfModel
        (Konst.Split.nextFromEmpty (splitToModel 3 ⟨[0xE2, 0x82, 0xAC, 0x41], .Empty .Continue⟩) .cont) := by decide +kernel

/-- `Split::next_back_from_empty`: `Continue` cuts the last char off the back; panics exactly when the
    model does: `__find_prev_char_boundary` underflows (`this` is non-empty, all continuation bytes) or `split_at`
    rejects the position -/
theorem Split.next_back_from_empty_eq (fuel off : Nat) (s : Extracted.Split) (es : Extracted.EmptyState)
    (hb : ∀ b ∈ s.this_, b < 256) (hf : s.this_.length + 1 ≤ fuel) :
    Extracted.Split.next_back_from_empty fuel s es
      = resStep splitOfModel (Konst.Split.nextBackFromEmpty (splitToModel off s) (emptyStateToModel es)) := by
  obtain ⟨this_, state⟩ := s
  cases es with
  | Start => rfl
  | Continue =>
    obtain ⟨st, rfl⟩ : ∃ st, state = stateOfModel st := ⟨_, (stateOfModel_toModel state).symm⟩
    unfold Extracted.Split.next_back_from_empty Konst.Split.nextBackFromEmpty
    simp only [rs_eval, str_split_at_eq _ _ hb, emptyStateToModel, splitToModel, stateToModel_ofModel,
      find_prev_char_boundary_eq fuel this_ this_.length hb (Nat.le_trans (Nat.succ_le_succ (Nat.min_le_right _ _)) hf),
      Konst.Split.splitAtStr]
    cases Utf8.findPrevCharBoundary this_ this_.length with
    | none => cases this_ <;> rfl
    | some k =>
      simp only [resOfOption_some, rs_eval]
      cases Utf8.splitAt this_ k with
      | error e => cases this_ <;> rfl
      | ok p => cases this_ <;> rfl

example : Extracted.Split.next_back_from_empty 5 ⟨[0x41, 0xE2, 0x82, 0xAC], .Empty .Continue⟩ .Continue
    = .ok (some ([0xE2, 0x82, 0xAC], ⟨[0x41], .Empty .Continue⟩)) := by decide +kernel
/-- not UTF-8 (continuation bytes only): `position -= 1` underflows, in code and model -/
example : Extracted.Split.next_back_from_empty 5 ⟨[0x82, 0xAC], .Empty .Continue⟩ .Continue = .panic := by decide +kernel

/-- `Split::next` (the `next` block of `split_shared!`: `string::find`, piece = `str_up_to(this, pos)`,
    rest = `str_from(this, pos + delim.len())`) = `Iter.next` of the model at `fwd = true`; panics exactly when the
    model says `.error` (`str_from`, then `str_up_to`, on a non-boundary; or inside `next_from_empty`) -/
theorem Split.next_eq (fuel off : Nat) (s : Extracted.Split)
    (hb : ∀ b ∈ s.this_, b < 256)
    (hl : s.this_.length + (stateDelim s.state).length + 1 < 2 ^ 64)
    (hf : s.this_.length + (stateDelim s.state).length + 2 ≤ fuel) :
    Extracted.Split.next fuel s = resStep splitOfModel (Konst.Split.Iter.next (splitToModel off s)) := by
  obtain ⟨this_, state⟩ := s
  cases state with
  | Normal delim =>
    unfold Extracted.Split.next Konst.Split.Iter.next Konst.Split.nextBlock
    simp only [str_find_eq fuel this_ delim hl hf, rs_eval, splitToModel, stateToModel, ↓reduceIte]
    cases hr : StrFns.find this_ delim with
    | none => rfl
    | some pos =>
      simp only [rs_eval, uadd_ok (find_add_lt this_ delim pos hr hl), str_from_eq _ _ hb, str_up_to_eq _ _ hb]
      cases Utf8.strFrom this_ (pos + delim.length) with
      | error e => rfl
      | ok a =>
        cases Utf8.strUpTo this_ pos with
        | error e => rfl
        | ok b => rfl
  | Empty es =>
    unfold Extracted.Split.next
    have hc := Split.next_from_empty_eq fuel off ⟨this_, .Empty es⟩ es hb (Nat.lt_trans (Nat.lt_succ_self _) hl)
      (Nat.le_of_succ_le hf)
    simp only [hc, Konst.Split.Iter.next, splitToModel, Konst.Split.nextBlock, stateToModel, ↓reduceIte]
    cases Konst.Split.nextFromEmpty _ _ with
    | error e => rfl
    | ok r => cases r <;> rfl
  | Finished => rfl

example : Extracted.Split.next 7 ⟨[97, 44, 98], .Normal [44]⟩ = .ok (some ([97], ⟨[98], .Normal [44]⟩)) := by decide +kernel
example : Extracted.Split.next 7 ⟨[97, 98], .Normal [44]⟩ = .ok (some ([97, 98], ⟨[], .Finished⟩)) := by decide +kernel
example : Extracted.Split.next 7 ⟨[97, 98], .Finished⟩ = .ok none := by decide +kernel
/-- a delimiter (not UTF-8) found inside a multi-byte char: `str_from` panics, in code and model -/
example : Extracted.Split.next 9 ⟨[0x41, 0xE2, 0x82, 0xAC], .Normal [0xE2]⟩ = .panic := by decide +kernel

/-- `Split::next_back` (the `next_back` block: `string::rfind`, rest = `str_up_to(this, pos)`, piece =
    `str_from(this, pos + delim.len())`) = `Iter.nextBack` of the model at `fwd = true` -/
theorem Split.next_back_eq (fuel off : Nat) (s : Extracted.Split)
    (hb : ∀ b ∈ s.this_, b < 256) (hl : s.this_.length < 2 ^ 64) (hf : s.this_.length + 1 ≤ fuel) :
    Extracted.Split.next_back fuel s = resStep splitOfModel (Konst.Split.Iter.nextBack (splitToModel off s)) := by
  obtain ⟨this_, state⟩ := s
  cases state with
  | Normal delim =>
    unfold Extracted.Split.next_back Konst.Split.Iter.nextBack Konst.Split.nextBackBlock
    simp only [str_rfind_eq fuel this_ delim hl hf, rs_eval, splitToModel, stateToModel, ↓reduceIte]
    cases hr : StrFns.rfind this_ delim with
    | none => rfl
    | some pos =>
      simp only [rs_eval, uadd_ok (rfind_add_lt this_ delim pos hr hl), str_from_eq _ _ hb, str_up_to_eq _ _ hb]
      cases Utf8.strUpTo this_ pos with
      | error e => rfl
      | ok a =>
        cases Utf8.strFrom this_ (pos + delim.length) with
        | error e => rfl
        | ok b => rfl
  | Empty es =>
    unfold Extracted.Split.next_back
    have hc := Split.next_back_from_empty_eq fuel off ⟨this_, .Empty es⟩ es hb hf
    simp only [hc, Konst.Split.Iter.nextBack, splitToModel, Konst.Split.nextBackBlock, stateToModel,
      ↓reduceIte]
    cases Konst.Split.nextBackFromEmpty _ _ with
    | error e => rfl
    | ok r => cases r <;> rfl
  | Finished => rfl

example : Extracted.Split.next_back 7 ⟨[97, 44, 98, 44, 99], .Normal [44]⟩
    = .ok (some ([99], ⟨[97, 44, 98], .Normal [44]⟩)) := by decide +kernel
example : Extracted.Split.next_back 7 ⟨[97, 98], .Empty .Start⟩
    = .ok (some ([], ⟨[97, 98], .Empty .Continue⟩)) := by decide +kernel
/-- a delimiter (not UTF-8) found inside a multi-byte char: `str_up_to` panics, in code and model -/
example : Extracted.Split.next_back 9 ⟨[0x41, 0xE2, 0x82, 0xAC], .Normal [0x82]⟩ = .panic := by decide +kernel

theorem Split.remainder_eq (off : Nat) (s : Extracted.Split) :
    Extracted.Split.remainder s = .ok (Konst.Split.Iter.remainder (splitToModel off s)).bytes := rfl

example : Extracted.Split.remainder ⟨[98], .Normal [44]⟩ = .ok [98] := by decide +kernel

/-- `RSplit::next_from_empty`: `Start` yields `""`; `Continue` cuts the first char off the front
    (`split_at(this, __find_next_char_boundary(this, 0))`), with the model's `split_at` error branch carried along
    as a panic (unreachable in both: the search stops on a position that passes the forgiving boundary test) -/
theorem RSplit.next_from_empty_eq (fuel off : Nat) (s : Extracted.RSplit) (es : Extracted.EmptyState)
    (hb : ∀ b ∈ s.this_, b < 256) (hl : s.this_.length < 2 ^ 64) (hf : s.this_.length + 1 ≤ fuel) :
    Extracted.RSplit.next_from_empty fuel s es
      = resStep rsplitOfModel (Konst.Split.nextFromEmpty (rsplitToModel off s) (emptyStateToModel es)) := by
  obtain ⟨this_, state⟩ := s
  cases es with
  | Start => rfl
  | Continue =>
    obtain ⟨st, rfl⟩ : ∃ st, state = stateOfModel st := ⟨_, (stateOfModel_toModel state).symm⟩
    unfold Extracted.RSplit.next_from_empty Konst.Split.nextFromEmpty
    simp only [rs_eval, str_split_at_eq _ _ hb, emptyStateToModel, rsplitToModel, stateToModel_ofModel,
      find_next_char_boundary_eq fuel this_ 0 hb (by decide) hl (Nat.le_trans (Nat.succ_le_succ (Nat.sub_le _ _)) hf),
      Konst.Split.splitAtStr]
    cases Utf8.splitAt this_ (Utf8.findNextCharBoundary this_ 0) with
    | error e => cases this_ <;> rfl
    | ok p => cases this_ <;> rfl

example : Extracted.RSplit.next_from_empty 5 ⟨[0xE2, 0x82, 0xAC, 0x41], .Empty .Continue⟩ .Continue
    = .ok (some ([0xE2, 0x82, 0xAC], ⟨[0x41], .Empty .Continue⟩)) := by decide +kernel
example : Extracted.RSplit.next_from_empty 5 ⟨[0xE2, 0x82, 0xAC, 0x41], .Empty .Continue⟩ .Continue
    = resStep rsplitOfModel
        (Konst.Split.nextFromEmpty (rsplitToModel 3 ⟨[0xE2, 0x82, 0xAC, 0x41], .Empty .Continue⟩) .cont) := by decide +kernel

/-- `RSplit::next_back_from_empty`: `Continue` cuts the last char off the back; panics exactly when the
    model does: `__find_prev_char_boundary` underflows (`this` is non-empty, all continuation bytes) or `split_at`
    rejects the position -/
theorem RSplit.next_back_from_empty_eq (fuel off : Nat) (s : Extracted.RSplit) (es : Extracted.EmptyState)
    (hb : ∀ b ∈ s.this_, b < 256) (hf : s.this_.length + 1 ≤ fuel) :
    Extracted.RSplit.next_back_from_empty fuel s es
      = resStep rsplitOfModel (Konst.Split.nextBackFromEmpty (rsplitToModel off s) (emptyStateToModel es)) := by
  obtain ⟨this_, state⟩ := s
  cases es with
  | Start => rfl
  | Continue =>
    obtain ⟨st, rfl⟩ : ∃ st, state = stateOfModel st := ⟨_, (stateOfModel_toModel state).symm⟩
    unfold Extracted.RSplit.next_back_from_empty Konst.Split.nextBackFromEmpty
    simp only [rs_eval, str_split_at_eq _ _ hb, emptyStateToModel, rsplitToModel, stateToModel_ofModel,
      find_prev_char_boundary_eq fuel this_ this_.length hb (Nat.le_trans (Nat.succ_le_succ (Nat.min_le_right _ _)) hf),
      Konst.Split.splitAtStr]
    cases Utf8.findPrevCharBoundary this_ this_.length with
    | none => cases this_ <;> rfl
    | some k =>
      simp only [resOfOption_some, rs_eval]
      cases Utf8.splitAt this_ k with
      | error e => cases this_ <;> rfl
      | ok p => cases this_ <;> rfl

example : Extracted.RSplit.next_back_from_empty 5 ⟨[0x41, 0xE2, 0x82, 0xAC], .Empty .Continue⟩ .Continue
    = .ok (some ([0xE2, 0x82, 0xAC], ⟨[0x41], .Empty .Continue⟩)) := by decide +kernel
/-- not UTF-8 (continuation bytes only): `position -= 1` underflows, in code and model -/
example : Extracted.RSplit.next_back_from_empty 5 ⟨[0x82, 0xAC], .Empty .Continue⟩ .Continue = .panic := by decide +kernel

/-- `RSplit::next` is the `next_back` block (`__choose!`): `Iter.next` of the model at `fwd = false` -/
theorem RSplit.next_eq (fuel off : Nat) (s : Extracted.RSplit)
    (hb : ∀ b ∈ s.this_, b < 256) (hl : s.this_.length < 2 ^ 64) (hf : s.this_.length + 1 ≤ fuel) :
    Extracted.RSplit.next fuel s = resStep rsplitOfModel (Konst.Split.Iter.next (rsplitToModel off s)) := by
  obtain ⟨this_, state⟩ := s
  cases state with
  | Normal delim =>
    unfold Extracted.RSplit.next Konst.Split.Iter.next Konst.Split.nextBackBlock
    simp only [str_rfind_eq fuel this_ delim hl hf, rs_eval, rsplitToModel, stateToModel, ↓reduceIte]
    cases hr : StrFns.rfind this_ delim with
    | none => rfl
    | some pos =>
      simp only [rs_eval, uadd_ok (rfind_add_lt this_ delim pos hr hl), str_from_eq _ _ hb, str_up_to_eq _ _ hb]
      cases Utf8.strUpTo this_ pos with
      | error e => rfl
      | ok a =>
        cases Utf8.strFrom this_ (pos + delim.length) with
        | error e => rfl
        | ok b => rfl
  | Empty es =>
    unfold Extracted.RSplit.next
    have hc := RSplit.next_back_from_empty_eq fuel off ⟨this_, .Empty es⟩ es hb hf
    simp only [hc, Konst.Split.Iter.next, rsplitToModel, Konst.Split.nextBackBlock, stateToModel, Bool.false_eq_true,
      ↓reduceIte]
    cases Konst.Split.nextBackFromEmpty _ _ with
    | error e => rfl
    | ok r => cases r <;> rfl
  | Finished => rfl

example : Extracted.RSplit.next 7 ⟨[97, 44, 98, 44, 99], .Normal [44]⟩
    = .ok (some ([99], ⟨[97, 44, 98], .Normal [44]⟩)) := by decide +kernel
example : Extracted.RSplit.next 7 ⟨[97, 98], .Empty .Start⟩
    = .ok (some ([], ⟨[97, 98], .Empty .Continue⟩)) := by decide +kernel
/-- a delimiter (not UTF-8) found inside a multi-byte char: `str_up_to` panics, in code and model -/
example : Extracted.RSplit.next 9 ⟨[0x41, 0xE2, 0x82, 0xAC], .Normal [0x82]⟩ = .panic := by decide +kernel

/-- `RSplit::next_back` is the `next` block: `Iter.nextBack` of the model at `fwd = false` -/
theorem RSplit.next_back_eq (fuel off : Nat) (s : Extracted.RSplit)
    (hb : ∀ b ∈ s.this_, b < 256)
    (hl : s.this_.length + (stateDelim s.state).length + 1 < 2 ^ 64)
    (hf : s.this_.length + (stateDelim s.state).length + 2 ≤ fuel) :
    Extracted.RSplit.next_back fuel s = resStep rsplitOfModel (Konst.Split.Iter.nextBack (rsplitToModel off s)) := by
  obtain ⟨this_, state⟩ := s
  cases state with
  | Normal delim =>
    unfold Extracted.RSplit.next_back Konst.Split.Iter.nextBack Konst.Split.nextBlock
    simp only [str_find_eq fuel this_ delim hl hf, rs_eval, rsplitToModel, stateToModel, ↓reduceIte]
    cases hr : StrFns.find this_ delim with
    | none => rfl
    | some pos =>
      simp only [rs_eval, uadd_ok (find_add_lt this_ delim pos hr hl), str_from_eq _ _ hb, str_up_to_eq _ _ hb]
      cases Utf8.strFrom this_ (pos + delim.length) with
      | error e => rfl
      | ok a =>
        cases Utf8.strUpTo this_ pos with
        | error e => rfl
        | ok b => rfl
  | Empty es =>
    unfold Extracted.RSplit.next_back
    have hc := RSplit.next_from_empty_eq fuel off ⟨this_, .Empty es⟩ es hb (Nat.lt_trans (Nat.lt_succ_self _) hl)
      (Nat.le_of_succ_le hf)
    simp only [hc, Konst.Split.Iter.nextBack, rsplitToModel, Konst.Split.nextBlock, stateToModel, Bool.false_eq_true, ↓reduceIte]
    cases Konst.Split.nextFromEmpty _ _ with
    | error e => rfl
    | ok r => cases r <;> rfl
  | Finished => rfl

example : Extracted.RSplit.next_back 7 ⟨[97, 44, 98], .Normal [44]⟩
    = .ok (some ([97], ⟨[98], .Normal [44]⟩)) := by decide +kernel
example : Extracted.RSplit.next_back 7 ⟨[97, 98], .Normal [44]⟩ = .ok (some ([97, 98], ⟨[], .Finished⟩)) := by decide +kernel
example : Extracted.RSplit.next_back 7 ⟨[97, 98], .Finished⟩ = .ok none := by decide +kernel
/-- a delimiter (not UTF-8) found inside a multi-byte char: `str_from` panics, in code and model -/
example : Extracted.RSplit.next_back 9 ⟨[0x41, 0xE2, 0x82, 0xAC], .Normal [0xE2]⟩ = .panic := by decide +kernel

theorem RSplit.remainder_eq (off : Nat) (s : Extracted.RSplit) :
    Extracted.RSplit.remainder s = .ok (Konst.Split.Iter.remainder (rsplitToModel off s)).bytes := rfl

example : Extracted.RSplit.remainder ⟨[98], .Normal [44]⟩ = .ok [98] := by decide +kernel

end Extracted.Equiv
