import KonstVerif.Extracted.Gen.ParsePrim
import KonstVerif.Extracted.Equiv.ParseInt
/-
  Extracted = Model, for the whole-string functions `konst::primitive::parse_u8 /
  parse_i8 / parse_u32 / parse_i64 / parse_u128 / parse_i128 / parse_usize / parse_bool` (group `ParsePrim`,
  the instances of `define_parse_methods!`; C12).

  Model: `Konst.ParseInt.parseWhole signed bits s : Option Int` / `Konst.ParseInt.parseBoolWhole s : Option Bool`
  (`Model/ParseInt.lean`), the definitions `Props/C12.lean` (`parse_whole_eq_spec`, `parseBool_eq`) is about:
  `some v` ↦ `Ok(v)`, `none` ↦ `Err(ParseIntError { _priv: () })` resp. `Err(ParseBoolError { _priv: () })`
  (`wholeRes`; an unsigned value is a `Nat` in the extraction: `natVal`, as in `Equiv/ParseInt.lean`).

  The panic.  `parseWhole` is built on `MiniParser`, whose `try_parsing!` takes the remainder with `List.drop`
  and therefore has NO panic outcome, while the code calls `str_from`, which panics at a non-char-boundary
  (possible on a byte list that is not a `&str`: "1\x80").  The panic outcome is therefore stated through the
  model that has it, `Konst.Parser.parseInt (Konst.Parser.new s) signed bits` (`Model/Parser.lean`, the model
  `Equiv/ParseInt.lean` relates `Parser::parse_*` to): every `_eq` theorem reads

      prim_parse_T fuel s = if Konst.Parser.parseInt (Konst.Parser.new s) signed bits = .panic then .panic
                            else wholeRes … (parseWhole signed bits s)

  i.e. the code panics exactly when the `Parser` model does, and otherwise returns what `parseWhole` says.
  The `_ok` theorems show that on valid UTF-8 (`Spec.Utf8.Valid s`) there is no panic: the result is
  `Ok(v)` / `Err(..)` with exactly `parseWhole`'s answer.

  Structure: the eight generated functions are instances of ONE text, `primShape err parse`
  (`prim_parse_*_shape`, by `primShape_of_cases`); `primShape_eq` is proved once from "`parse` = `resOf f` of a model result";
  `parseInt_primOut` / `parseBool_primOut` connect the `Parser` model on `Parser::new(s)` with `parseWhole` /
  `parseBoolWhole`.

  Hypotheses of every theorem: `s.len() < 2^32` (the `u32` offsets of the `Parser` do not wrap), bytes `< 256`
  (for `str_from`'s `as i8` cast), fuel `≥ s.len()` (integers only; `parse_bool` has no loop).
-/
namespace Extracted.Equiv
open Rs Konst

/-! ### the one shape behind the eight instances of `define_parse_methods!` -/

/-- the text of `Extracted.prim_parse_u8` with the error value (`ParseIntError { _priv: () }` /
    `ParseBoolError { _priv: () }`) and the called method (`Parser.parse_u8 fuel`, …) as parameters -/
def primShape {E T : Type} (err : E) (parse : Parser → Res (Except ParseError (T × Parser)))
    (s : List Nat) : Res (Except E T) := Ctl.run (ρ := (Except E T)) do
  let t1_ ← Ctl.call (Parser.new s)
  let t2_ ← Ctl.call (parse t1_)
  let t4_ ← (match t2_ with
      | (Except.ok (num, parser)) => do
          let t3_ ← Ctl.call (Parser.fn_is_empty parser)
          if t3_ then do
              pure (Except.ok num)
          else
            (do
                pure (Except.error err))
      | _ =>
          (do
              pure (Except.error err)))
  pure t4_

/-- `Parser::new(s)` as the extracted structure -/
def newParser (s : List Nat) : Parser := ⟨.FromStart, false, 0, s⟩

/-- The instances are not instances by `rfl`: the `match` of the type-generic `primShape` is compiled to its
    own matcher, which only reduces on a constructor.  So a text of that form with any `k` in place of the
    `match` is `primShape` as soon as `k` does on `Ok((num, parser))` and on `Err(e)` what the `match` does. -/
theorem primShape_of_cases {E T : Type} (err : E) (parse : Parser → Res (Except ParseError (T × Parser)))
    (s : List Nat) (k : Except ParseError (T × Parser) → Ctl (Except E T) (Except E T))
    (hok : ∀ num parser, k (.ok (num, parser)) =
      (Ctl.call (Parser.fn_is_empty parser)).bind fun t3_ => if t3_ then pure (.ok num) else pure (.error err))
    (herr : ∀ e, k (.error e) = pure (.error err)) :
    Ctl.run (ρ := Except E T)
      (do let t1_ ← Ctl.call (Parser.new s)
          let t2_ ← Ctl.call (parse t1_)
          let t4_ ← k t2_
          pure t4_) = primShape err parse s := by
  have hk : k = fun t2_ => match t2_ with
      | .ok (num, parser) =>
        (Ctl.call (Parser.fn_is_empty parser)).bind fun t3_ => if t3_ then pure (.ok num) else pure (.error err)
      | _ => pure (.error err) := by
    funext t2_
    cases t2_ with
    | error e => exact herr e
    | ok a => exact hok a.1 a.2
  rw [hk]
  rfl

theorem prim_parse_u8_shape (fuel : Nat) (s : List Nat) :
    Extracted.prim_parse_u8 fuel s = primShape ({ _priv := () } : ParseIntError) (Parser.parse_u8 fuel) s :=
  primShape_of_cases _ _ _ _ (fun _ _ => rfl) (fun _ => rfl)
theorem prim_parse_i8_shape (fuel : Nat) (s : List Nat) :
    Extracted.prim_parse_i8 fuel s = primShape ({ _priv := () } : ParseIntError) (Parser.parse_i8 fuel) s :=
  primShape_of_cases _ _ _ _ (fun _ _ => rfl) (fun _ => rfl)
theorem prim_parse_u32_shape (fuel : Nat) (s : List Nat) :
    Extracted.prim_parse_u32 fuel s = primShape ({ _priv := () } : ParseIntError) (Parser.parse_u32 fuel) s :=
  primShape_of_cases _ _ _ _ (fun _ _ => rfl) (fun _ => rfl)
theorem prim_parse_i64_shape (fuel : Nat) (s : List Nat) :
    Extracted.prim_parse_i64 fuel s = primShape ({ _priv := () } : ParseIntError) (Parser.parse_i64 fuel) s :=
  primShape_of_cases _ _ _ _ (fun _ _ => rfl) (fun _ => rfl)
theorem prim_parse_u128_shape (fuel : Nat) (s : List Nat) :
    Extracted.prim_parse_u128 fuel s = primShape ({ _priv := () } : ParseIntError) (Parser.parse_u128 fuel) s :=
  primShape_of_cases _ _ _ _ (fun _ _ => rfl) (fun _ => rfl)
theorem prim_parse_i128_shape (fuel : Nat) (s : List Nat) :
    Extracted.prim_parse_i128 fuel s = primShape ({ _priv := () } : ParseIntError) (Parser.parse_i128 fuel) s :=
  primShape_of_cases _ _ _ _ (fun _ _ => rfl) (fun _ => rfl)
theorem prim_parse_usize_shape (fuel : Nat) (s : List Nat) :
    Extracted.prim_parse_usize fuel s = primShape ({ _priv := () } : ParseIntError) (Parser.parse_usize fuel) s :=
  primShape_of_cases _ _ _ _ (fun _ _ => rfl) (fun _ => rfl)
theorem prim_parse_bool_shape (s : List Nat) :
    Extracted.prim_parse_bool s = primShape ({ _priv := () } : ParseBoolError) Parser.parse_bool s :=
  primShape_of_cases _ _ _ _ (fun _ _ => rfl) (fun _ => rfl)

/-! ### the model's answers as results of the extraction -/

/-- the model's `Option` as the `Result<T, E>` of the extraction: `some a` ↦ `Ok(g a)`, `none` ↦ `Err(err)`.
    (`g a = none`: a model value with no counterpart in `T`, i.e. a negative number for an unsigned type;
    `.ub` as a marker as in `resOf`.  It does not occur: `parseWhole_unsigned_nonneg`.) -/
def wholeRes {E T A : Type} (err : E) (g : A → Option T) : Option A → Res (Except E T)
  | some a =>
    match g a with
    | some t => .ok (.ok t)
    | none => .ub
  | none => .ok (.error err)

/-- `match r { Ok((num, parser)) if parser.is_empty() => Ok(num), _ => Err(err) }` on a result `r` of the
    `Parser` model (which has the panic outcome) -/
def primOut {E T : Type} (err : E) (f : Konst.Parser.Value → Option T) : Konst.Parser.Res → Res (Except E T)
  | .ok q v => wholeRes err f (if q.str.isEmpty then some v else none)
  | .err _ => .ok (.error err)
  | .panic => .panic

theorem toParser_new (s : List Nat) : toParser (newParser s) = Konst.Parser.new s := rfl

theorem primShape_eq {E T : Type} (err : E) (parse : Parser → Res (Except ParseError (T × Parser)))
    (f : Konst.Parser.Value → Option T) (s : List Nat) (r : Konst.Parser.Res)
    (h : parse (newParser s) = resOf f r)
    (hv : ∀ q v, r = .ok q v → ∃ t, f v = some t) :
    primShape err parse s = primOut err f r := by
  have hnew : Parser.new s = .ok (newParser s) := rfl
  unfold primShape
  rw [hnew, Ctl.call_ok]
  simp only [Ctl.bind_eq, Ctl.bind_val, h]
  cases r with
  | ok q v =>
    obtain ⟨t, ht⟩ := hv q v rfl
    by_cases he : q.str = []
    · simp [resOf, primOut, wholeRes, ht, Parser.fn_is_empty, ofParser, he, Ctl.run]
    · simp [resOf, primOut, wholeRes, ht, Parser.fn_is_empty, ofParser, he, Ctl.run]
  | err e => simp [resOf, primOut, Ctl.run]
  | panic => simp [resOf, primOut, Ctl.run]

/-! ### the `Parser` model on `Parser::new(s)` and the whole-string model -/

theorem parseWhole_closed (signed : Bool) (bits : Nat) (s : List Nat) :
    ParseInt.parseWhole signed bits s =
      match ParseInt.parseIntegerBody signed bits s with
      | none => none
      | some (v, rest) => if (s.drop (s.length - rest.length)).isEmpty then some v else none := by
  unfold ParseInt.parseWhole ParseInt.parserParseInt
  rw [Konst.Lemmas.ParseInt.tryParsing_eq]
  unfold ParseInt.parseIntegerPrefix
  simp only [ParseInt.MiniParser.new]
  cases ParseInt.parseIntegerBody signed bits s with
  | none => rfl
  | some vr => obtain ⟨v, rest⟩ := vr; rfl

theorem parseBoolWhole_closed (s : List Nat) :
    ParseInt.parseBoolWhole s =
      match ParseInt.parseBoolPrefix s with
      | none => none
      | some (b, k) => if (s.drop k).isEmpty then some b else none := by
  unfold ParseInt.parseBoolWhole ParseInt.parserParseBool
  rw [Konst.Lemmas.ParseInt.tryParsing_eq]
  simp only [ParseInt.MiniParser.new]
  cases ParseInt.parseBoolPrefix s with
  | none => rfl
  | some vr => obtain ⟨v, k⟩ := vr; rfl

/-- `Parser::new(s).parse_T()` followed by "remainder empty", in the `Parser` model, is `parseWhole`
    — except for the panic of `str_from`, which `parseWhole` does not have -/
theorem parseInt_primOut {E T : Type} (err : E) (f : Konst.Parser.Value → Option T) (signed : Bool)
    (bits : Nat) (s : List Nat) :
    primOut err f (Konst.Parser.parseInt (Konst.Parser.new s) signed bits) =
      if Konst.Parser.parseInt (Konst.Parser.new s) signed bits = .panic then .panic
      else wholeRes err (fun n => f (.int n)) (ParseInt.parseWhole signed bits s) := by
  have hc := parseInt_closed (newParser s) signed bits
  rw [toParser_new] at hc
  simp only [newParser] at hc
  rw [parseWhole_closed]
  cases hbody : ParseInt.parseIntegerBody signed bits s with
  | none =>
    rw [hbody] at hc
    rw [hc]
    simp [primOut, wholeRes]
  | some vr =>
    obtain ⟨v, rest⟩ := vr
    rw [hbody] at hc
    simp only [] at hc ⊢
    cases hs : Utf8.strFrom s (s.length - rest.length) with
    | error _ =>
      rw [hs] at hc
      rw [hc]
      simp [primOut]
    | ok w =>
      rw [hs] at hc
      rw [hc]
      have hw := Lemmas.Parser.strFrom_apply hs
      simp only [primOut, hw, reduceCtorEq, ↓reduceIte]
      split <;> rfl

theorem parseBool_primOut {E T : Type} (err : E) (f : Konst.Parser.Value → Option T) (s : List Nat) :
    primOut err f (Konst.Parser.parseBool (Konst.Parser.new s)) =
      if Konst.Parser.parseBool (Konst.Parser.new s) = .panic then .panic
      else wholeRes err (fun b => f (.bool b)) (ParseInt.parseBoolWhole s) := by
  have hc := parseBool_closed (newParser s)
  rw [toParser_new] at hc
  simp only [newParser] at hc
  rw [parseBoolWhole_closed]
  cases hbody : ParseInt.parseBoolPrefix s with
  | none =>
    rw [hbody] at hc
    rw [hc]
    simp [primOut, wholeRes]
  | some vr =>
    obtain ⟨v, k⟩ := vr
    rw [hbody] at hc
    simp only [] at hc ⊢
    cases hs : Utf8.strFrom s k with
    | error _ =>
      rw [hs] at hc
      rw [hc]
      simp [primOut]
    | ok w =>
      rw [hs] at hc
      rw [hc]
      have hw := Lemmas.Parser.strFrom_apply hs
      simp only [primOut, hw, reduceCtorEq, ↓reduceIte]
      split <;> rfl

theorem parseWhole_unsigned_nonneg (bits : Nat) (s : List Nat) (n : Int)
    (h : ParseInt.parseWhole false bits s = some n) : 0 ≤ n := by
  rw [parseWhole_closed] at h
  cases hbody : ParseInt.parseIntegerBody false bits s with
  | none => rw [hbody] at h; cases h
  | some vr =>
    obtain ⟨v, rest⟩ := vr
    rw [hbody] at h
    simp only [Option.ite_none_right_eq_some, Option.some.injEq] at h
    rw [← h.2]
    exact Konst.Lemmas.ParseInt.parseIntegerBody_unsigned_nonneg bits s v rest hbody

/-! ### the integer functions, once -/

theorem primInt_eq {T : Type} (f : Konst.Parser.Value → Option T) (signed : Bool) (bits : Nat)
    (parse : Parser → Res (Except ParseError (T × Parser))) (s : List Nat)
    (hparse : parse (newParser s) = resOf f (Konst.Parser.parseInt (toParser (newParser s)) signed bits))
    (hf : ∀ n : Int, (signed = false → 0 ≤ n) → ∃ t, f (.int n) = some t) :
    primShape ({ _priv := () } : ParseIntError) parse s =
      if Konst.Parser.parseInt (Konst.Parser.new s) signed bits = .panic then .panic
      else wholeRes ({ _priv := () } : ParseIntError) (fun n => f (.int n)) (ParseInt.parseWhole signed bits s) := by
  rw [← parseInt_primOut]
  refine primShape_eq _ parse f s _ hparse ?_
  intro q v h
  obtain ⟨n, rfl, hn⟩ := parseInt_value (newParser s) signed bits q v h
  exact hf n hn

/-- `g` reads the extracted value back as the model's `Int` -/
theorem primInt_ok {T : Type} (f : Konst.Parser.Value → Option T) (g : T → Int) (signed : Bool) (bits : Nat)
    (x : Res (Except ParseIntError T)) (s : List Nat)
    (hx : x = if Konst.Parser.parseInt (Konst.Parser.new s) signed bits = .panic then .panic
      else wholeRes ({ _priv := () } : ParseIntError) (fun n => f (.int n)) (ParseInt.parseWhole signed bits s))
    (hv : Konst.Spec.Utf8.Valid s)
    (hf : ∀ n : Int, ParseInt.parseWhole signed bits s = some n → ∃ t, f (.int n) = some t ∧ n = g t) :
    (∃ t, ParseInt.parseWhole signed bits s = some (g t) ∧ x = .ok (.ok t)) ∨
    (ParseInt.parseWhole signed bits s = none ∧ x = .ok (.error { _priv := () })) := by
  have hnp := parseInt_ne_panic (Konst.Parser.new s) signed bits hv
  rw [if_neg hnp] at hx
  cases hw : ParseInt.parseWhole signed bits s with
  | none => right; rw [hx, hw]; exact ⟨rfl, rfl⟩
  | some n =>
    left
    obtain ⟨t, ht, hn⟩ := hf n hw
    refine ⟨t, by rw [hn], ?_⟩
    rw [hx, hw]
    simp [wholeRes, ht]

/-! ### the seven integer functions -/

/-- `konst::primitive::parse_u8` = the model's `parseWhole false 8`: `Ok(n)` for `some n`,
    `Err(ParseIntError { _priv: () })` for `none`; a panic (inside `str_from`, when the byte behind the digits
    is a UTF-8 continuation byte — impossible for a `&str`, see `prim_parse_u8_ok`) exactly when the
    `Parser` model of `Parser::new(s).parse_u8()` panics. -/
theorem prim_parse_u8_eq (fuel : Nat) (s : List Nat)
    (hlen : s.length < 2 ^ 32) (hb : ∀ b ∈ s, b < 256) (hf : s.length ≤ fuel) :
    Extracted.prim_parse_u8 fuel s =
      if Konst.Parser.parseInt (Konst.Parser.new s) false 8 = .panic then .panic
      else wholeRes ({ _priv := () } : ParseIntError) (fun n => natVal (.int n)) (ParseInt.parseWhole false 8 s) := by
  rw [prim_parse_u8_shape]
  exact primInt_eq natVal false 8 _ s
    (Parser.parse_u8_eq fuel (newParser s) (by simpa [newParser] using hlen) hb hf) natVal_ok

theorem prim_parse_u8_ok (fuel : Nat) (s : List Nat)
    (hlen : s.length < 2 ^ 32) (hv : Konst.Spec.Utf8.Valid s) (hf : s.length ≤ fuel) :
    (∃ n : Nat, ParseInt.parseWhole false 8 s = some (n : Int) ∧ Extracted.prim_parse_u8 fuel s = .ok (.ok n)) ∨
    (ParseInt.parseWhole false 8 s = none ∧ Extracted.prim_parse_u8 fuel s = .ok (.error { _priv := () })) :=
  primInt_ok natVal (fun t : Nat => (t : Int)) false 8 _ s
    (prim_parse_u8_eq fuel s hlen (pi_valid_lt_256 hv) hf) hv
    fun n hn => ⟨n.toNat, natVal_int n (parseWhole_unsigned_nonneg 8 s n hn)⟩

/- "12", "12x", "256", "" and (not a `&str`) "1\x80" -/
example : Extracted.prim_parse_u8 2 [49, 50] =
    if Konst.Parser.parseInt (Konst.Parser.new [49, 50]) false 8 = .panic then .panic
    else wholeRes ({ _priv := () } : ParseIntError) (fun n => natVal (.int n)) (ParseInt.parseWhole false 8 [49, 50]) :=
  prim_parse_u8_eq _ _ (by decide) (by decide) (by decide)
example : Extracted.prim_parse_u8 2 [49, 50] = .ok (.ok 12) := by decide +kernel
example : ParseInt.parseWhole false 8 [49, 50] = some 12 := by decide +kernel
example : Extracted.prim_parse_u8 3 [49, 50, 120] = .ok (.error { _priv := () }) := by decide +kernel
example : ParseInt.parseWhole false 8 [49, 50, 120] = none := by decide +kernel
example : Extracted.prim_parse_u8 3 [50, 53, 54] = .ok (.error { _priv := () }) := by decide +kernel
example : ParseInt.parseWhole false 8 [50, 53, 54] = none := by decide +kernel
example : Extracted.prim_parse_u8 0 [] = .ok (.error { _priv := () }) := by decide +kernel
example : Extracted.prim_parse_u8 2 [49, 0x80] = .panic := by decide +kernel
example : Konst.Parser.parseInt (Konst.Parser.new [49, 0x80]) false 8 = .panic := by decide +kernel
/- … where `parseWhole` (no panic outcome) says `none`: the `if` of the `_eq` theorems is needed -/
example : ParseInt.parseWhole false 8 [49, 0x80] = none := by decide +kernel

theorem prim_parse_i8_eq (fuel : Nat) (s : List Nat)
    (hlen : s.length < 2 ^ 32) (hb : ∀ b ∈ s, b < 256) (hf : s.length ≤ fuel) :
    Extracted.prim_parse_i8 fuel s =
      if Konst.Parser.parseInt (Konst.Parser.new s) true 8 = .panic then .panic
      else wholeRes ({ _priv := () } : ParseIntError) (fun n => intVal (.int n)) (ParseInt.parseWhole true 8 s) := by
  rw [prim_parse_i8_shape]
  exact primInt_eq intVal true 8 _ s
    (Parser.parse_i8_eq fuel (newParser s) (by simpa [newParser] using hlen) hb hf)
    fun n _ => intVal_some n

theorem prim_parse_i8_ok (fuel : Nat) (s : List Nat)
    (hlen : s.length < 2 ^ 32) (hv : Konst.Spec.Utf8.Valid s) (hf : s.length ≤ fuel) :
    (∃ n : Int, ParseInt.parseWhole true 8 s = some n ∧ Extracted.prim_parse_i8 fuel s = .ok (.ok n)) ∨
    (ParseInt.parseWhole true 8 s = none ∧ Extracted.prim_parse_i8 fuel s = .ok (.error { _priv := () })) :=
  primInt_ok intVal id true 8 _ s
    (prim_parse_i8_eq fuel s hlen (pi_valid_lt_256 hv) hf) hv
    fun n _ => ⟨n, rfl, rfl⟩

/- "-128", "128", "-12x" -/
example : Extracted.prim_parse_i8 4 [45, 49, 50, 56] =
    if Konst.Parser.parseInt (Konst.Parser.new [45, 49, 50, 56]) true 8 = .panic then .panic
    else wholeRes ({ _priv := () } : ParseIntError) (fun n => intVal (.int n)) (ParseInt.parseWhole true 8 [45, 49, 50, 56]) :=
  prim_parse_i8_eq _ _ (by decide) (by decide) (by decide)
example : Extracted.prim_parse_i8 4 [45, 49, 50, 56] = .ok (.ok (-128)) := by decide +kernel
example : ParseInt.parseWhole true 8 [45, 49, 50, 56] = some (-128) := by decide +kernel
example : Extracted.prim_parse_i8 3 [49, 50, 56] = .ok (.error { _priv := () }) := by decide +kernel
example : Extracted.prim_parse_i8 4 [45, 49, 50, 120] = .ok (.error { _priv := () }) := by decide +kernel

theorem prim_parse_u32_eq (fuel : Nat) (s : List Nat)
    (hlen : s.length < 2 ^ 32) (hb : ∀ b ∈ s, b < 256) (hf : s.length ≤ fuel) :
    Extracted.prim_parse_u32 fuel s =
      if Konst.Parser.parseInt (Konst.Parser.new s) false 32 = .panic then .panic
      else wholeRes ({ _priv := () } : ParseIntError) (fun n => natVal (.int n)) (ParseInt.parseWhole false 32 s) := by
  rw [prim_parse_u32_shape]
  exact primInt_eq natVal false 32 _ s
    (Parser.parse_u32_eq fuel (newParser s) (by simpa [newParser] using hlen) hb hf) natVal_ok

theorem prim_parse_u32_ok (fuel : Nat) (s : List Nat)
    (hlen : s.length < 2 ^ 32) (hv : Konst.Spec.Utf8.Valid s) (hf : s.length ≤ fuel) :
    (∃ n : Nat, ParseInt.parseWhole false 32 s = some (n : Int) ∧ Extracted.prim_parse_u32 fuel s = .ok (.ok n)) ∨
    (ParseInt.parseWhole false 32 s = none ∧ Extracted.prim_parse_u32 fuel s = .ok (.error { _priv := () })) :=
  primInt_ok natVal (fun t : Nat => (t : Int)) false 32 _ s
    (prim_parse_u32_eq fuel s hlen (pi_valid_lt_256 hv) hf) hv
    fun n hn => ⟨n.toNat, natVal_int n (parseWhole_unsigned_nonneg 32 s n hn)⟩

/- "4294967295" and "4294967296" -/
example : Extracted.prim_parse_u32 10 [52,50,57,52,57,54,55,50,57,53] = .ok (.ok 4294967295) := by decide +kernel
example : Extracted.prim_parse_u32 10 [52,50,57,52,57,54,55,50,57,54] = .ok (.error { _priv := () }) := by decide +kernel

theorem prim_parse_i64_eq (fuel : Nat) (s : List Nat)
    (hlen : s.length < 2 ^ 32) (hb : ∀ b ∈ s, b < 256) (hf : s.length ≤ fuel) :
    Extracted.prim_parse_i64 fuel s =
      if Konst.Parser.parseInt (Konst.Parser.new s) true 64 = .panic then .panic
      else wholeRes ({ _priv := () } : ParseIntError) (fun n => intVal (.int n)) (ParseInt.parseWhole true 64 s) := by
  rw [prim_parse_i64_shape]
  exact primInt_eq intVal true 64 _ s
    (Parser.parse_i64_eq fuel (newParser s) (by simpa [newParser] using hlen) hb hf)
    fun n _ => intVal_some n

theorem prim_parse_i64_ok (fuel : Nat) (s : List Nat)
    (hlen : s.length < 2 ^ 32) (hv : Konst.Spec.Utf8.Valid s) (hf : s.length ≤ fuel) :
    (∃ n : Int, ParseInt.parseWhole true 64 s = some n ∧ Extracted.prim_parse_i64 fuel s = .ok (.ok n)) ∨
    (ParseInt.parseWhole true 64 s = none ∧ Extracted.prim_parse_i64 fuel s = .ok (.error { _priv := () })) :=
  primInt_ok intVal id true 64 _ s
    (prim_parse_i64_eq fuel s hlen (pi_valid_lt_256 hv) hf) hv
    fun n _ => ⟨n, rfl, rfl⟩

/- "-9223372036854775808" -/
example : Extracted.prim_parse_i64 20 [45,57,50,50,51,51,55,50,48,51,54,56,53,52,55,55,53,56,48,56]
    = .ok (.ok (-9223372036854775808)) := by decide +kernel

theorem prim_parse_u128_eq (fuel : Nat) (s : List Nat)
    (hlen : s.length < 2 ^ 32) (hb : ∀ b ∈ s, b < 256) (hf : s.length ≤ fuel) :
    Extracted.prim_parse_u128 fuel s =
      if Konst.Parser.parseInt (Konst.Parser.new s) false 128 = .panic then .panic
      else wholeRes ({ _priv := () } : ParseIntError) (fun n => natVal (.int n)) (ParseInt.parseWhole false 128 s) := by
  rw [prim_parse_u128_shape]
  exact primInt_eq natVal false 128 _ s
    (Parser.parse_u128_eq fuel (newParser s) (by simpa [newParser] using hlen) hb hf) natVal_ok

theorem prim_parse_u128_ok (fuel : Nat) (s : List Nat)
    (hlen : s.length < 2 ^ 32) (hv : Konst.Spec.Utf8.Valid s) (hf : s.length ≤ fuel) :
    (∃ n : Nat, ParseInt.parseWhole false 128 s = some (n : Int) ∧ Extracted.prim_parse_u128 fuel s = .ok (.ok n)) ∨
    (ParseInt.parseWhole false 128 s = none ∧ Extracted.prim_parse_u128 fuel s = .ok (.error { _priv := () })) :=
  primInt_ok natVal (fun t : Nat => (t : Int)) false 128 _ s
    (prim_parse_u128_eq fuel s hlen (pi_valid_lt_256 hv) hf) hv
    fun n hn => ⟨n.toNat, natVal_int n (parseWhole_unsigned_nonneg 128 s n hn)⟩

/- "007" and "7 " -/
example : Extracted.prim_parse_u128 3 [48, 48, 55] = .ok (.ok 7) := by decide +kernel
example : Extracted.prim_parse_u128 2 [55, 32] = .ok (.error { _priv := () }) := by decide +kernel

theorem prim_parse_i128_eq (fuel : Nat) (s : List Nat)
    (hlen : s.length < 2 ^ 32) (hb : ∀ b ∈ s, b < 256) (hf : s.length ≤ fuel) :
    Extracted.prim_parse_i128 fuel s =
      if Konst.Parser.parseInt (Konst.Parser.new s) true 128 = .panic then .panic
      else wholeRes ({ _priv := () } : ParseIntError) (fun n => intVal (.int n)) (ParseInt.parseWhole true 128 s) := by
  rw [prim_parse_i128_shape]
  exact primInt_eq intVal true 128 _ s
    (Parser.parse_i128_eq fuel (newParser s) (by simpa [newParser] using hlen) hb hf)
    fun n _ => intVal_some n

theorem prim_parse_i128_ok (fuel : Nat) (s : List Nat)
    (hlen : s.length < 2 ^ 32) (hv : Konst.Spec.Utf8.Valid s) (hf : s.length ≤ fuel) :
    (∃ n : Int, ParseInt.parseWhole true 128 s = some n ∧ Extracted.prim_parse_i128 fuel s = .ok (.ok n)) ∨
    (ParseInt.parseWhole true 128 s = none ∧ Extracted.prim_parse_i128 fuel s = .ok (.error { _priv := () })) :=
  primInt_ok intVal id true 128 _ s
    (prim_parse_i128_eq fuel s hlen (pi_valid_lt_256 hv) hf) hv
    fun n _ => ⟨n, rfl, rfl⟩

/- "-0", "-", "+1" -/
example : Extracted.prim_parse_i128 2 [45, 48] = .ok (.ok 0) := by decide +kernel
example : Extracted.prim_parse_i128 1 [45] = .ok (.error { _priv := () }) := by decide +kernel
example : Extracted.prim_parse_i128 2 [43, 49] = .ok (.error { _priv := () }) := by decide +kernel

/-- `usize` is 64 bits wide (`Konst.USIZE`) -/
theorem prim_parse_usize_eq (fuel : Nat) (s : List Nat)
    (hlen : s.length < 2 ^ 32) (hb : ∀ b ∈ s, b < 256) (hf : s.length ≤ fuel) :
    Extracted.prim_parse_usize fuel s =
      if Konst.Parser.parseInt (Konst.Parser.new s) false 64 = .panic then .panic
      else wholeRes ({ _priv := () } : ParseIntError) (fun n => natVal (.int n)) (ParseInt.parseWhole false 64 s) := by
  rw [prim_parse_usize_shape]
  exact primInt_eq natVal false 64 _ s
    (Parser.parse_usize_eq fuel (newParser s) (by simpa [newParser] using hlen) hb hf) natVal_ok

theorem prim_parse_usize_ok (fuel : Nat) (s : List Nat)
    (hlen : s.length < 2 ^ 32) (hv : Konst.Spec.Utf8.Valid s) (hf : s.length ≤ fuel) :
    (∃ n : Nat, ParseInt.parseWhole false 64 s = some (n : Int) ∧ Extracted.prim_parse_usize fuel s = .ok (.ok n)) ∨
    (ParseInt.parseWhole false 64 s = none ∧ Extracted.prim_parse_usize fuel s = .ok (.error { _priv := () })) :=
  primInt_ok natVal (fun t : Nat => (t : Int)) false 64 _ s
    (prim_parse_usize_eq fuel s hlen (pi_valid_lt_256 hv) hf) hv
    fun n hn => ⟨n.toNat, natVal_int n (parseWhole_unsigned_nonneg 64 s n hn)⟩

/- "18446744073709551615" and "18446744073709551616" -/
example : Extracted.prim_parse_usize 20 [49,56,52,52,54,55,52,52,48,55,51,55,48,57,53,53,49,54,49,53]
    = .ok (.ok 18446744073709551615) := by decide +kernel
example : Extracted.prim_parse_usize 20 [49,56,52,52,54,55,52,52,48,55,51,55,48,57,53,53,49,54,49,54]
    = .ok (.error { _priv := () }) := by decide +kernel

/-! ### `parse_bool` -/

/-- `konst::primitive::parse_bool` = the model's `parseBoolWhole`: `Ok(b)` for `some b`,
    `Err(ParseBoolError { _priv: () })` for `none`; a panic (inside `str_from(self.str, 4)` resp. `5`, when
    that byte is a UTF-8 continuation byte — impossible for a `&str`) exactly when the `Parser` model of
    `Parser::new(s).parse_bool()` panics.  No loop: no fuel. -/
theorem prim_parse_bool_eq (s : List Nat) (hlen : s.length < 2 ^ 32) (hb : ∀ b ∈ s, b < 256) :
    Extracted.prim_parse_bool s =
      if Konst.Parser.parseBool (Konst.Parser.new s) = .panic then .panic
      else wholeRes ({ _priv := () } : ParseBoolError) some (ParseInt.parseBoolWhole s) := by
  rw [prim_parse_bool_shape]
  have h := parseBool_primOut ({ _priv := () } : ParseBoolError) boolVal s
  have hfun : (fun b => boolVal (.bool b)) = some := rfl
  rw [hfun] at h
  rw [← h]
  refine primShape_eq _ _ boolVal s _
    (Parser.parse_bool_eq (newParser s) (by simpa [newParser] using hlen) hb) ?_
  intro q v hq
  obtain ⟨b, rfl⟩ := parseBool_value _ q v hq
  exact ⟨b, rfl⟩

theorem prim_parse_bool_ok (s : List Nat) (hlen : s.length < 2 ^ 32) (hv : Konst.Spec.Utf8.Valid s) :
    (∃ b : Bool, ParseInt.parseBoolWhole s = some b ∧ Extracted.prim_parse_bool s = .ok (.ok b)) ∨
    (ParseInt.parseBoolWhole s = none ∧ Extracted.prim_parse_bool s = .ok (.error { _priv := () })) := by
  rw [prim_parse_bool_eq s hlen (pi_valid_lt_256 hv), if_neg (parseBool_ne_panic _ hv)]
  cases ParseInt.parseBoolWhole s with
  | none => exact .inr ⟨rfl, rfl⟩
  | some b => exact .inl ⟨b, rfl, rfl⟩

/- "true", "false", "tru", "true " and (not a `&str`) "true\x80" -/
example : Extracted.prim_parse_bool [116, 114, 117, 101] =
    if Konst.Parser.parseBool (Konst.Parser.new [116, 114, 117, 101]) = .panic then .panic
    else wholeRes ({ _priv := () } : ParseBoolError) some (ParseInt.parseBoolWhole [116, 114, 117, 101]) :=
  prim_parse_bool_eq _ (by decide) (by decide)
example : Extracted.prim_parse_bool [116, 114, 117, 101] = .ok (.ok true) := by decide +kernel
example : ParseInt.parseBoolWhole [116, 114, 117, 101] = some true := by decide +kernel
example : Extracted.prim_parse_bool [102, 97, 108, 115, 101] = .ok (.ok false) := by decide +kernel
example : Extracted.prim_parse_bool [116, 114, 117] = .ok (.error { _priv := () }) := by decide +kernel
example : ParseInt.parseBoolWhole [116, 114, 117] = none := by decide +kernel
example : Extracted.prim_parse_bool [116, 114, 117, 101, 32] = .ok (.error { _priv := () }) := by decide +kernel
example : Extracted.prim_parse_bool [116, 114, 117, 101, 0x80] = .panic := by decide +kernel
example : Konst.Parser.parseBool (Konst.Parser.new [116, 114, 117, 101, 0x80]) = .panic := by decide +kernel

end Extracted.Equiv
