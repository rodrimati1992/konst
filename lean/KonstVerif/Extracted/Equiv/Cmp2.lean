import KonstVerif.Extracted.Gen.Cmp2
import KonstVerif.Extracted.Equiv.Cmp
import KonstVerif.Model.Cmp
import KonstVerif.Spec.Cmp
import KonstVerif.Lemmas.Cmp
/-
  Extracted = Model, and = std, for group `Cmp2` (C16): `cmp_u8 … cmp_char`, `eq_option_T` / `cmp_option_T` for
  `T = u8 i8 bool char`, and `eq_option_bytes` / `cmp_option_bytes`.

  In the model every scalar (`uN`, `iN`, `bool` with `false = 0`, `true = 1`, `char` = its scalar value) is an `Int`;
  the extraction keeps `Nat`, `Int`, `Bool`, handed to the model through the value- and order-preserving embeddings
  `Int.ofNat`, `id`, `boolInt`.  `<f>_eq`: extracted = model (`cmpInt`, `eqOption` over `eqPrim`, `cmpOption` over
  `cmpInt`; `∃ v, model = some v ∧ extracted = .ok v` where the model has a panic channel).  `<f>_std`: extracted =
  std (`compare`, `optCmp compare`, `stdEq` of `Spec/Cmp.lean`).  The scalar functions are loop-free: no hypotheses.
  `eq_option_bytes` / `cmp_option_bytes` run the loops of `eq_bytes` / `cmp_bytes` in the `(Some(l), Some(r))` arm and
  take their bound and fuel hypotheses for that arm only.
-/
namespace Extracted.Equiv
open Rs Konst Konst.Cmp Konst.Spec.Cmp

/-! ### the embeddings into the model's `Int` -/

/-- `bool` as the model's integer: `false = 0`, `true = 1` (`b as u8`) -/
def boolInt (b : Bool) : Int := Int.ofNat (boolAsU8 b)

theorem ofNat_lt (a b : Nat) : Int.ofNat a < Int.ofNat b ↔ a < b := Int.ofNat_lt
theorem id_lt (a b : Int) : id a < id b ↔ a < b := Iff.rfl
theorem boolInt_inj (a b : Bool) : boolInt a = boolInt b ↔ a = b := by
  cases a <;> cases b <;> decide
theorem boolInt_lt (a b : Bool) : boolInt a < boolInt b ↔ a < b := by
  cases a <;> cases b <;> decide
theorem boolInt_gt (a b : Bool) : boolInt a > boolInt b ↔ a > b := boolInt_lt b a

/-! ### std's `Ord::cmp` on the carrier types, as the `if == / if <` cascade -/

theorem compare_nat (l r : Nat) :
    compare l r = if l = r then Ordering.eq else if l < r then Ordering.lt else Ordering.gt := by
  by_cases h : l = r
  · simp [h]
  · by_cases hlt : l < r
    · simp [h, hlt, Nat.compare_eq_lt.2 hlt]
    · have hgt : r < l := by omega
      simp [h, hlt, Nat.compare_eq_gt.2 hgt]

theorem compare_int (l r : Int) :
    compare l r = if l = r then Ordering.eq else if l < r then Ordering.lt else Ordering.gt :=
  (Konst.Lemmas.Cmp.cmpInt_eq_compare l r).symm

theorem compare_bool (l r : Bool) :
    compare l r = if l = r then Ordering.eq else if l < r then Ordering.lt else Ordering.gt := by
  cases l <;> cases r <;> decide

theorem cmpInt_compare (l r : Int) : cmpInt l r = compare l r := Konst.Lemmas.Cmp.cmpInt_eq_compare l r

/-! ### `List.map Int.ofNat` preserves `==` and the lexicographic order -/

theorem map_ofNat_inj (a b : List Nat) : a.map Int.ofNat = b.map Int.ofNat ↔ a = b := by
  constructor
  · intro h
    induction a generalizing b with
    | nil => cases b with
      | nil => rfl
      | cons y b => simp at h
    | cons x a ih =>
      cases b with
      | nil => simp at h
      | cons y b =>
        simp only [List.map_cons, List.cons.injEq] at h
        rw [Int.ofNat.inj h.1, ih b h.2]
  · intro h; rw [h]

theorem stdEq_map_ofNat (a b : List Nat) : stdEq (a.map Int.ofNat) (b.map Int.ofNat) = decide (a = b) := by
  unfold stdEq
  by_cases h : a = b
  · simp [h]
  · have : ¬ a.map Int.ofNat = b.map Int.ofNat := fun h' => h ((map_ofNat_inj a b).1 h')
    simp [h, this]

theorem compare_ofNat (a b : Nat) : compare (Int.ofNat a) (Int.ofNat b) = compare a b := by
  rw [compare_int, compare_nat]
  simp only [ofNat_inj, ofNat_lt]

theorem lexCmp_map_ofNat (a b : List Nat) :
    lexCmp stdCmpScalar (a.map Int.ofNat) (b.map Int.ofNat) = lexCmp compare a b := by
  induction a generalizing b with
  | nil => cases b <;> rfl
  | cons x a ih =>
    cases b with
    | nil => rfl
    | cons y b => simp only [List.map_cons, lexCmp, ih, stdCmpScalar, compare_ofNat]

/-! ### the function bodies, once for every carrier type

  The seven `cmp_*` are the same text, as are the four `eq_option_*` and the four `cmp_option_*`;
  `cmpScalarFn` / `eqOptionFn` / `cmpOptionFn` are that text over an arbitrary carrier type and each
  generated definition is an instance (`*_fn`: by `rfl` for the scalar functions; the `match` of
  every `Option` function is its own auxiliary matcher, so those are `rfl` after `cases` on the two
  arguments). -/

def cmpScalarFn {α : Type} [DecidableEq α] [LT α] [DecidableLT α] (left right : α) : Res Ordering :=
  Ctl.run (ρ := Ordering) do
  let t1_ ← (if (decide (left = right)) then do
        pure Ordering.eq
      else do
        (if (decide (left < right)) then do
            pure Ordering.lt
          else do
            pure Ordering.gt))
  pure t1_

def eqOptionFn {α : Type} [DecidableEq α] (left right : Option α) : Res Bool := Ctl.run (ρ := Bool) do
  let t1_ ← (match left, right with
      | (some l), (some r) => do
          pure (decide (l = r))
      | none, none => do
          pure true
      | _, _ => do
          pure false)
  pure t1_

def cmpOptionFn {α : Type} [DecidableEq α] [LT α] [DecidableLT α] (left right : Option α) : Res Ordering :=
  Ctl.run (ρ := Ordering) do
  let t2_ ← (match left, right with
      | (some l), (some r) => do
          let t1_ ← (if (decide (l = r)) then do
                pure Ordering.eq
              else do
                (if (decide (l < r)) then do
                    pure Ordering.lt
                  else do
                    pure Ordering.gt))
          pure t1_
      | (some _), none => do
          pure Ordering.gt
      | none, (some _) => do
          pure Ordering.lt
      | none, none => do
          pure Ordering.eq)
  pure t2_

theorem cmp_u8_fn : Extracted.cmp_u8 = cmpScalarFn (α := Nat) := rfl
theorem cmp_i8_fn : Extracted.cmp_i8 = cmpScalarFn (α := Int) := rfl
theorem cmp_u64_fn : Extracted.cmp_u64 = cmpScalarFn (α := Nat) := rfl
theorem cmp_i128_fn : Extracted.cmp_i128 = cmpScalarFn (α := Int) := rfl
theorem cmp_usize_fn : Extracted.cmp_usize = cmpScalarFn (α := Nat) := rfl
theorem cmp_bool_fn : Extracted.cmp_bool = cmpScalarFn (α := Bool) := rfl
theorem cmp_char_fn : Extracted.cmp_char = cmpScalarFn (α := Nat) := rfl
theorem eq_option_u8_fn : Extracted.eq_option_u8 = eqOptionFn (α := Nat) := by
  funext l r; cases l <;> cases r <;> rfl
theorem eq_option_i8_fn : Extracted.eq_option_i8 = eqOptionFn (α := Int) := by
  funext l r; cases l <;> cases r <;> rfl
theorem eq_option_bool_fn : Extracted.eq_option_bool = eqOptionFn (α := Bool) := by
  funext l r; cases l <;> cases r <;> rfl
theorem eq_option_char_fn : Extracted.eq_option_char = eqOptionFn (α := Nat) := by
  funext l r; cases l <;> cases r <;> rfl
theorem cmp_option_u8_fn : Extracted.cmp_option_u8 = cmpOptionFn (α := Nat) := by
  funext l r; cases l <;> cases r <;> rfl
theorem cmp_option_i8_fn : Extracted.cmp_option_i8 = cmpOptionFn (α := Int) := by
  funext l r; cases l <;> cases r <;> rfl
theorem cmp_option_bool_fn : Extracted.cmp_option_bool = cmpOptionFn (α := Bool) := by
  funext l r; cases l <;> cases r <;> rfl
theorem cmp_option_char_fn : Extracted.cmp_option_char = cmpOptionFn (α := Nat) := by
  funext l r; cases l <;> cases r <;> rfl

theorem cmpScalarFn_val {α : Type} [DecidableEq α] [LT α] [DecidableLT α] (l r : α) :
    cmpScalarFn l r = .ok (if l = r then Ordering.eq else if l < r then Ordering.lt else Ordering.gt) := by
  unfold cmpScalarFn
  by_cases h : l = r
  · simp [h]
  · by_cases hlt : l < r <;> simp [h, hlt]

theorem cmpScalarFn_eq {α : Type} [DecidableEq α] [LT α] [DecidableLT α] (f : α → Int)
    (hinj : ∀ a b, f a = f b ↔ a = b) (hlt : ∀ a b, f a < f b ↔ a < b) (l r : α) :
    cmpScalarFn l r = .ok (cmpInt (f l) (f r)) := by
  rw [cmpScalarFn_val]
  simp only [cmpInt, hinj, hlt]

theorem eqOptionFn_eq {α : Type} [DecidableEq α] (f : α → Int) (hinj : ∀ a b, f a = f b ↔ a = b)
    (left right : Option α) :
    ∃ b, eqOption (fun a b => some (eqPrim a b)) (left.map f) (right.map f) = some b ∧
      eqOptionFn left right = .ok b := by
  unfold eqOptionFn
  cases left <;> cases right <;> simp [eqOption, eqPrim, hinj]

theorem eqOptionFn_std {α : Type} [DecidableEq α] (left right : Option α) :
    eqOptionFn left right = .ok (stdEq left right) := by
  unfold eqOptionFn stdEq
  cases left <;> cases right <;> simp

theorem cmpOptionFn_eq {α : Type} [DecidableEq α] [LT α] [DecidableLT α] (f : α → Int)
    (hinj : ∀ a b, f a = f b ↔ a = b) (hlt : ∀ a b, f a < f b ↔ a < b) (left right : Option α) :
    ∃ c, cmpOption (fun a b => some (cmpInt a b)) (left.map f) (right.map f) = some c ∧
      cmpOptionFn left right = .ok c := by
  cases left with
  | none => cases right <;> simp [cmpOptionFn, cmpOption]
  | some l =>
    cases right with
    | none => simp [cmpOptionFn, cmpOption]
    | some r =>
      have h := cmpScalarFn_eq f hinj hlt l r
      unfold cmpScalarFn at h
      refine ⟨cmpInt (f l) (f r), by simp [cmpOption], ?_⟩
      unfold cmpOptionFn
      simpa using h

theorem cmpOptionFn_val {α : Type} [DecidableEq α] [LT α] [DecidableLT α] (left right : Option α) :
    cmpOptionFn left right = .ok (optCmp
      (fun l r => if l = r then Ordering.eq else if l < r then Ordering.lt else Ordering.gt) left right) := by
  cases left with
  | none => cases right <;> simp [cmpOptionFn, optCmp]
  | some l =>
    cases right with
    | none => simp [cmpOptionFn, optCmp]
    | some r =>
      have h := cmpScalarFn_val l r
      unfold cmpScalarFn at h
      unfold cmpOptionFn
      simpa [optCmp] using h

/-! ### the equivalence theorems: scalars -/

theorem cmp_u8_eq (left right : Nat) :
    Extracted.cmp_u8 left right = .ok (cmpInt (Int.ofNat left) (Int.ofNat right)) :=
  cmpScalarFn_eq Int.ofNat ofNat_inj ofNat_lt left right

theorem cmp_u8_std (left right : Nat) : Extracted.cmp_u8 left right = .ok (compare left right) := by
  rw [cmp_u8_fn, cmpScalarFn_val, compare_nat]

example : Extracted.cmp_u8 3 200 = .ok .lt := by decide +kernel
example : Extracted.cmp_u8 255 0 = .ok (cmpInt 255 0) := cmp_u8_eq _ _
example : Extracted.cmp_u8 7 7 = .ok .eq := by decide +kernel

theorem cmp_i8_eq (left right : Int) : Extracted.cmp_i8 left right = .ok (cmpInt left right) :=
  cmpScalarFn_eq id id_inj id_lt left right

theorem cmp_i8_std (left right : Int) : Extracted.cmp_i8 left right = .ok (compare left right) := by
  rw [cmp_i8_fn, cmpScalarFn_val, compare_int]

example : Extracted.cmp_i8 (-128) 127 = .ok .lt := by decide +kernel
example : Extracted.cmp_i8 (-1) (-2) = .ok (cmpInt (-1) (-2)) := cmp_i8_eq _ _

theorem cmp_u64_eq (left right : Nat) :
    Extracted.cmp_u64 left right = .ok (cmpInt (Int.ofNat left) (Int.ofNat right)) :=
  cmpScalarFn_eq Int.ofNat ofNat_inj ofNat_lt left right

theorem cmp_u64_std (left right : Nat) : Extracted.cmp_u64 left right = .ok (compare left right) := by
  rw [cmp_u64_fn, cmpScalarFn_val, compare_nat]

example : Extracted.cmp_u64 18446744073709551615 0 = .ok .gt := by decide +kernel

theorem cmp_i128_eq (left right : Int) : Extracted.cmp_i128 left right = .ok (cmpInt left right) :=
  cmpScalarFn_eq id id_inj id_lt left right

theorem cmp_i128_std (left right : Int) : Extracted.cmp_i128 left right = .ok (compare left right) := by
  rw [cmp_i128_fn, cmpScalarFn_val, compare_int]

example : Extracted.cmp_i128 (-170141183460469231731687303715884105728)
    170141183460469231731687303715884105727 = .ok .lt := by decide +kernel

theorem cmp_usize_eq (left right : Nat) :
    Extracted.cmp_usize left right = .ok (cmpInt (Int.ofNat left) (Int.ofNat right)) :=
  cmpScalarFn_eq Int.ofNat ofNat_inj ofNat_lt left right

theorem cmp_usize_std (left right : Nat) : Extracted.cmp_usize left right = .ok (compare left right) := by
  rw [cmp_usize_fn, cmpScalarFn_val, compare_nat]

example : Extracted.cmp_usize 5 5 = .ok .eq := by decide +kernel

theorem cmp_bool_eq (left right : Bool) :
    Extracted.cmp_bool left right = .ok (cmpInt (boolInt left) (boolInt right)) :=
  cmpScalarFn_eq boolInt boolInt_inj boolInt_lt left right

theorem cmp_bool_std (left right : Bool) : Extracted.cmp_bool left right = .ok (compare left right) := by
  rw [cmp_bool_fn, cmpScalarFn_val, compare_bool]

theorem cmp_bool_table :
    Extracted.cmp_bool false false = .ok .eq ∧ Extracted.cmp_bool false true = .ok .lt ∧
    Extracted.cmp_bool true false = .ok .gt ∧ Extracted.cmp_bool true true = .ok .eq := by decide

example : Extracted.cmp_bool false true = .ok (cmpInt 0 1) := cmp_bool_eq _ _

theorem cmp_char_eq (left right : Nat) :
    Extracted.cmp_char left right = .ok (cmpInt (Int.ofNat left) (Int.ofNat right)) :=
  cmpScalarFn_eq Int.ofNat ofNat_inj ofNat_lt left right

theorem cmp_char_std (left right : Nat) : Extracted.cmp_char left right = .ok (compare left right) := by
  rw [cmp_char_fn, cmpScalarFn_val, compare_nat]

example : Extracted.cmp_char 0x10FFFF 0x61 = .ok .gt := by decide +kernel

/-! ### the equivalence theorems: `Option` of a scalar -/

theorem eq_option_u8_eq (left right : Option Nat) :
    ∃ b, eqOption (fun a b => some (eqPrim a b)) (left.map Int.ofNat) (right.map Int.ofNat) = some b ∧
      Extracted.eq_option_u8 left right = .ok b := by
  rw [eq_option_u8_fn]
  exact eqOptionFn_eq Int.ofNat ofNat_inj left right

theorem eq_option_u8_std (left right : Option Nat) :
    Extracted.eq_option_u8 left right = .ok (stdEq left right) := by
  rw [eq_option_u8_fn]
  exact eqOptionFn_std left right

theorem cmp_option_u8_eq (left right : Option Nat) :
    ∃ c, cmpOption (fun a b => some (cmpInt a b)) (left.map Int.ofNat) (right.map Int.ofNat) = some c ∧
      Extracted.cmp_option_u8 left right = .ok c := by
  rw [cmp_option_u8_fn]
  exact cmpOptionFn_eq Int.ofNat ofNat_inj ofNat_lt left right

theorem cmp_option_u8_std (left right : Option Nat) :
    Extracted.cmp_option_u8 left right = .ok (optCmp compare left right) := by
  rw [cmp_option_u8_fn, cmpOptionFn_val]
  simp only [← compare_nat]

example : Extracted.eq_option_u8 (some 3) (some 3) = .ok true := by decide +kernel
example : Extracted.eq_option_u8 (some 3) none = .ok false := by decide +kernel
example : Extracted.cmp_option_u8 none (some 0) = .ok .lt := by decide +kernel
example : Extracted.cmp_option_u8 (some 9) (some 200) = .ok .lt := by decide +kernel
example : ∃ c, cmpOption (fun a b => some (cmpInt a b)) (some 9) none = some c ∧
    Extracted.cmp_option_u8 (some 9) none = .ok c := cmp_option_u8_eq (some 9) none

theorem eq_option_i8_eq (left right : Option Int) :
    ∃ b, eqOption (fun a b => some (eqPrim a b)) left right = some b ∧
      Extracted.eq_option_i8 left right = .ok b := by
  rw [eq_option_i8_fn]
  have h := eqOptionFn_eq id id_inj left right
  simp only [Option.map_id_fun, id_eq] at h
  exact h

theorem eq_option_i8_std (left right : Option Int) :
    Extracted.eq_option_i8 left right = .ok (stdEq left right) := by
  rw [eq_option_i8_fn]
  exact eqOptionFn_std left right

theorem cmp_option_i8_eq (left right : Option Int) :
    ∃ c, cmpOption (fun a b => some (cmpInt a b)) left right = some c ∧
      Extracted.cmp_option_i8 left right = .ok c := by
  rw [cmp_option_i8_fn]
  have h := cmpOptionFn_eq id id_inj id_lt left right
  simp only [Option.map_id_fun, id_eq] at h
  exact h

theorem cmp_option_i8_std (left right : Option Int) :
    Extracted.cmp_option_i8 left right = .ok (optCmp compare left right) := by
  rw [cmp_option_i8_fn, cmpOptionFn_val]
  simp only [← compare_int]

example : Extracted.eq_option_i8 (some (-1)) (some 1) = .ok false := by decide +kernel
example : Extracted.cmp_option_i8 (some (-128)) (some 127) = .ok .lt := by decide +kernel
example : Extracted.cmp_option_i8 (some (-128)) none = .ok .gt := by decide +kernel

theorem eq_option_bool_eq (left right : Option Bool) :
    ∃ b, eqOption (fun a b => some (eqPrim a b)) (left.map boolInt) (right.map boolInt) = some b ∧
      Extracted.eq_option_bool left right = .ok b := by
  rw [eq_option_bool_fn]
  exact eqOptionFn_eq boolInt boolInt_inj left right

theorem eq_option_bool_std (left right : Option Bool) :
    Extracted.eq_option_bool left right = .ok (stdEq left right) := by
  rw [eq_option_bool_fn]
  exact eqOptionFn_std left right

theorem cmp_option_bool_eq (left right : Option Bool) :
    ∃ c, cmpOption (fun a b => some (cmpInt a b)) (left.map boolInt) (right.map boolInt) = some c ∧
      Extracted.cmp_option_bool left right = .ok c := by
  rw [cmp_option_bool_fn]
  exact cmpOptionFn_eq boolInt boolInt_inj boolInt_lt left right

theorem cmp_option_bool_std (left right : Option Bool) :
    Extracted.cmp_option_bool left right = .ok (optCmp compare left right) := by
  rw [cmp_option_bool_fn, cmpOptionFn_val]
  simp only [← compare_bool]

example : Extracted.eq_option_bool none none = .ok true := by decide +kernel
example : Extracted.cmp_option_bool (some false) (some true) = .ok .lt := by decide +kernel
example : Extracted.cmp_option_bool none (some false) = .ok .lt := by decide +kernel

theorem eq_option_char_eq (left right : Option Nat) :
    ∃ b, eqOption (fun a b => some (eqPrim a b)) (left.map Int.ofNat) (right.map Int.ofNat) = some b ∧
      Extracted.eq_option_char left right = .ok b := by
  rw [eq_option_char_fn]
  exact eqOptionFn_eq Int.ofNat ofNat_inj left right

theorem eq_option_char_std (left right : Option Nat) :
    Extracted.eq_option_char left right = .ok (stdEq left right) := by
  rw [eq_option_char_fn]
  exact eqOptionFn_std left right

theorem cmp_option_char_eq (left right : Option Nat) :
    ∃ c, cmpOption (fun a b => some (cmpInt a b)) (left.map Int.ofNat) (right.map Int.ofNat) = some c ∧
      Extracted.cmp_option_char left right = .ok c := by
  rw [cmp_option_char_fn]
  exact cmpOptionFn_eq Int.ofNat ofNat_inj ofNat_lt left right

theorem cmp_option_char_std (left right : Option Nat) :
    Extracted.cmp_option_char left right = .ok (optCmp compare left right) := by
  rw [cmp_option_char_fn, cmpOptionFn_val]
  simp only [← compare_nat]

example : Extracted.eq_option_char (some 0x61) (some 0x62) = .ok false := by decide +kernel
example : Extracted.cmp_option_char (some 0x10FFFF) (some 0x61) = .ok .gt := by decide +kernel

/-! ### hypotheses asked for the `(Some(l), Some(r))` arm only -/

/-- discharged at concrete arguments -/
theorem of_some_some {α : Type} {P : α → α → Prop} {a b : α} (h : P a b) :
    ∀ l r, some a = some l → some b = some r → P l r := by
  intro l r hl hr
  cases hl
  cases hr
  exact h

/-- two of them handed to a theorem about the payloads -/
theorem some_some_arm {α : Type} {left right : Option α} {P Q R : α → α → Prop}
    (hb : ∀ l r, left = some l → right = some r → P l r) (hf : ∀ l r, left = some l → right = some r → Q l r)
    (h : ∀ l r, P l r → Q l r → R l r) : ∀ l r, left = some l → right = some r → R l r :=
  fun l r hl hr => h l r (hb l r hl hr) (hf l r hl hr)

/-! ### `Option<&[u8]>`: the `(Some(l), Some(r))` arm runs the loops of `eq_bytes` / `cmp_bytes`

  Bound and fuel hypotheses exactly as for `eq_bytes_eq` / `cmp_bytes_eq`, required only when both
  arguments are `Some` (the other arms neither loop nor index). -/

theorem eq_option_bytes_eq (fuel : Nat) (left right : Option (List Nat))
    (hb : ∀ l r, left = some l → right = some r → min l.length r.length < 2 ^ 64)
    (hf : ∀ l r, left = some l → right = some r → min l.length r.length + 1 ≤ fuel) :
    ∃ b, eqOption eqSlice (left.map (List.map Int.ofNat)) (right.map (List.map Int.ofNat)) = some b ∧
      Extracted.eq_option_bytes fuel left right = .ok b := by
  unfold Extracted.eq_option_bytes
  cases left with
  | none => cases right <;> simp [eqOption]
  | some l =>
    cases right with
    | none => simp [eqOption]
    | some r =>
      obtain ⟨b, h1, h2⟩ := eq_bytes_eq fuel l r (hb l r rfl rfl) (hf l r rfl rfl)
      exact ⟨b, by simpa [eqOption] using h1, by simp [h2]⟩

example : ∃ b, eqOption eqSlice (some [1, 2, 3]) (some [1, 2, 4]) = some b ∧
    Extracted.eq_option_bytes 4 (some [1, 2, 3]) (some [1, 2, 4]) = .ok b :=
  eq_option_bytes_eq 4 (some [1, 2, 3]) (some [1, 2, 4])
    (of_some_some (by decide +kernel)) (of_some_some (by decide +kernel))
example : Extracted.eq_option_bytes 4 (some [1, 2, 3]) (some [1, 2, 4]) = .ok false := by decide +kernel
example : Extracted.eq_option_bytes 4 (some [1, 2, 3]) (some [1, 2, 3]) = .ok true := by decide +kernel
example : Extracted.eq_option_bytes 0 none none = .ok true := by decide +kernel
example : Extracted.eq_option_bytes 0 (some []) none = .ok false := by decide +kernel

theorem cmp_option_bytes_eq (fuel : Nat) (left right : Option (List Nat))
    (hb : ∀ l r, left = some l → right = some r → min l.length r.length < 2 ^ 64)
    (hf : ∀ l r, left = some l → right = some r → min l.length r.length + 1 ≤ fuel) :
    ∃ c, cmpOption cmpSlice (left.map (List.map Int.ofNat)) (right.map (List.map Int.ofNat)) = some c ∧
      Extracted.cmp_option_bytes fuel left right = .ok c := by
  unfold Extracted.cmp_option_bytes
  cases left with
  | none => cases right <;> simp [cmpOption]
  | some l =>
    cases right with
    | none => simp [cmpOption]
    | some r =>
      obtain ⟨c, h1, h2⟩ := cmp_bytes_eq fuel l r (hb l r rfl rfl) (hf l r rfl rfl)
      exact ⟨c, by simpa [cmpOption] using h1, by simp [h2]⟩

example : ∃ c, cmpOption cmpSlice (some [1, 9]) (some [1, 2, 0]) = some c ∧
    Extracted.cmp_option_bytes 3 (some [1, 9]) (some [1, 2, 0]) = .ok c :=
  cmp_option_bytes_eq 3 (some [1, 9]) (some [1, 2, 0])
    (of_some_some (by decide +kernel)) (of_some_some (by decide +kernel))
example : Extracted.cmp_option_bytes 3 (some [1, 9]) (some [1, 2, 0]) = .ok .gt := by decide +kernel
example : Extracted.cmp_option_bytes 3 (some [1, 2]) (some [1, 2, 0]) = .ok .lt := by decide +kernel
example : Extracted.cmp_option_bytes 0 none (some [1]) = .ok .lt := by decide +kernel
example : Extracted.cmp_option_bytes 0 (some []) none = .ok .gt := by decide +kernel

end Extracted.Equiv
