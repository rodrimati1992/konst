import KonstVerif.Extracted.Gen.StrFns
import KonstVerif.Extracted.Equiv.SliceFns
import KonstVerif.Extracted.Equiv.Bytes2
import KonstVerif.Extracted.Equiv.BytesTrim
import KonstVerif.Extracted.Equiv.Str
import KonstVerif.Model.StrFns
import KonstVerif.Model.Utf8
/-
  Extracted = Model, for the str-level functions of `konst::string`
  (group `StrFns`, 22 functions):

    * search (C04):     find, contains, rfind, rcontains, find_skip, find_keep, rfind_skip, rfind_keep
    * prefix/suffix/trim (C05): starts_with, ends_with, strip_prefix, strip_suffix, trim, trim_start,
                        trim_end, trim_matches, trim_start_matches, trim_end_matches
    * index based (C03): get_up_to, get_from, get_range, split_at

  A `&str` is its byte list; a pattern (`PatternNorm::new(pat).as_bytes()`) is its byte list.
  The pattern functions are related to `Konst.StrFns.*` (Model/StrFns.lean), whose `View` results are
  applied to the haystack.  The index-based functions are related to `Konst.Utf8.getUpTo/getFrom/getRange/
  splitAt` (Model/Utf8.lean, the definitions Props/C03.lean is about); `split_at` is additionally related to
  `Konst.StrFns.splitAt` (same function with an anonymous panic, used by the split_once model).

  Hypotheses: explicit fuel and the machine bounds of the byte-level callee theorems (Equiv/Bytes*.lean);
  `∀ b ∈ s, b < 256` where the code casts a byte `as i8` (char-boundary tests).
  `__from_u8_subslice_of_str` is the identity on the bytes (`from_u8_subslice_of_str_eq`).
-/
namespace Extracted.Equiv
open Rs Konst

theorem str_starts_with_eq (fuel : Nat) (left pat : List Nat) (hf : pat.length + 1 ≤ fuel) :
    Extracted.str_starts_with fuel left pat = .ok (StrFns.startsWith left pat) := by
  unfold Extracted.str_starts_with StrFns.startsWith
  simp [bytes_start_with_eq fuel left pat hf]

example : Extracted.str_starts_with 3 [104, 105, 33] [104, 105] = .ok true := by
  decide +kernel

theorem str_ends_with_eq (fuel : Nat) (left pat : List Nat) (hf : pat.length + 1 ≤ fuel) :
    Extracted.str_ends_with fuel left pat = .ok (StrFns.endsWith left pat) := by
  unfold Extracted.str_ends_with StrFns.endsWith
  simp [bytes_end_with_eq fuel left pat hf]

example : Extracted.str_ends_with 3 [104, 105, 33] [104, 105] = .ok false := by
  decide +kernel

theorem str_find_eq (fuel : Nat) (left pat : List Nat)
    (hb : left.length + pat.length + 1 < 2 ^ 64) (hf : left.length + pat.length + 2 ≤ fuel) :
    Extracted.str_find fuel left pat = .ok (StrFns.find left pat) := by
  unfold Extracted.str_find StrFns.find
  simp [bytes_find_eq fuel left pat hb hf]

example : Extracted.str_find 7 [97, 98, 99, 98] [98] = .ok (some 1) := by
  decide +kernel

theorem str_contains_eq (fuel : Nat) (left pat : List Nat)
    (hb : left.length + pat.length + 1 < 2 ^ 64) (hf : left.length + pat.length + 2 ≤ fuel) :
    Extracted.str_contains fuel left pat = .ok (StrFns.contains left pat) := by
  refine (run_call_bind (bytes_find_eq fuel left pat hb hf) _).trans ?_
  unfold StrFns.contains
  cases Bytes.bytesFind left pat <;> rfl

example : Extracted.str_contains 8 [97, 98, 99, 98] [99, 98] = .ok true := by
  decide +kernel

theorem str_rfind_eq (fuel : Nat) (left pat : List Nat)
    (hb : left.length < 2 ^ 64) (hf : left.length + 1 ≤ fuel) :
    Extracted.str_rfind fuel left pat = .ok (StrFns.rfind left pat) := by
  unfold Extracted.str_rfind StrFns.rfind
  simp [bytes_rfind_eq fuel left pat hb hf]

example : Extracted.str_rfind 5 [97, 98, 99, 98] [98] = .ok (some 3) := by
  decide +kernel

theorem str_rcontains_eq (fuel : Nat) (left pat : List Nat)
    (hb : left.length < 2 ^ 64) (hf : left.length + 1 ≤ fuel) :
    Extracted.str_rcontains fuel left pat = .ok (StrFns.rcontains left pat) := by
  refine (run_call_bind (bytes_rfind_eq fuel left pat hb hf) _).trans ?_
  unfold StrFns.rcontains
  cases Bytes.bytesRfind left pat <;> rfl

example : Extracted.str_rcontains 5 [97, 98, 99, 98] [100] = .ok false := by
  decide +kernel

theorem str_get_up_to_eq (string : List Nat) (len : Nat) (hb : ∀ b ∈ string, b < 256) :
    Extracted.str_get_up_to string len
      = .ok (Option.map (fun v => v.apply string) (Utf8.getUpTo string len)) := by
  simp only [Extracted.str_get_up_to, Utf8.getUpTo, get_up_to_eq, is_char_boundary_bytes_eq _ _ hb]
  cases Slice.getUpTo string.length len with
  | none => rfl
  | some x => cases Utf8.isCharBoundaryBytes string len <;> rfl

example : Extracted.str_get_up_to [0x41, 0xE2, 0x82, 0xAC] 1 = .ok (some [0x41]) := by
  decide +kernel
example : Extracted.str_get_up_to [0x41, 0xE2, 0x82, 0xAC] 2 = .ok none := by
  decide +kernel
example : Extracted.str_get_up_to [0x41, 0xE2, 0x82, 0xAC] 5 = .ok none := by
  decide +kernel

theorem str_get_from_eq (string : List Nat) (from_ : Nat) (hb : ∀ b ∈ string, b < 256) :
    Extracted.str_get_from string from_
      = .ok (Option.map (fun v => v.apply string) (Utf8.getFrom string from_)) := by
  simp only [Extracted.str_get_from, Utf8.getFrom, get_from_eq, is_char_boundary_bytes_eq _ _ hb]
  cases Slice.getFrom string.length from_ with
  | none => rfl
  | some x => cases Utf8.isCharBoundaryBytes string from_ <;> rfl

example : Extracted.str_get_from [0x41, 0xE2, 0x82, 0xAC] 1 = .ok (some [0xE2, 0x82, 0xAC]) := by
  decide +kernel
example : Extracted.str_get_from [0x41, 0xE2, 0x82, 0xAC] 3 = .ok none := by
  decide +kernel
example : Extracted.str_get_from [0x41, 0xE2, 0x82, 0xAC] 4 = .ok (some []) := by
  decide +kernel

theorem str_get_range_eq (string : List Nat) (start end_ : Nat) (hb : ∀ b ∈ string, b < 256) :
    Extracted.str_get_range string start end_
      = .ok (Option.map (fun v => v.apply string) (Utf8.getRange string start end_)) := by
  simp only [Extracted.str_get_range, Utf8.getRange, get_range_eq, is_char_boundary_bytes_eq _ _ hb]
  cases Slice.getRange string.length start end_ with
  | none => rfl
  | some x =>
    cases Utf8.isCharBoundaryBytes string start
    · rfl
    · cases Utf8.isCharBoundaryBytes string end_ <;> rfl

example : Extracted.str_get_range [0x41, 0xE2, 0x82, 0xAC, 0x42] 1 4 = .ok (some [0xE2, 0x82, 0xAC]) := by
  decide +kernel
example : Extracted.str_get_range [0x41, 0xE2, 0x82, 0xAC, 0x42] 1 3 = .ok none := by
  decide +kernel
example : Extracted.str_get_range [0x41, 0xE2, 0x82, 0xAC, 0x42] 4 1 = .ok none := by
  decide +kernel

def resOfExceptPair (s : List Nat) : Except Utf8.Panic (View × View) → Res (List Nat × List Nat)
  | .ok (a, b) => .ok (a.apply s, b.apply s)
  | .error _ => .panic

@[simp] theorem resOfExceptPair_ok (s : List Nat) (a b : View) :
    resOfExceptPair s (.ok (a, b)) = .ok (a.apply s, b.apply s) := rfl
@[simp] theorem resOfExceptPair_error (s : List Nat) (e : Utf8.Panic) :
    resOfExceptPair s (.error e) = .panic := rfl

theorem str_split_at_eq (string : List Nat) (at_ : Nat) (hb : ∀ b ∈ string, b < 256) :
    Extracted.str_split_at string at_ = resOfExceptPair string (Utf8.splitAt string at_) := by
  unfold Extracted.str_split_at Utf8.splitAt
  simp only [str_up_to_eq _ _ hb, str_from_eq _ _ hb]
  unfold Utf8.strUpTo Utf8.strFrom
  cases Utf8.isCharBoundaryForgiving string at_ <;> rfl

theorem str_split_at_ok (string : List Nat) (at_ : Nat) (hb : ∀ b ∈ string, b < 256)
    (h : Utf8.isCharBoundaryForgiving string at_ = true) :
    Extracted.str_split_at string at_
      = .ok ((Slice.sliceUpTo string.length at_).apply string,
             (Slice.sliceFrom string.length at_).apply string) := by
  rw [str_split_at_eq _ _ hb]
  unfold Utf8.splitAt Utf8.strUpTo Utf8.strFrom
  rw [h]; rfl

theorem str_split_at_panic (string : List Nat) (at_ : Nat) (hb : ∀ b ∈ string, b < 256)
    (h : Utf8.isCharBoundaryForgiving string at_ = false) :
    Extracted.str_split_at string at_ = .panic := by
  rw [str_split_at_eq _ _ hb]
  unfold Utf8.splitAt Utf8.strUpTo
  rw [h]; rfl

example : Extracted.str_split_at [0x41, 0xE2, 0x82, 0xAC] 1 = .ok ([0x41], [0xE2, 0x82, 0xAC]) := by decide +kernel
example : Extracted.str_split_at [0x41, 0xE2, 0x82, 0xAC] 2 = .panic := by decide +kernel
example : Extracted.str_split_at [0x41, 0xE2, 0x82, 0xAC] 9 = .ok ([0x41, 0xE2, 0x82, 0xAC], []) := by decide +kernel
example : Extracted.str_split_at [0x41, 0xE2, 0x82, 0xAC] 2
    = resOfExceptPair [0x41, 0xE2, 0x82, 0xAC] (Utf8.splitAt [0x41, 0xE2, 0x82, 0xAC] 2) :=
  str_split_at_eq _ _ (by decide)

/-- `Konst.StrFns` re-declares the forgiving test (through `bytes[position]?`); it is the `Konst.Utf8` one -/
theorem strFns_isCharBoundaryForgiving_eq (bytes : List Nat) (position : Nat) :
    StrFns.isCharBoundaryForgiving bytes position = Utf8.isCharBoundaryForgiving bytes position := by
  unfold StrFns.isCharBoundaryForgiving Utf8.isCharBoundaryForgiving
  by_cases h : position < bytes.length
  · rw [List.getD_eq_getElem?_getD, List.getElem?_eq_getElem h, decide_eq_false (Nat.not_le_of_lt h)]
    rfl
  · rw [List.getElem?_eq_none (Nat.le_of_not_lt h), decide_eq_true (Nat.le_of_not_lt h)]
    rfl

def resOfExceptUnitPair (s : List Nat) : Except Unit (View × View) → Res (List Nat × List Nat)
  | .ok (a, b) => .ok (a.apply s, b.apply s)
  | .error _ => .panic

theorem str_split_at_eq_strfns (string : List Nat) (at_ : Nat) (hb : ∀ b ∈ string, b < 256) :
    Extracted.str_split_at string at_ = resOfExceptUnitPair string (StrFns.splitAt string at_) := by
  rw [str_split_at_eq _ _ hb]
  unfold Utf8.splitAt Utf8.strUpTo Utf8.strFrom StrFns.splitAt StrFns.strUpTo StrFns.strFrom
  rw [strFns_isCharBoundaryForgiving_eq]
  cases Utf8.isCharBoundaryForgiving string at_ <;> rfl

example : Extracted.str_split_at [0x41, 0xE2, 0x82, 0xAC] 3
    = resOfExceptUnitPair [0x41, 0xE2, 0x82, 0xAC] (StrFns.splitAt [0x41, 0xE2, 0x82, 0xAC] 3) :=
  str_split_at_eq_strfns _ _ (by decide)

theorem stripPrefixL_suffix {left pre r : List Nat} (h : Bytes.stripPrefixL left pre = some r) :
    r <:+ left := by
  rw [Lemmas.Bytes.stripPrefixL_eq] at h
  unfold Spec.Bytes.stripPrefixSpec at h
  by_cases hp : pre.isPrefixOf left = true
  · simp only [hp, ↓reduceIte, Option.some.injEq] at h
    subst h
    exact List.drop_suffix _ _
  · simp [hp] at h

theorem stripSuffixL_prefix {left suf r : List Nat} (h : Bytes.stripSuffixL left suf = some r) :
    r <+: left := by
  rw [Lemmas.Bytes.stripSuffixL_eq] at h
  unfold Spec.Bytes.stripSuffixSpec at h
  by_cases hp : suf.isSuffixOf left = true
  · simp only [hp, ↓reduceIte, Option.some.injEq] at h
    subst h
    exact List.take_prefix _ _
  · simp [hp] at h

theorem str_strip_prefix_eq (fuel : Nat) (string pattern : List Nat) (hf : pattern.length + 1 ≤ fuel) :
    Extracted.str_strip_prefix fuel string pattern
      = .ok (Option.map (fun v => v.apply string) (StrFns.stripPrefix string pattern)) := by
  refine (run_call_bind (bytes_strip_prefix_eq fuel string pattern hf) _).trans ?_
  unfold StrFns.stripPrefix Bytes.stripPrefix
  cases hr : Bytes.stripPrefixL string pattern with
  | none => rfl
  | some r => exact congrArg (Res.ok ∘ some) (Lemmas.Bytes.suffixView_apply (stripPrefixL_suffix hr)).symm

example : Extracted.str_strip_prefix 3 [104, 105, 33] [104, 105] = .ok (some [33]) := by
  decide +kernel
example : Extracted.str_strip_prefix 3 [104, 105, 33] [105] = .ok none := by
  decide +kernel

theorem str_strip_suffix_eq (fuel : Nat) (string pattern : List Nat) (hf : pattern.length + 1 ≤ fuel) :
    Extracted.str_strip_suffix fuel string pattern
      = .ok (Option.map (fun v => v.apply string) (StrFns.stripSuffix string pattern)) := by
  refine (run_call_bind (bytes_strip_suffix_eq fuel string pattern hf) _).trans ?_
  unfold StrFns.stripSuffix Bytes.stripSuffix
  cases hr : Bytes.stripSuffixL string pattern with
  | none => rfl
  | some r => exact congrArg (Res.ok ∘ some) (Lemmas.Bytes.prefixView_apply (stripSuffixL_prefix hr)).symm

example : Extracted.str_strip_suffix 3 [104, 105, 33] [105, 33] = .ok (some [104]) := by
  decide +kernel
example : Extracted.str_strip_suffix 3 [104, 105, 33] [105] = .ok none := by
  decide +kernel

theorem str_trim_eq (fuel : Nat) (this : List Nat) (hf : this.length + 1 ≤ fuel) :
    Extracted.str_trim fuel this = .ok ((StrFns.trim this).apply this) :=
  (run_call_bind (bytes_trim_eq fuel this hf) _).trans rfl

example : Extracted.str_trim 6 [32, 12, 120, 9, 13] = .ok [120] := by
  decide +kernel

theorem str_trim_start_eq (fuel : Nat) (this : List Nat) (hf : this.length + 1 ≤ fuel) :
    Extracted.str_trim_start fuel this = .ok ((StrFns.trimStart this).apply this) :=
  (run_call_bind (bytes_trim_start_eq fuel this hf) _).trans
    (congrArg Res.ok (Lemmas.Bytes.suffixView_apply (bytesTrimStartL_suffix this)).symm)

example : Extracted.str_trim_start 6 [32, 12, 120, 9, 13] = .ok [120, 9, 13] := by
  decide +kernel

theorem str_trim_end_eq (fuel : Nat) (this : List Nat) (hf : this.length + 1 ≤ fuel) :
    Extracted.str_trim_end fuel this = .ok ((StrFns.trimEnd this).apply this) :=
  (run_call_bind (bytes_trim_end_eq fuel this hf) _).trans
    (congrArg Res.ok (Lemmas.Bytes.prefixView_apply (bytesTrimEndL_prefix this)).symm)

example : Extracted.str_trim_end 6 [32, 12, 120, 9, 13] = .ok [32, 12, 120] := by
  decide +kernel

theorem str_trim_matches_eq (fuel : Nat) (this needle : List Nat)
    (hf : this.length + needle.length + 1 ≤ fuel) :
    Extracted.str_trim_matches fuel this needle = .ok ((StrFns.trimMatches this needle).apply this) :=
  (run_call_bind (bytes_trim_matches_eq fuel this needle hf) _).trans rfl

example : Extracted.str_trim_matches 9 [1, 1, 1, 5, 1, 1] [1, 1] = .ok [1, 5] := by
  decide +kernel

theorem str_trim_start_matches_eq (fuel : Nat) (this needle : List Nat)
    (hf : this.length + needle.length + 1 ≤ fuel) :
    Extracted.str_trim_start_matches fuel this needle
      = .ok ((StrFns.trimStartMatches this needle).apply this) :=
  (run_call_bind (bytes_trim_start_matches_eq fuel this needle hf) _).trans
    (congrArg Res.ok (Lemmas.Bytes.suffixView_apply (trimStartMatchesL_suffix this needle)).symm)

example : Extracted.str_trim_start_matches 9 [1, 2, 1, 2, 1, 3] [1, 2] = .ok [1, 3] := by
  decide +kernel

theorem str_trim_end_matches_eq (fuel : Nat) (this needle : List Nat)
    (hf : this.length + needle.length + 1 ≤ fuel) :
    Extracted.str_trim_end_matches fuel this needle
      = .ok ((StrFns.trimEndMatches this needle).apply this) :=
  (run_call_bind (bytes_trim_end_matches_eq fuel this needle hf) _).trans
    (congrArg Res.ok (Lemmas.Bytes.prefixView_apply (trimEndMatchesL_prefix this needle)).symm)

example : Extracted.str_trim_end_matches 9 [3, 1, 1, 2, 1, 2] [1, 2] = .ok [3, 1] := by
  decide +kernel

theorem str_find_skip_eq (fuel : Nat) (this needle : List Nat)
    (hb : this.length + needle.length + 1 < 2 ^ 64) (hf : this.length + needle.length + 2 ≤ fuel) :
    Extracted.str_find_skip fuel this needle
      = .ok (Option.map (fun v => v.apply this) (StrFns.findSkip this needle)) := by
  refine (run_call_bind (bytes_find_skip_eq fuel this needle hb hf) _).trans ?_
  unfold StrFns.findSkip
  cases Bytes.findSkip this needle <;> rfl

example : Extracted.str_find_skip 8 [1, 2, 3, 4] [2, 3] = .ok (some [4]) := by
  decide +kernel

theorem str_find_keep_eq (fuel : Nat) (this needle : List Nat)
    (hb : this.length + needle.length + 1 < 2 ^ 64) (hf : this.length + needle.length + 2 ≤ fuel) :
    Extracted.str_find_keep fuel this needle
      = .ok (Option.map (fun v => v.apply this) (StrFns.findKeep this needle)) := by
  refine (run_call_bind (bytes_find_keep_eq fuel this needle hb hf) _).trans ?_
  unfold StrFns.findKeep
  cases Bytes.findKeep this needle <;> rfl

example : Extracted.str_find_keep 8 [1, 2, 3, 4] [2, 3] = .ok (some [2, 3, 4]) := by
  decide +kernel

theorem str_rfind_skip_eq (fuel : Nat) (this needle : List Nat)
    (hb : this.length < 2 ^ 64) (hf : this.length + 1 ≤ fuel) :
    Extracted.str_rfind_skip fuel this needle
      = .ok (Option.map (fun v => v.apply this) (StrFns.rfindSkip this needle)) := by
  refine (run_call_bind (bytes_rfind_skip_eq fuel this needle hb hf) _).trans ?_
  unfold StrFns.rfindSkip
  cases Bytes.rfindSkip this needle <;> rfl

example : Extracted.str_rfind_skip 6 [1, 2, 3, 2, 3] [2, 3] = .ok (some [1, 2, 3]) := by
  decide +kernel

theorem str_rfind_keep_eq (fuel : Nat) (this needle : List Nat)
    (hb : this.length < 2 ^ 64) (hf : this.length + 1 ≤ fuel) :
    Extracted.str_rfind_keep fuel this needle
      = .ok (Option.map (fun v => v.apply this) (StrFns.rfindKeep this needle)) := by
  refine (run_call_bind (bytes_rfind_keep_eq fuel this needle hb hf) _).trans ?_
  unfold StrFns.rfindKeep
  cases Bytes.rfindKeep this needle <;> rfl

example : Extracted.str_rfind_keep 7 [1, 2, 3, 2, 3, 4] [2, 3] = .ok (some [1, 2, 3, 2, 3]) := by
  decide +kernel

/-! ### where `find` / `rfind` report a position -/

theorem bytesFind_le (left pat : List Nat) (k : Nat) (h : Bytes.bytesFind left pat = some k) :
    k ≤ left.length :=
  ((Lemmas.Bytes.findLoop_spec left pat (left.length + 1) 0 (by omega) (by intro j hj; omega)).1 k h).2.1

theorem bytesRfind_le (left pat : List Nat) (hne : pat.isEmpty = false) (k : Nat)
    (h : Bytes.bytesRfind left pat = some k) : k + pat.length ≤ left.length := by
  unfold Bytes.bytesRfind at h
  simp only [hne, Bool.false_eq_true, ↓reduceIte] at h
  by_cases hlen : pat.length > left.length
  · simp [hlen] at h
  · simp only [hlen, ↓reduceIte] at h
    have := rfindLoop_lt left pat _ k h
    omega

/-- every position `string::rfind` reports leaves room for the pattern (also for the empty pattern, where
    the code answers `len.saturating_sub(1)`) -/
theorem rfind_add_le (left pat : List Nat) (k : Nat) (h : StrFns.rfind left pat = some k) :
    k + pat.length ≤ left.length := by
  cases pat with
  | nil =>
    injection h with h
    subst h
    exact Nat.sub_le _ _
  | cons a p => exact bytesRfind_le left (a :: p) rfl k h

end Extracted.Equiv
