import KonstVerif.Extracted.Gen.SliceIter2
import KonstVerif.Extracted.Equiv.SliceIter
import KonstVerif.Model.SliceIter
/-
  Extracted = Model/SliceIter.lean, group `SliceIter2`:
  konst_kernel::into_iter::slice_into_iter::{iter, Iter, IterRev} and
  konst_kernel::into_iter::slice_into_iter::copied::{iter_copied, IterCopied, IterCopiedRev}
  (constructors, `next`, `next_back`, `as_slice`, `copy` of the four element iterators: 18 functions).

  Conventions are those of `Equiv/SliceIter.lean` (whose `stepRes`/`stepOpt`/`ok_of_res`/`mapState_ne_panic`
  and `unsnoc_nil`/`unsnoc_of_ne_nil` are reused).  The model's iterator state is `It σ = ⟨fwd, fields⟩` (`fwd = true`: the forward struct,
  `fwd = false`: the `*Rev` struct) with `fields = {slice}`, exactly like the generated structures, so
  `X.toIt : Extracted.X T → It (SliceIter.Iter T)` and `X.ofIt` (forgets `fwd`, which a step never changes)
  are field copies.

  Shape of the statements.  None of these functions can panic (no arithmetic, no indexing), in the code and
  in the model, so every theorem is hypothesis-free:

  * `<X>_<step>_eq`: `Extracted.X.step c = .ok (stepOpt X.ofIt (It.step blocks (X.toIt c)))` together with
    the fact that the model's step is not `Step.panic` (so `stepOpt` loses nothing); `<X>_<step>_res` is the
    same statement through `stepRes` (panic ↦ panic), the form the chunk iterators use.
  * `iter_eq`/`iter_copied_eq`, `<X>_as_slice_eq`, `<X>_copy_eq`: `= .ok (the model's value)`.

  `*Rev` structs: `XRev::next` is the text of `X::next_back` and vice versa; in the model the Rev type is
  `fwd = false`, i.e. `It.next` runs `nextBackBlock`.  `[elem, rem @ ..]` is generated as `elem :: rem`,
  `[rem @ .., elem]` as `Rs.unsnoc` (= `dropLast`/`getLast`, the model's `nextBackBlock`).
-/
namespace Extracted.Equiv
open Rs Konst Konst.Slice

def Iter.toModel {T : Type} (c : Extracted.Iter T) : SliceIter.Iter T := ⟨c.slice⟩
def Iter.ofModel {T : Type} (c : SliceIter.Iter T) : Extracted.Iter T := ⟨c.slice⟩
def Iter.toIt {T : Type} (c : Extracted.Iter T) : SliceIter.It (SliceIter.Iter T) :=
  ⟨true, Iter.toModel c⟩
def Iter.ofIt {T : Type} (it : SliceIter.It (SliceIter.Iter T)) : Extracted.Iter T :=
  Iter.ofModel it.fields

def IterRev.toModel {T : Type} (c : Extracted.IterRev T) : SliceIter.Iter T := ⟨c.slice⟩
def IterRev.ofModel {T : Type} (c : SliceIter.Iter T) : Extracted.IterRev T := ⟨c.slice⟩
def IterRev.toIt {T : Type} (c : Extracted.IterRev T) : SliceIter.It (SliceIter.Iter T) :=
  ⟨false, IterRev.toModel c⟩
def IterRev.ofIt {T : Type} (it : SliceIter.It (SliceIter.Iter T)) : Extracted.IterRev T :=
  IterRev.ofModel it.fields

def IterCopied.toModel {T : Type} (c : Extracted.IterCopied T) : SliceIter.IterCopied T := ⟨c.slice⟩
def IterCopied.ofModel {T : Type} (c : SliceIter.IterCopied T) : Extracted.IterCopied T := ⟨c.slice⟩
def IterCopied.toIt {T : Type} (c : Extracted.IterCopied T) :
    SliceIter.It (SliceIter.IterCopied T) :=
  ⟨true, IterCopied.toModel c⟩
def IterCopied.ofIt {T : Type} (it : SliceIter.It (SliceIter.IterCopied T)) :
    Extracted.IterCopied T :=
  IterCopied.ofModel it.fields

def IterCopiedRev.toModel {T : Type} (c : Extracted.IterCopiedRev T) : SliceIter.IterCopied T :=
  ⟨c.slice⟩
def IterCopiedRev.ofModel {T : Type} (c : SliceIter.IterCopied T) : Extracted.IterCopiedRev T :=
  ⟨c.slice⟩
def IterCopiedRev.toIt {T : Type} (c : Extracted.IterCopiedRev T) :
    SliceIter.It (SliceIter.IterCopied T) :=
  ⟨false, IterCopiedRev.toModel c⟩
def IterCopiedRev.ofIt {T : Type} (it : SliceIter.It (SliceIter.IterCopied T)) :
    Extracted.IterCopiedRev T :=
  IterCopiedRev.ofModel it.fields

theorem Iter.ofIt_toIt {T : Type} (c : Extracted.Iter T) : Iter.ofIt (Iter.toIt c) = c := rfl
theorem Iter.toIt_ofIt {T : Type} (it : SliceIter.It (SliceIter.Iter T)) (h : it.fwd = true) :
    Iter.toIt (Iter.ofIt it) = it := by
  cases it; simp_all [Iter.toIt, Iter.ofIt, Iter.toModel, Iter.ofModel]
theorem IterRev.ofIt_toIt {T : Type} (c : Extracted.IterRev T) : IterRev.ofIt (IterRev.toIt c) = c := rfl
theorem IterRev.toIt_ofIt {T : Type} (it : SliceIter.It (SliceIter.Iter T)) (h : it.fwd = false) :
    IterRev.toIt (IterRev.ofIt it) = it := by
  cases it; simp_all [IterRev.toIt, IterRev.ofIt, IterRev.toModel, IterRev.ofModel]
theorem IterCopied.ofIt_toIt {T : Type} (c : Extracted.IterCopied T) :
    IterCopied.ofIt (IterCopied.toIt c) = c := rfl
theorem IterCopied.toIt_ofIt {T : Type} (it : SliceIter.It (SliceIter.IterCopied T))
    (h : it.fwd = true) : IterCopied.toIt (IterCopied.ofIt it) = it := by
  cases it; simp_all [IterCopied.toIt, IterCopied.ofIt, IterCopied.toModel, IterCopied.ofModel]
theorem IterCopiedRev.ofIt_toIt {T : Type} (c : Extracted.IterCopiedRev T) :
    IterCopiedRev.ofIt (IterCopiedRev.toIt c) = c := rfl
theorem IterCopiedRev.toIt_ofIt {T : Type} (it : SliceIter.It (SliceIter.IterCopied T))
    (h : it.fwd = false) : IterCopiedRev.toIt (IterCopiedRev.ofIt it) = it := by
  cases it
  simp_all [IterCopiedRev.toIt, IterCopiedRev.ofIt, IterCopiedRev.toModel, IterCopiedRev.ofModel]

/-! ### the model's blocks never panic -/

theorem Iter.nextBlock_ne_panic {T : Type} (c : SliceIter.Iter T) :
    SliceIter.Iter.nextBlock c ≠ .panic := by
  unfold SliceIter.Iter.nextBlock; split <;> simp

theorem Iter.nextBackBlock_ne_panic {T : Type} (c : SliceIter.Iter T) :
    SliceIter.Iter.nextBackBlock c ≠ .panic := by
  unfold SliceIter.Iter.nextBackBlock; split <;> simp

theorem IterCopied.nextBlock_ne_panic {T : Type} (c : SliceIter.IterCopied T) :
    SliceIter.IterCopied.nextBlock c ≠ .panic := by
  unfold SliceIter.IterCopied.nextBlock; split <;> simp

theorem IterCopied.nextBackBlock_ne_panic {T : Type} (c : SliceIter.IterCopied T) :
    SliceIter.IterCopied.nextBackBlock c ≠ .panic := by
  unfold SliceIter.IterCopied.nextBackBlock; split <;> simp

theorem iter_eq {T : Type} (l : List T) :
    Extracted.iter l = .ok (Iter.ofIt (SliceIter.iter l)) := rfl

/-- nothing is lost by `Iter.ofIt`: the model's `iter l` is the forward struct -/
theorem iter_toIt {T : Type} (l : List T) :
    Iter.toIt (Iter.ofIt (SliceIter.iter l)) = SliceIter.iter l := rfl

example : Extracted.iter [1, 2, 3] = .ok ⟨[1, 2, 3]⟩ := rfl

theorem iter_copied_eq {T : Type} (l : List T) :
    Extracted.iter_copied l = .ok (IterCopied.ofIt (SliceIter.iterCopied l)) := rfl

theorem iter_copied_toIt {T : Type} (l : List T) :
    IterCopied.toIt (IterCopied.ofIt (SliceIter.iterCopied l)) = SliceIter.iterCopied l := rfl

example : Extracted.iter_copied [1, 2, 3] = .ok ⟨[1, 2, 3]⟩ := rfl

/-! ### `Iter` -/

theorem Iter_next_res {T : Type} (c : Extracted.Iter T) :
    Extracted.Iter.next c
      = stepRes Iter.ofIt (SliceIter.It.next SliceIter.Iter.blocks (Iter.toIt c)) := by
  unfold Extracted.Iter.next
  unfold Iter.toIt Iter.toModel Iter.ofIt Iter.ofModel
  simp only [SliceIter.It.next, SliceIter.Iter.blocks, SliceIter.Iter.nextBlock]
  rcases c with ⟨_ | ⟨x, xs⟩⟩ <;> simp [stepRes, SliceIter.Step.mapState]

theorem Iter_next_eq {T : Type} (c : Extracted.Iter T) :
    Extracted.Iter.next c
      = .ok (stepOpt Iter.ofIt (SliceIter.It.next SliceIter.Iter.blocks (Iter.toIt c)))
    ∧ SliceIter.It.next SliceIter.Iter.blocks (Iter.toIt c) ≠ .panic :=
  ok_of_res (Iter_next_res c) (by
    simp only [SliceIter.It.next, Iter.toIt, SliceIter.Iter.blocks, mapState_ne_panic, ↓reduceIte]
    exact Iter.nextBlock_ne_panic _)

example : Extracted.Iter.next ⟨[1, 2, 3]⟩ = .ok (some (1, ⟨[2, 3]⟩)) := rfl
example : Extracted.Iter.next (⟨[]⟩ : Extracted.Iter Nat) = .ok none := rfl

theorem Iter_next_back_res {T : Type} (c : Extracted.Iter T) :
    Extracted.Iter.next_back c
      = stepRes Iter.ofIt (SliceIter.It.nextBack SliceIter.Iter.blocks (Iter.toIt c)) := by
  unfold Extracted.Iter.next_back
  unfold Iter.toIt Iter.toModel Iter.ofIt Iter.ofModel
  simp only [SliceIter.It.nextBack, SliceIter.Iter.blocks, SliceIter.Iter.nextBackBlock]
  by_cases h : c.slice = []
  · simp [h, unsnoc_nil, stepRes, SliceIter.Step.mapState]
  · simp [h, unsnoc_of_ne_nil _ h, stepRes, SliceIter.Step.mapState]

theorem Iter_next_back_eq {T : Type} (c : Extracted.Iter T) :
    Extracted.Iter.next_back c
      = .ok (stepOpt Iter.ofIt (SliceIter.It.nextBack SliceIter.Iter.blocks (Iter.toIt c)))
    ∧ SliceIter.It.nextBack SliceIter.Iter.blocks (Iter.toIt c) ≠ .panic :=
  ok_of_res (Iter_next_back_res c) (by
    simp only [SliceIter.It.nextBack, Iter.toIt, SliceIter.Iter.blocks, mapState_ne_panic, ↓reduceIte]
    exact Iter.nextBackBlock_ne_panic _)

example : Extracted.Iter.next_back ⟨[1, 2, 3]⟩ = .ok (some (3, ⟨[1, 2]⟩)) := rfl
example : Extracted.Iter.next_back (⟨[]⟩ : Extracted.Iter Nat) = .ok none := rfl

theorem Iter_as_slice_eq {T : Type} (c : Extracted.Iter T) :
    Extracted.Iter.as_slice c = .ok (SliceIter.Iter.asSlice (Iter.toIt c)) := rfl

theorem Iter_copy_eq {T : Type} (c : Extracted.Iter T) :
    Extracted.Iter.copy c = .ok (Iter.ofIt (SliceIter.It.copy (Iter.toIt c))) := rfl

example : Extracted.Iter.as_slice ⟨[1, 2, 3]⟩ = .ok [1, 2, 3] := rfl
example : Extracted.Iter.copy ⟨[1, 2, 3]⟩ = .ok ⟨[1, 2, 3]⟩ := rfl

/-! ### `IterRev` -/

theorem IterRev_next_res {T : Type} (c : Extracted.IterRev T) :
    Extracted.IterRev.next c
      = stepRes IterRev.ofIt (SliceIter.It.next SliceIter.Iter.blocks (IterRev.toIt c)) := by
  unfold Extracted.IterRev.next
  unfold IterRev.toIt IterRev.toModel IterRev.ofIt IterRev.ofModel
  simp only [SliceIter.It.next, SliceIter.Iter.blocks, SliceIter.Iter.nextBackBlock]
  by_cases h : c.slice = []
  · simp [h, unsnoc_nil, stepRes, SliceIter.Step.mapState]
  · simp [h, unsnoc_of_ne_nil _ h, stepRes, SliceIter.Step.mapState]

theorem IterRev_next_eq {T : Type} (c : Extracted.IterRev T) :
    Extracted.IterRev.next c
      = .ok (stepOpt IterRev.ofIt (SliceIter.It.next SliceIter.Iter.blocks (IterRev.toIt c)))
    ∧ SliceIter.It.next SliceIter.Iter.blocks (IterRev.toIt c) ≠ .panic :=
  ok_of_res (IterRev_next_res c) (by
    simp only [SliceIter.It.next, IterRev.toIt, SliceIter.Iter.blocks, mapState_ne_panic,
      Bool.false_eq_true, ↓reduceIte]
    exact Iter.nextBackBlock_ne_panic _)

example : Extracted.IterRev.next ⟨[1, 2, 3]⟩ = .ok (some (3, ⟨[1, 2]⟩)) := rfl
example : Extracted.IterRev.next (⟨[]⟩ : Extracted.IterRev Nat) = .ok none := rfl

theorem IterRev_next_back_res {T : Type} (c : Extracted.IterRev T) :
    Extracted.IterRev.next_back c
      = stepRes IterRev.ofIt (SliceIter.It.nextBack SliceIter.Iter.blocks (IterRev.toIt c)) := by
  unfold Extracted.IterRev.next_back
  unfold IterRev.toIt IterRev.toModel IterRev.ofIt IterRev.ofModel
  simp only [SliceIter.It.nextBack, SliceIter.Iter.blocks, SliceIter.Iter.nextBlock]
  rcases c with ⟨_ | ⟨x, xs⟩⟩ <;> simp [stepRes, SliceIter.Step.mapState]

theorem IterRev_next_back_eq {T : Type} (c : Extracted.IterRev T) :
    Extracted.IterRev.next_back c
      = .ok (stepOpt IterRev.ofIt (SliceIter.It.nextBack SliceIter.Iter.blocks (IterRev.toIt c)))
    ∧ SliceIter.It.nextBack SliceIter.Iter.blocks (IterRev.toIt c) ≠ .panic :=
  ok_of_res (IterRev_next_back_res c) (by
    simp only [SliceIter.It.nextBack, IterRev.toIt, SliceIter.Iter.blocks, mapState_ne_panic,
      Bool.false_eq_true, ↓reduceIte]
    exact Iter.nextBlock_ne_panic _)

example : Extracted.IterRev.next_back ⟨[1, 2, 3]⟩ = .ok (some (1, ⟨[2, 3]⟩)) := rfl

theorem IterRev_as_slice_eq {T : Type} (c : Extracted.IterRev T) :
    Extracted.IterRev.as_slice c = .ok (SliceIter.Iter.asSlice (IterRev.toIt c)) := rfl

theorem IterRev_copy_eq {T : Type} (c : Extracted.IterRev T) :
    Extracted.IterRev.copy c = .ok (IterRev.ofIt (SliceIter.It.copy (IterRev.toIt c))) := rfl

example : Extracted.IterRev.as_slice ⟨[1, 2, 3]⟩ = .ok [1, 2, 3] := rfl
example : Extracted.IterRev.copy ⟨[1, 2, 3]⟩ = .ok ⟨[1, 2, 3]⟩ := rfl

/-! ### `IterCopied` (the item is `*elem`: the same element value) -/

theorem IterCopied_next_res {T : Type} (c : Extracted.IterCopied T) :
    Extracted.IterCopied.next c
      = stepRes IterCopied.ofIt
          (SliceIter.It.next SliceIter.IterCopied.blocks (IterCopied.toIt c)) := by
  unfold Extracted.IterCopied.next
  unfold IterCopied.toIt IterCopied.toModel IterCopied.ofIt IterCopied.ofModel
  simp only [SliceIter.It.next, SliceIter.IterCopied.blocks, SliceIter.IterCopied.nextBlock]
  rcases c with ⟨_ | ⟨x, xs⟩⟩ <;> simp [stepRes, SliceIter.Step.mapState]

theorem IterCopied_next_eq {T : Type} (c : Extracted.IterCopied T) :
    Extracted.IterCopied.next c
      = .ok (stepOpt IterCopied.ofIt
          (SliceIter.It.next SliceIter.IterCopied.blocks (IterCopied.toIt c)))
    ∧ SliceIter.It.next SliceIter.IterCopied.blocks (IterCopied.toIt c) ≠ .panic :=
  ok_of_res (IterCopied_next_res c) (by
    simp only [SliceIter.It.next, IterCopied.toIt, SliceIter.IterCopied.blocks, mapState_ne_panic,
      ↓reduceIte]
    exact IterCopied.nextBlock_ne_panic _)

example : Extracted.IterCopied.next ⟨[1, 2, 3]⟩ = .ok (some (1, ⟨[2, 3]⟩)) := rfl
example : Extracted.IterCopied.next (⟨[]⟩ : Extracted.IterCopied Nat) = .ok none := rfl

theorem IterCopied_next_back_res {T : Type} (c : Extracted.IterCopied T) :
    Extracted.IterCopied.next_back c
      = stepRes IterCopied.ofIt
          (SliceIter.It.nextBack SliceIter.IterCopied.blocks (IterCopied.toIt c)) := by
  unfold Extracted.IterCopied.next_back
  unfold IterCopied.toIt IterCopied.toModel IterCopied.ofIt IterCopied.ofModel
  simp only [SliceIter.It.nextBack, SliceIter.IterCopied.blocks, SliceIter.IterCopied.nextBackBlock]
  by_cases h : c.slice = []
  · simp [h, unsnoc_nil, stepRes, SliceIter.Step.mapState]
  · simp [h, unsnoc_of_ne_nil _ h, stepRes, SliceIter.Step.mapState]

theorem IterCopied_next_back_eq {T : Type} (c : Extracted.IterCopied T) :
    Extracted.IterCopied.next_back c
      = .ok (stepOpt IterCopied.ofIt
          (SliceIter.It.nextBack SliceIter.IterCopied.blocks (IterCopied.toIt c)))
    ∧ SliceIter.It.nextBack SliceIter.IterCopied.blocks (IterCopied.toIt c) ≠ .panic :=
  ok_of_res (IterCopied_next_back_res c) (by
    simp only [SliceIter.It.nextBack, IterCopied.toIt, SliceIter.IterCopied.blocks, mapState_ne_panic,
      ↓reduceIte]
    exact IterCopied.nextBackBlock_ne_panic _)

example : Extracted.IterCopied.next_back ⟨[1, 2, 3]⟩ = .ok (some (3, ⟨[1, 2]⟩)) := rfl
example : Extracted.IterCopied.next_back (⟨[]⟩ : Extracted.IterCopied Nat) = .ok none := rfl

theorem IterCopied_as_slice_eq {T : Type} (c : Extracted.IterCopied T) :
    Extracted.IterCopied.as_slice c = .ok (SliceIter.IterCopied.asSlice (IterCopied.toIt c)) := rfl

theorem IterCopied_copy_eq {T : Type} (c : Extracted.IterCopied T) :
    Extracted.IterCopied.copy c
      = .ok (IterCopied.ofIt (SliceIter.It.copy (IterCopied.toIt c))) := rfl

example : Extracted.IterCopied.as_slice ⟨[1, 2, 3]⟩ = .ok [1, 2, 3] := rfl
example : Extracted.IterCopied.copy ⟨[1, 2, 3]⟩ = .ok ⟨[1, 2, 3]⟩ := rfl

/-! ### `IterCopiedRev` -/

theorem IterCopiedRev_next_res {T : Type} (c : Extracted.IterCopiedRev T) :
    Extracted.IterCopiedRev.next c
      = stepRes IterCopiedRev.ofIt
          (SliceIter.It.next SliceIter.IterCopied.blocks (IterCopiedRev.toIt c)) := by
  unfold Extracted.IterCopiedRev.next
  unfold IterCopiedRev.toIt IterCopiedRev.toModel IterCopiedRev.ofIt IterCopiedRev.ofModel
  simp only [SliceIter.It.next, SliceIter.IterCopied.blocks, SliceIter.IterCopied.nextBackBlock]
  by_cases h : c.slice = []
  · simp [h, unsnoc_nil, stepRes, SliceIter.Step.mapState]
  · simp [h, unsnoc_of_ne_nil _ h, stepRes, SliceIter.Step.mapState]

theorem IterCopiedRev_next_eq {T : Type} (c : Extracted.IterCopiedRev T) :
    Extracted.IterCopiedRev.next c
      = .ok (stepOpt IterCopiedRev.ofIt
          (SliceIter.It.next SliceIter.IterCopied.blocks (IterCopiedRev.toIt c)))
    ∧ SliceIter.It.next SliceIter.IterCopied.blocks (IterCopiedRev.toIt c) ≠ .panic :=
  ok_of_res (IterCopiedRev_next_res c) (by
    simp only [SliceIter.It.next, IterCopiedRev.toIt, SliceIter.IterCopied.blocks, mapState_ne_panic,
      Bool.false_eq_true, ↓reduceIte]
    exact IterCopied.nextBackBlock_ne_panic _)

example : Extracted.IterCopiedRev.next ⟨[1, 2, 3]⟩ = .ok (some (3, ⟨[1, 2]⟩)) := rfl
example : Extracted.IterCopiedRev.next (⟨[]⟩ : Extracted.IterCopiedRev Nat) = .ok none := rfl

theorem IterCopiedRev_next_back_res {T : Type} (c : Extracted.IterCopiedRev T) :
    Extracted.IterCopiedRev.next_back c
      = stepRes IterCopiedRev.ofIt
          (SliceIter.It.nextBack SliceIter.IterCopied.blocks (IterCopiedRev.toIt c)) := by
  unfold Extracted.IterCopiedRev.next_back
  unfold IterCopiedRev.toIt IterCopiedRev.toModel IterCopiedRev.ofIt IterCopiedRev.ofModel
  simp only [SliceIter.It.nextBack, SliceIter.IterCopied.blocks, SliceIter.IterCopied.nextBlock]
  rcases c with ⟨_ | ⟨x, xs⟩⟩ <;> simp [stepRes, SliceIter.Step.mapState]

theorem IterCopiedRev_next_back_eq {T : Type} (c : Extracted.IterCopiedRev T) :
    Extracted.IterCopiedRev.next_back c
      = .ok (stepOpt IterCopiedRev.ofIt
          (SliceIter.It.nextBack SliceIter.IterCopied.blocks (IterCopiedRev.toIt c)))
    ∧ SliceIter.It.nextBack SliceIter.IterCopied.blocks (IterCopiedRev.toIt c) ≠ .panic :=
  ok_of_res (IterCopiedRev_next_back_res c) (by
    simp only [SliceIter.It.nextBack, IterCopiedRev.toIt, SliceIter.IterCopied.blocks,
      mapState_ne_panic, Bool.false_eq_true, ↓reduceIte]
    exact IterCopied.nextBlock_ne_panic _)

example : Extracted.IterCopiedRev.next_back ⟨[1, 2, 3]⟩ = .ok (some (1, ⟨[2, 3]⟩)) := rfl

theorem IterCopiedRev_as_slice_eq {T : Type} (c : Extracted.IterCopiedRev T) :
    Extracted.IterCopiedRev.as_slice c
      = .ok (SliceIter.IterCopied.asSlice (IterCopiedRev.toIt c)) := rfl

theorem IterCopiedRev_copy_eq {T : Type} (c : Extracted.IterCopiedRev T) :
    Extracted.IterCopiedRev.copy c
      = .ok (IterCopiedRev.ofIt (SliceIter.It.copy (IterCopiedRev.toIt c))) := rfl

example : Extracted.IterCopiedRev.as_slice ⟨[1, 2, 3]⟩ = .ok [1, 2, 3] := rfl
example : Extracted.IterCopiedRev.copy ⟨[1, 2, 3]⟩ = .ok ⟨[1, 2, 3]⟩ := rfl

end Extracted.Equiv
