import KonstVerif.Extracted.Gen.Chr
import KonstVerif.Model.Chr
/-
  Extracted = Model, for the char conversions (C07):
  `konst_kernel::chr::char_formatting::encode_utf8` and `konst_kernel::chr::from_u32`.

  The generated `structure Extracted.Utf8Encoded {encoded : List Nat, len : Nat}` and the model's
  `Konst.Chr.Utf8Encoded` are two copies of the same record; `toExtracted` is the (field-wise)
  correspondence.
-/
namespace Extracted.Equiv
open Rs Konst Konst.Chr

def toExtracted (e : Konst.Chr.Utf8Encoded) : Extracted.Utf8Encoded := ⟨e.encoded, e.len⟩

@[simp] theorem toExtracted_encoded (e : Konst.Chr.Utf8Encoded) : (toExtracted e).encoded = e.encoded := rfl
@[simp] theorem toExtracted_len (e : Konst.Chr.Utf8Encoded) : (toExtracted e).len = e.len := rfl

/-- `encode_utf8` for every `u32` value (in particular for every `char`): the last `match` arm is
    `0x10000..=u32::MAX`, so the only hypothesis is that the argument is a `u32`; no shift panics
    (all shift amounts are `< 32`). -/
theorem encode_utf8_eq (c : Nat) (hc : c < 2 ^ 32) :
    Extracted.encode_utf8 c = .ok (toExtracted (encodeUtf8 c)) := by
  unfold Extracted.encode_utf8 encodeUtf8 toExtracted
  simp only [id, Rs.ushr, Rs.castUU, asU8, Nat.zero_le, decide_true, Bool.true_and, Ctl.pure_eq, Ctl.bind_eq,
    Ctl.bind_val, Nat.reduceLT, ↓reduceIte, Nat.reducePow, decide_eq_true_eq, Bool.and_eq_true]
  by_cases h1 : c ≤ 127
  · simp [h1]
  · by_cases h2 : c ≤ 2047
    · have : 128 ≤ c := by omega
      simp [h1, h2, this]
    · by_cases h3 : c ≤ 65535
      · have : 128 ≤ c := by omega
        have : 2048 ≤ c := by omega
        simp [*]
      · have : 128 ≤ c := by omega
        have : 2048 ≤ c := by omega
        have : 65536 ≤ c := by omega
        have : c ≤ 4294967295 := by omega
        simp [*]

example : Extracted.encode_utf8 0x20AC = .ok ⟨[0xE2, 0x82, 0xAC, 0], 3⟩ := by decide +kernel
example : Extracted.encode_utf8 0x20AC = .ok (toExtracted (encodeUtf8 0x20AC)) := encode_utf8_eq _ (by decide)
example : Extracted.encode_utf8 0x1F600 = .ok (toExtracted (encodeUtf8 0x1F600)) := encode_utf8_eq _ (by decide)

/-- `from_u32`, for every `n` (no hypothesis): `from_u32_unchecked` is only reached under the
    guard that makes it defined, so the result is never `ub`. -/
theorem from_u32_eq (n : Nat) : Extracted.from_u32 n = .ok (fromU32 n) := by
  unfold Extracted.from_u32 fromU32 Rs.charFromU32Unchecked
  by_cases h : n < 55296 ∨ (57344 ≤ n ∧ n ≤ 1114111)
  · have h' : (decide (n < 55296) || (decide (57344 ≤ n) && decide (n ≤ 1114111))) = true := by
      simpa using h
    simp [h', h]
  · have h' : (decide (n < 55296) || (decide (57344 ≤ n) && decide (n ≤ 1114111))) = false := by
      simpa using h
    simp [h']

example : Extracted.from_u32 0x41 = .ok (some 0x41) := by decide +kernel
example : Extracted.from_u32 0xD800 = .ok none := from_u32_eq _
example : Extracted.from_u32 0x10FFFF = .ok (some 0x10FFFF) := from_u32_eq _

end Extracted.Equiv
