import KonstVerif.Extracted.Equiv.Bytes
import KonstVerif.Lemmas.Bytes
/-
  Extracted = Model, for the byte-slice trimming functions (C05):
  `bytes_trim_start`, `bytes_trim_end`, `bytes_trim`, `__bytes_trim_start_matches`,
  `__bytes_trim_end_matches`, `__bytes_trim_matches`.

  None of these functions does any arithmetic, so no machine-bound hypothesis is needed; the only
  hypothesis is the explicit loop fuel.  The outer loops of these functions never `break` (their
  break type is `Empty`); they are only left by `return`, i.e. `Ctl.exit`.
-/
namespace Extracted.Equiv
open Rs Konst Konst.Bytes

/-! ### whitespace trimming -/

/-- the translated `matches_space!` -/
theorem space_test (b : Nat) :
    (if (decide (b = (9 : Nat)) || decide (b = (10 : Nat)) || decide (b = (12 : Nat)) || decide (b = (13 : Nat))
      || decide (b = (32 : Nat))) then true else false) = matchesSpace b := by
  rw [Bool.if_true_left, Bool.or_false, Bool.decide_eq_true]
  rfl

theorem trim_start_loop1_cons (b : Nat) (rem : List Nat) :
    Extracted.bytes_trim_start.loop1 (b :: rem) =
      if matchesSpace b then .val rem else .exit (.out (b :: rem)) := by
  simp only [Extracted.bytes_trim_start.loop1, space_test]
  cases matchesSpace b <;> rfl

theorem trim_start_loop (n : Nat) (this : List Nat) (hn : this.length < n) :
    Rs.loop n Extracted.bytes_trim_start.loop1 this = Ctl.exit (bytesTrimStartL this) := by
  induction n generalizing this with
  | zero => cases hn
  | succ n ih =>
    rw [Rs.loop_succ]
    cases this with
    | nil => rfl
    | cons b rem =>
      rw [trim_start_loop1_cons, bytesTrimStartL]
      by_cases hb : matchesSpace b = true
      · rw [if_pos hb, if_pos hb]
        exact ih rem (Nat.lt_of_succ_lt_succ hn)
      · rw [if_neg hb, if_neg hb]

theorem bytes_trim_start_eq (fuel : Nat) (this : List Nat) (hf : this.length + 1 ≤ fuel) :
    Extracted.bytes_trim_start fuel this = .ok (bytesTrimStartL this) := by
  unfold Extracted.bytes_trim_start
  rw [trim_start_loop fuel this hf]
  rfl

example : Extracted.bytes_trim_start 5 [32, 12, 120, 9] = .ok [120, 9] :=
  bytes_trim_start_eq 5 [32, 12, 120, 9] (by decide)

theorem trim_end_loop1_concat (b : Nat) (rem : List Nat) :
    Extracted.bytes_trim_end.loop1 (b :: rem).reverse =
      if matchesSpace b then .val rem.reverse else .exit (.out (b :: rem).reverse) := by
  simp only [Extracted.bytes_trim_end.loop1, List.reverse_cons, unsnoc_concat, space_test]
  cases matchesSpace b <;> rfl

/-- the `loop` of `bytes_trim_end` reads its slice from the end: run on a reversed list it does what the
    front-consuming loop of the model does (`Lemmas.Bytes.bytesTrimEndLoop_mirror`) -/
theorem trim_end_loop (n : Nat) (this : List Nat) (hn : this.length < n) :
    Rs.loop n Extracted.bytes_trim_end.loop1 this.reverse = Ctl.exit (bytesTrimStartL this).reverse := by
  induction n generalizing this with
  | zero => cases hn
  | succ n ih =>
    rw [Rs.loop_succ]
    cases this with
    | nil => rfl
    | cons b rem =>
      rw [trim_end_loop1_concat, bytesTrimStartL]
      by_cases hb : matchesSpace b = true
      · rw [if_pos hb, if_pos hb]
        exact ih rem (Nat.lt_of_succ_lt_succ hn)
      · rw [if_neg hb, if_neg hb]

theorem bytes_trim_end_eq (fuel : Nat) (this : List Nat) (hf : this.length + 1 ≤ fuel) :
    Extracted.bytes_trim_end fuel this = .ok (bytesTrimEndL this) := by
  unfold Extracted.bytes_trim_end bytesTrimEndL
  have h := trim_end_loop fuel this.reverse
  rw [List.reverse_reverse, List.length_reverse,
    ← Lemmas.Bytes.bytesTrimEndLoop_mirror _ this (Nat.lt_succ_self _)] at h
  rw [h hf]
  rfl

example : Extracted.bytes_trim_end 5 [32, 120, 9, 13] = .ok [32, 120] :=
  bytes_trim_end_eq 5 [32, 120, 9, 13] (by decide)

theorem bytesTrimEndL_prefix (this : List Nat) : bytesTrimEndL this <+: this := by
  rw [Lemmas.Bytes.bytesTrimEndL_eq]
  exact Lemmas.Bytes.revDropWhile_prefix _ this

theorem bytesTrimStartL_suffix (this : List Nat) : bytesTrimStartL this <:+ this := by
  rw [Lemmas.Bytes.bytesTrimStartL_eq]
  exact List.dropWhile_suffix _

theorem bytes_trim_eq_list (fuel : Nat) (this : List Nat) (hf : this.length + 1 ≤ fuel) :
    Extracted.bytes_trim fuel this = .ok (bytesTrimStartL (bytesTrimEndL this)) := by
  unfold Extracted.bytes_trim
  rw [run_call_bind (bytes_trim_end_eq fuel this hf), bytes_trim_start_eq fuel _
    (Nat.le_trans (Nat.succ_le_succ (bytesTrimEndL_prefix this).length_le) hf)]
  rfl

theorem bytesTrim_apply (this : List Nat) :
    (bytesTrim this).apply this = bytesTrimStartL (bytesTrimEndL this) := by
  have hp := bytesTrimEndL_prefix this
  have hs := bytesTrimStartL_suffix (bytesTrimEndL this)
  have hle := hs.length_le
  unfold bytesTrim
  simp only []
  rw [Lemmas.Slice.comp_apply _ _ this (by simp only [View.InBounds, suffixView, prefixView]; omega),
    Lemmas.Bytes.prefixView_apply hp, Lemmas.Bytes.suffixView_apply hs]

theorem bytes_trim_eq (fuel : Nat) (this : List Nat) (hf : this.length + 1 ≤ fuel) :
    Extracted.bytes_trim fuel this = .ok ((bytesTrim this).apply this) := by
  rw [bytesTrim_apply]
  exact bytes_trim_eq_list fuel this hf

example : Extracted.bytes_trim 6 [32, 12, 120, 9, 13] = .ok [120] :=
  bytes_trim_eq 6 [32, 12, 120, 9, 13] (by decide)

/-! ### pattern trimming -/

theorem trim_start_loop2_cons (atStart : List Nat) (b bm : Nat) (rem remm : List Nat) :
    Extracted.bytes_trim_start_matches.loop2 atStart (b :: rem, bm :: remm) =
      if b = bm then .val (rem, remm) else .exit (.out (.out atStart)) := by
  by_cases h : b = bm <;> simp [Extracted.bytes_trim_start_matches.loop2, h]

theorem trimStartInner_cons (b bm : Nat) (rem remm : List Nat) :
    trimStartInner (b :: rem) (bm :: remm) = if b = bm then trimStartInner rem remm else none := by
  simp [trimStartInner]

/-- `return at_start` travels outwards through the (never-breaking) outer loop as `.exit (.out at_start)`,
    `break 'inner` leaves it normally with the remaining slice -/
theorem trim_start_inner_loop (n : Nat) (atStart this m : List Nat) (hn : m.length < n) :
    exitOrFst (.out atStart) (trimStartInner this m)
      (Rs.loop n (Extracted.bytes_trim_start_matches.loop2 atStart) (this, m)) := by
  induction n generalizing this m with
  | zero => cases hn
  | succ n ih =>
    rw [Rs.loop_succ]
    cases m with
    | nil => cases this <;> exact ⟨_, rfl⟩
    | cons bm remm =>
      cases this with
      | nil => rfl
      | cons b rem =>
        rw [trim_start_loop2_cons, trimStartInner_cons]
        by_cases h : b = bm
        · rw [if_pos h, if_pos h]
          exact ih rem remm (Nat.lt_of_succ_lt_succ hn)
        · rw [if_neg h, if_neg h]
          rfl

/-- `break 'inner` hands back a suffix of the slice the inner loop started with: the state of the outer loop
    gets shorter -/
theorem trimStartInner_lt {rem m r : List Nat} {b n : Nat} (h : trimStartInner rem m = some r)
    (hn : (b :: rem).length < n + 1) : r.length < n := by
  rw [Lemmas.Bytes.trimStartInner_eq] at h
  by_cases hp : m.isPrefixOf rem = true
  · rw [if_pos hp, Option.some.injEq] at h
    rw [← h, List.length_drop]
    exact Nat.lt_of_le_of_lt (Nat.sub_le _ _) (Nat.lt_of_succ_lt_succ hn)
  · rw [if_neg hp] at h
    exact absurd h (by simp)

theorem trim_start_outer_cons (F : Nat) (needle : List Nat) (b bm : Nat) (rem remm : List Nat) :
    Extracted.bytes_trim_start_matches.loop1 F needle (b :: rem, bm :: remm) =
      if b = bm then
        (Rs.loop F (Extracted.bytes_trim_start_matches.loop2 (b :: rem)) (rem, remm)).bind fun s => .val (s.1, needle)
      else .exit (.out (b :: rem)) := by
  by_cases h : b = bm
  · simp only [Extracted.bytes_trim_start_matches.loop1, h, ↓reduceIte, rs_eval]
  · simp only [Extracted.bytes_trim_start_matches.loop1, h, ↓reduceIte, rs_eval]

theorem trimStartLoop_cons (k : Nat) (b bm : Nat) (rem remm : List Nat) :
    trimStartLoop (bm :: remm) (k + 1) (b :: rem) =
      if b = bm then (trimStartInner rem remm).elim (b :: rem) (trimStartLoop (bm :: remm) k) else b :: rem := by
  rw [trimStartLoop]
  by_cases h : b = bm
  · rw [if_pos h, if_pos (beq_iff_eq.mpr h)]
    cases trimStartInner rem remm <;> rfl
  · rw [if_neg h, if_neg (by simpa using h)]

/-- the outer `loop` of `__bytes_trim_start_matches` at its head (`matched = needle`)
    (`F` = fuel handed to the inner loop, `n` = fuel of the extracted loop, `k` = fuel of the model's loop) -/
theorem trim_start_outer_loop (F n k : Nat) (needle this : List Nat) (hF : needle.length ≤ F)
    (hn : this.length < n) (hk : this.length < k) :
    Rs.loop n (Extracted.bytes_trim_start_matches.loop1 F needle) (this, needle) =
      Ctl.exit (trimStartLoop needle k this) := by
  induction n generalizing this k with
  | zero => cases hn
  | succ n ih =>
    rw [Rs.loop_succ]
    cases k with
    | zero => cases hk
    | succ k =>
      cases needle with
      | nil => cases this <;> rfl
      | cons bm remm =>
        cases this with
        | nil => rfl
        | cons b rem =>
          rw [trim_start_outer_cons, trimStartLoop_cons]
          by_cases h : b = bm
          · rw [if_pos h, if_pos h,
              (trim_start_inner_loop F _ rem remm hF).bind_eq _ (fun r => .val (r, _)) fun _ _ => rfl]
            cases hi : trimStartInner rem remm with
            | none => rfl
            | some r => exact ih k r (trimStartInner_lt hi hn) (trimStartInner_lt hi hk)
          · rw [if_neg h, if_neg h]

theorem bytes_trim_start_matches_eq (fuel : Nat) (this needle : List Nat)
    (hf : this.length + needle.length + 1 ≤ fuel) :
    Extracted.bytes_trim_start_matches fuel this needle = .ok (trimStartMatchesL this needle) := by
  unfold Extracted.bytes_trim_start_matches trimStartMatchesL
  cases needle with
  | nil => rfl
  | cons bm remm =>
    simp only [List.isEmpty_cons, ↓reduceIte, rs_eval]
    rw [trim_start_outer_loop fuel fuel (this.length + 1) _ this
      (Nat.le_trans (Nat.le_add_left _ _) (Nat.le_of_succ_le hf))
      (Nat.lt_of_lt_of_le (Nat.lt_succ_of_le (Nat.le_add_right _ _)) hf) (Nat.lt_succ_self _)]
    rfl

example : Extracted.bytes_trim_start_matches 9 [1, 2, 1, 2, 1, 3] [1, 2] = .ok [1, 3] :=
  bytes_trim_start_matches_eq 9 [1, 2, 1, 2, 1, 3] [1, 2] (by decide)

/-! The back-consuming twin reads both slices from their ends: its loops, run on reversed lists, do what the
    front-consuming loops of the model do (`Lemmas.Bytes.trimEndLoop_mirror`). -/

theorem trim_end_loop2_concat (atStart : List Nat) (b bm : Nat) (rem remm : List Nat) :
    Extracted.bytes_trim_end_matches.loop2 atStart ((b :: rem).reverse, (bm :: remm).reverse) =
      if b = bm then .val (rem.reverse, remm.reverse) else .exit (.out (.out atStart)) := by
  by_cases h : b = bm <;> simp [Extracted.bytes_trim_end_matches.loop2, unsnoc_concat, h]

theorem trim_end_loop2_nil (atStart : List Nat) (bm : Nat) (remm : List Nat) :
    Extracted.bytes_trim_end_matches.loop2 atStart ([], (bm :: remm).reverse) = .exit (.out (.out atStart)) := by
  simp only [Extracted.bytes_trim_end_matches.loop2, List.reverse_cons, unsnoc_concat]
  rfl

theorem trim_end_loop2_done (atStart this : List Nat) :
    Extracted.bytes_trim_end_matches.loop2 atStart (this, []) = .exit (.brk (this, [])) := by
  cases this <;> simp [Extracted.bytes_trim_end_matches.loop2, unsnoc]

theorem trim_end_inner_loop (n : Nat) (atStart this m : List Nat) (hn : m.length < n) :
    exitOrFst (.out atStart) ((trimStartInner this m).map List.reverse)
      (Rs.loop n (Extracted.bytes_trim_end_matches.loop2 atStart) (this.reverse, m.reverse)) := by
  induction n generalizing this m with
  | zero => cases hn
  | succ n ih =>
    rw [Rs.loop_succ]
    cases m with
    | nil =>
      rw [List.reverse_nil, trim_end_loop2_done]
      cases this <;> exact ⟨_, rfl⟩
    | cons bm remm =>
      cases this with
      | nil =>
        rw [List.reverse_nil, trim_end_loop2_nil]
        rfl
      | cons b rem =>
        rw [trim_end_loop2_concat, trimStartInner_cons]
        by_cases h : b = bm
        · rw [if_pos h, if_pos h]
          exact ih rem remm (Nat.lt_of_succ_lt_succ hn)
        · rw [if_neg h, if_neg h]
          rfl

theorem trim_end_outer_concat (F : Nat) (needle : List Nat) (b bm : Nat) (rem remm : List Nat) :
    Extracted.bytes_trim_end_matches.loop1 F needle ((b :: rem).reverse, (bm :: remm).reverse) =
      if b = bm then
        (Rs.loop F (Extracted.bytes_trim_end_matches.loop2 (b :: rem).reverse) (rem.reverse, remm.reverse)).bind
          fun s => .val (s.1, needle)
      else .exit (.out (b :: rem).reverse) := by
  rw [List.reverse_cons, List.reverse_cons]
  by_cases h : b = bm
  · simp only [Extracted.bytes_trim_end_matches.loop1, unsnoc_concat, h, ↓reduceIte, rs_eval]
  · simp only [Extracted.bytes_trim_end_matches.loop1, unsnoc_concat, h, ↓reduceIte, rs_eval]

theorem trim_end_outer_loop (F n k : Nat) (needle this : List Nat) (hne : needle ≠ []) (hF : needle.length ≤ F)
    (hn : this.length < n) (hk : this.length < k) :
    Rs.loop n (Extracted.bytes_trim_end_matches.loop1 F needle.reverse) (this.reverse, needle.reverse) =
      Ctl.exit (trimStartLoop needle k this).reverse := by
  induction n generalizing this k with
  | zero => cases hn
  | succ n ih =>
    rw [Rs.loop_succ]
    cases k with
    | zero => cases hk
    | succ k =>
      cases needle with
      | nil => exact absurd rfl hne
      | cons bm remm =>
        cases this with
        | nil => rfl
        | cons b rem =>
          rw [trim_end_outer_concat, trimStartLoop_cons]
          by_cases h : b = bm
          · rw [if_pos h, if_pos h,
              (trim_end_inner_loop F _ rem remm hF).bind_eq _ (fun r => .val (r, _)) fun _ _ => rfl]
            cases hi : trimStartInner rem remm with
            | none => rfl
            | some r => exact ih k r (trimStartInner_lt hi hn) (trimStartInner_lt hi hk)
          · rw [if_neg h, if_neg h]

theorem bytes_trim_end_matches_eq (fuel : Nat) (this needle : List Nat)
    (hf : this.length + needle.length + 1 ≤ fuel) :
    Extracted.bytes_trim_end_matches fuel this needle = .ok (trimEndMatchesL this needle) := by
  unfold Extracted.bytes_trim_end_matches trimEndMatchesL
  cases needle with
  | nil => rfl
  | cons bm remm =>
    simp only [List.isEmpty_cons, ↓reduceIte, rs_eval]
    have h := trim_end_outer_loop fuel fuel (this.length + 1) (bm :: remm).reverse this.reverse
    rw [List.reverse_reverse, List.reverse_reverse, List.length_reverse, List.length_reverse,
      ← Lemmas.Bytes.trimEndLoop_mirror] at h
    rw [h (by simp) (Nat.le_trans (Nat.le_add_left _ _) (Nat.le_of_succ_le hf))
      (Nat.lt_of_lt_of_le (Nat.lt_succ_of_le (Nat.le_add_right _ _)) hf) (Nat.lt_succ_self _)]
    rfl

example : Extracted.bytes_trim_end_matches 9 [3, 1, 1, 2, 1, 2] [1, 2] = .ok [3, 1] :=
  bytes_trim_end_matches_eq 9 [3, 1, 1, 2, 1, 2] [1, 2] (by decide)

theorem trimStartMatchesL_suffix (this needle : List Nat) : trimStartMatchesL this needle <:+ this := by
  rw [Lemmas.Bytes.trimStartMatchesL_eq]
  exact Lemmas.Bytes.trimStartSpec_suffix needle _ this rfl

theorem trimEndMatchesL_prefix (this needle : List Nat) : trimEndMatchesL this needle <+: this := by
  rw [Lemmas.Bytes.trimEndMatchesL_eq]
  exact Lemmas.Bytes.trimEndSpec_prefix needle _ this rfl

theorem bytes_trim_matches_eq_list (fuel : Nat) (this needle : List Nat)
    (hf : this.length + needle.length + 1 ≤ fuel) :
    Extracted.bytes_trim_matches fuel this needle =
      .ok (trimEndMatchesL (trimStartMatchesL this needle) needle) := by
  unfold Extracted.bytes_trim_matches
  rw [run_call_bind (bytes_trim_start_matches_eq fuel this needle hf)]
  exact congrArg (fun r => (Ctl.call r).run) (bytes_trim_end_matches_eq fuel _ needle (Nat.le_trans
    (Nat.succ_le_succ (Nat.add_le_add_right (trimStartMatchesL_suffix this needle).length_le _)) hf))

theorem trimMatches_apply (this needle : List Nat) :
    (trimMatches this needle).apply this = trimEndMatchesL (trimStartMatchesL this needle) needle := by
  have hs := trimStartMatchesL_suffix this needle
  have hp := trimEndMatchesL_prefix (trimStartMatchesL this needle) needle
  have hle := hp.length_le
  unfold trimMatches
  simp only []
  rw [Lemmas.Slice.comp_apply _ _ this (by simp only [View.InBounds, suffixView, prefixView]; omega),
    Lemmas.Bytes.suffixView_apply hs, Lemmas.Bytes.prefixView_apply hp]

/-- the model has no list-valued `trimMatchesL`; `trimMatches` is a `View` into `this` -/
theorem bytes_trim_matches_eq (fuel : Nat) (this needle : List Nat)
    (hf : this.length + needle.length + 1 ≤ fuel) :
    Extracted.bytes_trim_matches fuel this needle = .ok ((trimMatches this needle).apply this) := by
  rw [trimMatches_apply]
  exact bytes_trim_matches_eq_list fuel this needle hf

example : Extracted.bytes_trim_matches 9 [1, 1, 1, 5, 1, 1] [1, 1] = .ok [1, 5] :=
  bytes_trim_matches_eq 9 [1, 1, 1, 5, 1, 1] [1, 1] (by decide)

end Extracted.Equiv
