import KonstVerif.Extracted.Gen.Concat
import KonstVerif.Extracted.Equiv.Slice
import KonstVerif.Extracted.Equiv.Chr
import KonstVerif.Model.Concat
import KonstVerif.Props.C20
import KonstVerif.Rs.LoopLemmas
/-
  Extracted = Model, for the const fns behind `string::str_concat!` /
  `string::str_join!` (C20): `konst_kernel::string::string_for_konst::{concat_sum_lengths, concat_strs,
  join_sum_lengths, join_strs}`, the dispatch helpers `__ElemDispatch<char|str>::{len, as_bytesable}`,
  `__SepArg::len`, and `Utf8Encoded::{as_bytes, as_str}`.

  The model (`Model/Concat.lean`) returns `Out α = ok | panic reason`; the extraction returns
  `Res α = ok | panic | ub | nofuel`.  `outToRes` forgets the reason of the panic; every theorem below
  says `extracted = outToRes (model)`, i.e. the extracted function returns `.ok v` exactly when the model
  says `.ok v` and `.panic` exactly when the model says `.panic _` (never `ub`, never `nofuel`).

  Conversions between the generated and the model's types: `toConcatArg`, `toSepArg` (constructor-wise),
  `toModelUtf8`/`ofModelUtf8` (field-wise; `Extracted.Utf8Encoded`, `Konst.Chr.Utf8Encoded` and
  `Konst.Concat.Utf8Encoded` are three copies of the same two-field record).

  Every loop here is a `for_range!` over a list; `forRange_loop` reduces it to one round of its body.
  Names: `cc_…` are facts about pieces of the generated `concat_*`/`join_*` code (loop bodies, blocks), `sc_…` in
  `SliceConcat.lean` the same for `slice_concat_*`; the theorems about whole functions carry the function's name.
-/
namespace Extracted.Equiv
open Rs Konst Konst.Concat

def outToRes {α : Type} : Out α → Res α
  | .ok a => .ok a
  | .panic _ => .panic

@[simp] theorem outToRes_ok {α : Type} (a : α) : outToRes (Out.ok a) = .ok a := rfl
@[simp] theorem outToRes_panic {α : Type} (p : Panic) : outToRes (Out.panic p : Out α) = .panic := rfl

/-- the result of the model (`[u8; N]` as a byte list) as the generated `ArrayStr<N>` -/
def outToArrayStr (N : Nat) (o : Out (List Nat)) : Res (Extracted.ArrayStr N) :=
  outToRes (o >>= fun b => pure (Extracted.ArrayStr.mk b))

@[simp] theorem outToArrayStr_ok (N : Nat) (b : List Nat) : outToArrayStr N (.ok b) = .ok ⟨b⟩ := rfl
@[simp] theorem outToArrayStr_panic (N : Nat) (p : Panic) : outToArrayStr N (.panic p) = .panic := rfl

def toConcatArg : Extracted.StrConcatArg → ConcatArg
  | .Char cs => .chars cs
  | .Str ss => .strs ss

def toSepArg : Extracted.SepArg → Konst.Concat.SepArg
  | .Char c => .chr c
  | .Str s => .str s

def toModelUtf8 (e : Extracted.Utf8Encoded) : Konst.Concat.Utf8Encoded := ⟨e.encoded, e.len⟩
def ofModelUtf8 (e : Konst.Concat.Utf8Encoded) : Extracted.Utf8Encoded := ⟨e.encoded, e.len⟩

@[simp] theorem toModelUtf8_ofModelUtf8 (e : Konst.Concat.Utf8Encoded) : toModelUtf8 (ofModelUtf8 e) = e := rfl

/-- the two hand-written copies of `encode_utf8` (`Model/Chr.lean` for C07, `Model/Concat.lean` for C20) agree -/
theorem cc_encodeUtf8_models (c : Nat) :
    toExtracted (Konst.Chr.encodeUtf8 c) = ofModelUtf8 (Konst.Concat.encodeUtf8 c) :=
  congrArg ofModelUtf8 (Konst.Lemmas.Concat.encodeUtf8_eq_chr c).symm

theorem cc_lenUtf8 (c : Nat) : Rs.charLenUtf8 c = lenUtf8 c := rfl

/-- `Utf8Encoded::as_bytes`, for every record (also when `len > 4`: `slice_up_to` then returns the whole
    array, and so does `List.take`) -/
theorem Utf8Encoded_as_bytes_eq (self : Extracted.Utf8Encoded) :
    Extracted.Utf8Encoded.as_bytes self = .ok (toModelUtf8 self).asBytes := by
  unfold Extracted.Utf8Encoded.as_bytes
  simp only [slice_up_to_eq, id, Ctl.call_ok, Ctl.run_val]
  exact congrArg _ (Konst.Lemmas.Slice.sliceUpTo_apply _ _)

example : Extracted.Utf8Encoded.as_bytes ⟨[0xE2, 0x82, 0xAC, 0], 3⟩ = .ok [0xE2, 0x82, 0xAC] := by decide +kernel

/-- `Utf8Encoded::as_str`: the same bytes (`from_utf8_unchecked` is the identity on the bytes; the generated
    code does not model its validity precondition) -/
theorem Utf8Encoded_as_str_eq (self : Extracted.Utf8Encoded) :
    Extracted.Utf8Encoded.as_str self = .ok (toModelUtf8 self).asBytes := by
  unfold Extracted.Utf8Encoded.as_str
  simp only [Utf8Encoded_as_bytes_eq, Ctl.call_ok, Ctl.run_val]

example : Extracted.Utf8Encoded.as_str ⟨[0xC3, 0xA9, 0, 0], 2⟩ = .ok [0xC3, 0xA9] := by decide +kernel

theorem SepArg_fn_len_eq (self : Extracted.SepArg) :
    Extracted.SepArg.fn_len self = .ok (toSepArg self).len := by
  cases self <;> rfl

example : Extracted.SepArg.fn_len (.Char 0x20AC) = .ok 3 := by decide +kernel
example : Extracted.SepArg.fn_len (.Str [1, 2]) = .ok 2 := by decide +kernel

/-- `hc`: every `char` is a `u32` value -/
theorem ElemDispatch_char_as_bytesable_eq (c : Nat) (hc : c < 2 ^ 32) :
    Extracted.ElemDispatch_char.as_bytesable c = .ok (ofModelUtf8 (Konst.Concat.encodeUtf8 c)) := by
  unfold Extracted.ElemDispatch_char.as_bytesable
  simp only [encode_utf8_eq c hc, cc_encodeUtf8_models, Ctl.call_ok, Ctl.run_val]

example : Extracted.ElemDispatch_char.as_bytesable 0x20AC = .ok ⟨[0xE2, 0x82, 0xAC, 0], 3⟩ := by decide +kernel

theorem ElemDispatch_char_fn_len_eq (c : Nat) :
    Extracted.ElemDispatch_char.fn_len c = .ok (Elem.chr c).len := rfl

theorem ElemDispatch_str_as_bytesable_eq (s : List Nat) :
    Extracted.ElemDispatch_str.as_bytesable s = .ok (Elem.str s).bytes := rfl

theorem ElemDispatch_str_fn_len_eq (s : List Nat) :
    Extracted.ElemDispatch_str.fn_len s = .ok (Elem.str s).len := rfl

example : Extracted.ElemDispatch_char.fn_len 0x1F600 = .ok 4 := by decide +kernel
example : Extracted.ElemDispatch_str.fn_len [0x68, 0x69] = .ok 2 := by decide +kernel

/-- what the fill loops do with one `char`: `__ElemDispatch(c).as_bytesable().as_bytes()` -/
theorem cc_char_bytes (c : Nat) :
    Extracted.Utf8Encoded.as_bytes (ofModelUtf8 (Konst.Concat.encodeUtf8 c)) = .ok (Elem.chr c).bytes := by
  rw [Utf8Encoded_as_bytes_eq]; rfl

/-! ## `for_range!` loops -/

/-- result of a `for_range!` loop over `0..len` whose model is `o`: the final counter is `len` -/
def ctlOf {ε σ : Type} (len : Nat) : Out σ → Ctl ε (Nat × σ)
  | .ok s => .val (len, s)
  | .panic _ => .panic

@[simp] theorem ctlOf_ok {ε σ : Type} (len : Nat) (s : σ) : (ctlOf len (.ok s) : Ctl ε _) = .val (len, s) := rfl
@[simp] theorem ctlOf_panic {ε σ : Type} (len : Nat) (p : Panic) :
    (ctlOf len (.panic p : Out σ) : Ctl ε _) = .panic := rfl

/-- a round of an outer loop ends with `pure (start, state of the inner loop)` -/
theorem ctlOf_bind {ε σ : Type} (len k : Nat) (o : Out σ) :
    ((ctlOf len o : Ctl ε _).bind fun x => .val (k, x.2)) = ctlOf k o := by
  cases o <;> rfl

/-- `sum += x` at the end of a round: the extracted checked addition is the model's -/
theorem uadd_ctlOf {ε : Type} (len a b : Nat) :
    ((Rs.uadd 64 a b : Ctl ε Nat).bind fun s => .val (len, s)) = ctlOf len (ckAdd a b) := by
  unfold Rs.uadd ckAdd USIZE
  split
  · rfl
  · rfl

/-- `for_range!{i in 0..xs.len() => …}` against a model loop `m` that folds `step` over the list.  It is enough
    that one round of the body at `i < xs.len()` is `start += 1` followed by `step xs[i]`, for the states that
    satisfy an invariant which `step` preserves; `n` is the fuel, one unit per element and one for the exit. -/
theorem forRange_loop {ε α σ : Type} (xs : List α)
    (body : Nat × σ → Ctl (LoopExit ε (Nat × σ) (Nat × σ)) (Nat × σ))
    (step : α → σ → Out σ) (m : List α → σ → Out σ) (Inv : Nat → σ → Prop)
    (hnil : ∀ st, m [] st = .ok st)
    (hcons : ∀ x l st, m (x :: l) st = step x st >>= m l)
    (hbrk : ∀ st, body (xs.length, st) = .exit (.brk (xs.length, st)))
    (hstep : ∀ i st (h : i < xs.length), Inv i st → body (i, st) = ctlOf (i + 1) (step xs[i] st))
    (hinv : ∀ i st st' (h : i < xs.length), Inv i st → step xs[i] st = .ok st' → Inv (i + 1) st')
    (n i : Nat) (st : σ) (hi : i ≤ xs.length) (h0 : Inv i st) (hn : xs.length - i + 1 ≤ n) :
    Rs.loop n body (i, st) = ctlOf xs.length (m (xs.drop i) st) := by
  refine Rs.loop_eq body (fun s => xs.length - s.1) (fun s => s.1 ≤ xs.length ∧ Inv s.1 s.2)
    (fun s => ctlOf xs.length (m (xs.drop s.1) s.2)) ?_ n (i, st) ⟨hi, h0⟩ hn
  rintro ⟨i, st⟩ k ⟨hi, h0⟩ ih
  by_cases hc : i < xs.length
  · rw [Rs.loopStep, hstep i st hc h0, List.drop_eq_getElem_cons hc, hcons]
    cases hs : step xs[i] st with
    | panic p => rfl
    | ok st' => exact ih (i + 1, st') ⟨hc, hinv i st st' hc h0 hs⟩ (Nat.sub_succ_lt_self _ _ hc)
  · have : i = xs.length := Nat.le_antisymm hi (Nat.le_of_not_lt hc)
    subst this
    rw [Rs.loopStep, hbrk, List.drop_length, hnil]
    rfl

/-- the shape shared by the two `for_range!` loops of `concat_sum_lengths` (they differ in the `len` they call) -/
def cc_sbody {ε α : Type} (g : α → Res Nat) (end_ : Nat) (slices : List α) :
    (Nat × Nat) → Ctl (LoopExit ε (Nat × Nat) (Nat × Nat)) (Nat × Nat) := fun (start, sum) => do
  if (decide (start < end_)) then do
      let i := start
      let start ← Rs.uadd 64 start (1 : Nat)
      let t1_ ← Rs.index slices i
      let t2_ ← Ctl.call (g t1_)
      let sum ← Rs.uadd 64 sum t2_
      pure (start, sum)
  else Ctl.exit (.brk (start, sum))

theorem cc_sum_loop1 (end_ : Nat) (slices : List Nat) :
    Extracted.concat_sum_lengths.loop1 end_ slices = cc_sbody Extracted.ElemDispatch_char.fn_len end_ slices := rfl
theorem cc_sum_loop2 (end_ : Nat) (slices : List (List Nat)) :
    Extracted.concat_sum_lengths.loop2 end_ slices = cc_sbody Extracted.ElemDispatch_str.fn_len end_ slices := rfl

theorem cc_sum_loop {ε α : Type} (g : α → Res Nat) (e : α → Elem) (hg : ∀ x, g x = .ok (e x).len)
    (n : Nat) (slices : List α) (i sum : Nat) (hl : slices.length < 2 ^ 64) (hi : i ≤ slices.length)
    (hn : slices.length - i + 1 ≤ n) :
    Rs.loop n (cc_sbody (ε := ε) g slices.length slices) (i, sum)
      = ctlOf slices.length (sumLoop ((slices.drop i).map e) sum) := by
  refine forRange_loop slices _ (fun x s => ckAdd s (e x).len) (fun l s => sumLoop (l.map e) s) (fun _ _ => True)
    (fun _ => rfl) (fun _ _ _ => rfl) ?_ ?_ (fun _ _ _ _ _ _ => trivial) n i sum hi trivial hn
  · intro s
    simp [cc_sbody]
  · intro i s hc _
    have h1 : i + 1 < 2 ^ 64 := by omega
    simp only [cc_sbody, hc, decide_true, ↓reduceIte, Rs.uadd, h1, Ctl.bind_eq, Ctl.bind_val, Rs.index,
      List.getElem?_eq_getElem hc, hg, Ctl.call_ok, Ctl.pure_eq]
    exact uadd_ctlOf _ _ _

/-- hypotheses on the machine range of a `__StrConcatArg`: the outer slice has a `usize` length (any Rust
    slice has), every `char` is a `u32` value (any `char` is: scalar values are `< 0x110000`) -/
def ConcatArgOk : Extracted.StrConcatArg → Prop
  | .Char cs => cs.length < 2 ^ 64 ∧ ∀ c ∈ cs, c < 2 ^ 32
  | .Str ss => ss.length < 2 ^ 64

instance : DecidablePred ConcatArgOk := fun arg => by
  cases arg <;> unfold ConcatArgOk <;> infer_instance

theorem concat_sum_lengths_eq (fuel : Nat) (arg : Extracted.StrConcatArg)
    (hl : (toConcatArg arg).elems.length < 2 ^ 64) (hf : (toConcatArg arg).elems.length + 1 ≤ fuel) :
    Extracted.concat_sum_lengths fuel arg = outToRes (concatSumLengths (toConcatArg arg)) := by
  unfold Extracted.concat_sum_lengths concatSumLengths
  cases arg with
  | Char cs =>
    simp only [toConcatArg, ConcatArg.elems, List.length_map] at hl hf
    have := cc_sum_loop (ε := Nat) Extracted.ElemDispatch_char.fn_len Elem.chr ElemDispatch_char_fn_len_eq
      fuel cs 0 0 hl (by omega) (by omega)
    simp only [cc_sum_loop1, this, List.drop_zero, toConcatArg, ConcatArg.elems]
    cases sumLoop (List.map Elem.chr cs) 0 <;> simp
  | Str ss =>
    simp only [toConcatArg, ConcatArg.elems, List.length_map] at hl hf
    have := cc_sum_loop (ε := Nat) Extracted.ElemDispatch_str.fn_len Elem.str ElemDispatch_str_fn_len_eq
      fuel ss 0 0 hl (by omega) (by omega)
    simp only [cc_sum_loop2, this, List.drop_zero, toConcatArg, ConcatArg.elems]
    cases sumLoop (List.map Elem.str ss) 0 <;> simp

example : Extracted.concat_sum_lengths 4 (.Char [0x41, 0xE9, 0x20AC]) = .ok 6 :=
  concat_sum_lengths_eq 4 _ (by decide) (by decide)
example : Extracted.concat_sum_lengths 3 (.Str [[0x68, 0x69], [0xE2, 0x82, 0xAC]]) = .ok 5 := by decide +kernel

/-- the shape shared by all the `for_range!{i in 0..slice.len() => out[out_i] = slice[i]; out_i += 1;}` loops
    (`concat_strs.loop2/loop4`, `join_strs.loop1/loop3/loop4`, and `slice_concat_slices.loop2` for any element
    type: same text, different exit types) -/
def cc_wbody {ε α : Type} (end_ : Nat) (slice : List α) :
    (Nat × (List α) × Nat) → Ctl (LoopExit ε (Nat × (List α) × Nat) (Nat × (List α) × Nat))
      (Nat × (List α) × Nat) := fun (start, out, out_i) => do
  if (decide (start < end_)) then do
      let i := start
      let start ← Rs.uadd 64 start (1 : Nat)
      let t4_ ← Rs.index slice i
      let out ← Rs.setIndex out out_i t4_
      let out_i ← Rs.uadd 64 out_i (1 : Nat)
      pure (start, out, out_i)
  else Ctl.exit (.brk (start, out, out_i))

theorem cc_concat_loop2 (N end_ : Nat) (slice : List Nat) :
    Extracted.concat_strs.loop2 N end_ slice = cc_wbody end_ slice := rfl
theorem cc_concat_loop4 (N end_ : Nat) (slice : List Nat) :
    Extracted.concat_strs.loop4 N end_ slice = cc_wbody end_ slice := rfl

/-- `ctlOf` with the state of a fill loop (buffer, write index) written out -/
def cc_ctl3 {ε α : Type} (len : Nat) : Out (List α × Nat) → Ctl ε (Nat × List α × Nat)
  | .ok (o, k) => .val (len, o, k)
  | .panic _ => .panic

@[simp] theorem cc_ctl3_ok {ε α : Type} (len : Nat) (o : List α) (k : Nat) :
    (cc_ctl3 len (.ok (o, k)) : Ctl ε _) = .val (len, o, k) := rfl
@[simp] theorem cc_ctl3_panic {ε α : Type} (len : Nat) (p : Panic) :
    (cc_ctl3 len (.panic p : Out (List α × Nat)) : Ctl ε _) = .panic := rfl

theorem cc_writeBytes_length {α : Type} (bs out : List α) (oi : Nat) (o : List α) (k : Nat)
    (h : writeBytes bs out oi = .ok (o, k)) : o.length = out.length ∧ k = oi + bs.length := by
  induction bs generalizing out oi with
  | nil => simp [writeBytes] at h; simp [h.1, h.2]
  | cons b bs ih =>
    by_cases ho : oi < out.length
    · simp only [writeBytes, ho, ↓reduceIte] at h
      have := ih _ _ h
      simp at this ⊢
      omega
    · simp [writeBytes, ho] at h

/-- the inner byte-copy loop from any state.  `i ≤ oi` (the write index is at least the read index) makes
    `start += 1` unable to overflow before `out[out_i]` is out of bounds, so no bound on `slice.len()` is
    needed beyond the buffer length `N < 2^64`. -/
theorem cc_write_loop {ε α : Type} (n : Nat) (slice : List α) (i : Nat) (out : List α) (oi : Nat)
    (hN : out.length < 2 ^ 64) (hi : i ≤ slice.length) (hio : i ≤ oi) (hn : slice.length - i + 1 ≤ n) :
    Rs.loop n (cc_wbody (ε := ε) slice.length slice) (i, out, oi)
      = ctlOf slice.length (writeBytes (slice.drop i) out oi) := by
  refine forRange_loop slice _ (fun x st => writeBytes [x] st.1 st.2) (fun l st => writeBytes l st.1 st.2)
    (fun i st => st.1.length < 2 ^ 64 ∧ i ≤ st.2) (fun _ => rfl) ?_ ?_ ?_ ?_ n i (out, oi) hi ⟨hN, hio⟩ hn
  · intro x l st
    exact Konst.Lemmas.Concat.writeBytes_append [x] l st.1 st.2
  · intro st
    simp [cc_wbody]
  · rintro i ⟨out, oi⟩ hc ⟨hN : out.length < 2 ^ 64, hio : i ≤ oi⟩
    by_cases ho : oi < out.length
    · have h1 : i + 1 < 2 ^ 64 := by omega
      have h2 : oi + 1 < 2 ^ 64 := by omega
      simp only [cc_wbody, rs_eval, hc, h1, h2, ho, decide_true, ↓reduceIte, Rs.index_ok hc, Rs.setIndex, writeBytes]
      rfl
    · simp only [cc_wbody, Rs.uadd, rs_eval, hc, ho, decide_true, ↓reduceIte, Rs.index_ok hc, Rs.setIndex, writeBytes]
      split <;> rfl
  · rintro i ⟨out, oi⟩ ⟨o, k⟩ hc ⟨hN : out.length < 2 ^ 64, hio : i ≤ oi⟩ hw
    obtain ⟨ho, hk⟩ := cc_writeBytes_length _ _ _ _ _ hw
    exact ⟨ho ▸ hN, hk ▸ Nat.succ_le_succ hio⟩

/-- one `write_str!`-style block: `let (start, out, out_i) ← loop …; pure (start', out, out_i)` -/
theorem cc_write_block {ε α : Type} (F : Nat) (slice out : List α) (oi : Nat)
    (hN : out.length < 2 ^ 64) (hF : slice.length + 1 ≤ F) :
    Rs.loop F (cc_wbody (ε := ε) slice.length slice) (0, out, oi)
      = ctlOf slice.length (writeBytes slice out oi) :=
  cc_write_loop F slice 0 out oi hN (Nat.zero_le _) (Nat.zero_le _) hF

/-- a successful write keeps the buffer a `usize` long: the invariant of the outer loops -/
theorem cc_write_inv {α : Type} (bs : List α) (st st' : List α × Nat) (hN : st.1.length < 2 ^ 64)
    (h : writeBytes bs st.1 st.2 = .ok st') : st'.1.length < 2 ^ 64 :=
  (cc_writeBytes_length bs st.1 st.2 st'.1 st'.2 h).1 ▸ hN

/-- the outer loop of the `Char` arm of `concat_strs` (`F` = fuel handed to the inner loops) -/
theorem cc_concat_loop1 (N F n : Nat) (cs : List Nat) (i : Nat) (out : List Nat) (oi : Nat)
    (hcs : ∀ c ∈ cs, c < 2 ^ 32) (hl : cs.length < 2 ^ 64) (hN : out.length < 2 ^ 64) (hF : 5 ≤ F)
    (hi : i ≤ cs.length) (hn : cs.length - i + 1 ≤ n) :
    Rs.loop n (Extracted.concat_strs.loop1 N F cs.length cs) (i, out, oi)
      = ctlOf cs.length (fillLoop ((cs.drop i).map Elem.chr) out oi) := by
  refine forRange_loop cs _ (fun c st => writeBytes (Elem.chr c).bytes st.1 st.2)
    (fun l st => fillLoop (l.map Elem.chr) st.1 st.2) (fun _ st => st.1.length < 2 ^ 64)
    (fun _ => rfl) (fun _ _ _ => rfl) ?_ ?_ (fun _ st st' _ => cc_write_inv _ st st')
    n i (out, oi) hi hN hn
  · intro st
    simp [Extracted.concat_strs.loop1]
  · rintro i ⟨out, oi⟩ hc (hN : out.length < 2 ^ 64)
    have h1 : i + 1 < 2 ^ 64 := by omega
    have hci : cs[i] < 2 ^ 32 := hcs _ (List.getElem_mem hc)
    have hlen : (Elem.chr cs[i]).bytes.length + 1 ≤ F := by
      have := Konst.Lemmas.Utf8.clen_le_four cs[i]
      rw [show (Elem.chr cs[i]).bytes.length = lenUtf8 cs[i] from Konst.Lemmas.Concat.asBytes_length _]
      exact Nat.le_trans (Nat.succ_le_succ this) hF
    simp only [Extracted.concat_strs.loop1, hc, decide_true, ↓reduceIte, Rs.uadd, h1, Ctl.bind_eq, Ctl.bind_val,
      Rs.index, List.getElem?_eq_getElem hc, ElemDispatch_char_as_bytesable_eq _ hci, Ctl.call_ok, cc_char_bytes,
      cc_concat_loop2, cc_write_block F _ out oi hN hlen, Ctl.pure_eq]
    exact ctlOf_bind _ _ _

/-- the outer loop of the `Str` arm of `concat_strs` -/
theorem cc_concat_loop3 (N F n : Nat) (ss : List (List Nat)) (i : Nat) (out : List Nat) (oi : Nat)
    (hl : ss.length < 2 ^ 64) (hN : out.length < 2 ^ 64) (hF : ∀ s ∈ ss, s.length + 1 ≤ F)
    (hi : i ≤ ss.length) (hn : ss.length - i + 1 ≤ n) :
    Rs.loop n (Extracted.concat_strs.loop3 N F ss.length ss) (i, out, oi)
      = ctlOf ss.length (fillLoop ((ss.drop i).map Elem.str) out oi) := by
  refine forRange_loop ss _ (fun s st => writeBytes s st.1 st.2)
    (fun l st => fillLoop (l.map Elem.str) st.1 st.2) (fun _ st => st.1.length < 2 ^ 64)
    (fun _ => rfl) (fun _ _ _ => rfl) ?_ ?_ (fun _ st st' _ => cc_write_inv _ st st')
    n i (out, oi) hi hN hn
  · intro st
    simp [Extracted.concat_strs.loop3]
  · rintro i ⟨out, oi⟩ hc (hN : out.length < 2 ^ 64)
    have h1 : i + 1 < 2 ^ 64 := by omega
    have hlen : ss[i].length + 1 ≤ F := hF _ (List.getElem_mem hc)
    simp only [Extracted.concat_strs.loop3, rs_eval, hc, h1, decide_true, ↓reduceIte, Rs.index_ok hc,
      ElemDispatch_str_as_bytesable_eq, Elem.bytes, cc_concat_loop4, cc_write_block F _ out oi hN hlen]
    exact ctlOf_bind _ _ _

/-- sufficient fuel for `concat_strs`: one unit per element of the outer slice + 1, and (the same `fuel` is
    handed to the inner loops) one per byte of every piece + 1 (`5` covers every `char`) -/
def ConcatFuelOk (fuel : Nat) : Extracted.StrConcatArg → Prop
  | .Char cs => cs.length + 1 ≤ fuel ∧ 5 ≤ fuel
  | .Str ss => ss.length + 1 ≤ fuel ∧ ∀ s ∈ ss, s.length + 1 ≤ fuel

instance (fuel : Nat) : DecidablePred (ConcatFuelOk fuel) := fun arg => by
  cases arg <;> unfold ConcatFuelOk <;> infer_instance

/-- the panic is the model's `Panic.index` at `out[out_i] = …` (`N` smaller than the total length); otherwise the
    written bytes are followed by the untouched zeros -/
theorem concat_strs_eq (N fuel : Nat) (arg : Extracted.StrConcatArg) (hN : N < 2 ^ 64)
    (ha : ConcatArgOk arg) (hf : ConcatFuelOk fuel arg) :
    Extracted.concat_strs N fuel arg = outToArrayStr N (concatStrs N (toConcatArg arg)) := by
  unfold Extracted.concat_strs concatStrs
  cases arg with
  | Char cs =>
    obtain ⟨hl, hcs⟩ := ha
    obtain ⟨hf1, hf2⟩ := hf
    have := cc_concat_loop1 N fuel fuel cs 0 (List.replicate N 0) 0 hcs hl (by simpa using hN) hf2
      (by omega) (by omega)
    rw [List.drop_zero] at this
    simp only [this, toConcatArg, ConcatArg.elems, Rs.repeatN]
    cases fillLoop (List.map Elem.chr cs) (List.replicate N 0) 0 with
    | panic p => simp
    | ok r => obtain ⟨o, k⟩ := r; simp
  | Str ss =>
    obtain ⟨hf1, hf2⟩ := hf
    have := cc_concat_loop3 N fuel fuel ss 0 (List.replicate N 0) 0 ha (by simpa using hN) hf2
      (by omega) (by omega)
    rw [List.drop_zero] at this
    simp only [this, toConcatArg, ConcatArg.elems, Rs.repeatN]
    cases fillLoop (List.map Elem.str ss) (List.replicate N 0) 0 with
    | panic p => simp
    | ok r => obtain ⟨o, k⟩ := r; simp

example : Extracted.concat_strs 6 5 (.Char [0x41, 0xE9, 0x20AC]) = .ok ⟨[0x41, 0xC3, 0xA9, 0xE2, 0x82, 0xAC]⟩ := by
  rw [concat_strs_eq 6 5 _ (by decide) (by decide) (by decide)]; rfl
example : Extracted.concat_strs 7 4 (.Str [[0x68, 0x69], [0xE2, 0x82, 0xAC]])
    = .ok ⟨[0x68, 0x69, 0xE2, 0x82, 0xAC, 0, 0]⟩ := by
  rw [concat_strs_eq 7 4 _ (by decide) (by decide) (by decide)]; rfl
example : Extracted.concat_strs 4 4 (.Str [[0x68, 0x69], [0xE2, 0x82, 0xAC]]) = .panic := by
  rw [concat_strs_eq 4 4 _ (by decide) (by decide) (by decide)]; rfl

/-- `join_sum_lengths`: `0` for the empty slice, otherwise the checked
    `concat_sum_lengths(Str(slice)) + sep.len() * (slice.len() - 1)`; a panic exactly when the model says
    `Panic.overflow` (in the sum loop, the product or the final sum — same order of evaluation) -/
theorem join_sum_lengths_eq (fuel : Nat) (arg : Extracted.StrJoinArgs)
    (hl : arg.slice.length < 2 ^ 64) (hf : arg.slice.length + 1 ≤ fuel) :
    Extracted.join_sum_lengths fuel arg = outToRes (joinSumLengths (toSepArg arg.sep) arg.slice) := by
  obtain ⟨sep, slice⟩ := arg
  simp only at hl hf
  unfold Extracted.join_sum_lengths joinSumLengths
  by_cases he : slice.isEmpty = true
  · simp [he]
  · have hpos : 1 ≤ slice.length := by
      cases slice with
      | nil => simp at he
      | cons a l => simp
    have hc := concat_sum_lengths_eq fuel (.Str slice) (by simpa [toConcatArg, ConcatArg.elems] using hl)
      (by simpa [toConcatArg, ConcatArg.elems] using hf)
    simp only [he, Bool.false_eq_true, ↓reduceIte, hc, toConcatArg, SepArg_fn_len_eq, Ctl.call_ok, Ctl.bind_eq,
      Ctl.bind_val, Rs.usub, hpos, Rs.umul, Rs.uadd, ckMul, ckAdd, USIZE]
    cases concatSumLengths (.strs slice) with
    | panic p => simp
    | ok a =>
      simp only [outToRes_ok, Ctl.call_ok, Ctl.bind_val, Out.ok_bind]
      by_cases h1 : (toSepArg sep).len * (slice.length - 1) < 2 ^ 64
      · simp only [h1, ↓reduceIte, Ctl.bind_val, Out.ok_bind]
        by_cases h2 : a + (toSepArg sep).len * (slice.length - 1) < 2 ^ 64 <;> simp [h2]
      · simp [h1]

example : Extracted.join_sum_lengths 4 ⟨.Char 0x20AC, [[0x61], [0x62, 0x63], []]⟩ = .ok 9 := by
  rw [join_sum_lengths_eq 4 _ (by decide) (by decide)]; rfl
example : Extracted.join_sum_lengths 1 ⟨.Str [0x2C, 0x20], []⟩ = .ok 0 := by
  rw [join_sum_lengths_eq 1 _ (by decide) (by decide)]; rfl

theorem cc_join_loop1 (N end_ : Nat) (slice : List Nat) :
    Extracted.join_strs.loop1 N end_ slice = cc_wbody end_ slice := rfl
theorem cc_join_loop3 (N end_ : Nat) (slice : List Nat) :
    Extracted.join_strs.loop3 N end_ slice = cc_wbody end_ slice := rfl
theorem cc_join_loop4 (N end_ : Nat) (slice : List Nat) :
    Extracted.join_strs.loop4 N end_ slice = cc_wbody end_ slice := rfl

/-- the `for_range!{si in 0..rem_slices.len() => write_str!{sep} write_str!{rem_slices[si]}}` loop -/
theorem cc_join_loop2 (N F n : Nat) (sep : List Nat) (rem : List (List Nat)) (i : Nat) (out : List Nat) (oi : Nat)
    (hl : rem.length < 2 ^ 64) (hN : out.length < 2 ^ 64) (hFs : sep.length + 1 ≤ F)
    (hF : ∀ s ∈ rem, s.length + 1 ≤ F) (hi : i ≤ rem.length) (hn : rem.length - i + 1 ≤ n) :
    Rs.loop n (Extracted.join_strs.loop2 N F rem.length sep rem) (i, out, oi)
      = ctlOf rem.length (joinRemLoop sep (rem.drop i) out oi) := by
  refine forRange_loop rem _ (fun s st => writeBytes sep st.1 st.2 >>= fun r => writeBytes s r.1 r.2)
    (fun l st => joinRemLoop sep l st.1 st.2) (fun _ st => st.1.length < 2 ^ 64)
    (fun _ => rfl) ?_ ?_ ?_ ?_ n i (out, oi) hi hN hn
  · intro s l st
    simp only [joinRemLoop]
    cases writeBytes sep st.1 st.2 <;> rfl
  · intro st
    simp [Extracted.join_strs.loop2]
  · rintro i ⟨out, oi⟩ hc (hN : out.length < 2 ^ 64)
    have h1 : i + 1 < 2 ^ 64 := by omega
    have hlen : rem[i].length + 1 ≤ F := hF _ (List.getElem_mem hc)
    simp only [Extracted.join_strs.loop2, hc, decide_true, ↓reduceIte, Rs.uadd, h1, Ctl.bind_eq, Ctl.bind_val,
      cc_join_loop3, cc_write_block F sep out oi hN hFs, Ctl.pure_eq]
    cases hw : writeBytes sep out oi with
    | panic p => rfl
    | ok r =>
      simp only [ctlOf_ok, Ctl.bind_val, Out.ok_bind, Rs.index, List.getElem?_eq_getElem hc, cc_join_loop4,
        cc_write_block F rem[i] r.1 r.2 (cc_write_inv sep (out, oi) r hN hw) hlen]
      exact ctlOf_bind _ _ _
  · intro i st st' _ hN hw
    cases h1 : writeBytes sep st.1 st.2 with
    | panic p => simp [h1] at hw
    | ok r =>
      rw [h1] at hw
      exact cc_write_inv _ r st' (cc_write_inv sep st r hN h1) hw

/-- machine range of a `StrJoinArgs`: the slice has a `usize` length, a `char` separator is a `u32` value -/
def JoinArgOk (arg : Extracted.StrJoinArgs) : Prop :=
  arg.slice.length < 2 ^ 64 ∧ (match arg.sep with | .Char c => c < 2 ^ 32 | .Str _ => True)

instance : DecidablePred JoinArgOk := fun ⟨sep, _⟩ => by
  cases sep <;> unfold JoinArgOk <;> infer_instance

/-- sufficient fuel for `join_strs` (the same `fuel` goes to all four loops): the number of pieces, and one
    unit per byte of every piece and of the separator + 1 -/
def JoinFuelOk (fuel : Nat) (arg : Extracted.StrJoinArgs) : Prop :=
  arg.slice.length ≤ fuel ∧ (∀ s ∈ arg.slice, s.length + 1 ≤ fuel) ∧ (toSepArg arg.sep).bytes.length + 1 ≤ fuel

instance (fuel : Nat) : DecidablePred (JoinFuelOk fuel) := fun _ => by
  unfold JoinFuelOk
  infer_instance

theorem cc_join_strs_str (N fuel : Nat) (s : List Nat) (slices : List (List Nat)) (hN : N < 2 ^ 64)
    (hl : slices.length < 2 ^ 64) (hf1 : slices.length ≤ fuel) (hf2 : ∀ x ∈ slices, x.length + 1 ≤ fuel)
    (hf3 : s.length + 1 ≤ fuel) :
    Extracted.join_strs N fuel ⟨.Str s, slices⟩ = outToArrayStr N (joinStrs N (.str s) slices) := by
  unfold Extracted.join_strs joinStrs
  cases slices with
  | nil => simp [Rs.repeatN]
  | cons first rem =>
    have hfirst : first.length + 1 ≤ fuel := hf2 _ (by simp)
    have hrem : ∀ x ∈ rem, x.length + 1 ≤ fuel := fun x hx => hf2 x (by simp [hx])
    simp only [List.length_cons] at hl hf1
    simp only [Ctl.pure_eq, Ctl.bind_eq, Ctl.bind_val, Rs.repeatN, cc_join_loop1, SepArg.bytes,
      cc_write_block fuel first (List.replicate N 0) 0 (by simpa using hN) hfirst]
    cases hw : writeBytes first (List.replicate N 0) 0 with
    | panic p => simp
    | ok r =>
      obtain ⟨o, k⟩ := r
      have ho := (cc_writeBytes_length _ _ _ _ _ hw).1
      simp only [List.length_replicate] at ho
      have := cc_join_loop2 N fuel fuel s rem 0 o k (by omega) (by omega) hf3 hrem (by omega) (by omega)
      rw [List.drop_zero] at this
      simp only [ctlOf_ok, Ctl.bind_val, Out.ok_bind, this]
      cases joinRemLoop s rem o k with
      | panic p => simp
      | ok r2 => obtain ⟨o2, k2⟩ := r2; simp

/-- a `char` separator is encoded first (`utf8e = encode_utf8(c); utf8e.as_str()`), the rest is the same code -/
theorem cc_join_strs_char (N fuel : Nat) (c : Nat) (slices : List (List Nat)) (hc : c < 2 ^ 32) :
    Extracted.join_strs N fuel ⟨.Char c, slices⟩
      = Extracted.join_strs N fuel ⟨.Str (Konst.Concat.encodeUtf8 c).asBytes, slices⟩ := by
  unfold Extracted.join_strs
  simp only [encode_utf8_eq c hc, cc_encodeUtf8_models, Ctl.call_ok, Ctl.bind_eq, Ctl.bind_val,
    Utf8Encoded_as_str_eq, toModelUtf8_ofModelUtf8, Ctl.pure_eq]

theorem join_strs_eq (N fuel : Nat) (arg : Extracted.StrJoinArgs) (hN : N < 2 ^ 64)
    (ha : JoinArgOk arg) (hf : JoinFuelOk fuel arg) :
    Extracted.join_strs N fuel arg = outToArrayStr N (joinStrs N (toSepArg arg.sep) arg.slice) := by
  obtain ⟨sep, slices⟩ := arg
  obtain ⟨hl, hc⟩ := ha
  obtain ⟨hf1, hf2, hf3⟩ := hf
  cases sep with
  | Str s => exact cc_join_strs_str N fuel s slices hN hl hf1 hf2 hf3
  | Char c =>
    rw [cc_join_strs_char N fuel c slices hc,
      cc_join_strs_str N fuel (Konst.Concat.encodeUtf8 c).asBytes slices hN hl hf1 hf2 hf3]
    rfl

example : Extracted.join_strs 9 5 ⟨.Char 0x20AC, [[0x61], [0x62, 0x63], []]⟩
    = .ok ⟨[0x61, 0xE2, 0x82, 0xAC, 0x62, 0x63, 0xE2, 0x82, 0xAC]⟩ := by
  rw [join_strs_eq 9 5 _ (by decide) (by decide) (by decide)]; rfl
example : Extracted.join_strs 6 3 ⟨.Str [0x2C, 0x20], [[0x61], [0x62]]⟩ = .ok ⟨[0x61, 0x2C, 0x20, 0x62, 0, 0]⟩ := by
  rw [join_strs_eq 6 3 _ (by decide) (by decide) (by decide)]; rfl
example : Extracted.join_strs 3 3 ⟨.Str [0x2C, 0x20], [[0x61], [0x62]]⟩ = .panic := by
  rw [join_strs_eq 3 3 _ (by decide) (by decide) (by decide)]; rfl

/-! ## corollaries: closed forms and std-level statements (via the property theorems of `Props/C20.lean`)

  `written a` = the concatenation of the pieces' bytes (`Lemmas/Concat.lean`); `stdJoin sep ss = List.intercalate sep ss`,
  `stdConcat ss = ss.flatten`, `stdCollectChars cs = Utf8.encs cs` are the reference semantics of `Spec/Concat.lean`. -/

open Konst.Spec Konst.Spec.Concat Konst.Props.C20

def totalLen (arg : Extracted.StrConcatArg) : Nat := (written (toConcatArg arg)).length

theorem cc_written_Str (ss : List (List Nat)) : written (toConcatArg (.Str ss)) = ss.flatten :=
  Konst.Lemmas.Concat.written_strs ss

theorem concat_sum_lengths_total (fuel : Nat) (arg : Extracted.StrConcatArg)
    (hl : (toConcatArg arg).elems.length < 2 ^ 64) (hf : (toConcatArg arg).elems.length + 1 ≤ fuel)
    (ht : totalLen arg < 2 ^ 64) :
    Extracted.concat_sum_lengths fuel arg = .ok (totalLen arg) := by
  rw [concat_sum_lengths_eq fuel arg hl hf, concatSumLengths_eq, if_pos (by simpa [USIZE, totalLen] using ht)]
  rfl

theorem concat_sum_lengths_overflow (fuel : Nat) (arg : Extracted.StrConcatArg)
    (hl : (toConcatArg arg).elems.length < 2 ^ 64) (hf : (toConcatArg arg).elems.length + 1 ≤ fuel)
    (ht : ¬ totalLen arg < 2 ^ 64) :
    Extracted.concat_sum_lengths fuel arg = .panic := by
  rw [concat_sum_lengths_eq fuel arg hl hf, concatSumLengths_eq, if_neg (by simpa [USIZE, totalLen] using ht)]
  rfl

theorem concat_strs_padded (N fuel : Nat) (arg : Extracted.StrConcatArg) (hN : N < 2 ^ 64)
    (ha : ConcatArgOk arg) (hf : ConcatFuelOk fuel arg) (ht : totalLen arg ≤ N) :
    Extracted.concat_strs N fuel arg
      = .ok ⟨written (toConcatArg arg) ++ List.replicate (N - totalLen arg) 0⟩ := by
  rw [concat_strs_eq N fuel arg hN ha hf, concatStrs_eq,
    if_pos (show (written (toConcatArg arg)).length ≤ N from ht)]
  rfl

/-- `concat_strs::<LEN>` with `LEN` = the total length (what `str_concat!` instantiates): exactly the
    concatenated bytes -/
theorem concat_strs_exact (fuel : Nat) (arg : Extracted.StrConcatArg) (hN : totalLen arg < 2 ^ 64)
    (ha : ConcatArgOk arg) (hf : ConcatFuelOk fuel arg) :
    Extracted.concat_strs (totalLen arg) fuel arg = .ok ⟨written (toConcatArg arg)⟩ := by
  rw [concat_strs_padded _ fuel arg hN ha hf (Nat.le_refl _)]
  simp

/-- the panic is the index out of bounds at `out[out_i] = …` -/
theorem concat_strs_too_small (N fuel : Nat) (arg : Extracted.StrConcatArg) (hN : N < 2 ^ 64)
    (ha : ConcatArgOk arg) (hf : ConcatFuelOk fuel arg) (ht : N < totalLen arg) :
    Extracted.concat_strs N fuel arg = .panic := by
  rw [concat_strs_eq N fuel arg hN ha hf, concatStrs_eq, if_neg (by unfold totalLen at ht; omega)]
  rfl

/-- std level, `&str` pieces: `concat_strs::<LEN>(Str(pieces))` holds `pieces.concat()` -/
theorem concat_strs_Str_flatten (fuel : Nat) (ss : List (List Nat)) (hN : ss.flatten.length < 2 ^ 64)
    (hl : ss.length < 2 ^ 64) (hf : ConcatFuelOk fuel (.Str ss)) :
    Extracted.concat_strs ss.flatten.length fuel (.Str ss) = .ok ⟨stdConcat ss⟩ := by
  have e : totalLen (.Str ss) = ss.flatten.length := by rw [totalLen, cc_written_Str]
  have := concat_strs_exact fuel (.Str ss) (by rw [e]; exact hN) hl hf
  rw [e, cc_written_Str] at this
  exact this

/-- std level, `char` pieces (scalar values): `concat_strs::<LEN>(Char(cs))` holds `cs.iter().collect::<String>()` -/
theorem concat_strs_Char_collect (fuel : Nat) (cs : List Nat) (hs : ∀ c ∈ cs, Utf8.isScalar c = true)
    (hN : (stdCollectChars cs).length < 2 ^ 64) (hl : cs.length < 2 ^ 64) (hf : ConcatFuelOk fuel (.Char cs)) :
    Extracted.concat_strs (stdCollectChars cs).length fuel (.Char cs) = .ok ⟨stdCollectChars cs⟩ := by
  have hw : written (toConcatArg (.Char cs)) = stdCollectChars cs := written_eq_std (.chars cs) hs
  have hc : ∀ c ∈ cs, c < 2 ^ 32 := fun c h => by
    have := Konst.Lemmas.Utf8.isScalar_lt c (hs c h); omega
  have e : totalLen (.Char cs) = (stdCollectChars cs).length := by rw [totalLen, hw]
  have := concat_strs_exact fuel (.Char cs) (by rw [e]; exact hN) ⟨hl, hc⟩ hf
  rw [e, hw] at this
  exact this

def sepBytes (sep : Extracted.SepArg) : List Nat := (toSepArg sep).bytes

theorem sepBytes_Str (s : List Nat) : sepBytes (.Str s) = s := rfl
theorem sepBytes_Char (c : Nat) (h : Utf8.isScalar c = true) : sepBytes (.Char c) = Utf8.enc c :=
  sepBytes_eq_std (.chr c) h

theorem join_sum_lengths_total (fuel : Nat) (arg : Extracted.StrJoinArgs)
    (hl : arg.slice.length < 2 ^ 64) (hf : arg.slice.length + 1 ≤ fuel)
    (ht : (stdJoin (sepBytes arg.sep) arg.slice).length < 2 ^ 64) :
    Extracted.join_sum_lengths fuel arg = .ok (stdJoin (sepBytes arg.sep) arg.slice).length := by
  rw [join_sum_lengths_eq fuel arg hl hf, joinSumLengths_eq, if_pos (by simpa [USIZE, sepBytes] using ht)]
  rfl

theorem join_sum_lengths_overflow (fuel : Nat) (arg : Extracted.StrJoinArgs)
    (hl : arg.slice.length < 2 ^ 64) (hf : arg.slice.length + 1 ≤ fuel)
    (ht : ¬ (stdJoin (sepBytes arg.sep) arg.slice).length < 2 ^ 64) :
    Extracted.join_sum_lengths fuel arg = .panic := by
  rw [join_sum_lengths_eq fuel arg hl hf, joinSumLengths_eq, if_neg (by simpa [USIZE, sepBytes] using ht)]
  rfl

theorem join_strs_padded (N fuel : Nat) (arg : Extracted.StrJoinArgs) (hN : N < 2 ^ 64)
    (ha : JoinArgOk arg) (hf : JoinFuelOk fuel arg) (ht : (stdJoin (sepBytes arg.sep) arg.slice).length ≤ N) :
    Extracted.join_strs N fuel arg
      = .ok ⟨stdJoin (sepBytes arg.sep) arg.slice
              ++ List.replicate (N - (stdJoin (sepBytes arg.sep) arg.slice).length) 0⟩ := by
  rw [join_strs_eq N fuel arg hN ha hf, joinStrs_eq,
    if_pos (show (stdJoin (toSepArg arg.sep).bytes arg.slice).length ≤ N from ht)]
  rfl

/-- `join_strs::<LEN>` with `LEN` = the joined length (what `str_join!` instantiates): exactly
    `slice.join(sep)` = `List.intercalate sep slice` -/
theorem join_strs_exact (fuel : Nat) (arg : Extracted.StrJoinArgs)
    (hN : (stdJoin (sepBytes arg.sep) arg.slice).length < 2 ^ 64) (ha : JoinArgOk arg) (hf : JoinFuelOk fuel arg) :
    Extracted.join_strs (stdJoin (sepBytes arg.sep) arg.slice).length fuel arg
      = .ok ⟨List.intercalate (sepBytes arg.sep) arg.slice⟩ := by
  rw [join_strs_padded _ fuel arg hN ha hf (Nat.le_refl _)]
  simp [stdJoin]

/-- the panic is the index out of bounds at `out[out_i] = …` -/
theorem join_strs_too_small (N fuel : Nat) (arg : Extracted.StrJoinArgs) (hN : N < 2 ^ 64)
    (ha : JoinArgOk arg) (hf : JoinFuelOk fuel arg) (ht : N < (stdJoin (sepBytes arg.sep) arg.slice).length) :
    Extracted.join_strs N fuel arg = .panic := by
  rw [join_strs_eq N fuel arg hN ha hf, joinStrs_eq, if_neg (by unfold sepBytes at ht; omega)]
  rfl

example : Extracted.concat_strs 5 4 (.Str [[0x68, 0x69], [0xE2, 0x82, 0xAC]]) = .ok ⟨[0x68, 0x69, 0xE2, 0x82, 0xAC]⟩ :=
  concat_strs_Str_flatten 4 [[0x68, 0x69], [0xE2, 0x82, 0xAC]] (by decide) (by decide) (by decide)
example : Extracted.join_strs 4 3 ⟨.Str [0x2C, 0x20], [[0x61], [0x62]]⟩ = .ok ⟨[0x61, 0x2C, 0x20, 0x62]⟩ :=
  join_strs_exact 3 ⟨.Str [0x2C, 0x20], [[0x61], [0x62]]⟩ (by decide) (by decide) (by decide)
example : Extracted.concat_strs 6 5 (.Char [0x41, 0xE9, 0x20AC]) = .ok ⟨[0x41, 0xC3, 0xA9, 0xE2, 0x82, 0xAC]⟩ :=
  concat_strs_Char_collect 5 [0x41, 0xE9, 0x20AC] (by decide) (by decide) (by decide) (by decide)

end Extracted.Equiv
