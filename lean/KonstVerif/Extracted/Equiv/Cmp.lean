import KonstVerif.Extracted.Gen.Cmp
import KonstVerif.Model.Cmp
import KonstVerif.Lemmas.Cmp
/-
  Extracted = Model for the slice / string comparison functions (C16).

  Shape of the model (`Model/Cmp.lean`): every integer type is the mathematical integers, so the
  model functions are `List Int → List Int → Option _`, where `none` = "the Rust code panicked"
  (an out-of-bounds index).  The extraction keeps `u8`/`u64` as `Nat` and `i8` as `Int`; a `List Nat`
  is handed to the model as `left.map Int.ofNat` (value-preserving, order-preserving embedding).
  Every theorem therefore reads

      ∃ v, Model.f left' right' = some v ∧ Extracted.f fuel left right = .ok v

  i.e. model and extraction both return normally (no index panic, no `i += 1` overflow, fuel
  suffices) with the same value.  `Extracted.U8Ordering {_0}` is mapped to the model's
  `Konst.Cmp.U8Ordering {val}` by `u8ordOfModel` / `u8ordToModel` (same `u8` payload).
-/
namespace Extracted.Equiv
open Rs Konst Konst.Cmp

def u8ordOfModel (o : Konst.Cmp.U8Ordering) : Extracted.U8Ordering := ⟨o.val⟩
def u8ordToModel (x : Extracted.U8Ordering) : Konst.Cmp.U8Ordering := ⟨x._0⟩

@[simp] theorem u8ordToModel_ofModel (o : Konst.Cmp.U8Ordering) : u8ordToModel (u8ordOfModel o) = o := rfl
@[simp] theorem u8ordOfModel_toModel (x : Extracted.U8Ordering) : u8ordOfModel (u8ordToModel x) = x := rfl

theorem U8Ordering.to_ordering_eq (x : Extracted.U8Ordering) :
    Extracted.U8Ordering.to_ordering x = .ok (u8ordToModel x).toOrdering := by
  obtain ⟨n⟩ := x
  unfold Extracted.U8Ordering.to_ordering Konst.Cmp.U8Ordering.toOrdering u8ordToModel
  by_cases h0 : n = 0
  · subst h0; rfl
  · by_cases h1 : n = 1
    · subst h1; rfl
    · simp [Extracted.U8Ordering.LESS, Extracted.U8Ordering.GREATER, Konst.Cmp.U8Ordering.LESS,
        Konst.Cmp.U8Ordering.GREATER, h0, h1]

example : Extracted.U8Ordering.to_ordering ⟨1⟩ = .ok .gt := U8Ordering.to_ordering_eq ⟨1⟩
example : Extracted.U8Ordering.to_ordering ⟨7⟩ = .ok .eq := by decide +kernel

/-! ### the loop bodies, once for every element type

  The four `eq_*.loop1` are the same text, as are the four `cmp_*_inner.loop1`; `eqBody` / `cmpBody`
  are that text over an arbitrary element type and each generated body is (definitionally) an
  instance. -/

def eqBody {α : Type} [DecidableEq α] (left right : List α) : Nat → Ctl (LoopExit Bool Nat Nat) Nat := fun i => do
  if (decide (i ≠ left.length)) then do
      let t1_ ← Rs.index left i
      let t2_ ← Rs.index right i
      let _ ← (if (decide (t1_ ≠ t2_)) then do
            Ctl.exit (.out false)
          else do
            pure ())
      let i ← Rs.uadd 64 i (1 : Nat)
      pure i
  else Ctl.exit (.brk i)

def cmpBody {α : Type} [DecidableEq α] [LT α] [DecidableLT α] (min_len : Nat) (left right : List α) :
    Nat → Ctl (LoopExit Extracted.U8Ordering Nat Nat) Nat := fun i => do
  if (decide (i < min_len)) then do
      let _ ← (do
            let t1_ ← Rs.index left i
            let l := t1_
            let t2_ ← Rs.index right i
            let r := t2_
            let _ ← (if (decide (l ≠ r)) then do
                  Ctl.exit (.out (Extracted.U8Ordering.mk (Rs.boolToNat (decide (l > r)))))
                else do
                  pure ())
            pure ())
      let i ← Rs.uadd 64 i (1 : Nat)
      pure i
  else Ctl.exit (.brk i)

theorem eq_bytes_loop1 : Extracted.eq_bytes.loop1 = eqBody (α := Nat) := rfl
theorem eq_str_loop1 : Extracted.eq_str.loop1 = eqBody (α := Nat) := rfl
theorem eq_slice_i8_loop1 : Extracted.eq_slice_i8.loop1 = eqBody (α := Int) := rfl
theorem eq_slice_u64_loop1 : Extracted.eq_slice_u64.loop1 = eqBody (α := Nat) := rfl
theorem cmp_bytes_inner_loop1 : Extracted.cmp_bytes_inner.loop1 = cmpBody (α := Nat) := rfl
theorem cmp_str_inner_loop1 : Extracted.cmp_str_inner.loop1 = cmpBody (α := Nat) := rfl
theorem cmp_slice_i8_inner_loop1 : Extracted.cmp_slice_i8_inner.loop1 = cmpBody (α := Int) := rfl
theorem cmp_slice_u64_inner_loop1 : Extracted.cmp_slice_u64_inner.loop1 = cmpBody (α := Nat) := rfl

theorem loop_fuel_zero {len i : Nat} (hn : len + 1 ≤ 0 + i) (hi : i ≤ len) : False := by omega
theorem loop_fuel_succ {len n i : Nat} (hn : len + 1 ≤ n + 1 + i) : len + 1 ≤ n + (i + 1) := by omega

theorem eqLoop_stop {l r : List Int} {i : Nat} (h : i = l.length) : eqLoop l r i = some true := by
  rw [eqLoop, if_pos h]

theorem eqLoop_step {l r : List Int} {i : Nat} (hl : i < l.length) (hr : i < r.length) :
    eqLoop l r i = if l[i] ≠ r[i] then some false else eqLoop l r (i + 1) := by
  rw [eqLoop, if_neg (Nat.ne_of_lt hl), dif_pos hl, List.getElem?_eq_getElem hr]

theorem eqBody_stop {α : Type} [DecidableEq α] (left right : List α) :
    eqBody left right left.length = Ctl.exit (.brk left.length) := by
  simp only [eqBody, ne_eq, not_true_eq_false, decide_false, Bool.false_eq_true, if_false]

theorem eqBody_step {α : Type} [DecidableEq α] {left right : List α} {i : Nat}
    (hl : i < left.length) (hr : i < right.length) (h1 : i + 1 < 2 ^ 64) :
    eqBody left right i = if left[i] ≠ right[i] then Ctl.exit (.out false) else Ctl.val (i + 1) := by
  simp only [eqBody, Rs.index, Rs.uadd, List.getElem?_eq_getElem hl, List.getElem?_eq_getElem hr,
    Nat.ne_of_lt hl, h1, ne_eq, not_false_eq_true, decide_true, decide_not, if_true,
    Ctl.bind_eq, Ctl.bind_val, Ctl.pure_eq, Bool.not_eq_true', decide_eq_false_iff_not]
  split <;> rfl

/-- the `while i != left.len()` loop of `eq_*`; `f` embeds the element type into the model's `Int` -/
theorem eq_loop {α : Type} [DecidableEq α] (f : α → Int) (hinj : ∀ a b, f a = f b ↔ a = b)
    (n : Nat) (left right : List α) (i : Nat)
    (hlen : left.length = right.length) (hb : left.length < 2 ^ 64)
    (hn : left.length + 1 ≤ n + i) (hi : i ≤ left.length) :
    (eqLoop (left.map f) (right.map f) i = some false ∧
        Rs.loop n (eqBody left right) i = (Ctl.exit false : Ctl Bool Nat)) ∨
    (eqLoop (left.map f) (right.map f) i = some true ∧
        ∃ j, Rs.loop n (eqBody left right) i = (Ctl.val j : Ctl Bool Nat)) := by
  induction n generalizing i with
  | zero => exact (loop_fuel_zero hn hi).elim
  | succ n ih =>
    rw [Rs.loop_succ]
    by_cases hc : i = left.length
    · rw [hc, eqBody_stop, eqLoop_stop (List.length_map f).symm]
      exact Or.inr ⟨rfl, _, rfl⟩
    · have hil : i < left.length := Nat.lt_of_le_of_ne hi hc
      have hir : i < right.length := hlen ▸ hil
      rw [eqBody_step hil hir (Nat.lt_of_le_of_lt hil hb),
        eqLoop_step (l := left.map f) (by rwa [List.length_map]) (by rwa [List.length_map]),
        List.getElem_map, List.getElem_map]
      by_cases he : left[i] = right[i]
      · rw [if_neg (fun h => h (congrArg f he)), if_neg (fun h => h he)]
        exact ih (i + 1) (loop_fuel_succ hn) hil
      · rw [if_pos (fun h => he ((hinj _ _).1 h)), if_pos he]
        exact Or.inl ⟨rfl, rfl⟩

theorem elemLoop_stop {l r : List Int} {m i : Nat} (tail : Konst.Cmp.U8Ordering) (h : ¬ i < m) :
    elemLoop l r m tail i = some tail := by
  rw [elemLoop, if_neg h]

theorem elemLoop_step {l r : List Int} {m i : Nat} (tail : Konst.Cmp.U8Ordering) (h : i < m)
    (hl : i < l.length) (hr : i < r.length) :
    elemLoop l r m tail i =
      match retIfNe l[i] r[i] with
      | some o => some o
      | none => elemLoop l r m tail (i + 1) := by
  rw [elemLoop, if_pos h, List.getElem?_eq_getElem hl, List.getElem?_eq_getElem hr]
  rfl

theorem cmpBody_stop {α : Type} [DecidableEq α] [LT α] [DecidableLT α] {m i : Nat} (left right : List α)
    (h : ¬ i < m) : cmpBody m left right i = Ctl.exit (.brk i) := by
  simp only [cmpBody, h, decide_false, Bool.false_eq_true, if_false]

/-- the generated `__priv_ret_if_ne!`: `if l != r { return U8Ordering((l > r) as u8) }` -/
theorem cmpBody_step {α : Type} [DecidableEq α] [LT α] [DecidableLT α] {m i : Nat} {left right : List α}
    (h : i < m) (hl : i < left.length) (hr : i < right.length) (h1 : i + 1 < 2 ^ 64) :
    cmpBody m left right i =
      if left[i] ≠ right[i] then Ctl.exit (.out ⟨Rs.boolToNat (decide (left[i] > right[i]))⟩)
      else Ctl.val (i + 1) := by
  simp only [cmpBody, Rs.index, Rs.uadd, List.getElem?_eq_getElem hl, List.getElem?_eq_getElem hr, h, h1,
    ne_eq, decide_true, decide_not, if_true, Ctl.bind_eq, Ctl.bind_val, Ctl.pure_eq, Bool.not_eq_true',
    decide_eq_false_iff_not]
  split <;> rfl

/-- the `while i < min_len` loop of `cmp_inner` / `cmp_str_inner`; `tail` is the value of the code
    after the loop -/
theorem cmp_loop {α : Type} [DecidableEq α] [LT α] [DecidableLT α] (f : α → Int)
    (hinj : ∀ a b, f a = f b ↔ a = b) (hgt : ∀ a b, f a > f b ↔ a > b)
    (n : Nat) (left right : List α) (minLen : Nat) (tail : Konst.Cmp.U8Ordering) (i : Nat)
    (hl : minLen ≤ left.length) (hr : minLen ≤ right.length) (hb : minLen < 2 ^ 64)
    (hn : minLen + 1 ≤ n + i) (hi : i ≤ minLen) :
    (∃ o, elemLoop (left.map f) (right.map f) minLen tail i = some o ∧
        Rs.loop n (cmpBody minLen left right) i
          = (Ctl.exit (u8ordOfModel o) : Ctl Extracted.U8Ordering Nat)) ∨
    (elemLoop (left.map f) (right.map f) minLen tail i = some tail ∧
        ∃ j, Rs.loop n (cmpBody minLen left right) i = (Ctl.val j : Ctl Extracted.U8Ordering Nat)) := by
  induction n generalizing i with
  | zero => exact (loop_fuel_zero hn hi).elim
  | succ n ih =>
    rw [Rs.loop_succ]
    by_cases hc : i < minLen
    · have hil : i < left.length := Nat.lt_of_lt_of_le hc hl
      have hir : i < right.length := Nat.lt_of_lt_of_le hc hr
      rw [cmpBody_step hc hil hir (Nat.lt_of_le_of_lt hc hb),
        elemLoop_step (l := left.map f) tail hc (by rwa [List.length_map]) (by rwa [List.length_map]),
        List.getElem_map, List.getElem_map]
      by_cases he : left[i] = right[i]
      · rw [if_neg (fun h => h he), he, Konst.Lemmas.Cmp.retIfNe_self]
        exact ih (i + 1) (loop_fuel_succ hn) hc
      · have hne : f left[i] ≠ f right[i] := fun h => he ((hinj _ _).1 h)
        rw [if_pos he]
        refine Or.inl ⟨⟨boolAsU8 (decide (f left[i] > f right[i]))⟩, by rw [retIfNe, if_pos hne], ?_⟩
        -- `(l > r) as u8`: `boolAsU8` and `Rs.boolToNat` are the same function, `hgt` carries `>` over
        simp only [hgt]
        rfl
    · rw [cmpBody_stop left right hc, elemLoop_stop tail hc]
      exact Or.inr ⟨rfl, i, rfl⟩

/-! ### the function bodies, once for every element type -/

def eqFn {α : Type} [DecidableEq α] (fuel : Nat) (left right : List α) : Res Bool := Ctl.run (ρ := Bool) do
  let _ ← (if (decide (left.length ≠ right.length)) then do
        Ctl.exit (false)
      else do
        pure ())
  let i := (0 : Nat)
  let _ ← (Rs.loop fuel (eqBody left right) i)
  pure true

def cmpInnerFn {α : Type} [DecidableEq α] [LT α] [DecidableLT α] (fuel : Nat) (left right : List α) :
    Res Extracted.U8Ordering := Ctl.run (ρ := Extracted.U8Ordering) do
  let left_len := left.length
  let right_len := right.length
  let min_len := (if (decide (left_len < right_len)) then left_len else right_len)
  let i := (0 : Nat)
  let _ ← (Rs.loop fuel (cmpBody min_len left right) i)
  let _ ← (do
        let l := left_len
        let r := right_len
        let _ ← (if (decide (l ≠ r)) then do
              Ctl.exit ((Extracted.U8Ordering.mk (Rs.boolToNat (decide (l > r)))))
            else do
              pure ())
        pure ())
  pure Extracted.U8Ordering.EQUAL

def cmpStrInnerFn {α : Type} [DecidableEq α] [LT α] [DecidableLT α] (fuel : Nat) (left right : List α) :
    Res Extracted.U8Ordering := Ctl.run (ρ := Extracted.U8Ordering) do
  let left_len := left.length
  let right_len := right.length
  let t1_ ← (if (decide (left_len < right_len)) then do
        pure (left_len, Extracted.U8Ordering.LESS)
      else do
        pure (right_len, Extracted.U8Ordering.GREATER))
  let (min_len, on_ne) := t1_
  let i := (0 : Nat)
  let _ ← (Rs.loop fuel (cmpBody min_len left right) i)
  pure (if (decide (left_len = right_len)) then Extracted.U8Ordering.EQUAL else on_ne)

theorem eq_bytes_fn : Extracted.eq_bytes = eqFn (α := Nat) := rfl
theorem eq_str_fn : Extracted.eq_str = eqFn (α := Nat) := rfl
theorem eq_slice_i8_fn : Extracted.eq_slice_i8 = eqFn (α := Int) := rfl
theorem eq_slice_u64_fn : Extracted.eq_slice_u64 = eqFn (α := Nat) := rfl
theorem cmp_bytes_inner_fn : Extracted.cmp_bytes_inner = cmpInnerFn (α := Nat) := rfl
theorem cmp_str_inner_fn : Extracted.cmp_str_inner = cmpStrInnerFn (α := Nat) := rfl
theorem cmp_slice_i8_inner_fn : Extracted.cmp_slice_i8_inner = cmpInnerFn (α := Int) := rfl
theorem cmp_slice_u64_inner_fn : Extracted.cmp_slice_u64_inner = cmpInnerFn (α := Nat) := rfl

theorem eqFn_eq {α : Type} [DecidableEq α] (f : α → Int) (hinj : ∀ a b, f a = f b ↔ a = b)
    (fuel : Nat) (left right : List α)
    (hb : min left.length right.length < 2 ^ 64) (hf : min left.length right.length + 1 ≤ fuel) :
    ∃ b, eqSlice (left.map f) (right.map f) = some b ∧ eqFn fuel left right = .ok b := by
  unfold eqFn eqSlice
  by_cases hlen : left.length = right.length
  · rw [Nat.min_eq_left (Nat.le_of_eq hlen)] at hb hf
    rcases eq_loop f hinj fuel left right 0 hlen hb hf (Nat.zero_le _) with ⟨h1, h2⟩ | ⟨h1, j, h2⟩
    · exact ⟨false, by simp [hlen, h1], by simp [hlen, h2]⟩
    · exact ⟨true, by simp [hlen, h1], by simp [hlen, h2]⟩
  · exact ⟨false, by simp [hlen], by simp [hlen]⟩

theorem cmpInnerFn_eq {α : Type} [DecidableEq α] [LT α] [DecidableLT α] (f : α → Int)
    (hinj : ∀ a b, f a = f b ↔ a = b) (hgt : ∀ a b, f a > f b ↔ a > b)
    (fuel : Nat) (left right : List α)
    (hb : min left.length right.length < 2 ^ 64) (hf : min left.length right.length + 1 ≤ fuel) :
    ∃ o, cmpSliceInner (left.map f) (right.map f) = some o ∧
      cmpInnerFn fuel left right = .ok (u8ordOfModel o) := by
  unfold cmpInnerFn cmpSliceInner
  simp only [List.length_map]
  have hmin : (if left.length < right.length then left.length else right.length)
      = min left.length right.length := by
    by_cases h : left.length < right.length
    · rw [if_pos h, Nat.min_eq_left (Nat.le_of_lt h)]
    · rw [if_neg h, Nat.min_eq_right (Nat.not_lt.1 h)]
  simp only [decide_eq_true_eq, hmin]
  rcases cmp_loop f hinj hgt fuel left right (min left.length right.length)
      (lenTail left.length right.length) 0 (Nat.min_le_left _ _) (Nat.min_le_right _ _) hb hf (Nat.zero_le _)
    with ⟨o, h1, h2⟩ | ⟨h1, j, h2⟩
  · exact ⟨o, h1, by simp [h2]⟩
  · refine ⟨_, h1, ?_⟩
    simp only [h2, Ctl.bind_eq, Ctl.bind_val, Ctl.pure_eq, lenTail, retIfNe]
    by_cases hne : left.length = right.length
    · simp [hne, u8ordOfModel, Extracted.U8Ordering.EQUAL, Konst.Cmp.U8Ordering.EQUAL]
    · simp [hne, u8ordOfModel, boolAsU8, Rs.boolToNat]

theorem cmpStrInnerFn_eq {α : Type} [DecidableEq α] [LT α] [DecidableLT α] (f : α → Int)
    (hinj : ∀ a b, f a = f b ↔ a = b) (hgt : ∀ a b, f a > f b ↔ a > b)
    (fuel : Nat) (left right : List α)
    (hb : min left.length right.length < 2 ^ 64) (hf : min left.length right.length + 1 ≤ fuel) :
    ∃ o, cmpStrInner (left.map f) (right.map f) = some o ∧
      cmpStrInnerFn fuel left right = .ok (u8ordOfModel o) := by
  unfold cmpStrInnerFn cmpStrInner
  simp only [List.length_map]
  by_cases hlt : left.length < right.length
  · rw [Nat.min_eq_left (Nat.le_of_lt hlt)] at hb hf
    rcases cmp_loop f hinj hgt fuel left right left.length
        (if left.length = right.length then Konst.Cmp.U8Ordering.EQUAL else Konst.Cmp.U8Ordering.LESS)
        0 (Nat.le_refl _) (Nat.le_of_lt hlt) hb hf (Nat.zero_le _)
      with ⟨o, h1, h2⟩ | ⟨h1, j, h2⟩
    · exact ⟨o, by simpa [hlt] using h1, by simp [hlt, h2]⟩
    · refine ⟨_, by simpa [hlt] using h1, ?_⟩
      have hne : left.length ≠ right.length := Nat.ne_of_lt hlt
      simp [hlt, h2, hne, u8ordOfModel, Extracted.U8Ordering.LESS, Konst.Cmp.U8Ordering.LESS]
  · rw [Nat.min_eq_right (Nat.not_lt.1 hlt)] at hb hf
    rcases cmp_loop f hinj hgt fuel left right right.length
        (if left.length = right.length then Konst.Cmp.U8Ordering.EQUAL else Konst.Cmp.U8Ordering.GREATER)
        0 (Nat.not_lt.1 hlt) (Nat.le_refl _) hb hf (Nat.zero_le _)
      with ⟨o, h1, h2⟩ | ⟨h1, j, h2⟩
    · exact ⟨o, by simpa [hlt] using h1, by simp [hlt, h2]⟩
    · refine ⟨_, by simpa [hlt] using h1, ?_⟩
      by_cases hne : left.length = right.length
      · simp [h2, hne, u8ordOfModel, Extracted.U8Ordering.EQUAL, Konst.Cmp.U8Ordering.EQUAL]
      · simp [hlt, h2, hne, u8ordOfModel, Extracted.U8Ordering.GREATER, Konst.Cmp.U8Ordering.GREATER]

/-! ### the embeddings `u8`, `u64` (`Nat`) and `i8` (`Int`) into the model's `Int` -/

theorem ofNat_inj (a b : Nat) : Int.ofNat a = Int.ofNat b ↔ a = b := ⟨Int.ofNat.inj, congrArg _⟩
theorem ofNat_gt (a b : Nat) : Int.ofNat a > Int.ofNat b ↔ a > b := Int.ofNat_lt
theorem id_inj (a b : Int) : id a = id b ↔ a = b := Iff.rfl
theorem id_gt (a b : Int) : id a > id b ↔ a > b := Iff.rfl

/-! ### the equivalence theorems -/

/-- `to_ordering` after a non-panicking `cmp_inner` -/
theorem cmp_of_inner {o : Konst.Cmp.U8Ordering} {m : Option Konst.Cmp.U8Ordering}
    {x : Res Extracted.U8Ordering} (hm : m = some o) (hx : x = .ok (u8ordOfModel o)) :
    ∃ c, m.map Konst.Cmp.U8Ordering.toOrdering = some c ∧
      Ctl.run (ρ := Ordering) (do
        let t1_ ← Ctl.call x
        let t2_ ← Ctl.call (Extracted.U8Ordering.to_ordering t1_)
        pure t2_) = .ok c := by
  subst hm hx
  exact ⟨o.toOrdering, rfl, by simp [U8Ordering.to_ordering_eq]⟩

/-! ### `CmpWrapper<_>::const_eq / const_cmp`: a call of the free function -/

/-- `{ f(&self.0, other) }`: the text of every forwarding method -/
theorem wrap_eq {β : Type} {m : Option β} {x : Res β}
    (h : ∃ v, m = some v ∧ x = .ok v) :
    ∃ v, m = some v ∧ Ctl.run (ρ := β) (do
      let t1_ ← Ctl.call x
      pure t1_) = .ok v := by
  obtain ⟨v, h1, h2⟩ := h
  subst h2
  exact ⟨v, h1, rfl⟩

theorem wrap_ok {β : Type} {x : Res β} {v : β} (h : x = .ok v) :
    Ctl.run (ρ := β) (do
      let t1_ ← Ctl.call x
      pure t1_) = .ok v := by
  subst h
  rfl

theorem ok_of_model {β : Type} {m : Option β} {x : Res β} {v : β}
    (h : ∃ b, m = some b ∧ x = .ok b) (hm : m = some v) : x = .ok v := by
  obtain ⟨b, h1, h2⟩ := h
  rw [h2, Option.some.inj (h1.symm.trans hm)]

theorem eq_bytes_eq (fuel : Nat) (left right : List Nat)
    (hb : min left.length right.length < 2 ^ 64) (hf : min left.length right.length + 1 ≤ fuel) :
    ∃ b, eqSlice (left.map Int.ofNat) (right.map Int.ofNat) = some b ∧
      Extracted.eq_bytes fuel left right = .ok b :=
  eqFn_eq Int.ofNat ofNat_inj fuel left right hb hf

example : ∃ b, eqSlice [1, 2, 3] [1, 2, 4] = some b ∧ Extracted.eq_bytes 4 [1, 2, 3] [1, 2, 4] = .ok b :=
  eq_bytes_eq 4 [1, 2, 3] [1, 2, 4] (by decide +kernel) (by decide +kernel)
example : Extracted.eq_bytes 4 [1, 2, 3] [1, 2, 4] = .ok false := by decide +kernel
example : Extracted.eq_bytes 4 [1, 2, 3] [1, 2, 3] = .ok true := by decide +kernel

theorem cmp_bytes_inner_eq (fuel : Nat) (left right : List Nat)
    (hb : min left.length right.length < 2 ^ 64) (hf : min left.length right.length + 1 ≤ fuel) :
    ∃ o, cmpSliceInner (left.map Int.ofNat) (right.map Int.ofNat) = some o ∧
      Extracted.cmp_bytes_inner fuel left right = .ok (u8ordOfModel o) :=
  cmpInnerFn_eq Int.ofNat ofNat_inj ofNat_gt fuel left right hb hf

example : ∃ o, cmpSliceInner [1, 2] [1, 2, 0] = some o ∧
    Extracted.cmp_bytes_inner 3 [1, 2] [1, 2, 0] = .ok (u8ordOfModel o) :=
  cmp_bytes_inner_eq 3 [1, 2] [1, 2, 0] (by decide +kernel) (by decide +kernel)
example : Extracted.cmp_bytes_inner 3 [1, 2] [1, 2, 0] = .ok ⟨0⟩ := by decide +kernel
example : Extracted.cmp_bytes_inner 3 [1, 9] [1, 2, 0] = .ok ⟨1⟩ := by decide +kernel

theorem cmp_bytes_eq (fuel : Nat) (left right : List Nat)
    (hb : min left.length right.length < 2 ^ 64) (hf : min left.length right.length + 1 ≤ fuel) :
    ∃ c, cmpSlice (left.map Int.ofNat) (right.map Int.ofNat) = some c ∧
      Extracted.cmp_bytes fuel left right = .ok c := by
  obtain ⟨o, h1, h2⟩ := cmp_bytes_inner_eq fuel left right hb hf
  exact cmp_of_inner h1 h2

example : Extracted.cmp_bytes 3 [1, 9] [1, 2, 0] = .ok .gt := by decide +kernel
example : Extracted.cmp_bytes 3 [1, 2] [1, 2, 0] = .ok .lt := by decide +kernel
example : Extracted.cmp_bytes 3 [1, 2] [1, 2] = .ok .eq := by decide +kernel

theorem eq_str_eq (fuel : Nat) (left right : List Nat)
    (hb : min left.length right.length < 2 ^ 64) (hf : min left.length right.length + 1 ≤ fuel) :
    ∃ b, eqStr (left.map Int.ofNat) (right.map Int.ofNat) = some b ∧
      Extracted.eq_str fuel left right = .ok b :=
  eqFn_eq Int.ofNat ofNat_inj fuel left right hb hf

example : Extracted.eq_str 3 [104, 105] [104, 105] = .ok true := by decide +kernel

theorem cmp_str_inner_eq (fuel : Nat) (left right : List Nat)
    (hb : min left.length right.length < 2 ^ 64) (hf : min left.length right.length + 1 ≤ fuel) :
    ∃ o, cmpStrInner (left.map Int.ofNat) (right.map Int.ofNat) = some o ∧
      Extracted.cmp_str_inner fuel left right = .ok (u8ordOfModel o) :=
  cmpStrInnerFn_eq Int.ofNat ofNat_inj ofNat_gt fuel left right hb hf

example : ∃ o, cmpStrInner [104, 105, 33] [104, 105] = some o ∧
    Extracted.cmp_str_inner 3 [104, 105, 33] [104, 105] = .ok (u8ordOfModel o) :=
  cmp_str_inner_eq 3 [104, 105, 33] [104, 105] (by decide +kernel) (by decide +kernel)
example : Extracted.cmp_str_inner 3 [104, 105, 33] [104, 105] = .ok ⟨1⟩ := by decide +kernel

theorem cmp_str_eq (fuel : Nat) (left right : List Nat)
    (hb : min left.length right.length < 2 ^ 64) (hf : min left.length right.length + 1 ≤ fuel) :
    ∃ c, cmpStr (left.map Int.ofNat) (right.map Int.ofNat) = some c ∧
      Extracted.cmp_str fuel left right = .ok c := by
  obtain ⟨o, h1, h2⟩ := cmp_str_inner_eq fuel left right hb hf
  exact cmp_of_inner h1 h2

example : Extracted.cmp_str 3 [104, 105] [104, 106] = .ok .lt := by decide +kernel
example : Extracted.cmp_str 3 [104, 105, 33] [104, 105] = .ok .gt := by decide +kernel

theorem eq_slice_i8_eq (fuel : Nat) (left right : List Int)
    (hb : min left.length right.length < 2 ^ 64) (hf : min left.length right.length + 1 ≤ fuel) :
    ∃ b, eqSlice left right = some b ∧ Extracted.eq_slice_i8 fuel left right = .ok b := by
  have h := eqFn_eq id id_inj fuel left right hb hf
  rwa [List.map_id, List.map_id] at h

example : ∃ b, eqSlice [-1, 2] [-1, 3] = some b ∧ Extracted.eq_slice_i8 3 [-1, 2] [-1, 3] = .ok b :=
  eq_slice_i8_eq 3 _ _ (by decide +kernel) (by decide +kernel)
example : Extracted.eq_slice_i8 3 [-1, 2] [-1, 3] = .ok false := by decide +kernel

theorem cmp_slice_i8_inner_eq (fuel : Nat) (left right : List Int)
    (hb : min left.length right.length < 2 ^ 64) (hf : min left.length right.length + 1 ≤ fuel) :
    ∃ o, cmpSliceInner left right = some o ∧
      Extracted.cmp_slice_i8_inner fuel left right = .ok (u8ordOfModel o) := by
  have h := cmpInnerFn_eq id id_inj id_gt fuel left right hb hf
  rwa [List.map_id, List.map_id] at h

example : Extracted.cmp_slice_i8_inner 3 [-1, -128] [-1, 127] = .ok ⟨0⟩ := by decide +kernel

theorem cmp_slice_i8_eq (fuel : Nat) (left right : List Int)
    (hb : min left.length right.length < 2 ^ 64) (hf : min left.length right.length + 1 ≤ fuel) :
    ∃ c, cmpSlice left right = some c ∧ Extracted.cmp_slice_i8 fuel left right = .ok c := by
  obtain ⟨o, h1, h2⟩ := cmp_slice_i8_inner_eq fuel left right hb hf
  exact cmp_of_inner h1 h2

example : ∃ c, cmpSlice [-1, -128] [-1, 127] = some c ∧
    Extracted.cmp_slice_i8 3 [-1, -128] [-1, 127] = .ok c :=
  cmp_slice_i8_eq 3 _ _ (by decide +kernel) (by decide +kernel)
example : Extracted.cmp_slice_i8 3 [-1, -128] [-1, 127] = .ok .lt := by decide +kernel
example : Extracted.cmp_slice_i8 3 [0, 5] [0] = .ok .gt := by decide +kernel

theorem eq_slice_u64_eq (fuel : Nat) (left right : List Nat)
    (hb : min left.length right.length < 2 ^ 64) (hf : min left.length right.length + 1 ≤ fuel) :
    ∃ b, eqSlice (left.map Int.ofNat) (right.map Int.ofNat) = some b ∧
      Extracted.eq_slice_u64 fuel left right = .ok b :=
  eqFn_eq Int.ofNat ofNat_inj fuel left right hb hf

example : Extracted.eq_slice_u64 3 [18446744073709551615, 0] [18446744073709551615, 0] = .ok true := by decide +kernel

theorem cmp_slice_u64_inner_eq (fuel : Nat) (left right : List Nat)
    (hb : min left.length right.length < 2 ^ 64) (hf : min left.length right.length + 1 ≤ fuel) :
    ∃ o, cmpSliceInner (left.map Int.ofNat) (right.map Int.ofNat) = some o ∧
      Extracted.cmp_slice_u64_inner fuel left right = .ok (u8ordOfModel o) :=
  cmpInnerFn_eq Int.ofNat ofNat_inj ofNat_gt fuel left right hb hf

example : Extracted.cmp_slice_u64_inner 3 [7, 7] [7, 7] = .ok ⟨2⟩ := by decide +kernel

theorem cmp_slice_u64_eq (fuel : Nat) (left right : List Nat)
    (hb : min left.length right.length < 2 ^ 64) (hf : min left.length right.length + 1 ≤ fuel) :
    ∃ c, cmpSlice (left.map Int.ofNat) (right.map Int.ofNat) = some c ∧
      Extracted.cmp_slice_u64 fuel left right = .ok c := by
  obtain ⟨o, h1, h2⟩ := cmp_slice_u64_inner_eq fuel left right hb hf
  exact cmp_of_inner h1 h2

example : ∃ c, cmpSlice [18446744073709551615, 0] [18446744073709551615] = some c ∧
    Extracted.cmp_slice_u64 2 [18446744073709551615, 0] [18446744073709551615] = .ok c :=
  cmp_slice_u64_eq 2 [18446744073709551615, 0] [18446744073709551615] (by decide +kernel) (by decide +kernel)
example : Extracted.cmp_slice_u64 2 [18446744073709551615, 0] [18446744073709551615] = .ok .gt := by decide +kernel

end Extracted.Equiv
