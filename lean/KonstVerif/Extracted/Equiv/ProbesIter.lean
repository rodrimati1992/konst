import KonstVerif.Extracted.Gen.ProbesIter
import KonstVerif.Extracted.Equiv.SliceIter2
import KonstVerif.Rs.LoopLemmas
/-
  Extracted (from the rustc expansion of the probe crate `translator/probes/src/lib.rs`) = the plain
  std-iterator meaning, group `ProbesIter`: the 16 translated call sites `it_*` of konst's iterator DSL macros
  `iter::eval!` / `iter::for_each!` (C10).  (`it_zip_count` of the probe crate is not in `Gen/ProbesIter.lean`.)

  For every probe `it_X` a theorem `it_X_eq`, for ALL inputs: the extracted function
  returns `.ok` of the method chain written with core `List` functions.  Shape of the proofs: the hoisted loop
  body `Extracted.it_X.loop1` is an instance of `Rs.loop_list` (Rs/LoopLemmas), with the hoisted counters / the
  accumulator as the variables `t`, the value of the chain on what is left as `g`, and the machine-range bound as
  invariant.  The reversed probes (`next_back`) walk `r.reverse`
  (`backSt`) so that one turn is a `cons` step of `r`.  `flat_map`/`flatten`: the inner loop first
  (`it_flatten_nth.loop2` leaves both loops and has an induction of its own).  The two single-iteration probes are
  evaluated on the shapes of their input.

  Hypotheses.  Fuel: `xs.length + 1 ≤ fuel` (one iteration per item + the exhausted `next()`); the two
  single-iteration probes need `1 ≤ fuel`; the nested ones additionally `xs.length + 1 ≤ fuel` for every inner
  slice (both loops receive the same fuel).  Machine range: ONLY the `usize` counters `rets += 1`/`var += 1`/`i += 1`
  can overflow, hence a bound `< 2^64` on the counted quantity (implied by slice lengths `< 2^63`); NO hypothesis on
  the elements is needed anywhere (`u32` items are only compared, `^`-ed, divided or reduced `%`; in
  `it_filter_map_rfold` the accumulator stays `< 1000`, so `a * 3 + b` fits `u32` whatever the items are).

  Deviations from std, stated as what the emitted code computes (both are KNOWN, Props/C10):
    * `it_take_rev_next` (`take(2), rev(), next()`): the last element of `xs` — finding F7;
    * `it_rposition`: index counted from the back — konst's documented convention.

  The corollaries `it_X_model` about the hand-written model `Konst.Iter.konstEval` are in
  `Equiv/ProbesIterModel.lean`.
-/
namespace Extracted.Equiv
open Rs

/-! ### the slice iterator on concrete shapes (`next` by computation; `next_back` through
    `unsnoc_of_ne_nil` of `Equiv/SliceIter`) -/

theorem Iter_next_cons {T : Type} (x : T) (l : List T) :
    Extracted.Iter.next ⟨x :: l⟩ = .ok (some (x, ⟨l⟩)) := rfl

theorem Iter_next_nil {T : Type} :
    Extracted.Iter.next (⟨[]⟩ : Extracted.Iter T) = .ok none := rfl

theorem Iter_next_back_nil {T : Type} :
    Extracted.Iter.next_back (⟨[]⟩ : Extracted.Iter T) = .ok none := rfl

theorem Iter_next_back_snoc {T : Type} (l : List T) (x : T) :
    Extracted.Iter.next_back ⟨l ++ [x]⟩ = .ok (some (x, ⟨l⟩)) := by
  unfold Extracted.Iter.next_back
  simp [unsnoc_of_ne_nil]

/-- loop state with `l` to come from the front -/
abbrev frontSt {T τ : Type} (l : List T) (t : τ) : Extracted.Iter T × τ := (⟨l⟩, t)
/-- loop state with `r` to come from the back, first item first -/
abbrev backSt {T τ : Type} (r : List T) (t : τ) : Extracted.Iter T × τ := (⟨r.reverse⟩, t)

/-! ### `it_fold_filter_map`: `copied(), filter(|x| *x % 2 == 0), map(|x| x / 2), fold(0, |a, b| a ^ b)` -/

theorem it_fold_filter_map_eq (fuel : Nat) (xs : List Nat) (hf : xs.length + 1 ≤ fuel) :
    Extracted.it_fold_filter_map fuel xs
      = .ok (((xs.filter (fun x => x % 2 == 0)).map (· / 2)).foldl (· ^^^ ·) 0) := by
  obtain ⟨⟨it, r⟩, hs, rfl⟩ := loop_list (ε := Nat) Extracted.it_fold_filter_map.loop1 frontSt (·.2)
    (fun l acc => ((l.filter (fun x => x % 2 == 0)).map (· / 2)).foldl (· ^^^ ·) acc) (fun _ _ => True)
    (fun t _ => ⟨_, rfl, rfl⟩)
    (fun x l acc _ => by
      simp only [Extracted.it_fold_filter_map.loop1, Iter_next_cons, rs_eval, Rs.urem, Rs.udiv]
      by_cases hx : x % 2 = 0
      · simp only [hx]
        exact .val _ trivial (by simp [hx])
      · have hx1 : x % 2 = 1 := by omega
        simp only [hx1]
        exact .cont _ trivial (by simp [hx1]))
    fuel xs 0 hf trivial
  unfold Extracted.it_fold_filter_map
  simp [Extracted.iter, hs]

example : Extracted.it_fold_filter_map 10 [4, 7, 10, 12] = .ok (2 ^^^ 5 ^^^ 6) := by
  rw [it_fold_filter_map_eq _ _ (by decide)]; rfl

/-! ### `it_take_next`: `copied(), take(n), next()` -/

theorem it_take_next_eq (fuel : Nat) (xs : List Nat) (n : Nat) (hf : 1 ≤ fuel) :
    Extracted.it_take_next fuel xs n = .ok ((xs.take n).head?) := by
  cases fuel with
  | zero => omega
  | succ f =>
    cases n with
    | zero => rfl
    | succ n => cases xs <;> rfl

example : Extracted.it_take_next 1 [7, 8, 9] 2 = .ok (some 7) := by
  rw [it_take_next_eq _ _ _ (by decide)]; rfl
example : Extracted.it_take_next 1 [7, 8, 9] 0 = .ok none := by
  rw [it_take_next_eq _ _ _ (by decide)]; rfl

/-! ### `it_skip_count`: `skip(n), count()` -/

theorem it_skip_count_eq (fuel : Nat) (xs : List Nat) (n : Nat) (hf : xs.length + 1 ≤ fuel)
    (hb : (xs.drop n).length < 2 ^ 64) :
    Extracted.it_skip_count fuel xs n = .ok ((xs.drop n).length) := by
  obtain ⟨⟨it, rem, c⟩, hs, rfl⟩ := loop_list (ε := Nat) Extracted.it_skip_count.loop1 frontSt (·.2.2)
    (fun l (t : Nat × Nat) => t.2 + (l.drop t.1).length)
    (fun l t => t.2 + (l.drop t.1).length < 2 ^ 64)
    (fun t _ => ⟨_, rfl, by simp⟩)
    (fun x l t h => by
      obtain ⟨rem, c⟩ := t
      simp only [Extracted.it_skip_count.loop1, Iter_next_cons, rs_eval]
      cases rem with
      | zero =>
        have h1 : c + 1 < 2 ^ 64 := by simp at h; omega
        simp [Rs.uadd, h1]
        exact .val (0, c + 1) (by simp at h ⊢; omega) (by simp; omega)
      | succ r =>
        simp [Rs.usub]
        exact .cont (r, c) (by simpa using h) (by simp))
    fuel xs (n, 0) hf (by simpa using hb)
  unfold Extracted.it_skip_count
  simp [Extracted.iter, hs]

example : Extracted.it_skip_count 5 [7, 8, 9] 1 = .ok 2 := by
  rw [it_skip_count_eq _ _ _ (by decide) (by simp)]; rfl

/-! ### `it_take_rev_next`: `copied(), take(2), rev(), next()`

  FINDING F7 of property C10 (known, not to be fixed here): the emitted loop drives the SOURCE by `next_back`
  as soon as a `rev()` occurs anywhere in the chain, so the `take(2)` counter counts items coming from the
  back: the value is the LAST element of `xs`.  std's `xs.iter().copied().take(2).rev().next()` is
  `(xs.take 2).getLast?` (the second element when there are two). -/

theorem it_take_rev_next_eq (fuel : Nat) (xs : List Nat) (hf : 1 ≤ fuel) :
    Extracted.it_take_rev_next fuel xs = .ok (xs.getLast?) := by
  cases fuel with
  | zero => omega
  | succ f =>
    rcases List.eq_nil_or_concat xs with rfl | ⟨l, x, rfl⟩
    · rfl
    · have h1 : Extracted.it_take_rev_next.loop1 (⟨l ++ [x]⟩, 2, none) = .exit (.brk (⟨l⟩, 1, some x)) := by
        simp only [Extracted.it_take_rev_next.loop1, Iter_next_back_snoc, rs_eval]
        rfl
      rw [List.concat_eq_append]
      unfold Extracted.it_take_rev_next
      simp only [Extracted.iter, rs_eval, Rs.loop_succ, h1, List.getLast?_concat]

example : Extracted.it_take_rev_next 1 [7, 8, 9] = .ok (some 9) := by
  rw [it_take_rev_next_eq _ _ (by decide)]; rfl
/-- std's value on the same input is `some 8` -/
example : ([7, 8, 9].take 2).getLast? = some 8 := rfl

/-! ### `it_rev_find`: `copied(), rev(), find(|x| *x == k)` -/

theorem it_rev_find_eq (fuel : Nat) (xs : List Nat) (k : Nat) (hf : xs.length + 1 ≤ fuel) :
    Extracted.it_rev_find fuel xs k = .ok (xs.reverse.find? (· == k)) := by
  obtain ⟨⟨it, r⟩, hs, rfl⟩ := loop_list (ε := Option Nat) (Extracted.it_rev_find.loop1 k) backSt (·.2)
    (fun r _ => r.find? (· == k)) (fun _ rets => rets = none)
    (fun t h => ⟨_, rfl, h⟩)
    (fun x r rets h => by
      simp only [List.reverse_cons, Extracted.it_rev_find.loop1, Iter_next_back_snoc, rs_eval, decide_eq_true_eq]
      split
      next hx => exact .brk _ (by simp [hx])
      next hx => exact .val _ h (by simp [hx]))
    fuel xs.reverse none (by simpa using hf) rfl
  unfold Extracted.it_rev_find
  simp only [backSt, List.reverse_reverse] at hs
  simp [Extracted.iter, hs]

example : Extracted.it_rev_find 5 [7, 8, 9] 8 = .ok (some 8) := by
  rw [it_rev_find_eq _ _ _ (by decide)]; rfl

/-! ### `it_position`: `copied(), position(|x| x == k)` -/

theorem findIdx?_cons_shift (p : Nat → Bool) (x : Nat) (l : List Nat) (v : Nat) (h : p x = false) :
    ((x :: l).findIdx? p).map (· + v) = (l.findIdx? p).map (· + (v + 1)) := by
  rw [List.findIdx?_cons, h]
  cases l.findIdx? p <;> simp <;> omega

theorem it_position_eq (fuel : Nat) (xs : List Nat) (k : Nat) (hf : xs.length + 1 ≤ fuel)
    (hb : xs.length < 2 ^ 64) :
    Extracted.it_position fuel xs k = .ok (xs.findIdx? (· == k)) := by
  obtain ⟨⟨it, r, v'⟩, hs, rfl⟩ := loop_list (ε := Option Nat) (Extracted.it_position.loop1 k) frontSt (·.2.1)
    (fun l (t : Option Nat × Nat) => (l.findIdx? (· == k)).map (· + t.2))
    (fun l t => t.1 = none ∧ t.2 + l.length < 2 ^ 64)
    (fun t h => ⟨_, rfl, h.1⟩)
    (fun x l t h => by
      obtain ⟨rets, v⟩ := t
      obtain ⟨rfl, hv⟩ : rets = none ∧ v + (l.length + 1) < 2 ^ 64 := h
      have h1 : v + 1 < 2 ^ 64 := by omega
      simp only [Extracted.it_position.loop1, Iter_next_cons, rs_eval,
        h1, decide_eq_true_eq]
      split
      next hx => exact .brk _ (by simp [List.findIdx?_cons, hx])
      next hx => exact .val (none, v + 1) ⟨rfl, by omega⟩ (findIdx?_cons_shift _ x _ v (beq_eq_false_iff_ne.2 hx)))
    fuel xs (none, 0) hf ⟨rfl, by simpa using hb⟩
  unfold Extracted.it_position
  simp [Extracted.iter, hs]

example : Extracted.it_position 5 [7, 8, 9] 9 = .ok (some 2) := by
  rw [it_position_eq _ _ _ (by decide) (by decide)]; rfl

/-! ### `it_rposition`: `copied(), rposition(|x| x == k)`

  Documented convention of konst (`Props/C10.konst_rposition_doc`): the index counts from the BACK
  (the position in the reversed stream); std's `rposition` would return `xs.length - 1 -` that. -/

theorem it_rposition_eq (fuel : Nat) (xs : List Nat) (k : Nat) (hf : xs.length + 1 ≤ fuel)
    (hb : xs.length < 2 ^ 64) :
    Extracted.it_rposition fuel xs k = .ok (xs.reverse.findIdx? (· == k)) := by
  obtain ⟨⟨it, r, v'⟩, hs, rfl⟩ := loop_list (ε := Option Nat) (Extracted.it_rposition.loop1 k) backSt (·.2.1)
    (fun r (t : Option Nat × Nat) => (r.findIdx? (· == k)).map (· + t.2))
    (fun r t => t.1 = none ∧ t.2 + r.length < 2 ^ 64)
    (fun t h => ⟨_, rfl, h.1⟩)
    (fun x r t h => by
      obtain ⟨rets, v⟩ := t
      obtain ⟨rfl, hv⟩ : rets = none ∧ v + (r.length + 1) < 2 ^ 64 := h
      have h1 : v + 1 < 2 ^ 64 := by omega
      simp only [List.reverse_cons, Extracted.it_rposition.loop1, Iter_next_back_snoc, rs_eval, h1,
        decide_eq_true_eq]
      split
      next hx => exact .brk _ (by simp [List.findIdx?_cons, hx])
      next hx => exact .val (none, v + 1) ⟨rfl, by omega⟩ (findIdx?_cons_shift _ x _ v (beq_eq_false_iff_ne.2 hx)))
    fuel xs.reverse (none, 0) (by simpa using hf) ⟨rfl, by simpa using hb⟩
  unfold Extracted.it_rposition
  simp only [backSt, List.reverse_reverse] at hs
  simp [Extracted.iter, hs]

example : Extracted.it_rposition 6 [7, 8, 9, 8, 1] 8 = .ok (some 1) := by
  rw [it_rposition_eq _ _ _ (by decide) (by decide)]; rfl

/-! ### `it_all`: `copied(), all(|x| x < k)` -/

theorem it_all_eq (fuel : Nat) (xs : List Nat) (k : Nat) (hf : xs.length + 1 ≤ fuel) :
    Extracted.it_all fuel xs k = .ok (xs.all (fun x => decide (x < k))) := by
  obtain ⟨⟨it, r⟩, hs, rfl⟩ := loop_list (ε := Bool) (Extracted.it_all.loop1 k) frontSt (·.2)
    (fun l _ => l.all (fun x => decide (x < k))) (fun _ rets => rets = true)
    (fun t h => ⟨_, rfl, h⟩)
    (fun x l rets h => by
      simp only [Extracted.it_all.loop1, Iter_next_cons, rs_eval,
        Bool.not_eq_true', decide_eq_false_iff_not]
      split
      next hx => exact .brk _ (by simp [hx])
      next hx => exact .val _ h (by simp [Decidable.not_not.1 hx]))
    fuel xs true hf rfl
  unfold Extracted.it_all
  simp [Extracted.iter, hs]

example : Extracted.it_all 5 [7, 8, 9] 9 = .ok false := by
  rw [it_all_eq _ _ _ (by decide)]; rfl
example : Extracted.it_all 5 [7, 8, 9] 10 = .ok true := by
  rw [it_all_eq _ _ _ (by decide)]; rfl

/-! ### `it_any`: `copied(), any(|x| x == k)` -/

theorem it_any_eq (fuel : Nat) (xs : List Nat) (k : Nat) (hf : xs.length + 1 ≤ fuel) :
    Extracted.it_any fuel xs k = .ok (xs.any (· == k)) := by
  obtain ⟨⟨it, r⟩, hs, rfl⟩ := loop_list (ε := Bool) (Extracted.it_any.loop1 k) frontSt (·.2)
    (fun l _ => l.any (· == k)) (fun _ rets => rets = false)
    (fun t h => ⟨_, rfl, h⟩)
    (fun x l rets h => by
      simp only [Extracted.it_any.loop1, Iter_next_cons, rs_eval,
        decide_eq_true_eq]
      split
      next hx => exact .brk _ (by simp [hx])
      next hx => exact .val _ h (by simp [hx]))
    fuel xs false hf rfl
  unfold Extracted.it_any
  simp [Extracted.iter, hs]

example : Extracted.it_any 5 [7, 8, 9] 9 = .ok true := by
  rw [it_any_eq _ _ _ (by decide)]; rfl

/-! ### `it_nth`: `copied(), nth(n)` -/

theorem it_nth_eq (fuel : Nat) (xs : List Nat) (n : Nat) (hf : xs.length + 1 ≤ fuel) :
    Extracted.it_nth fuel xs n = .ok (xs[n]?) := by
  obtain ⟨⟨it, r, v'⟩, hs, rfl⟩ := loop_list (ε := Option Nat) Extracted.it_nth.loop1 frontSt (·.2.1)
    (fun l (t : Option Nat × Nat) => l[t.2]?) (fun _ t => t.1 = none)
    (fun t h => ⟨_, rfl, h⟩)
    (fun x l t h => by
      obtain ⟨rets, v⟩ := t
      simp only [Extracted.it_nth.loop1, Iter_next_cons, rs_eval]
      cases v with
      | zero => exact .brk _ rfl
      | succ v => simp [Rs.usub]; exact .val (rets, v) h rfl)
    fuel xs (none, n) hf rfl
  unfold Extracted.it_nth
  simp [Extracted.iter, hs]

example : Extracted.it_nth 5 [7, 8, 9] 1 = .ok (some 8) := by
  rw [it_nth_eq _ _ _ (by decide)]; rfl
example : Extracted.it_nth 5 [7, 8, 9] 3 = .ok none := by
  rw [it_nth_eq _ _ _ (by decide)]; rfl

/-! ### `it_take_while_skip_while_count`: `copied(), skip_while(|x| *x < a), take_while(|x| *x < b), count()` -/

/-- `skip_while(< a), take_while(< b), count()` of what is left, from `t = (still_skipping, count)` -/
def skipTakeCount (a b : Nat) (l : List Nat) (t : Bool × Nat) : Nat :=
  t.2 + ((if t.1 then l.dropWhile (fun x => decide (x < a)) else l).takeWhile (fun x => decide (x < b))).length

theorem it_take_while_skip_while_count_eq (fuel : Nat) (xs : List Nat) (a b : Nat)
    (hf : xs.length + 1 ≤ fuel)
    (hb : ((xs.dropWhile (fun x => decide (x < a))).takeWhile (fun x => decide (x < b))).length
            < 2 ^ 64) :
    Extracted.it_take_while_skip_while_count fuel xs a b
      = .ok (((xs.dropWhile (fun x => decide (x < a))).takeWhile (fun x => decide (x < b))).length) := by
  obtain ⟨⟨it, s, c⟩, hs, hc⟩ := loop_list (ε := Nat) (Extracted.it_take_while_skip_while_count.loop1 a b)
    frontSt (·.2.2) (skipTakeCount a b) (fun l t => skipTakeCount a b l t < 2 ^ 64)
    (fun t _ => ⟨_, rfl, by obtain ⟨s, c⟩ := t; cases s <;> rfl⟩)
    (fun x l t h => by
      obtain ⟨s, c⟩ := t
      simp only [Extracted.it_take_while_skip_while_count.loop1, Iter_next_cons, rs_eval]
      by_cases hs : s = true ∧ x < a
      · obtain ⟨rfl, hx⟩ := hs
        simp only [hx, decide_true, if_true]
        exact .cont (true, c) (by simpa [skipTakeCount, hx] using h) (by simp [skipTakeCount, hx])
      · -- the item is not skipped: as if the flag had been cleared before
        have hg : skipTakeCount a b (x :: l) (s, c) = skipTakeCount a b (x :: l) (false, c) := by
          cases s
          · rfl
          · simp [skipTakeCount, show ¬ x < a from fun hx => hs ⟨rfl, hx⟩]
        have hd : ∀ {ε : Type}, (if s = true then (Ctl.val (decide (x < a)) : Ctl ε Bool) else .val false)
            = .val false := by
          intro ε
          cases s
          · rfl
          · simpa using fun hx => hs ⟨rfl, hx⟩
        rw [hg] at h
        simp only [hd, Ctl.bind_val]
        by_cases hx : x < b
        · have h1 : c + 1 < 2 ^ 64 := by simp [skipTakeCount, hx] at h; omega
          simp [hx, Rs.uadd, h1]
          exact .val (false, c + 1) (by simp [skipTakeCount, hx] at h ⊢; omega)
            (by rw [hg]; simp [skipTakeCount, hx]; omega)
        · simp [hx]
          exact .brk _ (by rw [hg]; simp [skipTakeCount, hx]))
    fuel xs (true, 0) hf (by simpa [skipTakeCount] using hb)
  unfold Extracted.it_take_while_skip_while_count
  simp [Extracted.iter, hs, skipTakeCount] at hc ⊢
  exact hc

example : Extracted.it_take_while_skip_while_count 8 [1, 2, 5, 1, 6, 9, 2] 3 7 = .ok 3 := by
  rw [it_take_while_skip_while_count_eq _ _ _ _ (by decide) (by decide)]; rfl

/-! ### `it_enumerate_find_map`: `copied(), enumerate(), find_map(|(i, x)| if x == k { Some(i) } else { None })`

  `enumerate()` is `List.zipIdx` (pairs `(x, i)`), `find_map` is `List.findSome?`.  The counter `i += 1` runs
  before the closure on every item, hence the bound on the length. -/

theorem it_enumerate_find_map_loop (k m : Nat) (l : List Nat) (i : Nat) (o : Option Nat)
    (hm : l.length + 1 ≤ m) (hb : i + l.length < 2 ^ 64) (ho : l = [] → o = none) :
    ∃ it i', Rs.loop (ε := Option Nat) m (Extracted.it_enumerate_find_map.loop1 k) (⟨l⟩, i, o)
      = .val (it, i',
          (l.zipIdx i).findSome? (fun p : Nat × Nat => if p.1 == k then some p.2 else none)) := by
  obtain ⟨⟨it, i', r⟩, hs, rfl⟩ := loop_list (ε := Option Nat) (Extracted.it_enumerate_find_map.loop1 k) frontSt
    (·.2.2)
    (fun l (t : Nat × Option Nat) =>
      (l.zipIdx t.1).findSome? (fun p : Nat × Nat => if p.1 == k then some p.2 else none))
    (fun l t => t.1 + l.length < 2 ^ 64 ∧ (l = [] → t.2 = none))
    (fun t h => ⟨_, rfl, h.2 rfl⟩)
    (fun x l t h => by
      obtain ⟨i, o⟩ := t
      have h1 : i + 1 < 2 ^ 64 := by have := h.1; simp at this; omega
      simp only [Extracted.it_enumerate_find_map.loop1, Iter_next_cons, rs_eval, h1]
      by_cases hx : x = k
      · simp [hx]
        exact .brk _ (by simp [List.zipIdx_cons])
      · simp [hx]
        exact .val (i + 1, none) ⟨by have := h.1; simp at this ⊢; omega, fun _ => rfl⟩
          (by simp [List.zipIdx_cons, hx]))
    m l (i, o) hm ⟨hb, ho⟩
  exact ⟨it, i', hs⟩

theorem it_enumerate_find_map_eq (fuel : Nat) (xs : List Nat) (k : Nat) (hf : xs.length + 1 ≤ fuel)
    (hb : xs.length < 2 ^ 64) :
    Extracted.it_enumerate_find_map fuel xs k
      = .ok (xs.zipIdx.findSome? (fun p : Nat × Nat => if p.1 == k then some p.2 else none)) := by
  unfold Extracted.it_enumerate_find_map
  obtain ⟨it, i', hit⟩ :=
    it_enumerate_find_map_loop k fuel xs 0 none hf (by omega) (fun _ => rfl)
  simp [Extracted.iter, hit]

example : Extracted.it_enumerate_find_map 5 [7, 8, 9, 8] 8 = .ok (some 1) := by
  rw [it_enumerate_find_map_eq _ _ _ (by decide) (by decide)]; rfl

/-! ### `it_filter_map_rfold`:
  `copied(), filter_map(|x| if x % 3 == 0 { None } else { Some(x % 7) }), rfold(1u32, |a, b| (a * 3 + b) % 1000)`

  `rfold(init, f)` folds from the back: `List.foldr (fun b a => f a b) init`.  The accumulator stays below
  1000, so the `u32` arithmetic `a * 3 + b` (with `b < 7`) never overflows: no hypothesis on the elements. -/

theorem it_filter_map_rfold_eq (fuel : Nat) (xs : List Nat) (hf : xs.length + 1 ≤ fuel) :
    Extracted.it_filter_map_rfold fuel xs
      = .ok ((xs.filterMap (fun x => if x % 3 == 0 then none else some (x % 7))).foldr
              (fun b a => (a * 3 + b) % 1000) 1) := by
  obtain ⟨⟨it, r⟩, hs, rfl⟩ := loop_list (ε := Nat) Extracted.it_filter_map_rfold.loop1 backSt (·.2)
    (fun r acc => (r.filterMap (fun x => if x % 3 == 0 then none else some (x % 7))).foldl
      (fun a b => (a * 3 + b) % 1000) acc)
    (fun _ acc => acc < 1000)
    (fun t _ => ⟨_, rfl, rfl⟩)
    (fun x r acc ha => by
      simp only [List.reverse_cons, Extracted.it_filter_map_rfold.loop1, Iter_next_back_snoc, rs_eval, Rs.urem]
      by_cases hx : x % 3 = 0
      · simp [hx]
        exact .cont _ ha (by simp [hx])
      · have h7 : x % 7 < 7 := Nat.mod_lt _ (by decide)
        have h1 : acc * 3 < 2 ^ 32 := by omega
        have h2 : acc * 3 + x % 7 < 2 ^ 32 := by omega
        simp [hx, Rs.umul, Rs.uadd, h1, h2]
        exact .val _ (Nat.mod_lt _ (by decide)) (by simp [hx]))
    fuel xs.reverse 1 (by simpa using hf) (by decide)
  unfold Extracted.it_filter_map_rfold
  simp only [backSt, List.reverse_reverse] at hs
  simp [Extracted.iter, hs, List.filterMap_reverse, List.foldl_reverse]

example : Extracted.it_filter_map_rfold 6 [4, 9, 5, 13] = .ok ((((1 * 3 + 6) * 3 + 5) * 3 + 4) % 1000) := by
  rw [it_filter_map_rfold_eq _ _ (by decide)]; rfl

/-! ### `it_for_each_sum`: `for_each!{x in xs, copied(), skip(1) => s = s ^ x}` -/

theorem it_for_each_sum_eq (fuel : Nat) (xs : List Nat) (hf : xs.length + 1 ≤ fuel) :
    Extracted.it_for_each_sum fuel xs = .ok ((xs.drop 1).foldl (· ^^^ ·) 0) := by
  obtain ⟨⟨it, rem, r⟩, hs, rfl⟩ := loop_list (ε := Nat) Extracted.it_for_each_sum.loop1 frontSt (·.2.2)
    (fun l (t : Nat × Nat) => (l.drop t.1).foldl (· ^^^ ·) t.2) (fun _ _ => True)
    (fun t _ => ⟨_, rfl, by simp⟩)
    (fun x l t _ => by
      obtain ⟨rem, s⟩ := t
      simp only [Extracted.it_for_each_sum.loop1, Iter_next_cons, rs_eval]
      cases rem with
      | zero => exact .val (0, s ^^^ x) trivial rfl
      | succ r => simp [Rs.usub]; exact .cont (r, s) trivial rfl)
    fuel xs (1, 0) hf trivial
  unfold Extracted.it_for_each_sum
  simp [Extracted.iter, hs]

example : Extracted.it_for_each_sum 5 [7, 8, 9] = .ok (8 ^^^ 9) := by
  rw [it_for_each_sum_eq _ _ (by decide)]; rfl

/-! ### `it_flat_map_count`: `flat_map(|xs| *xs), copied(), filter(|x| *x == k), count()`

  Nested loops: the inner loop (`loop2`) walks one inner slice with the rest of the chain and the consumer
  inside; both loops receive the same `fuel`.  The only arithmetic is `rets += 1` on matching items, so the
  machine-range hypothesis is on the number of matches (inner slices may alias each other, so their total
  length is not bounded by the address space). -/

theorem it_flat_map_count_loop2 (item : List Nat) (k m : Nat) (l : List Nat) (c : Nat)
    (hm : l.length + 1 ≤ m) (hb : c + (l.filter (· == k)).length < 2 ^ 64) :
    ∃ it, Rs.loop (ε := LoopExit Nat (Extracted.Iter (List Nat) × Nat) (Extracted.Iter (List Nat) × Nat)) m
        (Extracted.it_flat_map_count.loop2 item k) (⟨l⟩, c)
      = .val (it, c + (l.filter (· == k)).length) := by
  obtain ⟨⟨it, r⟩, hs, rfl⟩ := loop_list (Extracted.it_flat_map_count.loop2 item k) frontSt (·.2)
    (fun l c => c + (l.filter (· == k)).length) (fun l c => c + (l.filter (· == k)).length < 2 ^ 64)
    (fun t _ => ⟨_, rfl, rfl⟩)
    (fun x l c h => by
      simp only [Extracted.it_flat_map_count.loop2, Iter_next_cons, rs_eval]
      by_cases hx : x = k
      · have h1 : c + 1 < 2 ^ 64 := by simp [hx] at h; omega
        simp [hx, Rs.uadd, h1]
        exact .val _ (by simp [hx] at h ⊢; omega) (by simp; omega)
      · simp [hx]
        exact .cont _ (by simpa [hx] using h) (by simp [hx]))
    m l c hm hb
  exact ⟨it, hs⟩

theorem it_flat_map_count_eq (fuel : Nat) (xss : List (List Nat)) (k : Nat)
    (hf : xss.length + 1 ≤ fuel) (hfi : ∀ xs ∈ xss, xs.length + 1 ≤ fuel)
    (hb : ((xss.flatMap id).filter (· == k)).length < 2 ^ 64) :
    Extracted.it_flat_map_count fuel xss k = .ok (((xss.flatMap id).filter (· == k)).length) := by
  obtain ⟨⟨it, r⟩, hs, rfl⟩ := loop_list (ε := Nat) (Extracted.it_flat_map_count.loop1 fuel k) frontSt (·.2)
    (fun ls c => c + (ls.flatten.filter (· == k)).length)
    (fun ls c => (∀ xs ∈ ls, xs.length + 1 ≤ fuel) ∧ c + (ls.flatten.filter (· == k)).length < 2 ^ 64)
    (fun t _ => ⟨_, rfl, rfl⟩)
    (fun xs ls c h => by
      obtain ⟨hfuel, hc⟩ := h
      simp only [List.flatten_cons, List.filter_append, List.length_append] at hc
      obtain ⟨it2, h2⟩ := it_flat_map_count_loop2 xs k fuel xs c (hfuel xs (by simp)) (by omega)
      simp only [Extracted.it_flat_map_count.loop1, Iter_next_cons, Extracted.iter, rs_eval, Ctl.run_val, h2]
      exact .val _ ⟨fun ys hy => hfuel ys (by simp [hy]), by omega⟩ (by simp; omega))
    fuel xss 0 hf ⟨hfi, by simpa [List.flatMap_id] using hb⟩
  unfold Extracted.it_flat_map_count
  simp [Extracted.iter, hs, List.flatMap_id]

example : Extracted.it_flat_map_count 4 [[1, 2, 1], [], [3, 1]] 1 = .ok 3 := by
  rw [it_flat_map_count_eq _ _ _ (by decide) (by decide) (by decide)]; rfl

/-! ### `it_flatten_nth`: `copied(), flatten(), copied(), nth(n)`

  The inner loop leaves BOTH loops (`break 'label`, generated as `.out (.brk …)`) when the counter hits 0. -/

theorem it_flatten_nth_loop2 (item : List Nat) (iv : Extracted.Iter (List Nat)) (m : Nat) (l : List Nat)
    (v : Nat) (hm : l.length + 1 ≤ m) :
    Rs.loop m (Extracted.it_flatten_nth.loop2 item iv) (⟨l⟩, none, v)
      = if v < l.length then .exit (.brk (iv, l[v]?, 0)) else .val (⟨[]⟩, none, v - l.length) := by
  induction m generalizing l v with
  | zero => omega
  | succ m ih =>
    rw [Rs.loop_succ]
    cases l with
    | nil => simp [Extracted.it_flatten_nth.loop2, Iter_next_nil]
    | cons x l =>
      simp only [List.length_cons] at hm
      cases v with
      | zero => rfl
      | succ v =>
        have ih' := ih l v (by omega)
        simp [Extracted.it_flatten_nth.loop2, Iter_next_cons, Rs.usub, ih']

theorem it_flatten_nth_eq (fuel : Nat) (xss : List (List Nat)) (n : Nat)
    (hf : xss.length + 1 ≤ fuel) (hfi : ∀ xs ∈ xss, xs.length + 1 ≤ fuel) :
    Extracted.it_flatten_nth fuel xss n = .ok (xss.flatten[n]?) := by
  obtain ⟨⟨it, r, v'⟩, hs, rfl⟩ := loop_list (ε := Option Nat) (Extracted.it_flatten_nth.loop1 fuel) frontSt (·.2.1)
    (fun ls (t : Option Nat × Nat) => ls.flatten[t.2]?)
    (fun ls t => (∀ xs ∈ ls, xs.length + 1 ≤ fuel) ∧ t.1 = none)
    (fun t h => ⟨_, rfl, h.2⟩)
    (fun xs ls t h => by
      obtain ⟨rets, v⟩ := t
      obtain ⟨hfuel, rfl⟩ : (∀ ys ∈ xs :: ls, ys.length + 1 ≤ fuel) ∧ rets = none := h
      have h2 := it_flatten_nth_loop2 xs ⟨ls⟩ fuel xs v (hfuel xs (by simp))
      simp only [Extracted.it_flatten_nth.loop1, Iter_next_cons, Extracted.iter, rs_eval, Ctl.run_val, h2]
      by_cases hv : v < xs.length
      · simp [hv]
        exact .brk _ (by simp [List.getElem?_append, hv])
      · simp [hv]
        exact .val (none, v - xs.length) ⟨fun ys hy => hfuel ys (by simp [hy]), rfl⟩
          (by simp [List.getElem?_append, hv]))
    fuel xss (none, n) hf ⟨hfi, rfl⟩
  unfold Extracted.it_flatten_nth
  simp [Extracted.iter, hs]

example : Extracted.it_flatten_nth 4 [[1, 2, 1], [], [3, 4]] 3 = .ok (some 3) := by
  rw [it_flatten_nth_eq _ _ _ (by decide) (by decide)]; rfl
example : Extracted.it_flatten_nth 4 [[1, 2, 1], [], [3, 4]] 5 = .ok none := by
  rw [it_flatten_nth_eq _ _ _ (by decide) (by decide)]; rfl

end Extracted.Equiv
