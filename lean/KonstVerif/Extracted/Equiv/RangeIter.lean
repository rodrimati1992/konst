import KonstVerif.Extracted.Gen.RangeIter
import KonstVerif.Extracted.Equiv.Range
import KonstVerif.Model.Range
/-
  Extracted (from /repo) = Model, for `next` / `next_back` of `RangeIter`, `RangeIterRev`,
  `RangeInclusiveIter`, `RangeInclusiveIterRev` (konst_kernel::into_iter::range_into_iter, C09).

  The Rust code is generic over `T: Step`; the translator therefore emits the callees `increment`/`decrement`
  and the associated constants `T::MAX_VAL`/`T::MIN_VAL` as PARAMETERS of the generated definitions.  The
  theorems are correspondingly about an ARBITRARY model step `S : Konst.Range.Step α`, with the generated
  iterator state given as the image under `f : α → T` of model values `a b : α`:

      (hinc : increment (f a) (f b) = resOfModel f (S.increment a b))
      ⊢ Extracted.RangeIter.next increment decrement ⟨f a, f b⟩
          = ofOutcome f Extracted.RangeIter.mk (rangeNextBlock S ⟨a, b⟩)

  (for the inclusive iterators `MAX_VAL`, `MIN_VAL` are `f S.maxVal`, `f S.minVal`).
  * `f` is `Int.toNat` for the unsigned types, whose generated values are `Nat`s and model values `Int`s, `id`
    otherwise.  In the corollaries the state is an arbitrary `self`, which is the image of
    `fieldsOf g self.start self.end_` (`g = Int.ofNat` resp. `id`, `f (g x) = x` by computation);
    `ofOutcome f mk` maps the model's `Outcome α (Fields α)` to the generated result:
    `panic ↦ .panic`, `done ↦ .ok none`, `item x s ↦ .ok (some (f x, mk (f s.start) (f s.end_)))`.
  * The agreement hypothesis on the step function is only needed AT THE STATE, which is weaker than
    `∀ a b, increment (f a) (f b) = resOfModel f (S.increment a b)` (the `∀` form is false for
    the unsigned integer arms, e.g. at `a = 256` or `a = -1`; it holds whenever `a` is a `u8`).
    `resOfModel` (Equiv/Range.lean) is `.ok` of the converted `StepRet` when the model gives `some`, `.panic`
    when it gives `none`.  Only the step function that the Rust function calls needs a hypothesis.
  * The `Rev` types are the same two blocks with `next`/`next_back` swapped (`iterator_shared!`), exactly as in
    the model (`Konst.Range.RangeIter.next` = `choose isForward (rangeNextBlock ..) (rangeNextBackBlock ..)`).

  Corollaries instantiate `S` and the parameters with the translated arms of Equiv/Range.lean:
  u8 (`intStep 0 255`, under `self.start ≤ 255` resp. `self.end_ ≤ 255`: the stepped field is a `u8`),
  i8 (`intStep (-128) 127`, under `-128 ≤ · ≤ 127` of the stepped field) and char (`charStep`, NO hypothesis:
  `increment_char_eq'` is unconditional, `.panic` exactly when the model says `panic`).
  For u8, where `f = Int.toNat` is not injective, a second conjunct
  `mapOutcome Int.ofNat (mapOutcome Int.toNat o) = o` says that nothing is lost (every value in the model's
  outcome `o` is a nonnegative `Int`), like the third conjunct of `increment_u8_eq`.

  `RangeFromIter.next` is not treated here.
-/
namespace Extracted.Equiv
open Rs Konst Konst.Range

deriving instance DecidableEq for Extracted.RangeIter
deriving instance DecidableEq for Extracted.RangeIterRev
deriving instance DecidableEq for Extracted.RangeInclusiveIter
deriving instance DecidableEq for Extracted.RangeInclusiveIterRev

def fieldsOf {T α : Type} (g : T → α) (start end_ : T) : Fields α := { start := g start, end_ := g end_ }

def ofOutcome {α T σ : Type} (f : α → T) (mk : T → T → σ) : Outcome α (Fields α) → Res (Option (T × σ))
  | .panic => .panic
  | .done => .ok none
  | .item x s => .ok (some (f x, mk (f s.start) (f s.end_)))

def mapOutcome {α β : Type} (h : α → β) : Outcome α (Fields α) → Outcome β (Fields β)
  | .panic => .panic
  | .done => .done
  | .item x s => .item (h x) { start := h s.start, end_ := h s.end_ }

/-! ### the model's `RangeIter.next` … on a forward / reversed `Iter` are the four blocks (by definition)

  The theorems below are stated on the blocks; through these equations they are statements about
  `Konst.Range.RangeIter.next` / `nextBack` of `⟨true, fl⟩` resp. `⟨false, fl⟩`, up to `liftFields`. -/

theorem model_RangeIter_next_fwd {α} (S : Step α) (fl : Fields α) :
    Konst.Range.RangeIter.next S ⟨true, fl⟩ = liftFields true (rangeNextBlock S fl) := rfl
theorem model_RangeIter_nextBack_fwd {α} (S : Step α) (fl : Fields α) :
    Konst.Range.RangeIter.nextBack S ⟨true, fl⟩ = liftFields true (rangeNextBackBlock S fl) := rfl
theorem model_RangeIter_next_rev {α} (S : Step α) (fl : Fields α) :
    Konst.Range.RangeIter.next S ⟨false, fl⟩ = liftFields false (rangeNextBackBlock S fl) := rfl
theorem model_RangeIter_nextBack_rev {α} (S : Step α) (fl : Fields α) :
    Konst.Range.RangeIter.nextBack S ⟨false, fl⟩ = liftFields false (rangeNextBlock S fl) := rfl
theorem model_RangeInclusiveIter_next_fwd {α} (S : Step α) (fl : Fields α) :
    Konst.Range.RangeInclusiveIter.next S ⟨true, fl⟩ = liftFields true (rangeIncNextBlock S fl) := rfl
theorem model_RangeInclusiveIter_nextBack_fwd {α} (S : Step α) (fl : Fields α) :
    Konst.Range.RangeInclusiveIter.nextBack S ⟨true, fl⟩ = liftFields true (rangeIncNextBackBlock S fl) := rfl
theorem model_RangeInclusiveIter_next_rev {α} (S : Step α) (fl : Fields α) :
    Konst.Range.RangeInclusiveIter.next S ⟨false, fl⟩ = liftFields false (rangeIncNextBackBlock S fl) := rfl
theorem model_RangeInclusiveIter_nextBack_rev {α} (S : Step α) (fl : Fields α) :
    Konst.Range.RangeInclusiveIter.nextBack S ⟨false, fl⟩ = liftFields false (rangeIncNextBlock S fl) := rfl

/-! ### generic theorems: arbitrary `S : Step α`, arbitrary parameters agreeing with it at the state -/

section generic
variable {α T : Type} (S : Step α) (f : α → T) (increment decrement : T → T → Res (Extracted.StepRet T)) (a b : α)

/- The iterator state is given as the image `⟨f a, f b⟩` of model values; then both sides compute, whatever record
   the step function returns. -/

/-- `RangeIter::next` = `int_range_shared!` `next` block -/
theorem RangeIter_next_eq (hinc : increment (f a) (f b) = resOfModel f (S.increment a b)) :
    Extracted.RangeIter.next increment decrement ⟨f a, f b⟩ =
      ofOutcome f Extracted.RangeIter.mk (rangeNextBlock S ⟨a, b⟩) := by
  unfold Extracted.RangeIter.next rangeNextBlock
  rw [hinc]
  cases S.increment a b with
  | none => rfl
  | some r =>
    obtain ⟨fi, fe, ov, nx⟩ := r
    cases fe <;> cases ov <;> rfl

/-- `RangeIter::next_back` = `int_range_shared!` `next_back` block (`debug_assert!(!overflowed)` active) -/
theorem RangeIter_next_back_eq (hdec : decrement (f a) (f b) = resOfModel f (S.decrement a b)) :
    Extracted.RangeIter.next_back increment decrement ⟨f a, f b⟩ =
      ofOutcome f Extracted.RangeIter.mk (rangeNextBackBlock S ⟨a, b⟩) := by
  unfold Extracted.RangeIter.next_back rangeNextBackBlock
  rw [hdec]
  cases S.decrement a b with
  | none => rfl
  | some r =>
    obtain ⟨fi, fe, ov, nx⟩ := r
    cases fe <;> cases ov <;> rfl

theorem RangeIterRev_next_eq (hdec : decrement (f a) (f b) = resOfModel f (S.decrement a b)) :
    Extracted.RangeIterRev.next increment decrement ⟨f a, f b⟩ =
      ofOutcome f Extracted.RangeIterRev.mk (rangeNextBackBlock S ⟨a, b⟩) := by
  unfold Extracted.RangeIterRev.next rangeNextBackBlock
  rw [hdec]
  cases S.decrement a b with
  | none => rfl
  | some r =>
    obtain ⟨fi, fe, ov, nx⟩ := r
    cases fe <;> cases ov <;> rfl

theorem RangeIterRev_next_back_eq (hinc : increment (f a) (f b) = resOfModel f (S.increment a b)) :
    Extracted.RangeIterRev.next_back increment decrement ⟨f a, f b⟩ =
      ofOutcome f Extracted.RangeIterRev.mk (rangeNextBlock S ⟨a, b⟩) := by
  unfold Extracted.RangeIterRev.next_back rangeNextBlock
  rw [hinc]
  cases S.increment a b with
  | none => rfl
  | some r =>
    obtain ⟨fi, fe, ov, nx⟩ := r
    cases fe <;> cases ov <;> rfl

/-- `RangeInclusiveIter::next` = `int_range_inc_shared!` `next` block; `MAX_VAL`, `MIN_VAL` are the images of the model's -/
theorem RangeInclusiveIter_next_eq (hinc : increment (f a) (f b) = resOfModel f (S.increment a b)) :
    Extracted.RangeInclusiveIter.next increment decrement (f S.maxVal) (f S.minVal) ⟨f a, f b⟩ =
      ofOutcome f Extracted.RangeInclusiveIter.mk (rangeIncNextBlock S ⟨a, b⟩) := by
  unfold Extracted.RangeInclusiveIter.next rangeIncNextBlock
  rw [hinc]
  cases S.increment a b with
  | none => rfl
  | some r =>
    obtain ⟨fi, fe, ov, nx⟩ := r
    cases fi <;> cases ov <;> rfl

theorem RangeInclusiveIter_next_back_eq (hdec : decrement (f a) (f b) = resOfModel f (S.decrement a b)) :
    Extracted.RangeInclusiveIter.next_back increment decrement (f S.maxVal) (f S.minVal) ⟨f a, f b⟩ =
      ofOutcome f Extracted.RangeInclusiveIter.mk (rangeIncNextBackBlock S ⟨a, b⟩) := by
  unfold Extracted.RangeInclusiveIter.next_back rangeIncNextBackBlock
  rw [hdec]
  cases S.decrement a b with
  | none => rfl
  | some r =>
    obtain ⟨fi, fe, ov, nx⟩ := r
    cases fi <;> cases ov <;> rfl

theorem RangeInclusiveIterRev_next_eq (hdec : decrement (f a) (f b) = resOfModel f (S.decrement a b)) :
    Extracted.RangeInclusiveIterRev.next increment decrement (f S.maxVal) (f S.minVal) ⟨f a, f b⟩ =
      ofOutcome f Extracted.RangeInclusiveIterRev.mk (rangeIncNextBackBlock S ⟨a, b⟩) := by
  unfold Extracted.RangeInclusiveIterRev.next rangeIncNextBackBlock
  rw [hdec]
  cases S.decrement a b with
  | none => rfl
  | some r =>
    obtain ⟨fi, fe, ov, nx⟩ := r
    cases fi <;> cases ov <;> rfl

theorem RangeInclusiveIterRev_next_back_eq (hinc : increment (f a) (f b) = resOfModel f (S.increment a b)) :
    Extracted.RangeInclusiveIterRev.next_back increment decrement (f S.maxVal) (f S.minVal) ⟨f a, f b⟩ =
      ofOutcome f Extracted.RangeInclusiveIterRev.mk (rangeIncNextBlock S ⟨a, b⟩) := by
  unfold Extracted.RangeInclusiveIterRev.next_back rangeIncNextBlock
  rw [hinc]
  cases S.increment a b with
  | none => rfl
  | some r =>
    obtain ⟨fi, fe, ov, nx⟩ := r
    cases fi <;> cases ov <;> rfl

end generic

/-! ### nothing is lost by `f` when every value of the model's outcome is in the image of `g` -/

section faithful
variable {α T : Type} (S : Step α) (f : α → T) (g : T → α) (s : Fields α)
  (hs : g (f s.start) = s.start) (he : g (f s.end_) = s.end_)
include hs he

theorem mapOutcome_rangeNextBlock
    (hr : ∀ r, S.increment s.start s.end_ = some r → g (f r.next) = r.next) :
    mapOutcome g (mapOutcome f (rangeNextBlock S s)) = rangeNextBlock S s := by
  unfold rangeNextBlock
  cases h : S.increment s.start s.end_ with
  | none => rfl
  | some r => cases hfe : r.finishedExclusive <;> simp [mapOutcome, hfe, hs, he, hr r h]

omit he in
theorem mapOutcome_rangeNextBackBlock
    (hr : ∀ r, S.decrement s.start s.end_ = some r → g (f r.next) = r.next) :
    mapOutcome g (mapOutcome f (rangeNextBackBlock S s)) = rangeNextBackBlock S s := by
  unfold rangeNextBackBlock
  cases h : S.decrement s.start s.end_ with
  | none => rfl
  | some r =>
    cases hfe : r.finishedExclusive <;> cases hov : r.overflowed <;> simp [mapOutcome, hfe, hov, hs, hr r h]

theorem mapOutcome_rangeIncNextBlock (hmax : g (f S.maxVal) = S.maxVal) (hmin : g (f S.minVal) = S.minVal)
    (hr : ∀ r, S.increment s.start s.end_ = some r → g (f r.next) = r.next) :
    mapOutcome g (mapOutcome f (rangeIncNextBlock S s)) = rangeIncNextBlock S s := by
  unfold rangeIncNextBlock
  cases h : S.increment s.start s.end_ with
  | none => rfl
  | some r =>
    cases hfi : r.finishedInclusive <;> cases hov : r.overflowed <;>
      simp [mapOutcome, hfi, hov, hs, he, hr r h, hmax, hmin]

theorem mapOutcome_rangeIncNextBackBlock (hmax : g (f S.maxVal) = S.maxVal) (hmin : g (f S.minVal) = S.minVal)
    (hr : ∀ r, S.decrement s.start s.end_ = some r → g (f r.next) = r.next) :
    mapOutcome g (mapOutcome f (rangeIncNextBackBlock S s)) = rangeIncNextBackBlock S s := by
  unfold rangeIncNextBackBlock
  cases h : S.decrement s.start s.end_ with
  | none => rfl
  | some r =>
    cases hfi : r.finishedInclusive <;> cases hov : r.overflowed <;>
      simp [mapOutcome, hfi, hov, hs, he, hr r h, hmax, hmin]

end faithful

/-! ### the agreement hypotheses for the translated arms, from Equiv/Range.lean -/

theorem agrees_of_exists {α T : Type} {f : α → T} {m : Option (Konst.Range.StepRet α)}
    {e : Res (Extracted.StepRet T)} (h : ∃ r, m = some r ∧ e = .ok (ofModel f r)) : e = resOfModel f m := by
  obtain ⟨r, h1, h2⟩ := h
  rw [h1, h2]
  rfl

theorem increment_u8_agrees (a b : Nat) (h : a ≤ 255) :
    Extracted.increment_u8 a b = resOfModel Int.toNat ((intStep 0 255).increment (Int.ofNat a) (Int.ofNat b)) :=
  let ⟨r, h1, h2, _⟩ := increment_u8_eq a b h
  agrees_of_exists ⟨r, h1, h2⟩

theorem increment_u8_next_nonneg (a b : Nat) (h : a ≤ 255) (r : Konst.Range.StepRet Int)
    (hr : (intStep 0 255).increment (Int.ofNat a) (Int.ofNat b) = some r) : Int.ofNat (Int.toNat r.next) = r.next := by
  obtain ⟨r', h1, _, h3⟩ := increment_u8_eq a b h
  obtain rfl : r' = r := Option.some.inj (h1.symm.trans hr)
  exact congrArg Konst.Range.StepRet.next h3

theorem decrement_u8_agrees (a b : Nat) (h : b ≤ 255) :
    Extracted.decrement_u8 a b = resOfModel Int.toNat ((intStep 0 255).decrement (Int.ofNat a) (Int.ofNat b)) :=
  let ⟨r, h1, h2, _⟩ := decrement_u8_eq a b h
  agrees_of_exists ⟨r, h1, h2⟩

theorem decrement_u8_next_nonneg (a b : Nat) (h : b ≤ 255) (r : Konst.Range.StepRet Int)
    (hr : (intStep 0 255).decrement (Int.ofNat a) (Int.ofNat b) = some r) : Int.ofNat (Int.toNat r.next) = r.next := by
  obtain ⟨r', h1, _, h3⟩ := decrement_u8_eq a b h
  obtain rfl : r' = r := Option.some.inj (h1.symm.trans hr)
  exact congrArg Konst.Range.StepRet.next h3

/-- `id a`, `id b`: the shape `f a`, `f b` of the generic theorems at `f = id` -/
theorem increment_i8_agrees (a b : Int) (h : -128 ≤ a ∧ a ≤ 127) :
    Extracted.increment_i8 a b = resOfModel id ((intStep (-128) 127).increment (id a) (id b)) :=
  agrees_of_exists (increment_i8_eq a b h)

theorem decrement_i8_agrees (a b : Int) (h : -128 ≤ b ∧ b ≤ 127) :
    Extracted.decrement_i8 a b = resOfModel id ((intStep (-128) 127).decrement (id a) (id b)) :=
  agrees_of_exists (decrement_i8_eq a b h)

theorem increment_char_agrees (a b : Nat) :
    Extracted.increment_char a b = resOfModel id (charStep.increment (id a) (id b)) := increment_char_eq' a b

theorem decrement_char_agrees (a b : Nat) :
    Extracted.decrement_char a b = resOfModel id (charStep.decrement (id a) (id b)) := decrement_char_eq' a b

/-! ### u8 : `T = Nat`, `α = Int`, `S = intStep 0 255`, `MAX_VAL = 255`, `MIN_VAL = 0` -/

theorem RangeIter_next_u8_eq (self : Extracted.RangeIter Nat) (h : self.start ≤ 255) :
    Extracted.RangeIter.next Extracted.increment_u8 Extracted.decrement_u8 self =
        ofOutcome Int.toNat Extracted.RangeIter.mk (rangeNextBlock (intStep 0 255) (fieldsOf Int.ofNat self.start self.end_)) ∧
      mapOutcome Int.ofNat (mapOutcome Int.toNat (rangeNextBlock (intStep 0 255) (fieldsOf Int.ofNat self.start self.end_))) =
        rangeNextBlock (intStep 0 255) (fieldsOf Int.ofNat self.start self.end_) :=
  ⟨RangeIter_next_eq (intStep 0 255) Int.toNat _ _ (Int.ofNat self.start) (Int.ofNat self.end_)
      (increment_u8_agrees _ _ h),
   mapOutcome_rangeNextBlock (intStep 0 255) Int.toNat Int.ofNat _ rfl rfl (increment_u8_next_nonneg _ _ h)⟩

theorem RangeIter_next_back_u8_eq (self : Extracted.RangeIter Nat) (h : self.end_ ≤ 255) :
    Extracted.RangeIter.next_back Extracted.increment_u8 Extracted.decrement_u8 self =
        ofOutcome Int.toNat Extracted.RangeIter.mk (rangeNextBackBlock (intStep 0 255) (fieldsOf Int.ofNat self.start self.end_)) ∧
      mapOutcome Int.ofNat (mapOutcome Int.toNat (rangeNextBackBlock (intStep 0 255) (fieldsOf Int.ofNat self.start self.end_))) =
        rangeNextBackBlock (intStep 0 255) (fieldsOf Int.ofNat self.start self.end_) :=
  ⟨RangeIter_next_back_eq (intStep 0 255) Int.toNat _ _ (Int.ofNat self.start) (Int.ofNat self.end_)
      (decrement_u8_agrees _ _ h),
   mapOutcome_rangeNextBackBlock (intStep 0 255) Int.toNat Int.ofNat _ rfl (decrement_u8_next_nonneg _ _ h)⟩

theorem RangeIterRev_next_u8_eq (self : Extracted.RangeIterRev Nat) (h : self.end_ ≤ 255) :
    Extracted.RangeIterRev.next Extracted.increment_u8 Extracted.decrement_u8 self =
        ofOutcome Int.toNat Extracted.RangeIterRev.mk (rangeNextBackBlock (intStep 0 255) (fieldsOf Int.ofNat self.start self.end_)) ∧
      mapOutcome Int.ofNat (mapOutcome Int.toNat (rangeNextBackBlock (intStep 0 255) (fieldsOf Int.ofNat self.start self.end_))) =
        rangeNextBackBlock (intStep 0 255) (fieldsOf Int.ofNat self.start self.end_) :=
  ⟨RangeIterRev_next_eq (intStep 0 255) Int.toNat _ _ (Int.ofNat self.start) (Int.ofNat self.end_)
      (decrement_u8_agrees _ _ h),
   mapOutcome_rangeNextBackBlock (intStep 0 255) Int.toNat Int.ofNat _ rfl (decrement_u8_next_nonneg _ _ h)⟩

theorem RangeIterRev_next_back_u8_eq (self : Extracted.RangeIterRev Nat) (h : self.start ≤ 255) :
    Extracted.RangeIterRev.next_back Extracted.increment_u8 Extracted.decrement_u8 self =
        ofOutcome Int.toNat Extracted.RangeIterRev.mk (rangeNextBlock (intStep 0 255) (fieldsOf Int.ofNat self.start self.end_)) ∧
      mapOutcome Int.ofNat (mapOutcome Int.toNat (rangeNextBlock (intStep 0 255) (fieldsOf Int.ofNat self.start self.end_))) =
        rangeNextBlock (intStep 0 255) (fieldsOf Int.ofNat self.start self.end_) :=
  ⟨RangeIterRev_next_back_eq (intStep 0 255) Int.toNat _ _ (Int.ofNat self.start) (Int.ofNat self.end_)
      (increment_u8_agrees _ _ h),
   mapOutcome_rangeNextBlock (intStep 0 255) Int.toNat Int.ofNat _ rfl rfl (increment_u8_next_nonneg _ _ h)⟩

theorem RangeInclusiveIter_next_u8_eq (self : Extracted.RangeInclusiveIter Nat) (h : self.start ≤ 255) :
    Extracted.RangeInclusiveIter.next Extracted.increment_u8 Extracted.decrement_u8 255 0 self =
        ofOutcome Int.toNat Extracted.RangeInclusiveIter.mk (rangeIncNextBlock (intStep 0 255) (fieldsOf Int.ofNat self.start self.end_)) ∧
      mapOutcome Int.ofNat (mapOutcome Int.toNat (rangeIncNextBlock (intStep 0 255) (fieldsOf Int.ofNat self.start self.end_))) =
        rangeIncNextBlock (intStep 0 255) (fieldsOf Int.ofNat self.start self.end_) :=
  ⟨RangeInclusiveIter_next_eq (intStep 0 255) Int.toNat _ _ (Int.ofNat self.start) (Int.ofNat self.end_)
      (increment_u8_agrees _ _ h),
   mapOutcome_rangeIncNextBlock (intStep 0 255) Int.toNat Int.ofNat _ rfl rfl rfl rfl (increment_u8_next_nonneg _ _ h)⟩

theorem RangeInclusiveIter_next_back_u8_eq (self : Extracted.RangeInclusiveIter Nat) (h : self.end_ ≤ 255) :
    Extracted.RangeInclusiveIter.next_back Extracted.increment_u8 Extracted.decrement_u8 255 0 self =
        ofOutcome Int.toNat Extracted.RangeInclusiveIter.mk (rangeIncNextBackBlock (intStep 0 255) (fieldsOf Int.ofNat self.start self.end_)) ∧
      mapOutcome Int.ofNat (mapOutcome Int.toNat (rangeIncNextBackBlock (intStep 0 255) (fieldsOf Int.ofNat self.start self.end_))) =
        rangeIncNextBackBlock (intStep 0 255) (fieldsOf Int.ofNat self.start self.end_) :=
  ⟨RangeInclusiveIter_next_back_eq (intStep 0 255) Int.toNat _ _ (Int.ofNat self.start) (Int.ofNat self.end_)
      (decrement_u8_agrees _ _ h),
   mapOutcome_rangeIncNextBackBlock (intStep 0 255) Int.toNat Int.ofNat _ rfl rfl rfl rfl (decrement_u8_next_nonneg _ _ h)⟩

theorem RangeInclusiveIterRev_next_u8_eq (self : Extracted.RangeInclusiveIterRev Nat) (h : self.end_ ≤ 255) :
    Extracted.RangeInclusiveIterRev.next Extracted.increment_u8 Extracted.decrement_u8 255 0 self =
        ofOutcome Int.toNat Extracted.RangeInclusiveIterRev.mk (rangeIncNextBackBlock (intStep 0 255) (fieldsOf Int.ofNat self.start self.end_)) ∧
      mapOutcome Int.ofNat (mapOutcome Int.toNat (rangeIncNextBackBlock (intStep 0 255) (fieldsOf Int.ofNat self.start self.end_))) =
        rangeIncNextBackBlock (intStep 0 255) (fieldsOf Int.ofNat self.start self.end_) :=
  ⟨RangeInclusiveIterRev_next_eq (intStep 0 255) Int.toNat _ _ (Int.ofNat self.start) (Int.ofNat self.end_)
      (decrement_u8_agrees _ _ h),
   mapOutcome_rangeIncNextBackBlock (intStep 0 255) Int.toNat Int.ofNat _ rfl rfl rfl rfl (decrement_u8_next_nonneg _ _ h)⟩

theorem RangeInclusiveIterRev_next_back_u8_eq (self : Extracted.RangeInclusiveIterRev Nat) (h : self.start ≤ 255) :
    Extracted.RangeInclusiveIterRev.next_back Extracted.increment_u8 Extracted.decrement_u8 255 0 self =
        ofOutcome Int.toNat Extracted.RangeInclusiveIterRev.mk (rangeIncNextBlock (intStep 0 255) (fieldsOf Int.ofNat self.start self.end_)) ∧
      mapOutcome Int.ofNat (mapOutcome Int.toNat (rangeIncNextBlock (intStep 0 255) (fieldsOf Int.ofNat self.start self.end_))) =
        rangeIncNextBlock (intStep 0 255) (fieldsOf Int.ofNat self.start self.end_) :=
  ⟨RangeInclusiveIterRev_next_back_eq (intStep 0 255) Int.toNat _ _ (Int.ofNat self.start) (Int.ofNat self.end_)
      (increment_u8_agrees _ _ h),
   mapOutcome_rangeIncNextBlock (intStep 0 255) Int.toNat Int.ofNat _ rfl rfl rfl rfl (increment_u8_next_nonneg _ _ h)⟩

/-! ### i8 : `T = α = Int`, `S = intStep (-128) 127`, `MAX_VAL = 127`, `MIN_VAL = -128` -/

theorem RangeIter_next_i8_eq (self : Extracted.RangeIter Int) (h : -128 ≤ self.start ∧ self.start ≤ 127) :
    Extracted.RangeIter.next Extracted.increment_i8 Extracted.decrement_i8 self =
      ofOutcome id Extracted.RangeIter.mk (rangeNextBlock (intStep (-128) 127) (fieldsOf id self.start self.end_)) :=
  RangeIter_next_eq (intStep (-128) 127) id _ _ self.start self.end_
    (increment_i8_agrees _ _ h)

theorem RangeIter_next_back_i8_eq (self : Extracted.RangeIter Int) (h : -128 ≤ self.end_ ∧ self.end_ ≤ 127) :
    Extracted.RangeIter.next_back Extracted.increment_i8 Extracted.decrement_i8 self =
      ofOutcome id Extracted.RangeIter.mk (rangeNextBackBlock (intStep (-128) 127) (fieldsOf id self.start self.end_)) :=
  RangeIter_next_back_eq (intStep (-128) 127) id _ _ self.start self.end_
    (decrement_i8_agrees _ _ h)

theorem RangeIterRev_next_i8_eq (self : Extracted.RangeIterRev Int) (h : -128 ≤ self.end_ ∧ self.end_ ≤ 127) :
    Extracted.RangeIterRev.next Extracted.increment_i8 Extracted.decrement_i8 self =
      ofOutcome id Extracted.RangeIterRev.mk (rangeNextBackBlock (intStep (-128) 127) (fieldsOf id self.start self.end_)) :=
  RangeIterRev_next_eq (intStep (-128) 127) id _ _ self.start self.end_
    (decrement_i8_agrees _ _ h)

theorem RangeIterRev_next_back_i8_eq (self : Extracted.RangeIterRev Int) (h : -128 ≤ self.start ∧ self.start ≤ 127) :
    Extracted.RangeIterRev.next_back Extracted.increment_i8 Extracted.decrement_i8 self =
      ofOutcome id Extracted.RangeIterRev.mk (rangeNextBlock (intStep (-128) 127) (fieldsOf id self.start self.end_)) :=
  RangeIterRev_next_back_eq (intStep (-128) 127) id _ _ self.start self.end_
    (increment_i8_agrees _ _ h)

theorem RangeInclusiveIter_next_i8_eq (self : Extracted.RangeInclusiveIter Int) (h : -128 ≤ self.start ∧ self.start ≤ 127) :
    Extracted.RangeInclusiveIter.next Extracted.increment_i8 Extracted.decrement_i8 127 (-128) self =
      ofOutcome id Extracted.RangeInclusiveIter.mk (rangeIncNextBlock (intStep (-128) 127) (fieldsOf id self.start self.end_)) :=
  RangeInclusiveIter_next_eq (intStep (-128) 127) id _ _ self.start self.end_
    (increment_i8_agrees _ _ h)

theorem RangeInclusiveIter_next_back_i8_eq (self : Extracted.RangeInclusiveIter Int) (h : -128 ≤ self.end_ ∧ self.end_ ≤ 127) :
    Extracted.RangeInclusiveIter.next_back Extracted.increment_i8 Extracted.decrement_i8 127 (-128) self =
      ofOutcome id Extracted.RangeInclusiveIter.mk (rangeIncNextBackBlock (intStep (-128) 127) (fieldsOf id self.start self.end_)) :=
  RangeInclusiveIter_next_back_eq (intStep (-128) 127) id _ _ self.start self.end_
    (decrement_i8_agrees _ _ h)

theorem RangeInclusiveIterRev_next_i8_eq (self : Extracted.RangeInclusiveIterRev Int) (h : -128 ≤ self.end_ ∧ self.end_ ≤ 127) :
    Extracted.RangeInclusiveIterRev.next Extracted.increment_i8 Extracted.decrement_i8 127 (-128) self =
      ofOutcome id Extracted.RangeInclusiveIterRev.mk (rangeIncNextBackBlock (intStep (-128) 127) (fieldsOf id self.start self.end_)) :=
  RangeInclusiveIterRev_next_eq (intStep (-128) 127) id _ _ self.start self.end_
    (decrement_i8_agrees _ _ h)

theorem RangeInclusiveIterRev_next_back_i8_eq (self : Extracted.RangeInclusiveIterRev Int) (h : -128 ≤ self.start ∧ self.start ≤ 127) :
    Extracted.RangeInclusiveIterRev.next_back Extracted.increment_i8 Extracted.decrement_i8 127 (-128) self =
      ofOutcome id Extracted.RangeInclusiveIterRev.mk (rangeIncNextBlock (intStep (-128) 127) (fieldsOf id self.start self.end_)) :=
  RangeInclusiveIterRev_next_back_eq (intStep (-128) 127) id _ _ self.start self.end_
    (increment_i8_agrees _ _ h)

/-! ### char : `T = α = Nat` (scalar values), `S = charStep`, `MAX_VAL = 0x10FFFF`, `MIN_VAL = 0`; no hypothesis -/

theorem RangeIter_next_char_eq (self : Extracted.RangeIter Nat) :
    Extracted.RangeIter.next Extracted.increment_char Extracted.decrement_char self =
      ofOutcome id Extracted.RangeIter.mk (rangeNextBlock charStep (fieldsOf id self.start self.end_)) :=
  RangeIter_next_eq charStep id _ _ self.start self.end_
    (increment_char_agrees _ _)

theorem RangeIter_next_back_char_eq (self : Extracted.RangeIter Nat) :
    Extracted.RangeIter.next_back Extracted.increment_char Extracted.decrement_char self =
      ofOutcome id Extracted.RangeIter.mk (rangeNextBackBlock charStep (fieldsOf id self.start self.end_)) :=
  RangeIter_next_back_eq charStep id _ _ self.start self.end_
    (decrement_char_agrees _ _)

theorem RangeIterRev_next_char_eq (self : Extracted.RangeIterRev Nat) :
    Extracted.RangeIterRev.next Extracted.increment_char Extracted.decrement_char self =
      ofOutcome id Extracted.RangeIterRev.mk (rangeNextBackBlock charStep (fieldsOf id self.start self.end_)) :=
  RangeIterRev_next_eq charStep id _ _ self.start self.end_
    (decrement_char_agrees _ _)

theorem RangeIterRev_next_back_char_eq (self : Extracted.RangeIterRev Nat) :
    Extracted.RangeIterRev.next_back Extracted.increment_char Extracted.decrement_char self =
      ofOutcome id Extracted.RangeIterRev.mk (rangeNextBlock charStep (fieldsOf id self.start self.end_)) :=
  RangeIterRev_next_back_eq charStep id _ _ self.start self.end_
    (increment_char_agrees _ _)

theorem RangeInclusiveIter_next_char_eq (self : Extracted.RangeInclusiveIter Nat) :
    Extracted.RangeInclusiveIter.next Extracted.increment_char Extracted.decrement_char 0x10FFFF 0 self =
      ofOutcome id Extracted.RangeInclusiveIter.mk (rangeIncNextBlock charStep (fieldsOf id self.start self.end_)) :=
  RangeInclusiveIter_next_eq charStep id _ _ self.start self.end_
    (increment_char_agrees _ _)

theorem RangeInclusiveIter_next_back_char_eq (self : Extracted.RangeInclusiveIter Nat) :
    Extracted.RangeInclusiveIter.next_back Extracted.increment_char Extracted.decrement_char 0x10FFFF 0 self =
      ofOutcome id Extracted.RangeInclusiveIter.mk (rangeIncNextBackBlock charStep (fieldsOf id self.start self.end_)) :=
  RangeInclusiveIter_next_back_eq charStep id _ _ self.start self.end_
    (decrement_char_agrees _ _)

theorem RangeInclusiveIterRev_next_char_eq (self : Extracted.RangeInclusiveIterRev Nat) :
    Extracted.RangeInclusiveIterRev.next Extracted.increment_char Extracted.decrement_char 0x10FFFF 0 self =
      ofOutcome id Extracted.RangeInclusiveIterRev.mk (rangeIncNextBackBlock charStep (fieldsOf id self.start self.end_)) :=
  RangeInclusiveIterRev_next_eq charStep id _ _ self.start self.end_
    (decrement_char_agrees _ _)

theorem RangeInclusiveIterRev_next_back_char_eq (self : Extracted.RangeInclusiveIterRev Nat) :
    Extracted.RangeInclusiveIterRev.next_back Extracted.increment_char Extracted.decrement_char 0x10FFFF 0 self =
      ofOutcome id Extracted.RangeInclusiveIterRev.mk (rangeIncNextBlock charStep (fieldsOf id self.start self.end_)) :=
  RangeInclusiveIterRev_next_back_eq charStep id _ _ self.start self.end_
    (increment_char_agrees _ _)

/-! ### concrete instances (the hypotheses are satisfiable; both sides evaluate) -/

example : Extracted.RangeIter.next Extracted.increment_u8 Extracted.decrement_u8 ⟨5, 7⟩ = .ok (some (5, ⟨6, 7⟩)) := by decide +kernel
example : Extracted.RangeIter.next Extracted.increment_u8 Extracted.decrement_u8 ⟨7, 7⟩ = .ok none := by decide +kernel
example : Extracted.RangeIter.next_back Extracted.increment_u8 Extracted.decrement_u8 ⟨5, 7⟩ = .ok (some (6, ⟨5, 6⟩)) := by decide +kernel
example : Extracted.RangeIterRev.next Extracted.increment_i8 Extracted.decrement_i8 ⟨-128, 127⟩ = .ok (some (126, ⟨-128, 126⟩)) := by decide +kernel
example : Extracted.RangeIterRev.next_back Extracted.increment_i8 Extracted.decrement_i8 ⟨-128, 127⟩ = .ok (some (-128, ⟨-127, 127⟩)) := by decide +kernel
example : Extracted.RangeInclusiveIter.next Extracted.increment_u8 Extracted.decrement_u8 255 0 ⟨255, 255⟩ =
    .ok (some (255, ⟨255, 0⟩)) := by decide +kernel      -- the `(MAX_VAL, MIN_VAL)` exhausted encoding
example : Extracted.RangeInclusiveIter.next Extracted.increment_u8 Extracted.decrement_u8 255 0 ⟨255, 0⟩ = .ok none := by decide +kernel
example : Extracted.RangeInclusiveIter.next_back Extracted.increment_i8 Extracted.decrement_i8 127 (-128) ⟨-128, -128⟩ =
    .ok (some (-128, ⟨127, -128⟩)) := by decide +kernel
example : Extracted.RangeInclusiveIterRev.next Extracted.increment_char Extracted.decrement_char 0x10FFFF 0 ⟨0xD7FF, 0xE000⟩ =
    .ok (some (0xE000, ⟨0xD7FF, 0xD7FF⟩)) := by decide +kernel
example : Extracted.RangeInclusiveIterRev.next_back Extracted.increment_char Extracted.decrement_char 0x10FFFF 0 ⟨0xD7FF, 0xE000⟩ =
    .ok (some (0xD7FF, ⟨0xE000, 0xE000⟩)) := by decide +kernel
example : Extracted.RangeIter.next_back Extracted.increment_char Extracted.decrement_char ⟨0, 0xDC00⟩ = .panic := by decide +kernel  -- not a `char`
example : rangeNextBlock (intStep 0 255) (fieldsOf Int.ofNat 5 7) = .item 5 ⟨6, 7⟩ := by decide +kernel
example : rangeIncNextBlock (intStep 0 255) (fieldsOf Int.ofNat 255 255) = .item 255 ⟨255, 0⟩ := by decide +kernel
example : rangeNextBackBlock charStep (fieldsOf id 0 0xDC00) = .panic := by decide +kernel
example : ofOutcome Int.toNat Extracted.RangeIter.mk (rangeNextBlock (intStep 0 255) (fieldsOf Int.ofNat 5 7)) =
    .ok (some (5, ⟨6, 7⟩)) := by decide +kernel
example := RangeIter_next_u8_eq ⟨255, 3⟩ (by decide)
example := RangeIter_next_back_u8_eq ⟨3, 0⟩ (by decide)
example := RangeIterRev_next_u8_eq ⟨3, 200⟩ (by decide)
example := RangeIterRev_next_back_u8_eq ⟨3, 200⟩ (by decide)
example := RangeInclusiveIter_next_u8_eq ⟨255, 255⟩ (by decide)
example := RangeInclusiveIter_next_back_u8_eq ⟨0, 0⟩ (by decide)
example := RangeInclusiveIterRev_next_u8_eq ⟨0, 0⟩ (by decide)
example := RangeInclusiveIterRev_next_back_u8_eq ⟨255, 255⟩ (by decide)
example := RangeIter_next_i8_eq ⟨127, -128⟩ (by decide)
example := RangeIter_next_back_i8_eq ⟨-128, 127⟩ (by decide)
example := RangeIterRev_next_i8_eq ⟨-128, -128⟩ (by decide)
example := RangeIterRev_next_back_i8_eq ⟨127, 127⟩ (by decide)
example := RangeInclusiveIter_next_i8_eq ⟨127, 127⟩ (by decide)
example := RangeInclusiveIter_next_back_i8_eq ⟨-128, -128⟩ (by decide)
example := RangeInclusiveIterRev_next_i8_eq ⟨-128, -128⟩ (by decide)
example := RangeInclusiveIterRev_next_back_i8_eq ⟨127, 127⟩ (by decide)
example : Extracted.RangeInclusiveIter.next Extracted.increment_u8 Extracted.decrement_u8 255 0 ⟨255, 255⟩ =
    ofOutcome Int.toNat Extracted.RangeInclusiveIter.mk (.item 255 ⟨255, 0⟩) :=
  (RangeInclusiveIter_next_u8_eq ⟨255, 255⟩ (by decide)).1
example : Extracted.RangeIter.next_back Extracted.increment_char Extracted.decrement_char ⟨0, 0xDC00⟩ =
    ofOutcome id Extracted.RangeIter.mk .panic :=
  RangeIter_next_back_char_eq ⟨0, 0xDC00⟩
example : Extracted.RangeInclusiveIter.next Extracted.increment_char Extracted.decrement_char 0x10FFFF 0 ⟨0x10FFFF, 0x10FFFF⟩ =
    ofOutcome id Extracted.RangeInclusiveIter.mk (.item 0x10FFFF ⟨0x10FFFF, 0⟩) :=
  RangeInclusiveIter_next_char_eq ⟨0x10FFFF, 0x10FFFF⟩

end Extracted.Equiv
