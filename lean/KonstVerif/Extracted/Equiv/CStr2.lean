import KonstVerif.Extracted.Equiv.CStr
/-
  Extracted = Model, for konst::ffi::cstr (C20, conversion half):
  `to_bytes_with_nul` (the `unsafe` pointer walk `while *start.add(i) != 0 { i += 1 }` followed by
  `from_raw_parts(start, i + 1)`) and `to_bytes` (`[rem @ .., 0] => rem, _ => unreachable!()`).

  The generated code takes the `&CStr` as a byte list `mem`: its bytes INCLUDING the terminating nul, i.e. the
  allocation the pointer `this.as_ptr()` points to the start of.  `Rs.ptrRead mem k` (the read `*start.add(k)`)
  is `.ub` outside `mem`.  The model (`Model/CStr.lean`) walks "the memory beginning at the CStr's first byte"
  and returns `View`s into it (`none` / `.oob` = the walk left the allocation).

  Statements, for EVERY `mem` (no invariant assumed):
    * `cstr_to_bytes_with_nul_model`: generated = model (`some v ↦ .ok (v.apply mem)`, `none ↦ .ub`);
    * `cstr_to_bytes_model`:          generated = model (`.ok v ↦ .ok (v.apply mem)`, `.oob ↦ .ub`,
                                       `.unreachable ↦ .panic`; `toBytes_ne_unreachable`: never the case).
  Under the `&CStr` invariant `IsCStr mem` (`Spec/Concat.lean`, the hypothesis of `Props.C20.cstr_bytes_eq`;
  equivalently `mem = body ++ [0]` with `0 ∉ body`: `isCStr_iff_snoc`):
    * `cstr_to_bytes_with_nul_eq`: `= .ok mem` (= std's `to_bytes_with_nul`), the model's view being `⟨0, mem.length⟩`;
    * `cstr_to_bytes_eq`:          `= .ok mem.dropLast` (= std's `to_bytes`), the model's view `⟨0, mem.length - 1⟩`.
  When the invariant is violated by the absence of any nul:
    * `cstr_to_bytes_with_nul_ub`, `cstr_to_bytes_ub`: `= .ub` — the unsafe code relies on exactly the
      presence of a nul inside the allocation (`cstr_to_bytes_with_nul_ub_iff`).
-/
namespace Extracted.Equiv
open Rs Konst Konst.Slice Konst.CStr Konst.Lemmas.CStr Konst.Spec.Concat

/-! ### the pointer walk -/

theorem run_ub {ρ : Type} : Ctl.run (.ub : Ctl ρ ρ) = .ub := rfl

theorem to_bytes_with_nul_loop (n : Nat) (mem : List Nat) (i : Nat)
    (hb : mem.length < 2 ^ 64) (hn : mem.length + 1 ≤ n + i) (hi : i ≤ mem.length) :
    Rs.loop n (Extracted.cstr_to_bytes_with_nul.loop1 mem) i =
      match walk (mem.drop i) i with
      | some k => (Ctl.val k : Ctl (List Nat) Nat)
      | none => .ub := by
  induction n generalizing i with
  | zero => omega
  | succ n ih =>
    rw [Rs.loop_succ]
    by_cases hc : i < mem.length
    · have h1 : i + 1 < 2 ^ 64 := by omega
      have hidx : mem[i]? = some mem[i] := List.getElem?_eq_getElem hc
      rw [List.drop_eq_getElem_cons hc]
      simp only [Extracted.cstr_to_bytes_with_nul.loop1, Rs.ptrRead, hidx, Rs.uadd, h1, ↓reduceIte,
        Ctl.bind_eq, Ctl.bind_val, walk]
      by_cases h0 : mem[i] = 0
      · simp [h0]
      · simp only [ne_eq, h0, not_false_eq_true, decide_true, ↓reduceIte]
        exact ih (i := i + 1) (by omega) (by omega)
    · have hlen : mem.drop i = [] := List.drop_eq_nil_of_le (by omega)
      have hidx : mem[i]? = none := List.getElem?_eq_none (by omega)
      simp [Extracted.cstr_to_bytes_with_nul.loop1, Rs.ptrRead, hidx, hlen, walk]

def toBytesWithNulRes (mem : List Nat) : Option View → Res (List Nat)
  | some v => .ok (v.apply mem)
  | none => .ub

theorem cstr_to_bytes_with_nul_model (fuel : Nat) (mem : List Nat)
    (hb : mem.length < 2 ^ 64) (hf : mem.length + 1 ≤ fuel) :
    Extracted.cstr_to_bytes_with_nul fuel mem = toBytesWithNulRes mem (toBytesWithNul mem) := by
  unfold Extracted.cstr_to_bytes_with_nul
  dsimp only
  rw [to_bytes_with_nul_loop fuel mem 0 hb (by omega) (by omega), List.drop_zero, walk_eq, toBytesWithNul_eq]
  cases hk : firstNul mem with
  | none => rfl
  | some k =>
    have hk := firstNul_lt hk
    have hk1 : k + 1 < 2 ^ 64 := by omega
    have hk2 : k + 1 ≤ mem.length := by omega
    simp [Rs.uadd, hk1, Rs.rawParts, hk2, toBytesWithNulRes, View.apply]

theorem isCStr_iff_snoc (c : List Nat) : IsCStr c ↔ ∃ body, c = body ++ [0] ∧ 0 ∉ body := by
  constructor
  · rintro ⟨h, _⟩
    obtain ⟨a, b, rfl, ha, hk⟩ := firstNul_split h
    rw [List.length_append, List.length_cons] at hk
    have hb : b = [] := List.eq_nil_of_length_eq_zero (by omega)
    exact ⟨a, by rw [hb], ha⟩
  · rintro ⟨body, rfl, h0⟩
    exact isCStr_snoc h0

theorem cstr_to_bytes_with_nul_eq (fuel : Nat) (mem : List Nat) (hc : IsCStr mem)
    (hb : mem.length < 2 ^ 64) (hf : mem.length + 1 ≤ fuel) :
    Extracted.cstr_to_bytes_with_nul fuel mem = .ok mem ∧
    ∃ v, toBytesWithNul mem = some v ∧ v.apply mem = stdToBytesWithNul mem ∧
      Extracted.cstr_to_bytes_with_nul fuel mem = .ok (v.apply mem) := by
  have hm := cstr_to_bytes_with_nul_model fuel mem hb hf
  rw [toBytesWithNul_isCStr hc] at hm
  have ha : (⟨0, mem.length⟩ : View).apply mem = mem := by simp [View.apply]
  refine ⟨by rw [hm, toBytesWithNulRes, ha], ⟨0, mem.length⟩, toBytesWithNul_isCStr hc, ?_, hm⟩
  rw [ha, stdToBytesWithNul]

theorem cstr_to_bytes_with_nul_eq_snoc (fuel : Nat) (body : List Nat) (h0 : 0 ∉ body)
    (hb : body.length + 1 < 2 ^ 64) (hf : body.length + 2 ≤ fuel) :
    Extracted.cstr_to_bytes_with_nul fuel (body ++ [0]) = .ok (body ++ [0]) :=
  (cstr_to_bytes_with_nul_eq fuel (body ++ [0]) (isCStr_snoc h0) (by simpa using hb) (by simpa using hf)).1

/-- the walk reads `*start.add(mem.length)`, outside the allocation -/
theorem cstr_to_bytes_with_nul_ub (fuel : Nat) (mem : List Nat) (h0 : 0 ∉ mem)
    (hb : mem.length < 2 ^ 64) (hf : mem.length + 1 ≤ fuel) :
    Extracted.cstr_to_bytes_with_nul fuel mem = .ub := by
  rw [cstr_to_bytes_with_nul_model fuel mem hb hf, toBytesWithNul, (walk_none_iff mem 0).mpr h0]
  rfl

theorem cstr_to_bytes_with_nul_ub_iff (fuel : Nat) (mem : List Nat)
    (hb : mem.length < 2 ^ 64) (hf : mem.length + 1 ≤ fuel) :
    Extracted.cstr_to_bytes_with_nul fuel mem = .ub ↔ 0 ∉ mem := by
  constructor
  · intro h
    rw [cstr_to_bytes_with_nul_model fuel mem hb hf, toBytesWithNul] at h
    rw [← walk_none_iff mem 0]
    cases hw : walk mem 0 with
    | none => rfl
    | some k => simp [hw, toBytesWithNulRes] at h
  · exact fun h => cstr_to_bytes_with_nul_ub fuel mem h hb hf

def toBytesRes (mem : List Nat) : ToBytes → Res (List Nat)
  | .ok v => .ok (v.apply mem)
  | .unreachable => .panic
  | .oob => .ub

theorem cstr_to_bytes_model (fuel : Nat) (mem : List Nat)
    (hb : mem.length < 2 ^ 64) (hf : mem.length + 1 ≤ fuel) :
    Extracted.cstr_to_bytes fuel mem = toBytesRes mem (toBytes mem) := by
  unfold Extracted.cstr_to_bytes
  rw [cstr_to_bytes_with_nul_model fuel mem hb hf, toBytesWithNul_eq, toBytes_eq]
  cases h : firstNul mem with
  | none => rfl
  | some k =>
    obtain ⟨a, b, rfl, _, rfl⟩ := firstNul_split h
    simp [toBytesWithNulRes, toBytesRes, View.apply, take_through_nul, Rs.unsnoc]

theorem toBytes_ne_unreachable (mem : List Nat) : toBytes mem ≠ .unreachable := by
  rw [toBytes_eq]
  cases firstNul mem <;> exact ToBytes.noConfusion

theorem cstr_to_bytes_ne_panic (fuel : Nat) (mem : List Nat)
    (hb : mem.length < 2 ^ 64) (hf : mem.length + 1 ≤ fuel) :
    Extracted.cstr_to_bytes fuel mem ≠ .panic := by
  rw [cstr_to_bytes_model fuel mem hb hf]
  have := toBytes_ne_unreachable mem
  cases h : toBytes mem with
  | ok v => simp [toBytesRes]
  | unreachable => exact absurd h this
  | oob => simp [toBytesRes]

theorem cstr_to_bytes_eq (fuel : Nat) (mem : List Nat) (hc : IsCStr mem)
    (hb : mem.length < 2 ^ 64) (hf : mem.length + 1 ≤ fuel) :
    Extracted.cstr_to_bytes fuel mem = .ok mem.dropLast ∧
    ∃ v, toBytes mem = .ok v ∧ v.apply mem = stdToBytes mem ∧
      Extracted.cstr_to_bytes fuel mem = .ok (v.apply mem) := by
  have hm := cstr_to_bytes_model fuel mem hb hf
  rw [toBytes_isCStr hc] at hm
  have ha : (⟨0, mem.length - 1⟩ : View).apply mem = mem.dropLast := by
    simp [View.apply, List.dropLast_eq_take]
  refine ⟨by rw [hm, toBytesRes, ha], ⟨0, mem.length - 1⟩, toBytes_isCStr hc, ?_, hm⟩
  rw [ha, stdToBytes]

theorem cstr_to_bytes_eq_snoc (fuel : Nat) (body : List Nat) (h0 : 0 ∉ body)
    (hb : body.length + 1 < 2 ^ 64) (hf : body.length + 2 ≤ fuel) :
    Extracted.cstr_to_bytes fuel (body ++ [0]) = .ok body := by
  have := (cstr_to_bytes_eq fuel (body ++ [0]) (isCStr_snoc h0) (by simpa using hb) (by simpa using hf)).1
  simpa using this

theorem cstr_to_bytes_ub (fuel : Nat) (mem : List Nat) (h0 : 0 ∉ mem)
    (hb : mem.length < 2 ^ 64) (hf : mem.length + 1 ≤ fuel) :
    Extracted.cstr_to_bytes fuel mem = .ub := by
  rw [cstr_to_bytes_model fuel mem hb hf, toBytes, toBytesWithNul, (walk_none_iff mem 0).mpr h0]
  rfl

/-! ### concrete instances (c"hi", c"", and the non-CStr memories `[1, 2]`, `[97, 0, 98]`) -/

example : IsCStr [104, 105, 0] := ⟨by decide, by decide⟩
example : IsCStr [0] := ⟨by decide, by decide⟩

example : Extracted.cstr_to_bytes_with_nul 4 [104, 105, 0] = .ok [104, 105, 0] :=
  (cstr_to_bytes_with_nul_eq 4 [104, 105, 0] ⟨by decide, by decide⟩ (by decide) (by decide)).1
example : Extracted.cstr_to_bytes_with_nul 4 [104, 105, 0] = .ok [104, 105, 0] :=
  cstr_to_bytes_with_nul_eq_snoc 4 [104, 105] (by decide) (by decide) (by decide)
example : Extracted.cstr_to_bytes_with_nul 2 [0] = .ok [0] :=
  (cstr_to_bytes_with_nul_eq 2 [0] ⟨by decide, by decide⟩ (by decide) (by decide)).1
example : Extracted.cstr_to_bytes_with_nul 3 [1, 2] = .ub :=
  cstr_to_bytes_with_nul_ub 3 [1, 2] (by decide) (by decide) (by decide)
example : Extracted.cstr_to_bytes_with_nul 1 [] = .ub :=
  cstr_to_bytes_with_nul_ub 1 [] (by decide) (by decide) (by decide)
/-- not a CStr but holds a nul: the prefix up to the first nul -/
example : Extracted.cstr_to_bytes_with_nul 4 [97, 0, 98] = .ok [97, 0] :=
  cstr_to_bytes_with_nul_model 4 [97, 0, 98] (by decide) (by decide)
/-- too little fuel is reported as such, not as a result -/
example : Extracted.cstr_to_bytes_with_nul 2 [104, 105, 0] = .nofuel := by decide +kernel
example : Extracted.cstr_to_bytes_with_nul 10 [104, 105, 0] = .ok [104, 105, 0] := by decide +kernel
example : Extracted.cstr_to_bytes_with_nul 10 [1, 2] = .ub := by decide +kernel

example : Extracted.cstr_to_bytes 4 [104, 105, 0] = .ok [104, 105] :=
  (cstr_to_bytes_eq 4 [104, 105, 0] ⟨by decide, by decide⟩ (by decide) (by decide)).1
example : Extracted.cstr_to_bytes 4 [104, 105, 0] = .ok [104, 105] :=
  cstr_to_bytes_eq_snoc 4 [104, 105] (by decide) (by decide) (by decide)
example : Extracted.cstr_to_bytes 2 [0] = .ok [] :=
  (cstr_to_bytes_eq 2 [0] ⟨by decide, by decide⟩ (by decide) (by decide)).1
example : Extracted.cstr_to_bytes 3 [1, 2] = .ub :=
  cstr_to_bytes_ub 3 [1, 2] (by decide) (by decide) (by decide)
example : Extracted.cstr_to_bytes 4 [97, 0, 98] = .ok [97] :=
  cstr_to_bytes_model 4 [97, 0, 98] (by decide) (by decide)
example : Extracted.cstr_to_bytes 10 [104, 105, 0] = .ok [104, 105] := by decide +kernel
example : Extracted.cstr_to_bytes 10 [1, 2] = .ub := by decide +kernel

end Extracted.Equiv
