import KonstVerif.Extracted.Gen.ProbesArr
import KonstVerif.Extracted.Equiv.Array
import KonstVerif.Model.ArrayMacros
import KonstVerif.Spec.ArrayStd
import KonstVerif.Props.C11
import KonstVerif.Rs.LoopLemmas
/-
  Extracted (regenerated from the rustc-expanded call sites of konst's array macros in the probe crate
  translator/probes/src/lib.rs), group `ProbesArr` = the std meaning of the call.

  A Rust array `[T; N]` is a `List T` plus the separate const generic `N : Nat`; the hypothesis
  `xs.length = N` of the theorems is what the Rust type guarantees.  `MaybeUninit<T>` is `Option T`,
  reading a `none` slot as initialised is `.ub`.  Every `<fn>_eq` theorem below concludes `= .ok …`, i.e. the
  expansion never reads an uninitialised slot (`.ub`), never trips the post-loop assert or a bounds check
  (`.panic`), and `N + 1` units of fuel suffice.

  NOTE on `ar_map_ref`: the probe `array::map!(xs, |x: &u32| *x % 2 == 0)` with `xs: &[u32; N]` is
  NOT well-typed Rust (E0308 `expected &u32, found u32` at `let x: &u32 = __konst_am_array[__konst_am_i]`;
  `-Zunpretty=expanded` does not type-check).  The generated definition erases references, so it is the
  meaning of the well-typed `|x: u32| x % 2 == 0`; the theorem is about the definition as generated.
-/
namespace Extracted.Equiv
open Rs

theorem parr_filterMap_some {α β : Type} (g : α → β) (l : List α) :
    (l.map (fun j => some (g j))).filterMap id = l.map g := by
  induction l with
  | nil => rfl
  | cons a r ih => simp [ih]

theorem parr_all_some {α β : Type} (g : α → β) (l : List α) :
    (l.map (fun j => some (g j))).all Option.isSome = true := by
  induction l with
  | nil => rfl
  | cons a r ih => simp

theorem parr_range_map_getD {α β : Type} (f : α → β) (d : α) (xs : List α) :
    (List.range xs.length).map (fun i => f (xs.getD i d)) = xs.map f := by
  apply List.ext_getElem
  · simp
  · intro i h1 h2
    simp at h1
    simp [h1]

theorem assert_array_eq {T : Type} (N : Nat) (xs : List T) : Extracted.assert_array N xs = .ok xs := rfl

example : Extracted.assert_array 3 [4, 5, 6] = .ok [4, 5, 6] := by rw [assert_array_eq]

theorem uninit_array_of_len_eq {T U : Type} (N : Nat) (xs : List T) :
    (Extracted.uninit_array_of_len N xs : Res (List (Option U))) = .ok (List.replicate N none) := rfl

example : (Extracted.uninit_array_of_len 2 [4, 5] : Res (List (Option Bool))) = .ok [none, none] := by
  rw [uninit_array_of_len_eq]; rfl

theorem unit_array_eq (N : Nat) : Extracted.unit_array N = .ok (List.replicate N ()) := rfl

example : Extracted.unit_array 3 = .ok [(), (), ()] := by rw [unit_array_eq]; rfl

/-- konst's `array_len(&input)`: `N` is the const generic, not the length of the list -/
theorem arr_len_of_eq {T : Type} (N : Nat) (xs : List T) : Extracted.arr_len_of N xs = .ok N := rfl

example : Extracted.arr_len_of 3 [4, 5, 6] = .ok 3 := by rw [arr_len_of_eq]

theorem array_assume_init_res {T : Type} (N : Nat) (md : List (Option T)) :
    Extracted.array_assume_init N md
      = if md.length = N ∧ md.all Option.isSome = true then .ok (md.filterMap id) else .ub := by
  unfold Extracted.array_assume_init Rs.assumeInitArray
  by_cases h : md.length = N ∧ md.all Option.isSome = true
  · simp only [if_pos h]; rfl
  · simp only [if_neg h]; rfl

theorem array_assume_init_eq {T : Type} (N : Nat) (md : List (Option T))
    (hlen : md.length = N) (hall : ∀ o ∈ md, o.isSome = true) :
    Extracted.array_assume_init N md = .ok (md.filterMap id) := by
  have : md.all Option.isSome = true := by simpa using hall
  rw [array_assume_init_res, if_pos ⟨hlen, this⟩]

/-- the `md.length ≠ N` disjunct is impossible by the Rust type -/
theorem array_assume_init_ub {T : Type} (N : Nat) (md : List (Option T))
    (h : md.length ≠ N ∨ ∃ o ∈ md, o = none) :
    Extracted.array_assume_init N md = .ub := by
  have : ¬ (md.length = N ∧ md.all Option.isSome = true) := by
    intro ⟨h1, h2⟩
    rcases h with h | ⟨o, ho, hn⟩
    · exact h h1
    · have := List.all_eq_true.mp h2 o ho
      simp [hn] at this
  rw [array_assume_init_res, if_neg this]

example : Extracted.array_assume_init 3 [some 4, some 5, some 6] = .ok [4, 5, 6] := by
  rw [array_assume_init_eq _ _ (by decide) (by decide)]; rfl
example : Extracted.array_assume_init 3 [some 4, none, some 6] = .ub := by
  rw [array_assume_init_ub _ _ (.inr ⟨none, by decide, rfl⟩)]

/-- `ArrayBuilder::infer_length_from_consumer` does nothing (it only unifies the two `N`s at type level) -/
theorem ArrayBuilder_infer_length_from_consumer_eq {T U : Type} (N : Nat)
    (b : Extracted.ArrayBuilder T N) (c : Extracted.ArrayConsumer U N) :
    Extracted.ArrayBuilder.infer_length_from_consumer N b c = .ok () := rfl

example : Extracted.ArrayBuilder.infer_length_from_consumer 1
    (⟨[none], 0⟩ : Extracted.ArrayBuilder Nat 1) (⟨[some true], 0, 0⟩ : Extracted.ArrayConsumer Bool 1) = .ok () := by
  rw [ArrayBuilder_infer_length_from_consumer_eq]

/-! ### the `while $i < len { out[$i] = MaybeUninit::new(…); $i += 1 }` loop of `__array_map`, generically

The four by-reference loop bodies differ only in the value written; each satisfies the one-step equations
`hstep`/`hexit` below (`ar_*_loop1_step`, `ar_*_loop1_exit`). -/

theorem parr_fill_loop {ε β : Type} (N : Nat) (g : Nat → β)
    (body : List (Option β) × Nat →
      Ctl (LoopExit ε (List (Option β) × Nat) (List (Option β) × Nat)) (List (Option β) × Nat))
    (hstep : ∀ out i, i < N → out.length = N → body (out, i) = .val (out.set i (some (g i)), i + 1))
    (hexit : ∀ out i, ¬ i < N → body (out, i) = .exit (.brk (out, i)))
    (n : Nat) (hn : N < n) :
    Rs.loop n body (List.replicate N none, 0) = .val ((List.range' 0 N).map (fun j => some (g j)), N) := by
  have h := Rs.loop_eq body (fun s => N - s.2) (fun s => s.1.length = N ∧ s.2 ≤ N)
    (fun s => .val (s.1.take s.2 ++ (List.range' s.2 (N - s.2)).map (fun j => some (g j)), N))
    (fun ⟨out, i⟩ k ⟨ho, hi⟩ ih => by
      by_cases hlt : i < N
      · have hs : (out.set i (some (g i))).take (i + 1) = out.take i ++ [some (g i)] := by
          have ho : out.length = N := ho
          simp [List.take_add_one, List.take_set, List.set_eq_of_length_le, ho, hlt, Nat.min_le_left]
        rw [loopStep, hstep out i hlt ho]
        refine (ih (_, i + 1) ⟨by simpa using ho, hlt⟩ (Nat.sub_lt_sub_left hlt (Nat.lt_succ_self i))).trans ?_
        simp only [hs, show N - i = (N - (i + 1)) + 1 by omega, List.range'_succ, List.map_cons,
          List.append_assoc, List.singleton_append]
      · have : i = N := by omega
        subst this
        rw [loopStep, hexit out i hlt]
        simp [← ho])
    n (List.replicate N none, 0) ⟨List.length_replicate, Nat.zero_le _⟩ (by simpa using hn)
  simpa using h

theorem parr_fill_loop_panic {ε β : Type} (N : Nat) (g : Nat → β) (k : Nat)
    (body : List (Option β) × Nat →
      Ctl (LoopExit ε (List (Option β) × Nat) (List (Option β) × Nat)) (List (Option β) × Nat))
    (hstep : ∀ out i, i < k → out.length = N → body (out, i) = .val (out.set i (some (g i)), i + 1))
    (hpanic : ∀ out, out.length = N → body (out, k) = .panic)
    (n : Nat) (hn : k < n) :
    Rs.loop n body (List.replicate N none, 0) = .panic :=
  Rs.loop_eq body (fun s => k - s.2) (fun s => s.1.length = N ∧ s.2 ≤ k) (fun _ => .panic)
    (fun ⟨out, i⟩ kk ⟨ho, hi⟩ ih => by
      by_cases hlt : i < k
      · rw [loopStep, hstep out i hlt ho]
        exact ih (_, i + 1) ⟨by simpa using ho, hlt⟩ (Nat.sub_lt_sub_left hlt (Nat.lt_succ_self i))
      · have : i = k := by omega
        subst this
        rw [loopStep, hpanic out ho])
    n _ ⟨List.length_replicate, Nat.zero_le _⟩ (by simpa using hn)

/-- what the by-reference expansions do after the loop: `assert!($i == len)` holds and `array_assume_init` reads
    only written slots -/
theorem parr_assume_init_range {β : Type} (N : Nat) (g : Nat → β) :
    Extracted.array_assume_init N ((List.range' 0 N).map (fun j => some (g j))) = .ok ((List.range N).map g) := by
  rw [array_assume_init_eq _ _ (by simp)]
  · rw [parr_filterMap_some, List.range_eq_range']
  · intro o ho
    simp only [List.mem_map] at ho
    obtain ⟨j, _, rfl⟩ := ho
    rfl

/-! ### `ar_map`: `array::map!(xs, |x| x / 2)` -/

theorem ar_map_loop1_step (N : Nat) (xs : List Nat) (hlen : xs.length = N) (hN : N < 2 ^ 64)
    (out : List (Option Nat)) (i : Nat) (hi : i < N) (ho : out.length = N) :
    Extracted.ar_map.loop1 N N xs (out, i) = .val (out.set i (some (xs.getD i 0 / 2)), i + 1) := by
  have h1 : i + 1 < 2 ^ 64 := by omega
  have hx : i < xs.length := by omega
  have hg : xs[i]? = some (xs.getD i 0) := by simp [hx]
  simp only [Extracted.ar_map.loop1, Rs.index, hg]
  simp [hi, Rs.udiv, Rs.setIndex, ho, Rs.uadd, h1]

theorem ar_map_loop1_exit (N : Nat) (xs : List Nat) (out : List (Option Nat)) (i : Nat) (hi : ¬ i < N) :
    Extracted.ar_map.loop1 N N xs (out, i) = .exit (.brk (out, i)) := by
  simp [Extracted.ar_map.loop1, hi]

theorem ar_map_loop1_run (N fuel : Nat) (xs : List Nat) (hlen : xs.length = N) (hN : N < 2 ^ 64)
    (hf : N + 1 ≤ fuel) :
    Rs.loop fuel (Extracted.ar_map.loop1 N N xs) (List.replicate N none, 0)
      = .val ((List.range' 0 N).map (fun j => some (xs.getD j 0 / 2)), N) :=
  parr_fill_loop N (fun i => xs.getD i 0 / 2) (Extracted.ar_map.loop1 N N xs)
    (ar_map_loop1_step N xs hlen hN) (ar_map_loop1_exit N xs) fuel hf

/-- `N < 2^64` is the type of `N` (`usize`); it keeps `$i += 1` from overflowing. -/
theorem ar_map_eq (N fuel : Nat) (xs : List Nat) (hlen : xs.length = N) (hN : N < 2 ^ 64)
    (hf : N + 1 ≤ fuel) :
    Extracted.ar_map N fuel xs = .ok (xs.map (· / 2)) := by
  unfold Extracted.ar_map
  simp only [assert_array_eq, arr_len_of_eq, uninit_array_of_len_eq, Ctl.call_ok, Ctl.bind_eq, Ctl.bind_val,
    Ctl.pure_eq, ar_map_loop1_run N fuel xs hlen hN hf, decide_true, Bool.not_true, Bool.false_eq_true,
    ↓reduceIte, parr_assume_init_range, Ctl.run_val]
  subst hlen
  rw [parr_range_map_getD (fun x => x / 2) 0 xs]

example : Extracted.ar_map 4 5 [7, 10, 4294967295, 0] = .ok [3, 5, 2147483647, 0] := by
  rw [ar_map_eq _ _ _ (by decide) (by decide) (by decide)]; rfl

/-! ### `ar_map_ref`: `array::map!(xs, |x: &u32| *x % 2 == 0)` (see the header NOTE: ill-typed probe) -/

theorem ar_map_ref_loop1_step (N : Nat) (xs : List Nat) (hlen : xs.length = N) (hN : N < 2 ^ 64)
    (out : List (Option Bool)) (i : Nat) (hi : i < N) (ho : out.length = N) :
    Extracted.ar_map_ref.loop1 N N xs (out, i)
      = .val (out.set i (some (decide (xs.getD i 0 % 2 = 0))), i + 1) := by
  have h1 : i + 1 < 2 ^ 64 := by omega
  have hx : i < xs.length := by omega
  have hg : xs[i]? = some (xs.getD i 0) := by simp [hx]
  simp only [Extracted.ar_map_ref.loop1, Rs.index, hg]
  simp [hi, Rs.urem, Rs.setIndex, ho, Rs.uadd, h1]

theorem ar_map_ref_loop1_exit (N : Nat) (xs : List Nat) (out : List (Option Bool)) (i : Nat) (hi : ¬ i < N) :
    Extracted.ar_map_ref.loop1 N N xs (out, i) = .exit (.brk (out, i)) := by
  simp [Extracted.ar_map_ref.loop1, hi]

theorem ar_map_ref_loop1_run (N fuel : Nat) (xs : List Nat) (hlen : xs.length = N) (hN : N < 2 ^ 64)
    (hf : N + 1 ≤ fuel) :
    Rs.loop fuel (Extracted.ar_map_ref.loop1 N N xs) (List.replicate N none, 0)
      = .val ((List.range' 0 N).map (fun j => some (decide (xs.getD j 0 % 2 = 0))), N) :=
  parr_fill_loop N (fun i => decide (xs.getD i 0 % 2 = 0)) (Extracted.ar_map_ref.loop1 N N xs)
    (ar_map_ref_loop1_step N xs hlen hN) (ar_map_ref_loop1_exit N xs) fuel hf

theorem ar_map_ref_eq (N fuel : Nat) (xs : List Nat) (hlen : xs.length = N) (hN : N < 2 ^ 64)
    (hf : N + 1 ≤ fuel) :
    Extracted.ar_map_ref N fuel xs = .ok (xs.map (fun x => decide (x % 2 = 0))) := by
  unfold Extracted.ar_map_ref
  simp only [assert_array_eq, arr_len_of_eq, uninit_array_of_len_eq, Ctl.call_ok, Ctl.bind_eq, Ctl.bind_val,
    Ctl.pure_eq, ar_map_ref_loop1_run N fuel xs hlen hN hf, decide_true, Bool.not_true, Bool.false_eq_true,
    ↓reduceIte, parr_assume_init_range, Ctl.run_val]
  subst hlen
  rw [parr_range_map_getD (fun x => decide (x % 2 = 0)) 0 xs]

example : Extracted.ar_map_ref 3 4 [7, 10, 0] = .ok [false, true, true] := by
  rw [ar_map_ref_eq _ _ _ (by decide) (by decide) (by decide)]; rfl

/-! ### `ar_from_fn`: `array::from_fn!(|i| i * 2)` -/

theorem ar_from_fn_loop1_step (N : Nat)
    (out : List (Option Nat)) (i : Nat) (hi : i < N) (hm : i * 2 < 2 ^ 64) (ho : out.length = N) :
    Extracted.ar_from_fn.loop1 N N (out, i) = .val (out.set i (some (i * 2)), i + 1) := by
  have h1 : i + 1 < 2 ^ 64 := by omega
  simp [Extracted.ar_from_fn.loop1, hi, Rs.umul, hm, Rs.setIndex, ho, Rs.uadd, h1]

theorem ar_from_fn_loop1_exit (N : Nat) (out : List (Option Nat)) (i : Nat) (hi : ¬ i < N) :
    Extracted.ar_from_fn.loop1 N N (out, i) = .exit (.brk (out, i)) := by
  simp [Extracted.ar_from_fn.loop1, hi]

theorem ar_from_fn_loop1_run (N fuel : Nat) (hm : ∀ i, i < N → i * 2 < 2 ^ 64)
    (hf : N + 1 ≤ fuel) :
    Rs.loop fuel (Extracted.ar_from_fn.loop1 N N) (List.replicate N none, 0)
      = .val ((List.range' 0 N).map (fun j => some (j * 2)), N) :=
  parr_fill_loop N (· * 2) (Extracted.ar_from_fn.loop1 N N)
    (fun out i hi ho => ar_from_fn_loop1_step N out i hi (hm i hi) ho) (ar_from_fn_loop1_exit N) fuel hf

/-- `hm` (no `i * 2` overflows `usize`) is `N ≤ 2^63`; then `$i += 1` cannot overflow either -/
theorem ar_from_fn_eq (N fuel : Nat) (hm : ∀ i, i < N → i * 2 < 2 ^ 64) (hf : N + 1 ≤ fuel) :
    Extracted.ar_from_fn N fuel = .ok ((List.range N).map (· * 2)) := by
  unfold Extracted.ar_from_fn
  simp only [unit_array_eq, arr_len_of_eq, uninit_array_of_len_eq, Ctl.call_ok, Ctl.bind_eq, Ctl.bind_val,
    Ctl.pure_eq, ar_from_fn_loop1_run N fuel hm hf, decide_true, Bool.not_true, Bool.false_eq_true,
    ↓reduceIte, parr_assume_init_range, Ctl.run_val]

example : Extracted.ar_from_fn 4 5 = .ok [0, 2, 4, 6] := by
  rw [ar_from_fn_eq _ _ (by intro i hi; omega) (by decide)]; rfl

/-- the panic case: with `N > 2^63` (no such `[usize; N]` fits in memory, but the const generic allows it) the
    closure overflows first at index `2^63`, and the expansion panics there (given the fuel to get there) -/
theorem ar_from_fn_panic (N fuel : Nat) (hk : 2 ^ 63 < N) (hf : 2 ^ 63 + 1 ≤ fuel) :
    Extracted.ar_from_fn N fuel = .panic := by
  have hloop : Rs.loop fuel (Extracted.ar_from_fn.loop1 N N) (List.replicate N none, 0)
      = (.panic : Ctl (List Nat) _) :=
    parr_fill_loop_panic N (fun i => i * 2) (2 ^ 63) (Extracted.ar_from_fn.loop1 N N)
      (fun out i hi ho => ar_from_fn_loop1_step N out i (by omega) (by omega) ho)
      (fun out ho => by
        have h2 : ¬ (2 ^ 63 * 2 < 2 ^ 64) := by omega
        simp [Extracted.ar_from_fn.loop1, hk, Rs.umul, h2])
      fuel hf
  unfold Extracted.ar_from_fn
  simp only [unit_array_eq, arr_len_of_eq, uninit_array_of_len_eq, Ctl.call_ok, Ctl.bind_eq, Ctl.bind_val,
    hloop, Ctl.bind_panic, Ctl.run_panic]

/-- (not computable by `rfl`: the loop runs `2^63` times before it panics) -/
example : Extracted.ar_from_fn (2 ^ 63 + 1) (2 ^ 63 + 1) = .panic :=
  ar_from_fn_panic _ _ (by omega) (by omega)

/-! ### `ar_from_fn_k`: `array::from_fn!(|i| i + k)` -/

theorem ar_from_fn_k_loop1_step (N k : Nat) (hN : N < 2 ^ 64)
    (out : List (Option Nat)) (i : Nat) (hi : i < N) (hm : i + k < 2 ^ 64) (ho : out.length = N) :
    Extracted.ar_from_fn_k.loop1 N N k (out, i) = .val (out.set i (some (i + k)), i + 1) := by
  have h1 : i + 1 < 2 ^ 64 := by omega
  simp [Extracted.ar_from_fn_k.loop1, hi, hm, Rs.setIndex, ho, Rs.uadd, h1]

theorem ar_from_fn_k_loop1_exit (N k : Nat) (out : List (Option Nat)) (i : Nat) (hi : ¬ i < N) :
    Extracted.ar_from_fn_k.loop1 N N k (out, i) = .exit (.brk (out, i)) := by
  simp [Extracted.ar_from_fn_k.loop1, hi]

theorem ar_from_fn_k_loop1_run (N fuel k : Nat) (hN : N < 2 ^ 64) (hm : ∀ i, i < N → i + k < 2 ^ 64)
    (hf : N + 1 ≤ fuel) :
    Rs.loop fuel (Extracted.ar_from_fn_k.loop1 N N k) (List.replicate N none, 0)
      = .val ((List.range' 0 N).map (fun j => some (j + k)), N) :=
  parr_fill_loop N (· + k) (Extracted.ar_from_fn_k.loop1 N N k)
    (fun out i hi ho => ar_from_fn_k_loop1_step N k hN out i hi (hm i hi) ho) (ar_from_fn_k_loop1_exit N k) fuel hf

/-- `hm` (no `i + k` overflows `usize`) is `N + k ≤ 2^64` for `N > 0`; `N < 2^64` is the type of `N` -/
theorem ar_from_fn_k_eq (N fuel k : Nat) (hN : N < 2 ^ 64) (hm : ∀ i, i < N → i + k < 2 ^ 64)
    (hf : N + 1 ≤ fuel) :
    Extracted.ar_from_fn_k N fuel k = .ok ((List.range N).map (· + k)) := by
  unfold Extracted.ar_from_fn_k
  simp only [unit_array_eq, arr_len_of_eq, uninit_array_of_len_eq, Ctl.call_ok, Ctl.bind_eq, Ctl.bind_val,
    Ctl.pure_eq, ar_from_fn_k_loop1_run N fuel k hN hm hf, decide_true, Bool.not_true, Bool.false_eq_true,
    ↓reduceIte, parr_assume_init_range, Ctl.run_val]

theorem ar_from_fn_k_eq' (N fuel k : Nat) (hN : N < 2 ^ 64) (hm : N + k ≤ 2 ^ 64) (hf : N + 1 ≤ fuel) :
    Extracted.ar_from_fn_k N fuel k = .ok ((List.range N).map (· + k)) :=
  ar_from_fn_k_eq N fuel k hN (fun i hi => by omega) hf

example : Extracted.ar_from_fn_k 3 4 18446744073709551613 =
    .ok [18446744073709551613, 18446744073709551614, 18446744073709551615] := by
  rw [ar_from_fn_k_eq' _ _ _ (by decide) (by decide) (by decide)]; rfl

/-- the panic case: the first index with `i + k ≥ 2^64` is `2^64 - k`; if it is `< N` the expansion panics
    there (given the fuel to get there) -/
theorem ar_from_fn_k_panic (N fuel k : Nat) (hN : N < 2 ^ 64) (hk : 2 ^ 64 - k < N)
    (hf : 2 ^ 64 - k + 1 ≤ fuel) :
    Extracted.ar_from_fn_k N fuel k = .panic := by
  have hloop : Rs.loop fuel (Extracted.ar_from_fn_k.loop1 N N k) (List.replicate N none, 0)
      = (.panic : Ctl (List Nat) _) :=
    parr_fill_loop_panic N (fun i => i + k) (2 ^ 64 - k) (Extracted.ar_from_fn_k.loop1 N N k)
      (fun out i hi ho => ar_from_fn_k_loop1_step N k hN out i (by omega) (by omega) ho)
      (fun out ho => by
        have h2 : ¬ (2 ^ 64 - k + k < 2 ^ 64) := by omega
        simp [Extracted.ar_from_fn_k.loop1, hk, Rs.uadd, h2])
      fuel hf
  unfold Extracted.ar_from_fn_k
  simp only [unit_array_eq, arr_len_of_eq, uninit_array_of_len_eq, Ctl.call_ok, Ctl.bind_eq, Ctl.bind_val,
    hloop, Ctl.bind_panic, Ctl.run_panic]

example : Extracted.ar_from_fn_k 3 4 18446744073709551614 = .panic := by
  rw [ar_from_fn_k_panic _ _ _ (by decide) (by decide) (by decide)]

/-! ### `ar_map_by_val`: `array::map_!(xs, |x| x / 2)` (`ArrayConsumer` + `ArrayBuilder`)

The `&mut self` methods called by path, `ArrayConsumer::next(&mut c)` / `ArrayBuilder::push(&mut b, v)`, are
translated as `let (ret, c') ← …; let c := c'`: the loop lemma threads exactly the states returned by
`ArrayConsumer_next_eq` / `ArrayBuilder_push_eq` through the loop state, so the write-back is the right one
(with a stale state the consumer would hand out the same element forever and the lemma would be false). -/

theorem ar_map_by_val_loop1_run (N : Nat) (hN : N < 2 ^ 64) (rem acc : List Nat)
    (c : Extracted.ArrayConsumer Nat N) (b : Extracted.ArrayBuilder Nat N) (n : Nat)
    (hc : Konst.ArrayConsumer.Wf (ArrayConsumer.toModel c) rem)
    (hb : Konst.ArrayBuilder.Wf (ArrayBuilder.toModel b) acc)
    (hl : acc.length + rem.length ≤ N) (hn : rem.length + 1 ≤ n) :
    ∃ (c' : Extracted.ArrayConsumer Nat N) (b' : Extracted.ArrayBuilder Nat N),
      Rs.loop n (Extracted.ar_map_by_val.loop1 N) (c, b) = (.val (c', b') : Ctl (List Nat) _)
        ∧ Konst.ArrayConsumer.Wf (ArrayConsumer.toModel c') []
        ∧ Konst.ArrayBuilder.Wf (ArrayBuilder.toModel b') (acc ++ rem.map (· / 2)) := by
  induction rem generalizing acc c b n with
  | nil =>
    obtain ⟨n, rfl⟩ : ∃ m, n = m + 1 := ⟨n - 1, by omega⟩
    refine ⟨c, b, ?_, hc, by simpa using hb⟩
    rw [Rs.loop_succ]
    simp only [Extracted.ar_map_by_val.loop1, (ArrayConsumer_next_nil N c hN hc).1, Ctl.call_ok, Ctl.bind_eq,
      Ctl.bind_val]
  | cons x r ih =>
    obtain ⟨n, rfl⟩ : ∃ m, n = m + 1 := ⟨n - 1, by omega⟩
    simp only [List.length_cons] at hl hn
    obtain ⟨c1, hnx, _, hc1⟩ := ArrayConsumer_next_eq N c x r hN hc
    obtain ⟨b1, hpu, _, hb1⟩ := ArrayBuilder_push_eq N b (x / 2) acc hN hb (by omega)
    obtain ⟨c', b', hloop, hc', hb'⟩ := ih (acc ++ [x / 2]) c1 b1 n hc1 hb1 (by simp; omega) (by omega)
    refine ⟨c', b', ?_, hc', by simpa using hb'⟩
    rw [Rs.loop_succ]
    simp only [Extracted.ar_map_by_val.loop1, hnx, Ctl.call_ok, Ctl.bind_eq, Ctl.bind_val, Ctl.pure_eq,
      Rs.udiv, (by decide : ¬ ((2 : Nat) = 0)), ↓reduceIte, hpu]
    exact hloop

/-- no `ub`: neither `ArrayConsumer::next` nor `ArrayBuilder::build` reads an unwritten slot; no panic: `push`
    finds room, `build` finds the builder full -/
theorem ar_map_by_val_eq (N fuel : Nat) (xs : List Nat) (hlen : xs.length = N) (hN : N < 2 ^ 64)
    (hf : N + 1 ≤ fuel) :
    Extracted.ar_map_by_val N fuel xs = .ok (xs.map (· / 2)) := by
  obtain ⟨c, hcn, _, hc⟩ := ArrayConsumer_new_wf N xs hlen
  obtain ⟨b, hbn, _, hb⟩ := ArrayBuilder_new_wf (T := Nat) N
  obtain ⟨c', b', hloop, _, hb'⟩ :=
    ar_map_by_val_loop1_run N hN xs [] c b fuel hc hb (by simp; omega) (by omega)
  have hbuild := (ArrayBuilder_build_eq N b' _ hb' (by simp; omega)).1
  unfold Extracted.ar_map_by_val
  simp only [hcn, hbn, ArrayBuilder_infer_length_from_consumer_eq, Ctl.call_ok, Ctl.bind_eq, Ctl.bind_val,
    hloop, hbuild, Ctl.run_val, List.nil_append]

example : Extracted.ar_map_by_val 4 5 [7, 10, 4294967295, 0] = .ok [3, 5, 2147483647, 0] := by
  rw [ar_map_by_val_eq _ _ _ (by decide) (by decide) (by decide)]; rfl

/-! ### `ar_from_fn_by_val`: `array::from_fn_!(|i| i * 2)`

The emitted body is `{ let i = __konst_am_i; __konst_am_i += 1; { i * 2 } }`: the counter is bumped BEFORE the
closure body runs. -/

/-- the counter `__konst_am_i` is the number of values pushed so far (`acc.length`) -/
theorem ar_from_fn_by_val_loop1_step (N : Nat) (hN : N < 2 ^ 64) (x : Unit) (r : List Unit) (acc : List Nat)
    (c : Extracted.ArrayConsumer Unit N) (b : Extracted.ArrayBuilder Nat N)
    (hc : Konst.ArrayConsumer.Wf (ArrayConsumer.toModel c) (x :: r))
    (hb : Konst.ArrayBuilder.Wf (ArrayBuilder.toModel b) acc)
    (hl : acc.length < N) (h2 : acc.length * 2 < 2 ^ 64) :
    ∃ (c1 : Extracted.ArrayConsumer Unit N) (b1 : Extracted.ArrayBuilder Nat N),
      Extracted.ar_from_fn_by_val.loop1 N (c, acc.length, b)
          = (.val (c1, acc.length + 1, b1) : Ctl (LoopExit (List Nat) _ _) _)
        ∧ Konst.ArrayConsumer.Wf (ArrayConsumer.toModel c1) r
        ∧ Konst.ArrayBuilder.Wf (ArrayBuilder.toModel b1) (acc ++ [acc.length * 2]) := by
  have h1 : acc.length + 1 < 2 ^ 64 := by omega
  obtain ⟨c1, hnx, _, hc1⟩ := ArrayConsumer_next_eq N c x r hN hc
  obtain ⟨b1, hpu, _, hb1⟩ := ArrayBuilder_push_eq N b (acc.length * 2) acc hN hb hl
  refine ⟨c1, b1, ?_, hc1, hb1⟩
  simp only [Extracted.ar_from_fn_by_val.loop1, hnx, Ctl.call_ok, Ctl.bind_eq, Ctl.bind_val, Ctl.pure_eq,
    Rs.uadd, h1, Rs.umul, h2, ↓reduceIte, hpu]

theorem ar_from_fn_by_val_loop1_run (N : Nat) (hN : N < 2 ^ 64) (hm : ∀ i, i < N → i * 2 < 2 ^ 64)
    (rem : List Unit) (acc : List Nat)
    (c : Extracted.ArrayConsumer Unit N) (b : Extracted.ArrayBuilder Nat N) (n : Nat)
    (hc : Konst.ArrayConsumer.Wf (ArrayConsumer.toModel c) rem)
    (hb : Konst.ArrayBuilder.Wf (ArrayBuilder.toModel b) acc)
    (hl : acc.length + rem.length ≤ N) (hn : rem.length + 1 ≤ n) :
    ∃ (c' : Extracted.ArrayConsumer Unit N) (b' : Extracted.ArrayBuilder Nat N),
      Rs.loop n (Extracted.ar_from_fn_by_val.loop1 N) (c, acc.length, b)
          = (.val (c', acc.length + rem.length, b') : Ctl (List Nat) _)
        ∧ Konst.ArrayConsumer.Wf (ArrayConsumer.toModel c') []
        ∧ Konst.ArrayBuilder.Wf (ArrayBuilder.toModel b')
            (acc ++ (List.range' acc.length rem.length).map (· * 2)) := by
  induction rem generalizing acc c b n with
  | nil =>
    obtain ⟨n, rfl⟩ : ∃ m, n = m + 1 := ⟨n - 1, by omega⟩
    refine ⟨c, b, ?_, hc, by simpa using hb⟩
    rw [Rs.loop_succ]
    simp only [Extracted.ar_from_fn_by_val.loop1, (ArrayConsumer_next_nil N c hN hc).1, Ctl.call_ok, Ctl.bind_eq,
      Ctl.bind_val, List.length_nil, Nat.add_zero]
  | cons x r ih =>
    obtain ⟨n, rfl⟩ : ∃ m, n = m + 1 := ⟨n - 1, by omega⟩
    simp only [List.length_cons] at hl hn
    obtain ⟨c1, b1, hstep, hc1, hb1⟩ :=
      ar_from_fn_by_val_loop1_step N hN x r acc c b hc hb (by omega) (hm _ (by omega))
    obtain ⟨c', b', hloop, hc', hb'⟩ :=
      ih (acc ++ [acc.length * 2]) c1 b1 n hc1 hb1 (by simp; omega) (by omega)
    simp only [List.length_append, List.length_cons, List.length_nil, Nat.zero_add] at hloop hb'
    refine ⟨c', b', ?_, hc', by simpa [List.range'_succ] using hb'⟩
    rw [Rs.loop_succ, hstep, List.length_cons, ← Nat.add_assoc, Nat.add_right_comm]
    exact hloop

theorem ar_from_fn_by_val_eq (N fuel : Nat) (hN : N < 2 ^ 64) (hm : ∀ i, i < N → i * 2 < 2 ^ 64)
    (hf : N + 1 ≤ fuel) :
    Extracted.ar_from_fn_by_val N fuel = .ok ((List.range N).map (· * 2)) := by
  obtain ⟨c, hcn, _, hc⟩ := ArrayConsumer_new_wf N (List.replicate N ()) (by simp)
  obtain ⟨b, hbn, _, hb⟩ := ArrayBuilder_new_wf (T := Nat) N
  obtain ⟨c', b', hloop, _, hb'⟩ :=
    ar_from_fn_by_val_loop1_run N hN hm (List.replicate N ()) [] c b fuel hc hb (by simp) (by simpa using hf)
  have hbuild := (ArrayBuilder_build_eq N b' _ hb' (by simp)).1
  simp only [List.length_nil, List.length_replicate, Nat.zero_add] at hloop
  unfold Extracted.ar_from_fn_by_val
  simp only [unit_array_eq, hcn, hbn, ArrayBuilder_infer_length_from_consumer_eq, Ctl.call_ok, Ctl.bind_eq,
    Ctl.bind_val, Ctl.pure_eq, hloop, hbuild, Ctl.run_val, List.nil_append, List.length_nil,
    List.length_replicate, List.range_eq_range']

example : Extracted.ar_from_fn_by_val 4 5 = .ok [0, 2, 4, 6] := by
  rw [ar_from_fn_by_val_eq _ _ (by decide) (by intro i hi; omega) (by decide)]; rfl

/-- the panic case of loop 1: with `N > 2^63` the closure body `i * 2` overflows first at the call with
    `i = 2^63` (the bump `__konst_am_i += 1` before it is still fine) -/
theorem ar_from_fn_by_val_loop1_panic (N : Nat) (hN : N < 2 ^ 64) (hk : 2 ^ 63 < N)
    (rem : List Unit) (acc : List Nat)
    (c : Extracted.ArrayConsumer Unit N) (b : Extracted.ArrayBuilder Nat N) (n : Nat)
    (hc : Konst.ArrayConsumer.Wf (ArrayConsumer.toModel c) rem)
    (hb : Konst.ArrayBuilder.Wf (ArrayBuilder.toModel b) acc)
    (hl : acc.length + rem.length = N) (ha : acc.length ≤ 2 ^ 63) (hn : 2 ^ 63 - acc.length < n) :
    Rs.loop n (Extracted.ar_from_fn_by_val.loop1 N) (c, acc.length, b) = (.panic : Ctl (List Nat) _) := by
  induction rem generalizing acc c b n with
  | nil => simp only [List.length_nil] at hl; omega
  | cons x r ih =>
    obtain ⟨n, rfl⟩ : ∃ m, n = m + 1 := ⟨n - 1, by omega⟩
    simp only [List.length_cons] at hl
    rw [Rs.loop_succ]
    by_cases h2 : acc.length * 2 < 2 ^ 64
    · obtain ⟨c1, b1, hstep, hc1, hb1⟩ := ar_from_fn_by_val_loop1_step N hN x r acc c b hc hb (by omega) h2
      have hloop := ih (acc ++ [acc.length * 2]) c1 b1 n hc1 hb1 (by simp; omega) (by simp; omega)
        (by simp; omega)
      simp only [List.length_append, List.length_cons, List.length_nil, Nat.zero_add] at hloop
      rw [hstep]
      exact hloop
    · have h1 : acc.length + 1 < 2 ^ 64 := by omega
      obtain ⟨c1, hnx, _, _⟩ := ArrayConsumer_next_eq N c x r hN hc
      simp only [Extracted.ar_from_fn_by_val.loop1, hnx, Ctl.call_ok, Ctl.bind_eq, Ctl.bind_val, Ctl.pure_eq,
        Rs.uadd, h1, Rs.umul, h2, ↓reduceIte, Ctl.bind_panic]

theorem ar_from_fn_by_val_panic (N fuel : Nat) (hN : N < 2 ^ 64) (hk : 2 ^ 63 < N) (hf : 2 ^ 63 + 1 ≤ fuel) :
    Extracted.ar_from_fn_by_val N fuel = .panic := by
  obtain ⟨c, hcn, _, hc⟩ := ArrayConsumer_new_wf N (List.replicate N ()) (by simp)
  obtain ⟨b, hbn, _, hb⟩ := ArrayBuilder_new_wf (T := Nat) N
  have hloop := ar_from_fn_by_val_loop1_panic N hN hk (List.replicate N ()) [] c b fuel hc hb
    (by simp) (Nat.zero_le _) hf
  simp only [List.length_nil] at hloop
  unfold Extracted.ar_from_fn_by_val
  simp only [unit_array_eq, hcn, hbn, ArrayBuilder_infer_length_from_consumer_eq, Ctl.call_ok, Ctl.bind_eq,
    Ctl.bind_val, hloop, Ctl.bind_panic, Ctl.run_panic]

example : Extracted.ar_from_fn_by_val (2 ^ 63 + 1) (2 ^ 63 + 1) = .panic :=
  ar_from_fn_by_val_panic _ _ (by omega) (by omega) (by omega)

/-! ## relation to the hand-written model (Model/ArrayMacros.lean, Props/C11.lean)

The theorems above mention only the generated definitions and core `List` functions.  A model closure is `call number → argument → Outcome`; the Rust
closures of the probes are the `parr_cl_*` below (checked `usize` arithmetic = `panic` outcome on overflow).
`modelRes` reads a model outcome as the `Res` of a function: `diverge` (model fuel exhausted) is `nofuel`,
`returned` (control left the expansion through a `return` in the closure) has no counterpart. -/

section Model
open Konst.ArrayMacros (Outcome arrayMap arrayFromFn arrayMapByVal arrayFromFnByVal)
open Konst.Spec.ArrayStd (stdMap stdFromFn)

def modelRes {β : Type} : Konst.ArrayMacros.Res β → Option (Res (List β))
  | .array l => some (.ok l)
  | .panic => some .panic
  | .diverge => some .nofuel
  | .ub => some .ub
  | .returned => none

/-- `|x| x / 2` on `u32` -/
def parr_cl_half : Nat → Nat → Outcome Nat := fun _ x => .value (x / 2)
/-- `|x| x % 2 == 0` on `u32` -/
def parr_cl_even : Nat → Nat → Outcome Bool := fun _ x => .value (decide (x % 2 = 0))
/-- `|i| i * 2` on `usize` -/
def parr_cl_dbl : Nat → Nat → Outcome Nat := fun _ i => if i * 2 < 2 ^ 64 then .value (i * 2) else .panic
/-- `|i| i + k` on `usize` -/
def parr_cl_addk (k : Nat) : Nat → Nat → Outcome Nat :=
  fun _ i => if i + k < 2 ^ 64 then .value (i + k) else .panic

theorem ar_map_model (N fuel : Nat) (xs : List Nat) (hlen : xs.length = N) (hN : N < 2 ^ 64)
    (hf : N + 1 ≤ fuel) :
    modelRes (arrayMap fuel xs parr_cl_half) = some (Extracted.ar_map N fuel xs) := by
  rw [ar_map_eq N fuel xs hlen hN hf,
    Konst.Props.C11.arrayMap_value xs (· / 2) parr_cl_half fuel (by omega) (fun _ _ _ => rfl)]
  rfl

theorem ar_map_ref_model (N fuel : Nat) (xs : List Nat) (hlen : xs.length = N) (hN : N < 2 ^ 64)
    (hf : N + 1 ≤ fuel) :
    modelRes (arrayMap fuel xs parr_cl_even) = some (Extracted.ar_map_ref N fuel xs) := by
  rw [ar_map_ref_eq N fuel xs hlen hN hf,
    Konst.Props.C11.arrayMap_value xs (fun x => decide (x % 2 = 0)) parr_cl_even fuel (by omega)
      (fun _ _ _ => rfl)]
  rfl

theorem parr_fromFn_overflow (N fuel k : Nat) (g : Nat → Nat) (hk : k < N) (hf : k < fuel)
    (hpre : ∀ i, i < k → g i < 2 ^ 64) (hat : ¬ g k < 2 ^ 64) :
    arrayFromFn fuel N (fun _ i => if g i < 2 ^ 64 then .value (g i) else .panic) = .panic := by
  rw [(Konst.Props.C11.arrayFromFn_hostile N _ k .panic fuel hk (fun i hi _ => ⟨g i, if_pos (hpre i hi)⟩)
    (fun _ => if_neg hat) (fun _ => nofun)).1, if_pos hf]
  rfl

/-- value AND panic case: for every `N` the generated `ar_from_fn` is the model's `from_fn!` with the overflowing
    closure (array when `N ≤ 2^63`, panic at the call with `i = 2^63` otherwise) -/
theorem ar_from_fn_model (N fuel : Nat) (hf : N + 1 ≤ fuel) :
    modelRes (arrayFromFn fuel N parr_cl_dbl) = some (Extracted.ar_from_fn N fuel) := by
  by_cases hk : 2 ^ 63 < N
  · rw [ar_from_fn_panic N fuel hk (by omega)]
    exact congrArg modelRes
      (parr_fromFn_overflow N fuel (2 ^ 63) (· * 2) hk (by omega) (fun i hi => by omega) (by omega))
  · have hm : ∀ i, i < N → i * 2 < 2 ^ 64 := fun i hi => by omega
    rw [ar_from_fn_eq N fuel hm hf,
      Konst.Props.C11.arrayFromFn_value N (· * 2) parr_cl_dbl fuel (by omega)
        (fun i hi => by simp [parr_cl_dbl, hm i hi])]
    rfl

theorem ar_from_fn_k_model (N fuel k : Nat) (hN : N < 2 ^ 64) (hf : N + 1 ≤ fuel) :
    modelRes (arrayFromFn fuel N (parr_cl_addk k)) = some (Extracted.ar_from_fn_k N fuel k) := by
  by_cases hk : 2 ^ 64 - k < N
  · rw [ar_from_fn_k_panic N fuel k hN hk (by omega)]
    exact congrArg modelRes
      (parr_fromFn_overflow N fuel (2 ^ 64 - k) (· + k) hk (by omega) (fun i hi => by omega) (by omega))
  · have hm : ∀ i, i < N → i + k < 2 ^ 64 := fun i hi => by omega
    rw [ar_from_fn_k_eq N fuel k hN hm hf,
      Konst.Props.C11.arrayFromFn_value N (· + k) (parr_cl_addk k) fuel (by omega)
        (fun i hi => by simp [parr_cl_addk, hm i hi])]
    rfl

theorem ar_map_by_val_model (N fuel : Nat) (xs : List Nat) (hlen : xs.length = N) (hN : N < 2 ^ 64)
    (hf : N + 1 ≤ fuel) :
    modelRes (arrayMapByVal fuel xs parr_cl_half).res = some (Extracted.ar_map_by_val N fuel xs) := by
  rw [ar_map_by_val_eq N fuel xs hlen hN hf,
    Konst.Props.C11.mapByVal_value xs (· / 2) parr_cl_half fuel (by omega) (fun _ _ _ => rfl)]
  rfl

/-- value case only: Props/C11 has no closed form for the by-value model's outcome on a panicking closure
    (`fromFnByVal_hostile` only says "not an array"); the generated function's panic case is
    `ar_from_fn_by_val_panic` above -/
theorem ar_from_fn_by_val_model (N fuel : Nat) (hN : N < 2 ^ 64) (hm : ∀ i, i < N → i * 2 < 2 ^ 64)
    (hf : N + 1 ≤ fuel) :
    modelRes (arrayFromFnByVal fuel N parr_cl_dbl).res = some (Extracted.ar_from_fn_by_val N fuel) := by
  rw [ar_from_fn_by_val_eq N fuel hN hm hf,
    Konst.Props.C11.fromFnByVal_value N (· * 2) parr_cl_dbl fuel (by omega)
      (fun i hi => by simp [parr_cl_dbl, hm i hi])]
  rfl

example : modelRes (arrayFromFn 4 3 (parr_cl_addk 18446744073709551614)) = some (Extracted.ar_from_fn_k 3 4 18446744073709551614) :=
  ar_from_fn_k_model 3 4 _ (by decide) (by decide)
example : arrayFromFn 4 3 (parr_cl_addk 18446744073709551614) = .panic := by decide +kernel

end Model

end Extracted.Equiv
