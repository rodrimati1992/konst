import KonstVerif.Extracted.Gen.Parser
import KonstVerif.Extracted.Equiv.StrFns
import KonstVerif.Model.StrFns
import KonstVerif.Model.Parser
import KonstVerif.Lemmas.Bytes
import KonstVerif.Extracted.Equiv.ParserCommon
/-
  Extracted = Model, for `string::split_once` / `string::rsplit_once`
  (group `StrFns`; model `Konst.StrFns.splitOnce/rsplitOnce`, Model/StrFns.lean) and the split family of
  `konst::parsing::Parser` (group `Parser`; model `Konst.Parser.splitTerminator/rsplitTerminator/split/rsplit/
  splitKeep`, Model/Parser.lean, the definitions Props/C14.lean is about).

  Shape of the theorems.
    * `str_split_once_eq`, `str_rsplit_once_eq`:
        `Extracted.str_split_once fuel this delim = resOfSplitOnce this (StrFns.splitOnce this delim)`
      (`.ok (some (a, b)) ↦ .ok (some (a.apply this, b.apply this))`, `.ok none ↦ .ok none`,
      `.error () ↦ .panic`): the code panics (`non_char_boundary_panic` inside `split_at` / `str_up_to` /
      `str_from`) exactly when the model says `.error ()`.  No UTF-8 validity hypothesis is needed.
    * `Parser.<method>_eq`:
        `Extracted.Parser.<method> fuel p delim = resPiece p.str (Konst.Parser.<method> (parserToModel p) delim)`
      with `resPiece s`: `.ok q (.piece v) ↦ .ok (Ok (v.apply s, parserOfModel q))`,
      `.err e ↦ .ok (Err (errorOfModel e))`, `.panic ↦ .panic`.  Again the code panics exactly when the
      model does; `Props/C13.lean` proves that unreachable for `&str` (valid UTF-8) remainders and patterns.

  Hypotheses.
    * `hfit : p.start_offset + p.str.length < 2 ^ 32`: the offsets fit `u32`.  This is the model's
      `base + len < 2^32` assumption (Model/Parser.lean header), under which the model (offsets in `Nat`) and
      the code (checked `u32` `+=` / `+`, `as u32` casts, in `ParseError::new` and in the `enable_if_start!`
      update) agree.  It is needed by all five methods (also by the `FromEnd` ones: their error paths call
      `ParseError::new`).
    * `hb : ∀ b ∈ p.str, b < 256`: the remainder is a byte list (the code casts `bytes[i] as i8` in the
      char-boundary tests of `str_up_to` / `str_from` / `split_at`).
    * `hl : p.str.length + delim.length + 1 < 2 ^ 64` for the methods searching forwards (the bound of
      `string::find`, `str_find_eq`; it also keeps the checked `pos + delim.len()` in range); the methods
      searching backwards only need `p.str.length < 2 ^ 64`, which follows from `hfit`.
    * explicit fuel: that of `string::find` (`len + delim.len + 2`) resp. `string::rfind` (`len + 1`).
-/
namespace Extracted.Equiv
open Rs Konst

/-! ### `split_once`, `rsplit_once` (model: `Konst.StrFns.splitOnce` / `rsplitOnce`) -/

/-- the model's `Except Unit (Option (View × View))` as the result of the extraction on the string `s`:
    views are the sub-lists they denote, `.error ()` (the `non_char_boundary_panic` of
    `str_up_to`/`str_from`/`split_at`) is a panic -/
def resOfSplitOnce (s : List Nat) : Except Unit (Option (View × View)) → Res (Option (List Nat × List Nat))
  | .ok (some (a, b)) => .ok (some (a.apply s, b.apply s))
  | .ok none => .ok none
  | .error _ => .panic

@[simp] theorem resOfSplitOnce_some (s : List Nat) (a b : View) :
    resOfSplitOnce s (.ok (some (a, b))) = .ok (some (a.apply s, b.apply s)) := rfl
@[simp] theorem resOfSplitOnce_none (s : List Nat) : resOfSplitOnce s (.ok none) = .ok none := rfl
@[simp] theorem resOfSplitOnce_error (s : List Nat) (e : Unit) : resOfSplitOnce s (.error e) = .panic := rfl

/-- the common tail of `split_once` / `rsplit_once`:
    `Some((str_up_to(this, pos), str_from(this, pos + delim.len())))` -/
theorem split_once_tail (this : List Nat) (pos dl : Nat) (hb : ∀ b ∈ this, b < 256)
    (hadd : pos + dl < 2 ^ 64) :
    (Ctl.run (ρ := Option (List Nat × List Nat)) do
        let t6_ ← (do
          let t3_ ← Ctl.call (Extracted.str_up_to this pos)
          let t4_ ← Rs.uadd 64 pos dl
          let t5_ ← Ctl.call (Extracted.str_from this t4_)
          pure (some (t3_, t5_)))
        pure t6_)
      = resOfSplitOnce this (do
          let a ← StrFns.strUpTo this pos
          let b ← StrFns.strFrom this (pos + dl)
          pure (some (a, b))) := by
  simp only [str_up_to_eq _ _ hb, str_from_eq _ _ hb, Rs.uadd_ok hadd, rs_eval]
  unfold Utf8.strUpTo Utf8.strFrom StrFns.strUpTo StrFns.strFrom
  simp only [strFns_isCharBoundaryForgiving_eq]
  cases Utf8.isCharBoundaryForgiving this pos <;> cases Utf8.isCharBoundaryForgiving this (pos + dl) <;> rfl

/-- `split_once`: the model's pair of views applied to `this`; a panic (`non_char_boundary_panic` in
    `split_at`/`str_up_to`/`str_from`) exactly when the model says `.error ()`.
    Machine bound and fuel are those of `string::find` (`str_find_eq`); the checked `pos + delim.len()`
    cannot overflow under the same bound. -/
theorem str_split_once_eq (fuel : Nat) (this delim : List Nat) (hb : ∀ b ∈ this, b < 256)
    (hl : this.length + delim.length + 1 < 2 ^ 64) (hf : this.length + delim.length + 2 ≤ fuel) :
    Extracted.str_split_once fuel this delim = resOfSplitOnce this (StrFns.splitOnce this delim) := by
  unfold Extracted.str_split_once StrFns.splitOnce
  by_cases he : delim.isEmpty = true
  · simp only [he, ↓reduceIte, str_split_at_eq_strfns _ _ hb]
    cases StrFns.splitAt this 0 with
    | error e => rfl
    | ok p => rfl
  · simp only [he, Bool.false_eq_true, ↓reduceIte, str_find_eq fuel this delim hl hf, Ctl.call_ok,
      Ctl.bind_eq, Ctl.bind_val]
    cases hr : StrFns.find this delim with
    | none => rfl
    | some pos =>
      have hk : pos ≤ this.length := bytesFind_le this delim pos hr
      exact split_once_tail this pos delim.length hb
        (Nat.lt_of_le_of_lt (Nat.add_le_add_right hk _) (Nat.lt_of_succ_lt hl))

example : Extracted.str_split_once 9 [97, 61, 98, 61, 99] [61] = .ok (some ([97], [98, 61, 99])) := by
  rw [str_split_once_eq 9 _ _ (by decide) (by decide) (by decide)]; decide
example : Extracted.str_split_once 9 [97, 61, 98] [44] = .ok none := by
  rw [str_split_once_eq 9 _ _ (by decide) (by decide) (by decide)]; decide
/-- a delimiter (not UTF-8) found inside a multi-byte char: `str_from` panics, in code and model -/
example : Extracted.str_split_once 9 [0x41, 0xE2, 0x82, 0xAC] [0xE2] = .panic := by
  rw [str_split_once_eq 9 _ _ (by decide) (by decide) (by decide)]; decide

/-- `rsplit_once`: as `split_once`, at the `rfind` position (`split_at(this, this.len())` for an empty
    delimiter).  Machine bound and fuel are those of `string::rfind` (`str_rfind_eq`); `pos + delim.len()`
    is at most `this.len()` for a non-empty delimiter. -/
theorem str_rsplit_once_eq (fuel : Nat) (this delim : List Nat) (hb : ∀ b ∈ this, b < 256)
    (hl : this.length < 2 ^ 64) (hf : this.length + 1 ≤ fuel) :
    Extracted.str_rsplit_once fuel this delim = resOfSplitOnce this (StrFns.rsplitOnce this delim) := by
  unfold Extracted.str_rsplit_once StrFns.rsplitOnce
  by_cases he : delim.isEmpty = true
  · simp only [he, ↓reduceIte, str_split_at_eq_strfns _ _ hb]
    cases StrFns.splitAt this this.length with
    | error e => rfl
    | ok p => rfl
  · simp only [he, Bool.false_eq_true, ↓reduceIte, str_rfind_eq fuel this delim hl hf, Ctl.call_ok,
      Ctl.bind_eq, Ctl.bind_val]
    cases hr : StrFns.rfind this delim with
    | none => rfl
    | some pos =>
      have hk : pos + delim.length ≤ this.length :=
        bytesRfind_le this delim (Bool.eq_false_iff.2 he) pos hr
      exact split_once_tail this pos delim.length hb (Nat.lt_of_le_of_lt hk hl)

example : Extracted.str_rsplit_once 6 [97, 61, 98, 61, 99] [61] = .ok (some ([97, 61, 98], [99])) := by
  rw [str_rsplit_once_eq 6 _ _ (by decide) (by decide) (by decide)]; decide
example : Extracted.str_rsplit_once 6 [97, 61, 98] [] = .ok (some ([97, 61, 98], [])) := by
  rw [str_rsplit_once_eq 6 _ _ (by decide) (by decide) (by decide)]; decide

/-! ### conversions between the generated structures and the model's

  (in the namespace `Extracted.Equiv.ParserB`; definition for definition those of Equiv/ParserA.lean)

    * `dirToModel/dirOfModel`, `kindToModel/kindOfModel`, `parserToModel/parserOfModel`: bijections
      (same constructors / same four fields);
    * `errorToModel` IGNORES the two fields the model does not have, `ParseError.extra_message` and
      `ParseError._lifetime`; `errorOfModel` fills them with what `ParseError::new` (the only constructor
      the split family uses) writes: `extra_message: &""` = `[]`, `_lifetime: PhantomData` = `()`.  The
      theorems below are stated with `errorOfModel`, so they pin those two fields down as well.
    * `resPiece s`: the model's `Res` of a method returning `Result<(&str, Self), ParseError>` called on
      the remainder `s`, as the result of the extraction (the piece is a `View` into `s`).
-/
namespace ParserB

def dirToModel : Extracted.ParseDirection → Konst.Parser.ParseDirection
  | .FromStart => .fromStart
  | .FromEnd => .fromEnd
  | .FromBoth => .fromBoth

def dirOfModel : Konst.Parser.ParseDirection → Extracted.ParseDirection
  | .fromStart => .FromStart
  | .fromEnd => .FromEnd
  | .fromBoth => .FromBoth

def kindToModel : Extracted.ErrorKind → Konst.Parser.ErrorKind
  | .ParseInteger => .parseInteger
  | .ParseBool => .parseBool
  | .Find => .find
  | .Strip => .strip
  | .SplitExhausted => .splitExhausted
  | .DelimiterNotFound => .delimiterNotFound
  | .Other => .other

def kindOfModel : Konst.Parser.ErrorKind → Extracted.ErrorKind
  | .parseInteger => .ParseInteger
  | .parseBool => .ParseBool
  | .find => .Find
  | .strip => .Strip
  | .splitExhausted => .SplitExhausted
  | .delimiterNotFound => .DelimiterNotFound
  | .other => .Other

def parserToModel (p : Extracted.Parser) : Konst.Parser.Parser :=
  { dir := dirToModel p.parse_direction, yieldedLastSplit := p.yielded_last_split,
    startOffset := p.start_offset, str := p.str }

def parserOfModel (q : Konst.Parser.Parser) : Extracted.Parser :=
  { parse_direction := dirOfModel q.dir, yielded_last_split := q.yieldedLastSplit,
    start_offset := q.startOffset, str := q.str }

def errorToModel (e : Extracted.ParseError) : Konst.Parser.ParseError :=
  { startOffset := e.start_offset, endOffset := e.end_offset, dir := dirToModel e.direction,
    kind := kindToModel e.kind }

def errorOfModel (e : Konst.Parser.ParseError) : Extracted.ParseError :=
  { start_offset := e.startOffset, end_offset := e.endOffset, direction := dirOfModel e.dir,
    kind := kindOfModel e.kind, extra_message := [], _lifetime := () }

@[simp] theorem dirOfModel_toModel (d : Extracted.ParseDirection) : dirOfModel (dirToModel d) = d := by
  cases d <;> rfl
@[simp] theorem dirToModel_ofModel (d : Konst.Parser.ParseDirection) : dirToModel (dirOfModel d) = d := by
  cases d <;> rfl
@[simp] theorem kindOfModel_toModel (k : Extracted.ErrorKind) : kindOfModel (kindToModel k) = k := by
  cases k <;> rfl
@[simp] theorem kindToModel_ofModel (k : Konst.Parser.ErrorKind) : kindToModel (kindOfModel k) = k := by
  cases k <;> rfl
@[simp] theorem parserOfModel_toModel (p : Extracted.Parser) : parserOfModel (parserToModel p) = p := by
  cases p; simp [parserOfModel, parserToModel]
@[simp] theorem parserToModel_ofModel (q : Konst.Parser.Parser) : parserToModel (parserOfModel q) = q := by
  cases q; simp [parserOfModel, parserToModel]
@[simp] theorem errorToModel_ofModel (e : Konst.Parser.ParseError) : errorToModel (errorOfModel e) = e := by
  cases e; simp [errorOfModel, errorToModel]
/-- the other round trip holds exactly on the errors `ParseError::new` builds -/
theorem errorOfModel_toModel (e : Extracted.ParseError) (h : e.extra_message = []) :
    errorOfModel (errorToModel e) = e := by
  cases e; simp_all [errorOfModel, errorToModel]

/-- the model's result of a method returning `Result<(&'a str, Self), ParseError<'a>>`, called on a parser
    whose remainder is `s`, as the result of the extraction: the piece (a `View` into `s`) is the
    sub-list it denotes.  The model functions of the split family only produce `.ok _ (.piece _)`,
    `.err _` and `.panic` (`splitFamily_shape` below); any other value is mapped to `ub`, so that nothing
    would be hidden if one were ever produced. -/
def resPiece (s : List Nat) : Konst.Parser.Res → Res (Except Extracted.ParseError (List Nat × Extracted.Parser))
  | .ok q (.piece v) => .ok (.ok (v.apply s, parserOfModel q))
  | .ok _ _ => .ub
  | .err e => .ok (.error (errorOfModel e))
  | .panic => .panic

@[simp] theorem resPiece_ok (s : List Nat) (q : Konst.Parser.Parser) (v : View) :
    resPiece s (.ok q (.piece v)) = .ok (.ok (v.apply s, parserOfModel q)) := rfl
@[simp] theorem resPiece_err (s : List Nat) (e : Konst.Parser.ParseError) :
    resPiece s (.err e) = .ok (.error (errorOfModel e)) := rfl
@[simp] theorem resPiece_panic (s : List Nat) : resPiece s .panic = .panic := rfl

/-- the piece `(self.str, …)` of the not-found branches: the whole remainder -/
theorem whole_apply {α : Type} (s : List α) : (⟨0, s.length⟩ : View).apply s = s :=
  Lemmas.Slice.whole_apply s

theorem parseError_new_eq (p : Extracted.Parser) (k : Extracted.ErrorKind)
    (hfit : p.start_offset + p.str.length < 2 ^ 32) :
    Extracted.ParseError.new p k
      = .ok (errorOfModel (Konst.Parser.ParseError.new (parserToModel p) (kindToModel k))) := by
  obtain ⟨d, y, off, s⟩ := p
  rw [parseError_new_mk d y off s k hfit]
  simp [errorOfModel, Konst.Parser.ParseError.new, parserToModel]

/-- the shapes `resPiece` translates faithfully (everything but `.ok _ v` with `v` not a piece) -/
def IsPieceRes : Konst.Parser.Res → Prop
  | .ok _ (.piece _) => True
  | .ok _ _ => False
  | .err _ => True
  | .panic => True

theorem resPiece_ne_ub (s : List Nat) (r : Konst.Parser.Res) (h : IsPieceRes r) : resPiece s r ≠ .ub := by
  unfold resPiece
  split <;> simp_all [IsPieceRes]

/-- the five model functions of the split family only return `.ok _ (.piece _)`, `.err _`, `.panic`:
    the `ub` case of `resPiece` never applies to them -/
theorem splitFamily_shape (q : Konst.Parser.Parser) (d : List Nat) :
    IsPieceRes (Konst.Parser.splitTerminator q d) ∧ IsPieceRes (Konst.Parser.rsplitTerminator q d) ∧
    IsPieceRes (Konst.Parser.split q d) ∧ IsPieceRes (Konst.Parser.rsplit q d) ∧
    IsPieceRes (Konst.Parser.splitKeep q d) := by
  obtain ⟨dr, y, off, s⟩ := q
  refine ⟨?_, ?_, ?_, ?_, ?_⟩
  · unfold Konst.Parser.splitTerminator Konst.Parser.tryParsing
    cases y
    · by_cases he : s.isEmpty = true
      · simp [he, IsPieceRes]
      · cases h1 : StrFns.splitOnce s d with
        | error e => simp [he, h1, IsPieceRes]
        | ok o => cases o <;> simp [he, h1, IsPieceRes]
    · simp [IsPieceRes]
  · unfold Konst.Parser.rsplitTerminator Konst.Parser.tryParsing
    cases y
    · by_cases he : s.isEmpty = true
      · simp [he, IsPieceRes]
      · cases h1 : StrFns.rsplitOnce s d with
        | error e => simp [he, h1, IsPieceRes]
        | ok o => cases o <;> simp [he, h1, IsPieceRes]
    · simp [IsPieceRes]
  · unfold Konst.Parser.split Konst.Parser.tryParsing
    cases y
    · cases h1 : StrFns.splitOnce s d with
      | error e => simp [h1, IsPieceRes]
      | ok o =>
        cases o with
        | none => cases h2 : Utf8.strFrom s s.length <;> simp [h1, h2, IsPieceRes]
        | some ab => simp [h1, IsPieceRes]
    · simp [IsPieceRes]
  · unfold Konst.Parser.rsplit Konst.Parser.tryParsing
    cases y
    · cases h1 : StrFns.rsplitOnce s d with
      | error e => simp [h1, IsPieceRes]
      | ok o =>
        cases o with
        | none => cases h2 : Utf8.strUpTo s 0 <;> simp [h1, h2, IsPieceRes]
        | some ab => simp [h1, IsPieceRes]
    · simp [IsPieceRes]
  · unfold Konst.Parser.splitKeep Konst.Parser.tryParsing
    cases y
    · cases h1 : StrFns.find s d with
      | none => cases h2 : Utf8.strFrom s s.length <;> simp [h1, h2, IsPieceRes]
      | some pos => cases h2 : Utf8.splitAt s pos <;> simp [h1, h2, IsPieceRes]
    · simp [IsPieceRes]

end ParserB

open ParserB

theorem Parser.split_terminator_eq (fuel : Nat) (p : Extracted.Parser) (delim : List Nat)
    (hb : ∀ b ∈ p.str, b < 256) (hfit : p.start_offset + p.str.length < 2 ^ 32)
    (hl : p.str.length + delim.length + 1 < 2 ^ 64) (hf : p.str.length + delim.length + 2 ≤ fuel) :
    Extracted.Parser.split_terminator fuel p delim
      = resPiece p.str (Konst.Parser.splitTerminator (parserToModel p) delim) := by
  obtain ⟨d, y, off, s⟩ := p
  simp only [Extracted.Parser.split_terminator, Konst.Parser.splitTerminator, Konst.Parser.tryParsing,
    parserToModel, parseError_new_mk _ _ _ _ _ hfit, str_split_once_eq fuel _ delim hb hl hf, rs_eval]
  cases y with
  | true => simp only [Bool.or_true, ↓reduceIte]; rfl
  | false =>
    by_cases he : s.isEmpty = true
    · simp only [he, Bool.or_false]
      rfl
    · simp only [he, Bool.or_false]
      cases hr : StrFns.splitOnce s delim with
      | error e => rfl
      | ok o =>
        cases o with
        | none => rfl
        | some ab =>
          obtain ⟨a, b⟩ := ab
          simp only [↓reduceIte, rs_eval, resOfSplitOnce_some,
            offset_update off s.length _ _ hfit (Lemmas.Slice.apply_length_le b s)]
          rfl

/-- "a=b" at offset 5, delimiter "=": the piece "a", the parser at offset 7 on "b" -/
example : Extracted.Parser.split_terminator 9 ⟨.FromEnd, false, 5, [97, 61, 98]⟩ [61]
    = .ok (.ok ([97], ⟨.FromStart, false, 7, [98]⟩)) := by
  rw [Parser.split_terminator_eq 9 _ _ (by decide) (by decide) (by decide) (by decide)]; rfl
/-- "a=": the remainder after the terminator is empty, `yielded_last_split` is set -/
example : Extracted.Parser.split_terminator 9 ⟨.FromStart, false, 5, [97, 61]⟩ [61]
    = .ok (.ok ([97], ⟨.FromStart, true, 7, []⟩)) := by
  rw [Parser.split_terminator_eq 9 _ _ (by decide) (by decide) (by decide) (by decide)]; rfl
/-- the flag set: `Err(SplitExhausted)`, offsets of the parser it was called on -/
example : Extracted.Parser.split_terminator 9 ⟨.FromEnd, true, 5, [97, 61, 98]⟩ [61]
    = .ok (.error { start_offset := 5, end_offset := 8, direction := .FromStart, kind := .SplitExhausted,
                    extra_message := [], _lifetime := () }) := by
  rw [Parser.split_terminator_eq 9 _ _ (by decide) (by decide) (by decide) (by decide)]; rfl

theorem Parser.rsplit_terminator_eq (fuel : Nat) (p : Extracted.Parser) (delim : List Nat)
    (hb : ∀ b ∈ p.str, b < 256) (hfit : p.start_offset + p.str.length < 2 ^ 32)
    (hf : p.str.length + 1 ≤ fuel) :
    Extracted.Parser.rsplit_terminator fuel p delim
      = resPiece p.str (Konst.Parser.rsplitTerminator (parserToModel p) delim) := by
  obtain ⟨d, y, off, s⟩ := p
  simp only [Extracted.Parser.rsplit_terminator, Konst.Parser.rsplitTerminator, Konst.Parser.tryParsing,
    parserToModel, parseError_new_mk _ _ _ _ _ hfit,
    str_rsplit_once_eq fuel _ delim hb (length_lt_of_fit hfit) hf,
    rs_eval]
  cases y with
  | true => simp only [Bool.or_true, ↓reduceIte]; rfl
  | false =>
    by_cases he : s.isEmpty = true
    · simp only [he, Bool.or_false]
      rfl
    · simp only [he, Bool.or_false]
      cases hr : StrFns.rsplitOnce s delim with
      | error e => rfl
      | ok o =>
        cases o with
        | none => rfl
        | some ab =>
          obtain ⟨a, b⟩ := ab
          rfl

example : Extracted.Parser.rsplit_terminator 9 ⟨.FromStart, false, 5, [97, 61, 98]⟩ [61]
    = .ok (.ok ([98], ⟨.FromEnd, false, 5, [97]⟩)) := by
  rw [Parser.rsplit_terminator_eq 9 _ _ (by decide) (by decide) (by decide)]; rfl
/-- delimiter absent: `Err(DelimiterNotFound)` -/
example : Extracted.Parser.rsplit_terminator 9 ⟨.FromStart, false, 5, [97, 98]⟩ [61]
    = .ok (.error { start_offset := 5, end_offset := 7, direction := .FromEnd, kind := .DelimiterNotFound,
                    extra_message := [], _lifetime := () }) := by
  rw [Parser.rsplit_terminator_eq 9 _ _ (by decide) (by decide) (by decide)]; rfl

theorem Parser.split_eq (fuel : Nat) (p : Extracted.Parser) (delim : List Nat)
    (hb : ∀ b ∈ p.str, b < 256) (hfit : p.start_offset + p.str.length < 2 ^ 32)
    (hl : p.str.length + delim.length + 1 < 2 ^ 64) (hf : p.str.length + delim.length + 2 ≤ fuel) :
    Extracted.Parser.split fuel p delim
      = resPiece p.str (Konst.Parser.split (parserToModel p) delim) := by
  obtain ⟨d, y, off, s⟩ := p
  simp only [Extracted.Parser.split, Konst.Parser.split, Konst.Parser.tryParsing, parserToModel,
    parseError_new_mk _ _ _ _ _ hfit, str_split_once_eq fuel _ delim hb hl hf, str_from_eq _ _ hb, rs_eval]
  cases y with
  | true => rfl
  | false =>
    cases hr : StrFns.splitOnce s delim with
    | error e => rfl
    | ok o =>
      cases o with
      | none =>
        cases hs : Utf8.strFrom s s.length with
        | error e => rfl
        | ok after =>
          simp only [↓reduceIte, rs_eval, resOfSplitOnce_none, resOfExcept,
            offset_update off s.length _ _ hfit (Lemmas.Slice.apply_length_le after s)]
          exact congrArg (fun x => Res.ok (Except.ok (x, _))) (whole_apply s).symm
      | some ab =>
        obtain ⟨a, b⟩ := ab
        simp only [↓reduceIte, rs_eval, resOfSplitOnce_some,
          offset_update off s.length _ _ hfit (Lemmas.Slice.apply_length_le b s)]
        rfl

example : Extracted.Parser.split 9 ⟨.FromEnd, false, 5, [97, 61, 98]⟩ [61]
    = .ok (.ok ([97], ⟨.FromStart, false, 7, [98]⟩)) := by
  rw [Parser.split_eq 9 _ _ (by decide) (by decide) (by decide) (by decide)]; rfl
/-- delimiter absent: the whole remainder is the last piece, the flag is set, the offset moves to the end -/
example : Extracted.Parser.split 9 ⟨.FromEnd, false, 5, [97, 98]⟩ [61]
    = .ok (.ok ([97, 98], ⟨.FromStart, true, 7, []⟩)) := by
  rw [Parser.split_eq 9 _ _ (by decide) (by decide) (by decide) (by decide)]; rfl

theorem Parser.rsplit_eq (fuel : Nat) (p : Extracted.Parser) (delim : List Nat)
    (hb : ∀ b ∈ p.str, b < 256) (hfit : p.start_offset + p.str.length < 2 ^ 32)
    (hf : p.str.length + 1 ≤ fuel) :
    Extracted.Parser.rsplit fuel p delim
      = resPiece p.str (Konst.Parser.rsplit (parserToModel p) delim) := by
  obtain ⟨d, y, off, s⟩ := p
  simp only [Extracted.Parser.rsplit, Konst.Parser.rsplit, Konst.Parser.tryParsing, parserToModel,
    parseError_new_mk _ _ _ _ _ hfit,
    str_rsplit_once_eq fuel _ delim hb (length_lt_of_fit hfit) hf,
    str_up_to_eq _ _ hb, rs_eval]
  cases y with
  | true => rfl
  | false =>
    cases hr : StrFns.rsplitOnce s delim with
    | error e => rfl
    | ok o =>
      cases o with
      | none =>
        cases hs : Utf8.strUpTo s 0 with
        | error e => rfl
        | ok after => exact congrArg (fun x => Res.ok (Except.ok (x, _))) (whole_apply s).symm
      | some ab =>
        obtain ⟨a, b⟩ := ab
        rfl

example : Extracted.Parser.rsplit 9 ⟨.FromStart, false, 5, [97, 61, 98, 61, 99]⟩ [61]
    = .ok (.ok ([99], ⟨.FromEnd, false, 5, [97, 61, 98]⟩)) := by
  rw [Parser.rsplit_eq 9 _ _ (by decide) (by decide) (by decide)]; rfl
example : Extracted.Parser.rsplit 9 ⟨.FromStart, false, 5, [97, 98]⟩ [61]
    = .ok (.ok ([97, 98], ⟨.FromEnd, true, 5, []⟩)) := by
  rw [Parser.rsplit_eq 9 _ _ (by decide) (by decide) (by decide)]; rfl

theorem Parser.split_keep_eq (fuel : Nat) (p : Extracted.Parser) (delim : List Nat)
    (hb : ∀ b ∈ p.str, b < 256) (hfit : p.start_offset + p.str.length < 2 ^ 32)
    (hl : p.str.length + delim.length + 1 < 2 ^ 64) (hf : p.str.length + delim.length + 2 ≤ fuel) :
    Extracted.Parser.split_keep fuel p delim
      = resPiece p.str (Konst.Parser.splitKeep (parserToModel p) delim) := by
  obtain ⟨d, y, off, s⟩ := p
  simp only [Extracted.Parser.split_keep, Konst.Parser.splitKeep, Konst.Parser.tryParsing, parserToModel,
    parseError_new_mk _ _ _ _ _ hfit, str_find_eq fuel _ delim hl hf, str_from_eq _ _ hb, str_split_at_eq _ _ hb,
    rs_eval]
  cases y with
  | true => rfl
  | false =>
    cases hr : StrFns.find s delim with
    | none =>
      cases hs : Utf8.strFrom s s.length with
      | error e => rfl
      | ok after =>
        simp only [↓reduceIte, rs_eval, resOfExcept,
          offset_update off s.length _ _ hfit (Lemmas.Slice.apply_length_le after s)]
        exact congrArg (fun x => Res.ok (Except.ok (x, _))) (whole_apply s).symm
    | some pos =>
      dsimp only
      cases hs : Utf8.splitAt s pos with
      | error e => rfl
      | ok ab =>
        obtain ⟨a, b⟩ := ab
        simp only [↓reduceIte, rs_eval, resOfExceptPair,
          offset_update off s.length _ _ hfit (Lemmas.Slice.apply_length_le b s)]
        rfl

example : Extracted.Parser.split_keep 9 ⟨.FromEnd, false, 5, [97, 61, 98]⟩ [61]
    = .ok (.ok ([97], ⟨.FromStart, false, 6, [61, 98]⟩)) := by
  rw [Parser.split_keep_eq 9 _ _ (by decide) (by decide) (by decide) (by decide)]; rfl
/-- a delimiter (not UTF-8) found inside a multi-byte char: `split_at` panics, in code and model -/
example : Extracted.Parser.split_keep 9 ⟨.FromStart, false, 0, [0x41, 0xE2, 0x82, 0xAC]⟩ [0x82] = .panic := by
  rw [Parser.split_keep_eq 9 _ _ (by decide) (by decide) (by decide) (by decide)]; rfl

end Extracted.Equiv
