import KonstVerif.Extracted.Gen.Slice
import KonstVerif.Model.Slice
import KonstVerif.Lemmas.Slice
/-
  Extracted = Model/Slice.lean, group `Slice`: slice_from, slice_up_to, slice_range.
  The model works on the *length* of the slice and returns a `View`; the statements apply it to the argument.
  `= .ok v` also says: no panic, no arithmetic overflow, no out-of-bounds `from_raw_parts` (ub).
-/
namespace Extracted.Equiv
open Rs Konst Konst.Slice

theorem slice_from_eq {T : Type} (s : List T) (start : Nat) :
    Extracted.slice_from s start = .ok ((sliceFrom s.length start).apply s) := by
  unfold Extracted.slice_from sliceFrom sliceFromImpl overflowingSub Rs.uOverflowingSub
  by_cases h : start ≤ s.length
  · simp [h, Rs.rawParts, View.apply, Ctl.run, Ctl.bind]
  · simp [h, Ctl.run, Ctl.bind, View.apply]

theorem slice_up_to_eq {T : Type} (s : List T) (len : Nat) :
    Extracted.slice_up_to s len = .ok ((sliceUpTo s.length len).apply s) := by
  unfold Extracted.slice_up_to sliceUpTo sliceUpToImpl overflowingSub Rs.uOverflowingSub
  by_cases h : len ≤ s.length
  · simp [h, Rs.rawParts, View.apply, Ctl.run, Ctl.bind]
  · simp [h, Ctl.run, Ctl.bind, View.apply]

theorem comp_apply {α : Type} (v w : View) (h : List α) (hb : w.off + w.len ≤ v.len) :
    (v.comp w).apply h = w.apply (v.apply h) :=
  Lemmas.Slice.comp_apply v w h hb

theorem sliceFrom_fits (len start : Nat) : (sliceFrom len start).off + (sliceFrom len start).len ≤ len :=
  Lemmas.Slice.sliceFrom_inBounds len start

theorem slice_range_eq {T : Type} (s : List T) (start end_ : Nat) :
    Extracted.slice_range s start end_ = .ok ((sliceRange s.length start end_).apply s) := by
  unfold Extracted.slice_range
  simp only [slice_up_to_eq, slice_from_eq, Ctl.call_ok, Ctl.bind_val, Ctl.bind_eq, Ctl.run_val]
  congr 1
  unfold sliceRange
  rw [Lemmas.Slice.apply_length (Lemmas.Slice.sliceUpTo_inBounds s.length end_)]
  exact (comp_apply _ _ s (sliceFrom_fits _ _)).symm

end Extracted.Equiv
