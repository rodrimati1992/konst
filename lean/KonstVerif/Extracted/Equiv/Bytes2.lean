import KonstVerif.Extracted.Equiv.Bytes
import KonstVerif.Lemmas.Bytes
/-
  Extracted = Model, second part of the byte-slice search functions (C04/C05):
  strip_suffix / end_with, rfind, contain / rcontain, find_skip / find_keep / rfind_skip / rfind_keep.
-/
namespace Extracted.Equiv
open Rs Konst Konst.Bytes

theorem strip_suffix_loop1_concat (lb rb : Nat) (l p : List Nat) :
    Extracted.bytes_strip_suffix.loop1 ((lb :: l).reverse, (rb :: p).reverse) =
      if lb = rb then .val (l.reverse, p.reverse) else .exit (.out none) := by
  by_cases h : lb = rb <;> simp [Extracted.bytes_strip_suffix.loop1, unsnoc_concat, h]

theorem strip_suffix_loop1_done (l : List Nat) :
    Extracted.bytes_strip_suffix.loop1 (l, []) = .exit (.brk (l, [])) := by
  simp [Extracted.bytes_strip_suffix.loop1, unsnoc]

/-- the loop of `__bytes_strip_suffix` reads both slices from their ends: run on reversed lists it does what
    the loop of `__bytes_strip_prefix` does (`Lemmas.Bytes.stripSuffixLoop_mirror`) -/
theorem strip_suffix_loop (n : Nat) (left suf : List Nat) (hn : suf.length < n) :
    exitOrFst none ((stripPrefixLoop left suf).map List.reverse)
      (Rs.loop n Extracted.bytes_strip_suffix.loop1 (left.reverse, suf.reverse)) := by
  induction n generalizing left suf with
  | zero => cases hn
  | succ n ih =>
    rw [Rs.loop_succ]
    cases left with
    | nil => exact ⟨_, rfl⟩
    | cons lb l =>
      cases suf with
      | nil =>
        rw [List.reverse_nil, strip_suffix_loop1_done]
        exact ⟨_, rfl⟩
      | cons rb p =>
        rw [strip_suffix_loop1_concat, stripPrefixLoop]
        by_cases h : lb = rb
        · rw [if_pos h, if_neg (by simp [h])]
          exact ih l p (Nat.lt_of_succ_lt_succ hn)
        · rw [if_neg h, if_pos (by simp [h])]
          rfl

theorem bytes_strip_suffix_eq (fuel : Nat) (left suf : List Nat) (hf : suf.length + 1 ≤ fuel) :
    Extracted.bytes_strip_suffix fuel left suf = .ok (stripSuffixL left suf) := by
  unfold Extracted.bytes_strip_suffix stripSuffixL
  by_cases hlen : left.length < suf.length
  · simp only [hlen, ↓reduceIte, rs_eval]
  · simp only [hlen, ↓reduceIte, rs_eval]
    have h := strip_suffix_loop fuel left.reverse suf.reverse
    rw [List.reverse_reverse, List.reverse_reverse, List.length_reverse,
      ← Lemmas.Bytes.stripSuffixLoop_mirror _ left suf (Nat.lt_succ_self _)] at h
    rw [(h hf).bind_eq _ (fun l => .val (some l)) fun _ _ => rfl]
    cases stripSuffixLoop (left.length + 1) left suf <;> rfl

example : Extracted.bytes_strip_suffix 3 [1, 2, 3] [2, 3] = .ok (some [1]) := by
  decide +kernel

theorem bytes_end_with_eq (fuel : Nat) (left pat : List Nat) (hf : pat.length + 1 ≤ fuel) :
    Extracted.bytes_end_with fuel left pat = .ok (endsWith left pat) :=
  call_isSome (bytes_strip_suffix_eq fuel left pat hf) _ (fun _ => rfl) rfl

example : Extracted.bytes_end_with 3 [1, 2, 3] [2, 3] = .ok true := by
  decide +kernel

theorem rfind_loop1_succ (F : Nat) (left pat : List Nat) (i : Nat) (hF : pat.length + 1 ≤ F) :
    Extracted.bytes_rfind.loop1 F left pat (i + 1) =
      if startsWith (sliceFromL left i) pat then .exit (.out (some i)) else .val i := by
  rw [sliceFromL]
  simp only [Extracted.bytes_rfind.loop1, ne_eq, Nat.succ_ne_zero, not_false_eq_true, ↓reduceIte,
    Nat.le_add_left, Nat.add_sub_cancel, rs_eval, slice_from_eq, bytes_start_with_eq F _ pat hF]
  cases startsWith ((Slice.sliceFrom left.length i).apply left) pat <;> rfl

/-- the `while i != 0 { i -= 1; … }` loop of `__bytes_rfind`, with the `None` that follows it
    (`n` = fuel of the extracted loop, `F` = fuel handed to callees) -/
theorem rfind_loop (F n : Nat) (left pat : List Nat) (i : Nat) (hF : pat.length + 1 ≤ F) (hn : i < n) :
    Ctl.run ((Rs.loop n (Extracted.bytes_rfind.loop1 F left pat) i).bind fun _ => .val none) =
      .ok (rfindLoop left pat i) := by
  induction n generalizing i with
  | zero => cases hn
  | succ n ih =>
    rw [Rs.loop_succ]
    cases i with
    | zero => rfl
    | succ i =>
      rw [rfind_loop1_succ F left pat i hF, rfindLoop]
      by_cases hs : startsWith (sliceFromL left i) pat = true
      · rw [if_pos hs, if_pos hs]
        rfl
      · rw [if_neg hs, if_neg hs]
        exact ih i (Nat.lt_of_succ_lt_succ hn)

theorem rfindLoop_lt (left pat : List Nat) (i k : Nat) (h : rfindLoop left pat i = some k) : k < i := by
  induction i with
  | zero => cases h
  | succ i ih =>
    rw [rfindLoop] at h
    split at h
    · cases h
      exact Nat.lt_succ_self _
    · exact Nat.lt_succ_of_lt (ih h)

/-- NB for an empty pattern both sides are `Some(left.len().saturating_sub(1))` (what the code returns). -/
theorem bytes_rfind_eq (fuel : Nat) (left pat : List Nat)
    (hb : left.length < 2 ^ 64) (hf : left.length + 1 ≤ fuel) :
    Extracted.bytes_rfind fuel left pat = .ok (bytesRfind left pat) := by
  unfold Extracted.bytes_rfind bytesRfind
  cases pat with
  | nil => rfl
  | cons a p =>
    by_cases hlen : (a :: p).length > left.length
    · simp only [List.isEmpty_cons, hlen, ↓reduceIte, rs_eval]
    · have hle : (a :: p).length ≤ left.length := Nat.le_of_not_lt hlen
      have h1 : left.length - (a :: p).length < left.length := Nat.sub_lt_of_pos_le (Nat.succ_pos _) hle
      simp only [List.isEmpty_cons, hlen, ↓reduceIte, rs_eval, hle,
        Nat.lt_of_le_of_lt h1 hb]
      exact rfind_loop fuel fuel left _ _ (Nat.le_trans (Nat.succ_le_succ hle) hf) (Nat.lt_of_le_of_lt h1 hf)

example : Extracted.bytes_rfind 6 [1, 2, 3, 2, 3] [2, 3] = .ok (some 3) := by
  decide +kernel

theorem bytes_contain_eq (fuel : Nat) (left pat : List Nat)
    (hb : left.length + pat.length + 1 < 2 ^ 64) (hf : left.length + pat.length + 2 ≤ fuel) :
    Extracted.bytes_contain fuel left pat = .ok (bytesContain left pat) :=
  call_isSome (bytes_find_eq fuel left pat hb hf) _ (fun _ => rfl) rfl

example : Extracted.bytes_contain 6 [1, 2, 3] [2] = .ok true := by
  decide +kernel

theorem bytes_rcontain_eq (fuel : Nat) (left pat : List Nat)
    (hb : left.length < 2 ^ 64) (hf : left.length + 1 ≤ fuel) :
    Extracted.bytes_rcontain fuel left pat = .ok (bytesRcontain left pat) :=
  call_isSome (bytes_rfind_eq fuel left pat hb hf) _ (fun _ => rfl) rfl

example : Extracted.bytes_rcontain 4 [1, 2, 3] [4] = .ok false := by
  decide +kernel

/-! ### `__bytes_find_skip`, `__bytes_find_keep`, `__bytes_rfind_skip`, `__bytes_rfind_keep`
    The model returns a `View` into `this`; the extraction the slice itself: `v.apply this`. -/

theorem findLoop_le (left pat : List Nat) (m i k : Nat) (h : findLoop left pat m i = some k) :
    k + pat.length ≤ left.length := by
  induction m generalizing i with
  | zero => cases h
  | succ m ih =>
    rw [findLoop] at h
    split at h
    · split at h
      · cases h
        assumption
      · exact ih _ h
    · cases h

theorem whole_apply (this : List Nat) : (View.mk 0 this.length).apply this = this :=
  Lemmas.Slice.whole_apply this

theorem bytes_find_skip_eq (fuel : Nat) (this needle : List Nat)
    (hb : this.length + needle.length + 1 < 2 ^ 64) (hf : this.length + needle.length + 2 ≤ fuel) :
    Extracted.bytes_find_skip fuel this needle
      = .ok (Option.map (fun v => v.apply this) (findSkip this needle)) := by
  unfold Extracted.bytes_find_skip findSkip
  by_cases he : needle.isEmpty = true
  · simp [he, whole_apply]
  · simp only [he, ↓reduceIte, rs_eval,
      bytes_find_eq fuel this needle hb hf]
    cases hr : bytesFind this needle with
    | none => rfl
    | some pos =>
      have hadd := Nat.lt_of_le_of_lt (findLoop_le this needle _ _ _ hr)
        (Nat.lt_of_le_of_lt (Nat.le_succ_of_le (Nat.le_add_right _ _)) hb)
      simp [Rs.uadd, hadd, slice_from_eq]

example : Extracted.bytes_find_skip 8 [1, 2, 3, 4] [2, 3] = .ok (some [4]) := by
  decide +kernel

theorem bytes_find_keep_eq (fuel : Nat) (this needle : List Nat)
    (hb : this.length + needle.length + 1 < 2 ^ 64) (hf : this.length + needle.length + 2 ≤ fuel) :
    Extracted.bytes_find_keep fuel this needle
      = .ok (Option.map (fun v => v.apply this) (findKeep this needle)) := by
  unfold Extracted.bytes_find_keep findKeep
  by_cases he : needle.isEmpty = true
  · simp [he, whole_apply]
  · simp only [he, ↓reduceIte, rs_eval,
      bytes_find_eq fuel this needle hb hf]
    cases bytesFind this needle with
    | none => rfl
    | some pos => simp [slice_from_eq]

example : Extracted.bytes_find_keep 8 [1, 2, 3, 4] [2, 3] = .ok (some [2, 3, 4]) := by
  decide +kernel

theorem bytes_rfind_skip_eq (fuel : Nat) (this needle : List Nat)
    (hb : this.length < 2 ^ 64) (hf : this.length + 1 ≤ fuel) :
    Extracted.bytes_rfind_skip fuel this needle
      = .ok (Option.map (fun v => v.apply this) (rfindSkip this needle)) := by
  unfold Extracted.bytes_rfind_skip rfindSkip
  by_cases he : needle.isEmpty = true
  · simp [he, whole_apply]
  · simp only [he, ↓reduceIte, rs_eval,
      bytes_rfind_eq fuel this needle hb hf]
    cases bytesRfind this needle with
    | none => rfl
    | some pos => simp [slice_up_to_eq]

example : Extracted.bytes_rfind_skip 6 [1, 2, 3, 2, 3] [2, 3] = .ok (some [1, 2, 3]) := by
  decide +kernel

theorem bytes_rfind_keep_eq (fuel : Nat) (this needle : List Nat)
    (hb : this.length < 2 ^ 64) (hf : this.length + 1 ≤ fuel) :
    Extracted.bytes_rfind_keep fuel this needle
      = .ok (Option.map (fun v => v.apply this) (rfindKeep this needle)) := by
  unfold Extracted.bytes_rfind_keep rfindKeep
  by_cases he : needle.isEmpty = true
  · simp [he, whole_apply]
  · simp only [he, ↓reduceIte, rs_eval,
      bytes_rfind_eq fuel this needle hb hf]
    cases hr : bytesRfind this needle with
    | none => rfl
    | some pos =>
      have hadd : pos + needle.length < 2 ^ 64 := by
        rw [bytesRfind, if_neg he] at hr
        split at hr
        · cases hr
        · rename_i hlen
          exact Nat.lt_of_le_of_lt (Nat.add_le_of_le_sub (Nat.le_of_not_lt hlen)
            (Nat.le_of_lt_succ (rfindLoop_lt this needle _ _ hr))) hb
      simp [Rs.uadd, hadd, slice_up_to_eq]

example : Extracted.bytes_rfind_keep 7 [1, 2, 3, 2, 3, 4] [2, 3] = .ok (some [1, 2, 3, 2, 3]) := by
  decide +kernel

end Extracted.Equiv
