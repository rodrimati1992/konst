import KonstVerif.Extracted.Gen.Chars
import KonstVerif.Extracted.Equiv.StrFns
import KonstVerif.Model.Chars
import KonstVerif.Lemmas.Chars
/-
  Extracted = Model, for `konst::string::chars_methods` (group `Chars`, 14 functions):
  string_to_usv, string_to_char, chars, char_indices, Chars::{next, next_back, as_str},
  RChars::{next, next_back}, CharIndices::{next, next_back, as_str}, RCharIndices::{next, next_back}.

  States.  The generated records hold the remaining string as its byte list (`this_ : List Nat`); the model's
  states hold a `View` into the string `s` the iterator was created from.  `toChars s`, `toRChars s`,
  `toCharIndices s`, `toRCharIndices s` are the correspondences (apply the view to `s`, copy `start_offset`);
  every generated state is the image of a model state (`toChars_whole`, …: take `s := this_` and the whole view).

  Steps (`next` / `next_back` of the four iterator types), two theorems each:
    * `<T>.<fn>_bytes`  — on ARBITRARY byte strings (bytes < 256, machine bounds, fuel): the generated function is
      `charsStepUb … (model step)`: it panics exactly where the model reports a panic (`position -= 1` underflow in
      `__find_prev_char_boundary`, `non_char_boundary_panic`), it is `ub` exactly when the decoded number is not a
      scalar value (`char::from_u32_unchecked` in `string_to_char`; the model's `stringToChar` is the bare number),
      and otherwise returns the model's item and the image of the model's new state.
    * `<T>.<fn>_eq`     — under the precondition that makes the Rust code sound, `Valid (it.this.apply s)` (the
      remaining string is the UTF-8 encoding of scalar values, `Konst.Spec.Utf8.Valid`): the model returns
      `.ok o` (no panic) and the generated function returns `.ok` of the same `o` (no panic, no ub, fuel suffices).

  Machine bounds: `this.len() < 2^64` for the checked `position += 1` of `__find_next_char_boundary`;
  `start_offset + this.len() < 2^64` for the checked `self.start_offset + split_at` of `CharIndices`.
  Fuel: `this.len() + 1` for the `next` block (`__find_next_char_boundary`), `this.len()` for the `next_back`
  block (`__find_prev_char_boundary`).
-/
namespace Extracted.Equiv
open Rs Konst Konst.Utf8 Konst.Chr Konst.Spec.Utf8

namespace CharsAux

/-- `<<` on a `u32` loses no bit of an operand masked by `mask` when `mask << k` fits -/
theorem ushl_mask {ε : Type} (a mask k : Nat) (h : k < 32 ∧ mask <<< k < 2 ^ 32) :
    (Rs.ushl 32 (a &&& mask) k : Ctl ε Nat) = .val ((a &&& mask) <<< k) := by
  rw [Rs.ushl, if_pos h.1, Nat.mod_eq_of_lt (Nat.lt_of_le_of_lt _ h.2)]
  rw [Nat.shiftLeft_eq, Nat.shiftLeft_eq]
  exact Nat.mul_le_mul_right _ Nat.and_le_right

theorem charFromU32Unchecked_eq {ε : Type} (n : Nat) :
    (Rs.charFromU32Unchecked n : Ctl ε Nat) = if isScalar n = true then .val n else .ub := by
  simp only [Rs.charFromU32Unchecked, isScalar, Bool.or_eq_true, Bool.and_eq_true, decide_eq_true_eq,
    Nat.lt_succ_iff (n := 1114111)]

theorem apply_length_le {α : Type} (v : View) (s : List α) : (v.apply s).length ≤ v.len := by
  simp only [View.apply, List.length_take]; omega

theorem comp_apply' {α : Type} (v w : View) (s : List α) (h : w.off + w.len ≤ (v.apply s).length) :
    (v.comp w).apply s = w.apply (v.apply s) :=
  comp_apply v w s (Nat.le_trans h (apply_length_le v s))

theorem splitAt_ok_inv {str : List Nat} {k : Nat} {a b : View} (h : Utf8.splitAt str k = .ok (a, b)) :
    a = Slice.sliceUpTo str.length k ∧ b = Slice.sliceFrom str.length k := by
  unfold Utf8.splitAt Utf8.strUpTo Utf8.strFrom at h
  cases ht : isCharBoundaryForgiving str k <;>
    simp [ht, bind, Except.bind, pure, Except.pure] at h
  exact ⟨h.1.symm, h.2.symm⟩

theorem findPrevLoop_le (bytes : List Nat) (p k : Nat) : findPrevLoop bytes p = some k → k ≤ p := by
  fun_induction findPrevLoop bytes p with
  | case1 => exact fun h => Nat.le_of_eq (Option.some.inj h).symm
  | case2 => exact fun h => nomatch h
  | case3 p => exact fun h => Nat.le_of_eq (Option.some.inj h).symm
  | case4 p _ ih => exact fun h => Nat.le_succ_of_le (ih h)

theorem comp_sliceFrom (v : View) (s : List Nat) (k : Nat) :
    (v.comp (Slice.sliceFrom (v.apply s).length k)).apply s
      = (Slice.sliceFrom (v.apply s).length k).apply (v.apply s) :=
  comp_apply' _ _ _ (sliceFrom_fits _ _)

theorem comp_sliceUpTo (v : View) (s : List Nat) (k : Nat) :
    (v.comp (Slice.sliceUpTo (v.apply s).length k)).apply s
      = (Slice.sliceUpTo (v.apply s).length k).apply (v.apply s) :=
  comp_apply' _ _ _ (Lemmas.Slice.sliceUpTo_inBounds _ _)

theorem prev_fuel {n fuel : Nat} (h : 0 < n) (hf : n ≤ fuel) : min (n - 1) n + 1 ≤ fuel := by
  rw [Nat.min_eq_left (Nat.sub_le n 1), Nat.sub_add_cancel h]
  exact hf

theorem off_next_lt {off n k : Nat} (hl : off + n < 2 ^ 64) (hpos : 0 < n) (hk : k ≤ max (0 + 1) n) :
    off + k < 2 ^ 64 := by
  rw [Nat.max_eq_right hpos] at hk
  exact Nat.lt_of_le_of_lt (Nat.add_le_add_left hk off) hl

theorem off_prev_lt {off n k : Nat} (hl : off + n < 2 ^ 64) (hk : k ≤ n - 1) : off + k < 2 ^ 64 :=
  Nat.lt_of_le_of_lt (Nat.add_le_add_left (Nat.le_trans hk (Nat.sub_le n 1)) off) hl

end CharsAux
open CharsAux

/-- `string_to_usv` is total and equals the model on EVERY list (no hypothesis: the operands of `<<` are masked
    to at most 6 bits before being shifted by at most 18, so no bit is lost from the `u32`, whatever the bytes;
    in particular for bytes `< 256`).  The shift amounts are constants `< 32`: no panic. -/
theorem string_to_usv_eq (s : List Nat) : Extracted.string_to_usv s = .ok (stringToUsv s) := by
  rcases s with _ | ⟨a, _ | ⟨b, _ | ⟨c, _ | ⟨d, _ | ⟨e, l⟩⟩⟩⟩⟩
  · rfl
  · rfl
  · simp only [Extracted.string_to_usv, id, ushl_mask _ 31 6 (by decide), rs_eval]
    rfl
  · simp only [Extracted.string_to_usv, id, ushl_mask _ 15 12 (by decide), ushl_mask _ 63 6 (by decide), rs_eval]
    rfl
  · simp only [Extracted.string_to_usv, id, ushl_mask _ 7 18 (by decide), ushl_mask _ 63 12 (by decide),
      ushl_mask _ 63 6 (by decide), rs_eval]
    rfl
  · rfl

example : Extracted.string_to_usv [0xE2, 0x82, 0xAC] = .ok 0x20AC := by decide +kernel
example : Extracted.string_to_usv [0xF0, 0x9F, 0x98, 0x80] = .ok (stringToUsv [0xF0, 0x9F, 0x98, 0x80]) :=
  string_to_usv_eq _

theorem string_to_char_total (s : List Nat) :
    Extracted.string_to_char s = if isScalar (stringToUsv s) = true then .ok (stringToChar s) else .ub := by
  simp only [Extracted.string_to_char, string_to_usv_eq, charFromU32Unchecked_eq, rs_eval]
  cases isScalar (stringToUsv s) <;> rfl

theorem string_to_char_eq (s : List Nat) (h : isScalar (stringToUsv s) = true) :
    Extracted.string_to_char s = .ok (stringToChar s) := by
  rw [string_to_char_total, if_pos h]

theorem string_to_char_ub (s : List Nat) (h : isScalar (stringToUsv s) = false) :
    Extracted.string_to_char s = .ub := by
  rw [string_to_char_total, if_neg (by simp [h])]

/-- `enc c`, `c` a scalar value: what `Chars`/`CharIndices` pass on a valid string -/
theorem string_to_char_enc (c : Nat) (hc : isScalar c = true) :
    Extracted.string_to_char (enc c) = .ok (stringToChar (enc c)) ∧ stringToChar (enc c) = c := by
  have h := Lemmas.Utf8.stringToUsv_enc c (by have := Lemmas.Utf8.isScalar_lt c hc; omega)
  exact ⟨string_to_char_eq _ (by rw [h]; exact hc), h⟩

example : Extracted.string_to_char [0xE2, 0x82, 0xAC] = .ok 0x20AC := by decide +kernel
example : Extracted.string_to_char [0xED, 0xA0, 0x80] = .ub := by decide +kernel
example : Extracted.string_to_char [0xF0, 0x9F, 0x98, 0x80] = .ok (stringToChar [0xF0, 0x9F, 0x98, 0x80]) :=
  string_to_char_eq _ (by decide)
example : Extracted.string_to_char (enc 0x1F600) = .ok (stringToChar (enc 0x1F600)) :=
  (string_to_char_enc 0x1F600 (by decide)).1

/-! ### state correspondences -/

def toChars (s : List Nat) (it : Konst.Chars.Chars) : Extracted.Chars := ⟨it.this.apply s⟩
def toRChars (s : List Nat) (it : Konst.Chars.RChars) : Extracted.RChars := ⟨it.this.apply s⟩
def toCharIndices (s : List Nat) (it : Konst.Chars.CharIndices) : Extracted.CharIndices :=
  ⟨it.this.apply s, it.startOffset⟩
def toRCharIndices (s : List Nat) (it : Konst.Chars.RCharIndices) : Extracted.RCharIndices :=
  ⟨it.this.apply s, it.startOffset⟩

@[simp] theorem toChars_whole (l : List Nat) : toChars l ⟨⟨0, l.length⟩⟩ = ⟨l⟩ := by
  simp [toChars, whole_apply]
@[simp] theorem toRChars_whole (l : List Nat) : toRChars l ⟨⟨0, l.length⟩⟩ = ⟨l⟩ := by
  simp [toRChars, whole_apply]
@[simp] theorem toCharIndices_whole (l : List Nat) (off : Nat) :
    toCharIndices l ⟨⟨0, l.length⟩, off⟩ = ⟨l, off⟩ := by
  simp [toCharIndices, whole_apply]
@[simp] theorem toRCharIndices_whole (l : List Nat) (off : Nat) :
    toRCharIndices l ⟨⟨0, l.length⟩, off⟩ = ⟨l, off⟩ := by
  simp [toRCharIndices, whole_apply]

/-- the model's step result (`Except Panic (Option (item × state))`) as the result of the generated function on
    arbitrary bytes: a model panic is a panic; an item whose decoded number `chr x` is not a scalar value is
    the `ub` of `char::from_u32_unchecked`; the new state is mapped by `f` -/
def charsStepUb {ι σ τ : Type} (chr : ι → Nat) (f : σ → τ) :
    Except Panic (Option (ι × σ)) → Res (Option (ι × τ))
  | .error _ => .panic
  | .ok none => .ok none
  | .ok (some (x, st)) => if isScalar (chr x) = true then .ok (some (x, f st)) else .ub

theorem chars_eq (s : List Nat) : Extracted.chars s = .ok (toChars s (Konst.Chars.chars s)) := by
  simp [Extracted.chars, toChars, Konst.Chars.chars, whole_apply]

example : Extracted.chars [0x41, 0xE2] = .ok ⟨[0x41, 0xE2]⟩ := by decide +kernel
example : Extracted.chars [0x41, 0xE2] = .ok (toChars [0x41, 0xE2] (Konst.Chars.chars [0x41, 0xE2])) := chars_eq _

theorem char_indices_eq (s : List Nat) :
    Extracted.char_indices s = .ok (toCharIndices s (Konst.Chars.charIndices s)) := by
  simp [Extracted.char_indices, toCharIndices, Konst.Chars.charIndices, whole_apply]

example : Extracted.char_indices [0x41, 0xE2] = .ok ⟨[0x41, 0xE2], 0⟩ := by decide +kernel
example : Extracted.char_indices [0x41, 0xE2]
    = .ok (toCharIndices [0x41, 0xE2] (Konst.Chars.charIndices [0x41, 0xE2])) := char_indices_eq _

theorem Chars.as_str_eq (s : List Nat) (it : Konst.Chars.Chars) :
    Extracted.Chars.as_str (toChars s it) = .ok (it.asStr.apply s) := rfl

example : Extracted.Chars.as_str (toChars [1, 2, 3, 4] ⟨⟨1, 2⟩⟩) = .ok [2, 3] := by decide +kernel

theorem CharIndices.as_str_eq (s : List Nat) (it : Konst.Chars.CharIndices) :
    Extracted.CharIndices.as_str (toCharIndices s it) = .ok (it.asStr.apply s) := rfl

example : Extracted.CharIndices.as_str (toCharIndices [1, 2, 3, 4] ⟨⟨1, 2⟩, 1⟩) = .ok [2, 3] := by decide +kernel

/-! ### the two blocks of `iterator_shared!` -/

/-- the shape both blocks share: nothing on the empty string; else split at the boundary `k?` the search found
    (`none`: `__find_prev_char_boundary` underflowed) and build item and new state from the position and the
    two halves -/
def blockStep {α : Type} (this : List Nat) (k? : Option Nat) (mk : Nat → View → View → α) :
    Except Panic (Option α) :=
  if this.isEmpty then .ok none
  else
    match k? with
    | none => .error ⟨"underflow", 0⟩
    | some k =>
      match Utf8.splitAt this k with
      | .error p => .error p
      | .ok (prev, next) => .ok (some (mk k prev next))

theorem chars_next_step (s : List Nat) (it : Konst.Chars.Chars) :
    Konst.Chars.Chars.next s it
      = blockStep (it.this.apply s) (some (findNextCharBoundary (it.this.apply s) 0))
          fun _ prev next => (stringToChar (prev.apply (it.this.apply s)), ⟨it.this.comp next⟩) := by
  unfold Konst.Chars.Chars.next blockStep
  rfl

theorem chars_back_step (s : List Nat) (it : Konst.Chars.Chars) :
    Konst.Chars.Chars.nextBack s it
      = blockStep (it.this.apply s) (findPrevCharBoundary (it.this.apply s) (it.this.apply s).length)
          fun _ prev next => (stringToChar (next.apply (it.this.apply s)), ⟨it.this.comp prev⟩) := by
  unfold Konst.Chars.Chars.nextBack blockStep
  rfl

theorem ci_next_step (s : List Nat) (it : Konst.Chars.CharIndices) :
    Konst.Chars.CharIndices.next s it
      = blockStep (it.this.apply s) (some (findNextCharBoundary (it.this.apply s) 0))
          fun k prev next => ((it.startOffset, stringToChar (prev.apply (it.this.apply s))),
            ⟨it.this.comp next, it.startOffset + k⟩) := by
  unfold Konst.Chars.CharIndices.next blockStep
  rfl

theorem ci_back_step (s : List Nat) (it : Konst.Chars.CharIndices) :
    Konst.Chars.CharIndices.nextBack s it
      = blockStep (it.this.apply s) (findPrevCharBoundary (it.this.apply s) (it.this.apply s).length)
          fun k prev next => ((it.startOffset + k, stringToChar (next.apply (it.this.apply s))),
            ⟨it.this.comp prev, it.startOffset⟩) := by
  unfold Konst.Chars.CharIndices.nextBack blockStep
  rfl

/-- the reversed types only wrap the new state -/
theorem charsStepUb_mapSt {ι σ ρ τ : Type} (chr : ι → Nat) (f : ρ → τ) (g : σ → ρ)
    (r : Except Panic (Option (ι × σ))) :
    charsStepUb chr f (Konst.Chars.mapSt g r) = charsStepUb chr (fun st => f (g st)) r := by
  rcases r with p | _ | ⟨x, st⟩ <;> rfl

/-- The code of either block, with the part after `split_at` as a parameter `K` (it differs between the four
    types): the emptiness test, the boundary search `r` (known to return `k?` on a non-empty string) and
    `split_at` behave as `blockStep`, provided `K` agrees with `mk` on the two halves. -/
theorem block_bytes {ι σ τ : Type} {chr : ι → Nat} {f : σ → τ} {this : List Nat} (hb : ∀ b ∈ this, b < 256)
    {r : Res Nat} {k? : Option Nat} (hr : 0 < this.length → r = resOfOption k?)
    {K : Nat → List Nat × List Nat → Ctl (Option (ι × τ)) (Option (ι × τ))}
    {mk : Nat → View → View → ι × σ}
    (hK : ∀ k, 0 < this.length → k? = some k →
      Ctl.run (K k ((Slice.sliceUpTo this.length k).apply this, (Slice.sliceFrom this.length k).apply this))
        = charsStepUb chr f
            (.ok (some (mk k (Slice.sliceUpTo this.length k) (Slice.sliceFrom this.length k))))) :
    Ctl.run (do
        let _ ← (if this.isEmpty then Ctl.exit none else pure ())
        let k ← Ctl.call r
        let pr ← Ctl.call (Extracted.str_split_at this k)
        K k pr)
      = charsStepUb chr f (blockStep this k? mk) := by
  cases this with
  | nil => rfl
  | cons x l =>
    rw [hr (Nat.zero_lt_succ _)]
    cases k? with
    | none => rfl
    | some k =>
      simp only [blockStep, List.isEmpty_cons, Bool.false_eq_true, if_false, Ctl.pure_eq, Ctl.bind_eq, Ctl.bind_val,
        resOfOption_some, Ctl.call_ok, str_split_at_eq _ _ hb]
      cases hsp : Utf8.splitAt (x :: l) k with
      | error p => rfl
      | ok pr =>
        obtain ⟨a, b⟩ := pr
        obtain ⟨rfl, rfl⟩ := splitAt_ok_inv hsp
        exact hK k (Nat.zero_lt_succ _) rfl

/-- the end of either block: `string_to_char` of one half -/
theorem decode_step {ι σ τ : Type} {chr : ι → Nat} {f : σ → τ} {bs : List Nat} {x : Nat → ι} {st : σ} {t : τ}
    (hx : chr (x (stringToChar bs)) = stringToUsv bs) (ht : f st = t) :
    Ctl.run (do
        let c ← Ctl.call (Extracted.string_to_char bs)
        pure (some (x c, t)))
      = charsStepUb chr f (.ok (some (x (stringToChar bs), st))) := by
  rw [string_to_char_total, charsStepUb, hx, ht]
  by_cases hs : isScalar (stringToUsv bs) = true
  · rw [if_pos hs, if_pos hs]
    rfl
  · rw [if_neg hs, if_neg hs]
    rfl

/-- the same with the checked `self.start_offset + split_at` of `CharIndices` in front -/
theorem decode_step_add {ι σ τ : Type} {chr : ι → Nat} {f : σ → τ} {bs : List Nat} {a b : Nat}
    (h : a + b < 2 ^ 64) {x : Nat → Nat → ι} {st : σ} {t : Nat → τ}
    (hx : chr (x (a + b) (stringToChar bs)) = stringToUsv bs) (ht : f st = t (a + b)) :
    Ctl.run (do
        let o ← Rs.uadd 64 a b
        let c ← Ctl.call (Extracted.string_to_char bs)
        pure (some (x o c, t o)))
      = charsStepUb chr f (.ok (some (x (a + b) (stringToChar bs), st))) := by
  rw [Rs.uadd_ok h]
  exact decode_step hx ht

/-- `Chars::next` on arbitrary bytes (the `next` block: `__find_next_char_boundary(bytes, 0)`, `split_at`,
    `string_to_char(prev)`): never panics here in fact (the found position always passes the forgiving test),
    `ub` iff the decoded first "character" is not a scalar value -/
theorem Chars.next_bytes (fuel : Nat) (s : List Nat) (it : Konst.Chars.Chars)
    (hb : ∀ b ∈ it.this.apply s, b < 256)
    (hl : (it.this.apply s).length < 2 ^ 64)
    (hf : (it.this.apply s).length + 1 ≤ fuel) :
    Extracted.Chars.next fuel (toChars s it)
      = charsStepUb id (toChars s) (Konst.Chars.Chars.next s it) := by
  rw [chars_next_step]
  refine block_bytes hb
    (fun _ => find_next_char_boundary_eq fuel _ 0 hb (by decide) hl hf) fun k _ _ => ?_
  exact decode_step rfl (congrArg Extracted.Chars.mk (comp_sliceFrom _ _ _))

example : Extracted.Chars.next 5 ⟨[0xE2, 0x82, 0xAC, 0x41]⟩ = .ok (some (0x20AC, ⟨[0x41]⟩)) := by decide +kernel

example : Extracted.Chars.next 5 ⟨[0xED, 0xA0, 0x80, 0x41]⟩ = .ub := by decide +kernel
example : Extracted.Chars.next 5 ⟨[0xED, 0xA0, 0x80, 0x41]⟩
    = charsStepUb id (toChars [0xED, 0xA0, 0x80, 0x41])
        (Konst.Chars.Chars.next [0xED, 0xA0, 0x80, 0x41] ⟨⟨0, 4⟩⟩) :=
  Chars.next_bytes 5 [0xED, 0xA0, 0x80, 0x41] ⟨⟨0, 4⟩⟩ (by decide) (by decide) (by decide)

/-- `Chars::next_back` on arbitrary bytes (the `next_back` block: `__find_prev_char_boundary(bytes, len)`,
    `split_at`, `string_to_char(next)`): panics iff the model reports the `position -= 1` underflow (no byte
    passing the boundary test at or before `len - 1`), `ub` iff the decoded number is not a scalar value -/
theorem Chars.next_back_bytes (fuel : Nat) (s : List Nat) (it : Konst.Chars.Chars)
    (hb : ∀ b ∈ it.this.apply s, b < 256)
    (hf : (it.this.apply s).length ≤ fuel) :
    Extracted.Chars.next_back fuel (toChars s it)
      = charsStepUb id (toChars s) (Konst.Chars.Chars.nextBack s it) := by
  rw [chars_back_step]
  refine block_bytes hb
    (fun h => find_prev_char_boundary_eq fuel _ _ hb (prev_fuel h hf)) fun k _ _ => ?_
  exact decode_step rfl (congrArg Extracted.Chars.mk (comp_sliceUpTo _ _ _))

example : Extracted.Chars.next_back 4 ⟨[0x41, 0xE2, 0x82, 0xAC]⟩ = .ok (some (0x20AC, ⟨[0x41]⟩)) := by decide +kernel
example : Extracted.Chars.next_back 2 ⟨[0x82, 0xAC]⟩ = .panic := by decide +kernel
example : Extracted.Chars.next_back 2 ⟨[0x82, 0xAC]⟩
    = charsStepUb id (toChars [0x82, 0xAC]) (Konst.Chars.Chars.nextBack [0x82, 0xAC] ⟨⟨0, 2⟩⟩) :=
  Chars.next_back_bytes 2 [0x82, 0xAC] ⟨⟨0, 2⟩⟩ (by decide) (by decide)

theorem CharIndices.next_bytes (fuel : Nat) (s : List Nat) (it : Konst.Chars.CharIndices)
    (hb : ∀ b ∈ it.this.apply s, b < 256)
    (hl : it.startOffset + (it.this.apply s).length < 2 ^ 64)
    (hf : (it.this.apply s).length + 1 ≤ fuel) :
    Extracted.CharIndices.next fuel (toCharIndices s it)
      = charsStepUb Prod.snd (toCharIndices s) (Konst.Chars.CharIndices.next s it) := by
  rw [ci_next_step]
  refine block_bytes hb
    (fun _ => find_next_char_boundary_eq fuel _ 0 hb (by decide) (Nat.lt_of_le_of_lt (Nat.le_add_left _ _) hl) hf)
    fun k hpos hk => ?_
  cases hk
  exact decode_step_add (off_next_lt hl hpos (findNext_le _ 0)) rfl
    (congrArg (Extracted.CharIndices.mk · _) (comp_sliceFrom _ _ _))

example : Extracted.CharIndices.next 5 ⟨[0xE2, 0x82, 0xAC, 0x41], 7⟩
    = .ok (some ((7, 0x20AC), ⟨[0x41], 10⟩)) := by decide +kernel
/-- without the machine bound the checked `self.start_offset + split_at` panics -/
example : Extracted.CharIndices.next 5 ⟨[0xE2, 0x82, 0xAC, 0x41], 2 ^ 64 - 2⟩ = .panic := by decide +kernel

theorem CharIndices.next_back_bytes (fuel : Nat) (s : List Nat) (it : Konst.Chars.CharIndices)
    (hb : ∀ b ∈ it.this.apply s, b < 256)
    (hl : it.startOffset + (it.this.apply s).length < 2 ^ 64)
    (hf : (it.this.apply s).length ≤ fuel) :
    Extracted.CharIndices.next_back fuel (toCharIndices s it)
      = charsStepUb Prod.snd (toCharIndices s) (Konst.Chars.CharIndices.nextBack s it) := by
  rw [ci_back_step]
  refine block_bytes hb
    (fun h => find_prev_char_boundary_eq fuel _ _ hb (prev_fuel h hf)) fun k _ hk => ?_
  exact decode_step_add (off_prev_lt hl (findPrevLoop_le _ _ k hk)) rfl
    (congrArg (Extracted.CharIndices.mk · _) (comp_sliceUpTo _ _ _))

example : Extracted.CharIndices.next_back 4 ⟨[0x41, 0xE2, 0x82, 0xAC], 7⟩
    = .ok (some ((8, 0x20AC), ⟨[0x41], 7⟩)) := by decide +kernel

/-! ### `RChars::next`, `RChars::next_back` (the two blocks swapped) -/

theorem RChars.next_bytes (fuel : Nat) (s : List Nat) (it : Konst.Chars.RChars)
    (hb : ∀ b ∈ it.this.apply s, b < 256)
    (hf : (it.this.apply s).length ≤ fuel) :
    Extracted.RChars.next fuel (toRChars s it)
      = charsStepUb id (toRChars s) (Konst.Chars.RChars.next s it) := by
  rw [Konst.Chars.RChars.next, charsStepUb_mapSt, chars_back_step]
  refine block_bytes hb
    (fun h => find_prev_char_boundary_eq fuel _ _ hb (prev_fuel h hf)) fun k _ _ => ?_
  exact decode_step rfl (congrArg Extracted.RChars.mk (comp_sliceUpTo _ _ _))

example : Extracted.RChars.next 4 ⟨[0x41, 0xE2, 0x82, 0xAC]⟩ = .ok (some (0x20AC, ⟨[0x41]⟩)) := by decide +kernel

theorem RChars.next_back_bytes (fuel : Nat) (s : List Nat) (it : Konst.Chars.RChars)
    (hb : ∀ b ∈ it.this.apply s, b < 256)
    (hl : (it.this.apply s).length < 2 ^ 64)
    (hf : (it.this.apply s).length + 1 ≤ fuel) :
    Extracted.RChars.next_back fuel (toRChars s it)
      = charsStepUb id (toRChars s) (Konst.Chars.RChars.nextBack s it) := by
  rw [Konst.Chars.RChars.nextBack, charsStepUb_mapSt, chars_next_step]
  refine block_bytes hb
    (fun _ => find_next_char_boundary_eq fuel _ 0 hb (by decide) hl hf) fun k _ _ => ?_
  exact decode_step rfl (congrArg Extracted.RChars.mk (comp_sliceFrom _ _ _))

example : Extracted.RChars.next_back 5 ⟨[0xE2, 0x82, 0xAC, 0x41]⟩ = .ok (some (0x20AC, ⟨[0x41]⟩)) := by decide +kernel

theorem RCharIndices.next_bytes (fuel : Nat) (s : List Nat) (it : Konst.Chars.RCharIndices)
    (hb : ∀ b ∈ it.this.apply s, b < 256)
    (hl : it.startOffset + (it.this.apply s).length < 2 ^ 64)
    (hf : (it.this.apply s).length ≤ fuel) :
    Extracted.RCharIndices.next fuel (toRCharIndices s it)
      = charsStepUb Prod.snd (toRCharIndices s) (Konst.Chars.RCharIndices.next s it) := by
  rw [Konst.Chars.RCharIndices.next, charsStepUb_mapSt, ci_back_step]
  refine block_bytes hb
    (fun h => find_prev_char_boundary_eq fuel _ _ hb (prev_fuel h hf)) fun k _ hk => ?_
  exact decode_step_add (off_prev_lt hl (findPrevLoop_le _ _ k hk)) rfl
    (congrArg (Extracted.RCharIndices.mk · _) (comp_sliceUpTo _ _ _))

example : Extracted.RCharIndices.next 4 ⟨[0x41, 0xE2, 0x82, 0xAC], 7⟩
    = .ok (some ((8, 0x20AC), ⟨[0x41], 7⟩)) := by decide +kernel

theorem RCharIndices.next_back_bytes (fuel : Nat) (s : List Nat) (it : Konst.Chars.RCharIndices)
    (hb : ∀ b ∈ it.this.apply s, b < 256)
    (hl : it.startOffset + (it.this.apply s).length < 2 ^ 64)
    (hf : (it.this.apply s).length + 1 ≤ fuel) :
    Extracted.RCharIndices.next_back fuel (toRCharIndices s it)
      = charsStepUb Prod.snd (toRCharIndices s) (Konst.Chars.RCharIndices.nextBack s it) := by
  rw [Konst.Chars.RCharIndices.nextBack, charsStepUb_mapSt, ci_next_step]
  refine block_bytes hb
    (fun _ => find_next_char_boundary_eq fuel _ 0 hb (by decide) (Nat.lt_of_le_of_lt (Nat.le_add_left _ _) hl) hf)
    fun k hpos hk => ?_
  cases hk
  exact decode_step_add (off_next_lt hl hpos (findNext_le _ 0)) rfl
    (congrArg (Extracted.RCharIndices.mk · _) (comp_sliceFrom _ _ _))

example : Extracted.RCharIndices.next_back 5 ⟨[0xE2, 0x82, 0xAC, 0x41], 7⟩
    = .ok (some ((7, 0x20AC), ⟨[0x41], 10⟩)) := by decide +kernel

/-! ### valid strings: no panic, no ub, the model's value -/

def charsItem {ι σ τ : Type} (f : σ → τ) (o : Option (ι × σ)) : Option (ι × τ) :=
  o.map (fun p => (p.1, f p.2))

namespace CharsAux

/-- "the model's step returns normally and the decoded item is a scalar value": the result on arbitrary bytes
    is then `.ok` of the model's item, whatever the state map `f` -/
def OkScalar {ι σ : Type} (chr : ι → Nat) (r : Except Panic (Option (ι × σ))) : Prop :=
  ∀ {τ : Type} (f : σ → τ), ∃ o, r = .ok o ∧ charsStepUb chr f r = .ok (charsItem f o)

theorem OkScalar.mapSt {ι σ ρ : Type} {chr : ι → Nat} {r : Except Panic (Option (ι × σ))} (g : σ → ρ)
    (h : OkScalar chr r) : OkScalar chr (Konst.Chars.mapSt g r) := by
  intro τ f
  obtain ⟨o, rfl, h⟩ := h fun st => f (g st)
  rcases o with _ | ⟨x, st⟩
  · exact ⟨none, rfl, rfl⟩
  · exact ⟨some (x, g st), rfl, h⟩

theorem blockStep_ok {ι σ : Type} (chr : ι → Nat) {this : List Nat} {k? : Option Nat}
    (mk : Nat → View → View → ι × σ)
    (h : this ≠ [] → ∃ k a b, k? = some k ∧ Utf8.splitAt this k = .ok (a, b) ∧
      isScalar (chr (mk k a b).1) = true) :
    OkScalar chr (blockStep this k? mk) := by
  intro τ f
  cases this with
  | nil => exact ⟨none, rfl, rfl⟩
  | cons x l =>
    obtain ⟨k, a, b, rfl, hsp, hc⟩ := h (List.cons_ne_nil x l)
    simp only [blockStep, List.isEmpty_cons, Bool.false_eq_true, if_false, hsp]
    exact ⟨_, rfl, if_pos hc⟩

/-- on a valid string the `next` block finds the end of the first character -/
theorem valid_next {this : List Nat} (hv : Valid this) (hne : this ≠ []) :
    ∃ k a b, some (findNextCharBoundary this 0) = some k ∧ Utf8.splitAt this k = .ok (a, b) ∧
      isScalar (stringToChar (a.apply this)) = true := by
  obtain ⟨cs, hs, rfl⟩ := hv
  cases cs with
  | nil => exact absurd rfl hne
  | cons c cs =>
    obtain ⟨h1, h2, h3, -⟩ := Lemmas.Chars.core_next c cs hs
    rw [Lemmas.Utf8.encs_cons]
    exact ⟨_, _, _, congrArg some h1, h2, h3.symm ▸ hs c (List.mem_cons_self ..)⟩

/-- on a valid string the `next_back` block finds the start of the last character -/
theorem valid_back {this : List Nat} (hv : Valid this) (hne : this ≠ []) :
    ∃ k a b, findPrevCharBoundary this this.length = some k ∧ Utf8.splitAt this k = .ok (a, b) ∧
      isScalar (stringToChar (b.apply this)) = true := by
  obtain ⟨cs, hs, rfl⟩ := hv
  rcases Lemmas.Slice.eq_nil_or_snoc cs with rfl | ⟨cs, c, rfl⟩
  · exact absurd rfl hne
  · obtain ⟨h1, h2, h3, -⟩ := Lemmas.Chars.core_back cs c hs
    rw [Lemmas.Utf8.encs_append, Lemmas.Utf8.encs_cons, Lemmas.Utf8.encs_nil, List.append_nil]
    exact ⟨_, _, _, h1, h2, h3.symm ▸ hs c (List.mem_append_right _ (List.mem_cons_self ..))⟩

end CharsAux

/-! The eight step functions on valid strings.  `hv`: the remaining string `it.this.apply s` is valid UTF-8
    (`Konst.Spec.Utf8.Valid`: `∃ cs, (∀ c ∈ cs, isScalar c) ∧ _ = encs cs`); `hl` the machine bound, `hf` the fuel. -/

theorem Chars.next_eq (fuel : Nat) (s : List Nat) (it : Konst.Chars.Chars)
    (hv : Valid (it.this.apply s))
    (hl : (it.this.apply s).length < 2 ^ 64)
    (hf : (it.this.apply s).length + 1 ≤ fuel) :
    ∃ o, Konst.Chars.Chars.next s it = .ok o ∧
      Extracted.Chars.next fuel (toChars s it) = .ok (charsItem (toChars s) o) := by
  rw [Chars.next_bytes fuel s it (Lemmas.Utf8.valid_lt_256 hv) hl hf, chars_next_step]
  refine blockStep_ok id _ ?_ _
  exact valid_next hv

example : ∃ o, Konst.Chars.Chars.next [0xE2, 0x82, 0xAC, 0x41] ⟨⟨0, 4⟩⟩ = .ok o ∧
    Extracted.Chars.next 5 ⟨[0xE2, 0x82, 0xAC, 0x41]⟩ = .ok (charsItem (toChars [0xE2, 0x82, 0xAC, 0x41]) o) :=
  Chars.next_eq _ [0xE2, 0x82, 0xAC, 0x41] ⟨⟨0, 4⟩⟩ ⟨[0x20AC, 0x41], by decide, by decide⟩ (by decide) (by decide)

theorem Chars.next_back_eq (fuel : Nat) (s : List Nat) (it : Konst.Chars.Chars)
    (hv : Valid (it.this.apply s))
    (hf : (it.this.apply s).length ≤ fuel) :
    ∃ o, Konst.Chars.Chars.nextBack s it = .ok o ∧
      Extracted.Chars.next_back fuel (toChars s it) = .ok (charsItem (toChars s) o) := by
  rw [Chars.next_back_bytes fuel s it (Lemmas.Utf8.valid_lt_256 hv) hf, chars_back_step]
  refine blockStep_ok id _ ?_ _
  exact valid_back hv

example : ∃ o, Konst.Chars.Chars.nextBack [0x41, 0xE2, 0x82, 0xAC] ⟨⟨0, 4⟩⟩ = .ok o ∧
    Extracted.Chars.next_back 4 ⟨[0x41, 0xE2, 0x82, 0xAC]⟩ = .ok (charsItem (toChars [0x41, 0xE2, 0x82, 0xAC]) o) :=
  Chars.next_back_eq _ [0x41, 0xE2, 0x82, 0xAC] ⟨⟨0, 4⟩⟩ ⟨[0x41, 0x20AC], by decide, by decide⟩ (by decide)

theorem RChars.next_eq (fuel : Nat) (s : List Nat) (it : Konst.Chars.RChars)
    (hv : Valid (it.this.apply s))
    (hf : (it.this.apply s).length ≤ fuel) :
    ∃ o, Konst.Chars.RChars.next s it = .ok o ∧
      Extracted.RChars.next fuel (toRChars s it) = .ok (charsItem (toRChars s) o) := by
  rw [RChars.next_bytes fuel s it (Lemmas.Utf8.valid_lt_256 hv) hf, Konst.Chars.RChars.next, chars_back_step]
  refine OkScalar.mapSt _ (blockStep_ok id _ ?_) _
  exact valid_back hv

example : ∃ o, Konst.Chars.RChars.next [0x41, 0xE2, 0x82, 0xAC] ⟨⟨0, 4⟩⟩ = .ok o ∧
    Extracted.RChars.next 4 ⟨[0x41, 0xE2, 0x82, 0xAC]⟩ = .ok (charsItem (toRChars [0x41, 0xE2, 0x82, 0xAC]) o) :=
  RChars.next_eq _ [0x41, 0xE2, 0x82, 0xAC] ⟨⟨0, 4⟩⟩ ⟨[0x41, 0x20AC], by decide, by decide⟩ (by decide)

theorem RChars.next_back_eq (fuel : Nat) (s : List Nat) (it : Konst.Chars.RChars)
    (hv : Valid (it.this.apply s))
    (hl : (it.this.apply s).length < 2 ^ 64)
    (hf : (it.this.apply s).length + 1 ≤ fuel) :
    ∃ o, Konst.Chars.RChars.nextBack s it = .ok o ∧
      Extracted.RChars.next_back fuel (toRChars s it) = .ok (charsItem (toRChars s) o) := by
  rw [RChars.next_back_bytes fuel s it (Lemmas.Utf8.valid_lt_256 hv) hl hf, Konst.Chars.RChars.nextBack, chars_next_step]
  refine OkScalar.mapSt _ (blockStep_ok id _ ?_) _
  exact valid_next hv

example : ∃ o, Konst.Chars.RChars.nextBack [0xE2, 0x82, 0xAC, 0x41] ⟨⟨0, 4⟩⟩ = .ok o ∧
    Extracted.RChars.next_back 5 ⟨[0xE2, 0x82, 0xAC, 0x41]⟩ = .ok (charsItem (toRChars [0xE2, 0x82, 0xAC, 0x41]) o) :=
  RChars.next_back_eq _ [0xE2, 0x82, 0xAC, 0x41] ⟨⟨0, 4⟩⟩ ⟨[0x20AC, 0x41], by decide, by decide⟩ (by decide) (by decide)

theorem CharIndices.next_eq (fuel : Nat) (s : List Nat) (it : Konst.Chars.CharIndices)
    (hv : Valid (it.this.apply s))
    (hl : it.startOffset + (it.this.apply s).length < 2 ^ 64)
    (hf : (it.this.apply s).length + 1 ≤ fuel) :
    ∃ o, Konst.Chars.CharIndices.next s it = .ok o ∧
      Extracted.CharIndices.next fuel (toCharIndices s it) = .ok (charsItem (toCharIndices s) o) := by
  rw [CharIndices.next_bytes fuel s it (Lemmas.Utf8.valid_lt_256 hv) hl hf, ci_next_step]
  refine blockStep_ok Prod.snd _ ?_ _
  exact valid_next hv

example : ∃ o, Konst.Chars.CharIndices.next [0xE2, 0x82, 0xAC, 0x41] ⟨⟨0, 4⟩, 7⟩ = .ok o ∧
    Extracted.CharIndices.next 5 ⟨[0xE2, 0x82, 0xAC, 0x41], 7⟩ = .ok (charsItem (toCharIndices [0xE2, 0x82, 0xAC, 0x41]) o) :=
  CharIndices.next_eq _ [0xE2, 0x82, 0xAC, 0x41] ⟨⟨0, 4⟩, 7⟩ ⟨[0x20AC, 0x41], by decide, by decide⟩ (by decide) (by decide)

theorem CharIndices.next_back_eq (fuel : Nat) (s : List Nat) (it : Konst.Chars.CharIndices)
    (hv : Valid (it.this.apply s))
    (hl : it.startOffset + (it.this.apply s).length < 2 ^ 64)
    (hf : (it.this.apply s).length ≤ fuel) :
    ∃ o, Konst.Chars.CharIndices.nextBack s it = .ok o ∧
      Extracted.CharIndices.next_back fuel (toCharIndices s it) = .ok (charsItem (toCharIndices s) o) := by
  rw [CharIndices.next_back_bytes fuel s it (Lemmas.Utf8.valid_lt_256 hv) hl hf, ci_back_step]
  refine blockStep_ok Prod.snd _ ?_ _
  exact valid_back hv

example : ∃ o, Konst.Chars.CharIndices.nextBack [0x41, 0xE2, 0x82, 0xAC] ⟨⟨0, 4⟩, 7⟩ = .ok o ∧
    Extracted.CharIndices.next_back 4 ⟨[0x41, 0xE2, 0x82, 0xAC], 7⟩ = .ok (charsItem (toCharIndices [0x41, 0xE2, 0x82, 0xAC]) o) :=
  CharIndices.next_back_eq _ [0x41, 0xE2, 0x82, 0xAC] ⟨⟨0, 4⟩, 7⟩ ⟨[0x41, 0x20AC], by decide, by decide⟩ (by decide) (by decide)

theorem RCharIndices.next_eq (fuel : Nat) (s : List Nat) (it : Konst.Chars.RCharIndices)
    (hv : Valid (it.this.apply s))
    (hl : it.startOffset + (it.this.apply s).length < 2 ^ 64)
    (hf : (it.this.apply s).length ≤ fuel) :
    ∃ o, Konst.Chars.RCharIndices.next s it = .ok o ∧
      Extracted.RCharIndices.next fuel (toRCharIndices s it) = .ok (charsItem (toRCharIndices s) o) := by
  rw [RCharIndices.next_bytes fuel s it (Lemmas.Utf8.valid_lt_256 hv) hl hf, Konst.Chars.RCharIndices.next, ci_back_step]
  refine OkScalar.mapSt _ (blockStep_ok Prod.snd _ ?_) _
  exact valid_back hv

example : ∃ o, Konst.Chars.RCharIndices.next [0x41, 0xE2, 0x82, 0xAC] ⟨⟨0, 4⟩, 7⟩ = .ok o ∧
    Extracted.RCharIndices.next 4 ⟨[0x41, 0xE2, 0x82, 0xAC], 7⟩ = .ok (charsItem (toRCharIndices [0x41, 0xE2, 0x82, 0xAC]) o) :=
  RCharIndices.next_eq _ [0x41, 0xE2, 0x82, 0xAC] ⟨⟨0, 4⟩, 7⟩ ⟨[0x41, 0x20AC], by decide, by decide⟩ (by decide) (by decide)

theorem RCharIndices.next_back_eq (fuel : Nat) (s : List Nat) (it : Konst.Chars.RCharIndices)
    (hv : Valid (it.this.apply s))
    (hl : it.startOffset + (it.this.apply s).length < 2 ^ 64)
    (hf : (it.this.apply s).length + 1 ≤ fuel) :
    ∃ o, Konst.Chars.RCharIndices.nextBack s it = .ok o ∧
      Extracted.RCharIndices.next_back fuel (toRCharIndices s it) = .ok (charsItem (toRCharIndices s) o) := by
  rw [RCharIndices.next_back_bytes fuel s it (Lemmas.Utf8.valid_lt_256 hv) hl hf, Konst.Chars.RCharIndices.nextBack, ci_next_step]
  refine OkScalar.mapSt _ (blockStep_ok Prod.snd _ ?_) _
  exact valid_next hv

example : ∃ o, Konst.Chars.RCharIndices.nextBack [0xE2, 0x82, 0xAC, 0x41] ⟨⟨0, 4⟩, 7⟩ = .ok o ∧
    Extracted.RCharIndices.next_back 5 ⟨[0xE2, 0x82, 0xAC, 0x41], 7⟩ = .ok (charsItem (toRCharIndices [0xE2, 0x82, 0xAC, 0x41]) o) :=
  RCharIndices.next_back_eq _ [0xE2, 0x82, 0xAC, 0x41] ⟨⟨0, 4⟩, 7⟩ ⟨[0x20AC, 0x41], by decide, by decide⟩ (by decide) (by decide)

end Extracted.Equiv
