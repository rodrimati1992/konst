import KonstVerif.Extracted.Gen.CStr
import KonstVerif.Extracted.Equiv.Slice
import KonstVerif.Model.CStr
import KonstVerif.Lemmas.CStr
/-
  Extracted = Model, for konst::ffi::cstr (C20, constructor half):
  `from_bytes_until_nul_inner`, `from_bytes_until_nul`, `from_bytes_with_nul` and its local
  `make_not_null_term_err`.

  The generated code returns `&CStr` values as byte lists (the bytes INCLUDING the terminating nul) inside the
  generated result structures; the model returns `View`s into `bytes` inside `Option` / `WithNul`.  The
  conversions below are the explicit dictionary between the two; a view is applied to the argument with
  `View.apply`.

  `= .ok …` also says: the `unsafe { CStr::from_bytes_with_nul_unchecked(sub) }` call is never undefined
  behaviour (`sub` = the bytes up to and including the FIRST nul: ends in 0, no earlier 0), no index panic,
  no arithmetic overflow, the fuel suffices.

  Like the model (which mirrors konst, not std), `from_bytes_with_nul(b"a\0b")` is `NotNulTerminated`
  (std: `InteriorNul(1)`); see the examples at the end.
-/
namespace Extracted.Equiv
open Rs Konst Konst.Slice Konst.CStr Konst.Lemmas.CStr Konst.Spec.Concat

/-! ### conversions model result → generated result -/

def cstrInnerRes (bytes : List Nat) :
    Option (View × Nat) → Except Extracted.FromBytesUntilNulError Extracted.CStrAndLen
  | some (v, n) => .ok { cstr := v.apply bytes, length_with_nul := n }
  | none => .error (Extracted.FromBytesUntilNulError.mk ())

def cstrUntilNulRes (bytes : List Nat) :
    Option View → Except Extracted.FromBytesUntilNulError (List Nat)
  | some v => .ok (v.apply bytes)
  | none => .error (Extracted.FromBytesUntilNulError.mk ())

def huntNulError : Konst.CStr.HuntNulError → Extracted.HuntNulError
  | .internalNul p => .InternalNul p
  | .notNulTerminated => .NotNulTerminated

def withNulRes {T : Type} (f : View → T) :
    WithNul → Res (Except Extracted.FromBytesWithNulError T)
  | .ok v => .ok (.ok (f v))
  | .err k => .ok (.error { kind := huntNulError k })
  | .panic => .panic

theorem cstr_unchecked_take {ε : Type} (bytes : List Nat) (i : Nat) (hi : i < bytes.length)
    (h0 : bytes[i] = 0) (hpre : 0 ∉ bytes.take i) :
    (Rs.cstrFromBytesWithNulUnchecked (bytes.take (i + 1)) : Ctl ε (List Nat)) =
      .val (bytes.take (i + 1)) := by
  have ht : bytes.take (i + 1) = bytes.take i ++ [0] := by
    rw [List.take_succ_eq_append_getElem hi, h0]
  unfold Rs.cstrFromBytesWithNulUnchecked
  rw [ht]
  simp [hpre]

theorem until_nul_loop (n : Nat) (bytes : List Nat) (i : Nat)
    (hb : bytes.length < 2 ^ 64) (hn : bytes.length + 1 ≤ n + i) (hi : i ≤ bytes.length)
    (hpre : 0 ∉ bytes.take i) :
    Rs.loop n (Extracted.cstr_from_bytes_until_nul_inner.loop1 bytes.length bytes) i =
      match untilNulLoop bytes.length (bytes.drop i) i with
      | some r => Ctl.exit (cstrInnerRes bytes (some r))
      | none => Ctl.val bytes.length := by
  induction n generalizing i with
  | zero => omega
  | succ n ih =>
    rw [Rs.loop_succ]
    by_cases hc : i < bytes.length
    · have h1 : i + 1 < 2 ^ 64 := by omega
      have hidx : bytes[i]? = some bytes[i] := List.getElem?_eq_getElem hc
      rw [List.drop_eq_getElem_cons hc]
      simp only [Extracted.cstr_from_bytes_until_nul_inner.loop1, hc, decide_true, ↓reduceIte, Rs.uadd, h1,
        Rs.index, hidx, Ctl.bind_eq, Ctl.bind_val, untilNulLoop]
      by_cases h0 : bytes[i] = 0
      · have hs : sliceUpTo bytes.length (i + 1) = ⟨0, i + 1⟩ := Lemmas.Slice.sliceUpTo_of_le (by omega)
        have ha : (View.mk 0 (i + 1)).apply bytes = bytes.take (i + 1) := by simp [View.apply]
        simp [h0, slice_up_to_eq, hs, ha, cstr_unchecked_take bytes i hc h0 hpre, cstrInnerRes]
      · simp only [h0, decide_false, Bool.false_eq_true, ↓reduceIte, Ctl.pure_eq, Ctl.bind_val]
        refine ih (i := i + 1) (by omega) (by omega) ?_
        rw [List.take_succ_eq_append_getElem hc]
        simp only [List.mem_append, List.mem_singleton, not_or]
        exact ⟨hpre, fun e => h0 e.symm⟩
    · have : i = bytes.length := by omega
      simp [Extracted.cstr_from_bytes_until_nul_inner.loop1, untilNulLoop, this]

theorem cstr_from_bytes_until_nul_inner_eq (fuel : Nat) (bytes : List Nat)
    (hb : bytes.length < 2 ^ 64) (hf : bytes.length + 1 ≤ fuel) :
    Extracted.cstr_from_bytes_until_nul_inner fuel bytes =
      .ok (cstrInnerRes bytes (fromBytesUntilNulInner bytes)) := by
  unfold Extracted.cstr_from_bytes_until_nul_inner fromBytesUntilNulInner
  dsimp only
  rw [until_nul_loop fuel bytes 0 hb (by omega) (by omega) (by simp), List.drop_zero]
  cases untilNulLoop bytes.length bytes 0 <;> rfl

theorem cstr_from_bytes_until_nul_eq (fuel : Nat) (bytes : List Nat)
    (hb : bytes.length < 2 ^ 64) (hf : bytes.length + 1 ≤ fuel) :
    Extracted.cstr_from_bytes_until_nul fuel bytes =
      .ok (cstrUntilNulRes bytes (fromBytesUntilNul bytes)) := by
  unfold Extracted.cstr_from_bytes_until_nul fromBytesUntilNul
  rw [cstr_from_bytes_until_nul_inner_eq fuel bytes hb hf]
  cases fromBytesUntilNulInner bytes with
  | none => simp [cstrInnerRes, cstrUntilNulRes]
  | some r =>
    obtain ⟨v, n⟩ := r
    simp [cstrInnerRes, cstrUntilNulRes]

theorem cstr_make_not_null_term_err_eq {T : Type} (f : View → T) :
    (Extracted.cstr_make_not_null_term_err : Res (Except Extracted.FromBytesWithNulError T)) =
      withNulRes f (.err .notNulTerminated) := by
  simp [Extracted.cstr_make_not_null_term_err, withNulRes, huntNulError]

/-- the `.panic` outcome of the model (the `bytes[bytes.len() - 1]` bounds check in the guard of arm 2) is
    unreachable: the guard is only evaluated when a nul was found, so `bytes` is not empty -/
theorem fromBytesWithNul_ne_panic (bytes : List Nat) : fromBytesWithNul bytes ≠ .panic := by
  rw [fromBytesWithNul_eq]
  cases firstNul bytes with
  | none => exact WithNul.noConfusion
  | some k =>
    dsimp only
    split
    · exact WithNul.noConfusion
    · split <;> exact WithNul.noConfusion

/-- panic ↦ panic, which cannot happen (`fromBytesWithNul_ne_panic`); the `= .ok …` form is
    `cstr_from_bytes_with_nul_ok` -/
theorem cstr_from_bytes_with_nul_eq (fuel : Nat) (bytes : List Nat)
    (hb : bytes.length < 2 ^ 64) (hf : bytes.length + 1 ≤ fuel) :
    Extracted.cstr_from_bytes_with_nul fuel bytes =
      withNulRes (fun v => v.apply bytes) (fromBytesWithNul bytes) := by
  unfold Extracted.cstr_from_bytes_with_nul fromBytesWithNul
  rw [cstr_from_bytes_until_nul_inner_eq fuel bytes hb hf, fromBytesUntilNulInner_eq]
  cases hk : firstNul bytes with
  | none =>
    simp [cstrInnerRes, cstr_make_not_null_term_err_eq (fun v : View => v.apply bytes), withNulRes]
  | some k =>
    have hlt := firstNul_lt hk
    have hne : bytes ≠ [] := by intro e; rw [e] at hlt; simp at hlt
    have h1 : 1 ≤ bytes.length := by omega
    have hlast : bytes.getLast? = some (bytes.getLast hne) := List.getLast?_eq_some_getLast hne
    have hidx : bytes[bytes.length - 1]? = some (bytes.getLast hne) := by
      rw [← hlast, List.getLast?_eq_getElem?]
    simp only [Option.map_some, cstrInnerRes, Ctl.call_ok, Ctl.bind_eq, Ctl.bind_val, hlast]
    by_cases hlen : k + 1 = bytes.length
    · simp [hlen, withNulRes]
    · simp only [hlen, decide_false, Bool.false_eq_true, ↓reduceIte, Rs.usub, h1, Ctl.bind_val, Rs.index, hidx]
      by_cases hl0 : bytes.getLast hne = 0
      · simp [hl0, withNulRes, huntNulError]
      · simp [hl0, cstr_make_not_null_term_err_eq (fun v : View => v.apply bytes), withNulRes]

def withNulExcept? (bytes : List Nat) :
    WithNul → Option (Except Extracted.FromBytesWithNulError (List Nat))
  | .ok v => some (.ok (v.apply bytes))
  | .err k => some (.error { kind := huntNulError k })
  | .panic => none

theorem cstr_from_bytes_with_nul_ok (fuel : Nat) (bytes : List Nat)
    (hb : bytes.length < 2 ^ 64) (hf : bytes.length + 1 ≤ fuel) :
    ∃ e, withNulExcept? bytes (fromBytesWithNul bytes) = some e ∧
      Extracted.cstr_from_bytes_with_nul fuel bytes = .ok e := by
  rw [cstr_from_bytes_with_nul_eq fuel bytes hb hf]
  have hp := fromBytesWithNul_ne_panic bytes
  cases hr : fromBytesWithNul bytes with
  | ok v => exact ⟨_, rfl, rfl⟩
  | err k => exact ⟨_, rfl, rfl⟩
  | panic => exact absurd hr hp

/-! ### concrete instances (b"ab\0", b"a\0b", b"ab", b"", b"\0") -/

example : Extracted.cstr_from_bytes_until_nul_inner 4 [97, 98, 0] =
    .ok (.ok { cstr := [97, 98, 0], length_with_nul := 3 }) :=
  cstr_from_bytes_until_nul_inner_eq 4 [97, 98, 0] (by decide) (by decide)
example : Extracted.cstr_from_bytes_until_nul_inner 4 [97, 0, 98] =
    .ok (.ok { cstr := [97, 0], length_with_nul := 2 }) :=
  cstr_from_bytes_until_nul_inner_eq 4 [97, 0, 98] (by decide) (by decide)
example : Extracted.cstr_from_bytes_until_nul_inner 3 [97, 98] = .ok (.error ⟨()⟩) :=
  cstr_from_bytes_until_nul_inner_eq 3 [97, 98] (by decide) (by decide)
example : Extracted.cstr_from_bytes_until_nul_inner 1 [] = .ok (.error ⟨()⟩) :=
  cstr_from_bytes_until_nul_inner_eq 1 [] (by decide) (by decide)
example : Extracted.cstr_from_bytes_until_nul_inner 2 [0] =
    .ok (.ok { cstr := [0], length_with_nul := 1 }) :=
  cstr_from_bytes_until_nul_inner_eq 2 [0] (by decide) (by decide)

example : Extracted.cstr_from_bytes_until_nul 4 [97, 98, 0] = .ok (.ok [97, 98, 0]) :=
  cstr_from_bytes_until_nul_eq 4 [97, 98, 0] (by decide) (by decide)
example : Extracted.cstr_from_bytes_until_nul 4 [97, 0, 98] = .ok (.ok [97, 0]) :=
  cstr_from_bytes_until_nul_eq 4 [97, 0, 98] (by decide) (by decide)
example : Extracted.cstr_from_bytes_until_nul 3 [97, 98] = .ok (.error ⟨()⟩) :=
  cstr_from_bytes_until_nul_eq 3 [97, 98] (by decide) (by decide)
example : Extracted.cstr_from_bytes_until_nul 1 [] = .ok (.error ⟨()⟩) :=
  cstr_from_bytes_until_nul_eq 1 [] (by decide) (by decide)
example : Extracted.cstr_from_bytes_until_nul 2 [0] = .ok (.ok [0]) :=
  cstr_from_bytes_until_nul_eq 2 [0] (by decide) (by decide)

example : Extracted.cstr_from_bytes_with_nul 4 [97, 98, 0] = .ok (.ok [97, 98, 0]) :=
  cstr_from_bytes_with_nul_eq 4 [97, 98, 0] (by decide) (by decide)
/-- konst: `NotNulTerminated` (std's `CStr::from_bytes_with_nul(b"a\0b")` is `InteriorNul(1)`) -/
example : Extracted.cstr_from_bytes_with_nul 4 [97, 0, 98] = .ok (.error ⟨.NotNulTerminated⟩) :=
  cstr_from_bytes_with_nul_eq 4 [97, 0, 98] (by decide) (by decide)
example : Extracted.cstr_from_bytes_with_nul 4 [97, 0, 0] = .ok (.error ⟨.InternalNul 1⟩) :=
  cstr_from_bytes_with_nul_eq 4 [97, 0, 0] (by decide) (by decide)
example : Extracted.cstr_from_bytes_with_nul 3 [97, 98] = .ok (.error ⟨.NotNulTerminated⟩) :=
  cstr_from_bytes_with_nul_eq 3 [97, 98] (by decide) (by decide)
example : Extracted.cstr_from_bytes_with_nul 1 [] = .ok (.error ⟨.NotNulTerminated⟩) :=
  cstr_from_bytes_with_nul_eq 1 [] (by decide) (by decide)
example : Extracted.cstr_from_bytes_with_nul 2 [0] = .ok (.ok [0]) :=
  cstr_from_bytes_with_nul_eq 2 [0] (by decide) (by decide)

example : (Extracted.cstr_make_not_null_term_err : Res (Except Extracted.FromBytesWithNulError (List Nat))) =
    .ok (.error ⟨.NotNulTerminated⟩) :=
  cstr_make_not_null_term_err_eq (fun v => v.apply [97, 98])

end Extracted.Equiv
