import KonstVerif.Extracted.Gen.Str
import KonstVerif.Extracted.Equiv.Slice
import KonstVerif.Model.Utf8
import KonstVerif.Rs.LoopLemmas
/-
  Extracted = Model, for the char-boundary tests, the two boundary
  searches and the panicking string slicing functions of `konst_kernel::string` (C03).

  Bytes are `List Nat`; wherever the code casts `bytes[position] as i8` (`Rs.castUI 8`, wrapping) the
  model uses `asI8` (defined for `b < 256` only), hence the hypothesis `∀ b ∈ bytes, b < 256`.
  The model's `Except Panic View` results are compared through `resOfExcept`: `.ok v ↦ .ok (v.apply s)`,
  `.error _ ↦ .panic` (the panic message is not observable in the extraction).
-/
namespace Extracted.Equiv
open Rs Konst Konst.Utf8

theorem castUI8_eq_asI8 (b : Nat) (h : b < 256) : Rs.castUI 8 b = asI8 b := by
  have h1 : (b : Int) % 2 ^ 8 = b := Int.emod_eq_of_lt (Int.natCast_nonneg b) (Int.ofNat_lt.2 h)
  have h2 : ((b : Int) ≤ Rs.imax 8) ↔ b < 128 := Int.ofNat_le.trans Nat.lt_succ_iff.symm
  simp only [Rs.castUI, Rs.wrapI, asI8, h1, h2]
  rfl

theorem index_test (bytes : List Nat) (hb : ∀ b ∈ bytes, b < 256) (i : Nat) (hi : i < bytes.length) :
    decide (Rs.castUI 8 bytes[i] ≥ (-64 : Int)) = byteIsCharBoundary (bytes.getD i 0) := by
  rw [List.getD_eq_getElem?_getD, List.getElem?_eq_getElem hi, castUI8_eq_asI8 _ (hb _ (List.getElem_mem hi))]
  rfl

theorem is_char_boundary_bytes_eq (bytes : List Nat) (position : Nat) (hb : ∀ b ∈ bytes, b < 256) :
    Extracted.is_char_boundary_bytes bytes position = .ok (isCharBoundaryBytes bytes position) := by
  unfold Extracted.is_char_boundary_bytes isCharBoundaryBytes
  by_cases h1 : position = bytes.length
  · simp only [h1, ↓reduceIte, rs_eval, beq_self_eq_true, Bool.true_or]
  · by_cases h2 : position < bytes.length
    · simp only [h1, h2, ↓reduceIte, rs_eval, Rs.index_ok h2,
        index_test bytes hb position h2, beq_eq_false_iff_ne.2 h1, Bool.false_or]
    · simp only [h1, h2, ↓reduceIte, rs_eval, beq_eq_false_iff_ne.2 h1,
        Bool.false_or]

example : Extracted.is_char_boundary_bytes [0xE2, 0x82, 0xAC, 0x41] 3 = .ok true := by decide +kernel
example : Extracted.is_char_boundary_bytes [0xE2, 0x82, 0xAC, 0x41] 1
    = .ok (isCharBoundaryBytes [0xE2, 0x82, 0xAC, 0x41] 1) :=
  is_char_boundary_bytes_eq _ _ (by decide)

theorem is_char_boundary_forgiving_eq (bytes : List Nat) (position : Nat) (hb : ∀ b ∈ bytes, b < 256) :
    Extracted.is_char_boundary_forgiving bytes position = .ok (isCharBoundaryForgiving bytes position) := by
  unfold Extracted.is_char_boundary_forgiving isCharBoundaryForgiving
  by_cases h1 : position ≥ bytes.length
  · simp only [h1, ↓reduceIte, rs_eval, Bool.true_or]
  · have h2 : position < bytes.length := Nat.lt_of_not_le h1
    simp only [h1, ↓reduceIte, rs_eval, Rs.index_ok h2,
      index_test bytes hb position h2, Bool.false_or]

example : Extracted.is_char_boundary_forgiving [0xE2, 0x82, 0xAC, 0x41] 2 = .ok false := by decide +kernel
example : Extracted.is_char_boundary_forgiving [0xE2, 0x82, 0xAC, 0x41] 9
    = .ok (isCharBoundaryForgiving [0xE2, 0x82, 0xAC, 0x41] 9) :=
  is_char_boundary_forgiving_eq _ _ (by decide)

theorem isCharBoundaryForgiving_of_le {bytes : List Nat} {p : Nat} (h : bytes.length ≤ p) :
    isCharBoundaryForgiving bytes p = true := by
  simp only [isCharBoundaryForgiving, ge_iff_le, h, decide_true, Bool.true_or]

theorem lt_of_not_forgiving {bytes : List Nat} {p : Nat} (h : ¬ isCharBoundaryForgiving bytes p = true) :
    p < bytes.length :=
  Nat.lt_of_not_le fun hle => h (isCharBoundaryForgiving_of_le hle)

theorem find_next_loop1_eq (bytes : List Nat) (hb : ∀ b ∈ bytes, b < 256) (p : Nat) (hp : p + 1 < 2 ^ 64) :
    Extracted.find_next_char_boundary.loop1 bytes p =
      if isCharBoundaryForgiving bytes (p + 1) = true then .exit (.brk (p + 1, p + 1)) else .val (p + 1) := by
  simp only [Extracted.find_next_char_boundary.loop1, rs_eval, Rs.uadd_ok hp, is_char_boundary_forgiving_eq _ _ hb]
  cases isCharBoundaryForgiving bytes (p + 1) <;> rfl

/-- Positions `≥ bytes.len()` pass the test, so the checked `position += 1` stays in range when `p + 1` and
    `bytes.len()` are. -/
theorem find_next_loop (n : Nat) (bytes : List Nat) (p : Nat) (hb : ∀ b ∈ bytes, b < 256)
    (hp : p + 1 < 2 ^ 64) (hl : bytes.length < 2 ^ 64) (hn : bytes.length - p < n) :
    Rs.loop (ε := Nat) n (Extracted.find_next_char_boundary.loop1 bytes) p
      = Ctl.val (findNextCharBoundary bytes p, findNextCharBoundary bytes p) := by
  refine Rs.loop_eq _ (fun p => bytes.length - p) (fun p => p + 1 < 2 ^ 64)
    (fun p => .val (findNextCharBoundary bytes p, findNextCharBoundary bytes p)) ?_ n p hp hn
  intro p k hp ih
  rw [Rs.loopStep, find_next_loop1_eq bytes hb p hp]
  by_cases ht : isCharBoundaryForgiving bytes (p + 1) = true
  · rw [if_pos ht, findNextCharBoundary, dif_pos ht]
  · rw [if_neg ht, findNextCharBoundary, dif_neg ht]
    have hlt := lt_of_not_forgiving ht
    exact ih (p + 1) (Nat.lt_of_le_of_lt hlt hl) (Nat.sub_lt_sub_left (Nat.lt_of_succ_lt hlt) (Nat.lt_succ_self p))

theorem findNext_le (bytes : List Nat) (p : Nat) :
    findNextCharBoundary bytes p ≤ max (p + 1) bytes.length := by
  fun_induction findNextCharBoundary bytes p with
  | case1 p ht => exact Nat.le_max_left ..
  | case2 p ht ih =>
    have hlt : p + 1 + 1 ≤ bytes.length := lt_of_not_forgiving ht
    exact Nat.le_trans ih (Nat.max_le.2 ⟨Nat.le_trans hlt (Nat.le_max_right ..), Nat.le_max_right ..⟩)

/-- `__find_next_char_boundary` returns the model's value, provided the checked `position += 1`
    cannot overflow: `position + 1` and `bytes.len()` fit in a `usize` (true for every Rust slice,
    whose length is `≤ isize::MAX`, and every `position < usize::MAX`).
    Fuel: one iteration per position visited, at most `bytes.len() - position` (and at least 1). -/
theorem find_next_char_boundary_eq (fuel : Nat) (bytes : List Nat) (position : Nat)
    (hb : ∀ b ∈ bytes, b < 256)
    (hp : position + 1 < 2 ^ 64) (hl : bytes.length < 2 ^ 64)
    (hf : bytes.length - position + 1 ≤ fuel) :
    Extracted.find_next_char_boundary fuel bytes position = .ok (findNextCharBoundary bytes position) := by
  unfold Extracted.find_next_char_boundary
  rw [find_next_loop fuel bytes position hb hp hl hf]
  rfl

/-- the remaining case: `position == usize::MAX` — the first `position += 1` overflows (the model is
    total there; the code panics) -/
theorem find_next_char_boundary_overflow (fuel : Nat) (bytes : List Nat) (position : Nat)
    (hp : ¬ position + 1 < 2 ^ 64) (hf : 1 ≤ fuel) :
    Extracted.find_next_char_boundary fuel bytes position = .panic := by
  have h1 : Extracted.find_next_char_boundary.loop1 bytes position = .panic := by
    rw [Extracted.find_next_char_boundary.loop1, Rs.uadd, if_neg hp]
    rfl
  cases fuel with
  | zero => exact absurd hf (Nat.not_succ_le_zero 0)
  | succ n =>
    rw [Extracted.find_next_char_boundary, Rs.loop_succ, h1]
    rfl

example : Extracted.find_next_char_boundary 4 [0xE2, 0x82, 0xAC, 0x41] 0 = .ok 3 := by decide +kernel
example : Extracted.find_next_char_boundary 5 [0xE2, 0x82, 0xAC, 0x41] 0
    = .ok (findNextCharBoundary [0xE2, 0x82, 0xAC, 0x41] 0) :=
  find_next_char_boundary_eq _ _ _ (by decide) (by decide) (by decide) (by decide)

/-- result of the model's `Option` (`none` = the `position -= 1` underflow) as a `Res` -/
def resOfOption {α : Type} : Option α → Res α
  | some a => .ok a
  | none => .panic

@[simp] theorem resOfOption_some {α : Type} (a : α) : resOfOption (some a) = .ok a := rfl
@[simp] theorem resOfOption_none {α : Type} : resOfOption (none : Option α) = .panic := rfl

theorem find_prev_loop1_eq (bytes : List Nat) (hb : ∀ b ∈ bytes, b < 256) (p : Nat) :
    Extracted.find_prev_char_boundary.loop1 bytes p =
      if isCharBoundaryForgiving bytes p = true then .exit (.brk p) else Rs.usub 64 p 1 := by
  simp only [Extracted.find_prev_char_boundary.loop1, rs_eval, is_char_boundary_forgiving_eq _ _ hb]
  cases isCharBoundaryForgiving bytes p <;> rfl

theorem find_prev_loop (n : Nat) (bytes : List Nat) (p : Nat) (hb : ∀ b ∈ bytes, b < 256)
    (hn : min p bytes.length + 1 ≤ n) :
    Rs.loop (ε := Nat) n (Extracted.find_prev_char_boundary.loop1 bytes) p
      = (findPrevLoop bytes p).elim Ctl.panic Ctl.val := by
  induction n generalizing p with
  | zero => exact absurd hn (Nat.not_succ_le_zero _)
  | succ n ih =>
    rw [Rs.loop_succ, find_prev_loop1_eq bytes hb, findPrevLoop.eq_def]
    cases p with
    | zero => cases isCharBoundaryForgiving bytes 0 <;> rfl
    | succ p =>
      by_cases ht : isCharBoundaryForgiving bytes (p + 1) = true
      · simp only [ht, ↓reduceIte, Option.elim_some]
      · rw [Nat.min_eq_left (Nat.le_of_lt (lt_of_not_forgiving ht))] at hn
        simp only [ht, Bool.false_eq_true, ↓reduceIte, Rs.usub_ok (Nat.le_add_left 1 p), Nat.add_sub_cancel]
        exact ih p (Nat.le_trans (Nat.succ_le_succ (Nat.min_le_left p _)) (Nat.le_of_succ_le_succ hn))

/-- `__find_prev_char_boundary`: the code returns the model's `some k`, and panics (arithmetic
    underflow of `position -= 1` at `position == 0`) exactly when the model returns `none`,
    i.e. when no position `≤ position - 1` passes the forgiving test.  No machine bound is needed
    (the position only decreases).
    Fuel: the loop visits `position - 1`, `position - 2`, …; positions `≥ bytes.len()` pass at once. -/
theorem find_prev_char_boundary_eq (fuel : Nat) (bytes : List Nat) (position : Nat)
    (hb : ∀ b ∈ bytes, b < 256)
    (hf : min (position - 1) bytes.length + 1 ≤ fuel) :
    Extracted.find_prev_char_boundary fuel bytes position
      = resOfOption (findPrevCharBoundary bytes position) := by
  unfold Extracted.find_prev_char_boundary findPrevCharBoundary Rs.uSaturatingSub
  rw [find_prev_loop fuel bytes (position - 1) hb hf]
  cases findPrevLoop bytes (position - 1) <;> rfl

/-- the precondition under which the Rust loop terminates without panic: position 0 passes the
    forgiving test (`bytes` is empty or `bytes[0]` is not a continuation byte — true for every
    `&str`).  Then the model (and the code) return a position. -/
theorem findPrevLoop_isSome (bytes : List Nat) (h0 : isCharBoundaryForgiving bytes 0 = true) (p : Nat) :
    ∃ k, findPrevLoop bytes p = some k := by
  fun_induction findPrevLoop bytes p with
  | case1 => exact ⟨0, rfl⟩
  | case2 h => exact absurd h0 h
  | case3 p => exact ⟨p + 1, rfl⟩
  | case4 p _ ih => exact ih

theorem find_prev_char_boundary_ok (fuel : Nat) (bytes : List Nat) (position : Nat)
    (hb : ∀ b ∈ bytes, b < 256) (h0 : isCharBoundaryForgiving bytes 0 = true)
    (hf : min (position - 1) bytes.length + 1 ≤ fuel) :
    ∃ k, findPrevCharBoundary bytes position = some k ∧
      Extracted.find_prev_char_boundary fuel bytes position = .ok k := by
  obtain ⟨k, hk⟩ := findPrevLoop_isSome bytes h0 (position - 1)
  refine ⟨k, hk, ?_⟩
  rw [find_prev_char_boundary_eq fuel bytes position hb hf]
  exact congrArg resOfOption hk

example : Extracted.find_prev_char_boundary 4 [0x41, 0xE2, 0x82, 0xAC] 4 = .ok 1 := by decide +kernel
example : Extracted.find_prev_char_boundary 4 [0x82, 0xAC, 0x41] 2 = .panic := by decide +kernel
example : Extracted.find_prev_char_boundary 4 [0x82, 0xAC, 0x41] 2
    = resOfOption (findPrevCharBoundary [0x82, 0xAC, 0x41] 2) :=
  find_prev_char_boundary_eq _ _ _ (by decide) (by decide)

/-- `__from_u8_subslice_of_str` is `from_utf8_unchecked` (`debug` feature off): the identity on the
    bytes.  The model has no separate definition for it (Model/Utf8.lean, header): the views returned by
    `strUpTo`/`strFrom`/`strRange` are applied to the bytes directly. -/
theorem from_u8_subslice_of_str_eq (s : List Nat) : Extracted.from_u8_subslice_of_str s = .ok s := rfl

def resOfExcept (s : List Nat) : Except Panic View → Res (List Nat)
  | .ok v => .ok (v.apply s)
  | .error _ => .panic

@[simp] theorem resOfExcept_ok (s : List Nat) (v : View) : resOfExcept s (.ok v) = .ok (v.apply s) := rfl
@[simp] theorem resOfExcept_error (s : List Nat) (e : Panic) : resOfExcept s (.error e) = .panic := rfl

theorem str_up_to_eq (string : List Nat) (len : Nat) (hb : ∀ b ∈ string, b < 256) :
    Extracted.str_up_to string len = resOfExcept string (strUpTo string len) := by
  simp only [Extracted.str_up_to, strUpTo, is_char_boundary_forgiving_eq _ _ hb, slice_up_to_eq,
    from_u8_subslice_of_str_eq, rs_eval]
  cases isCharBoundaryForgiving string len <;> rfl

theorem str_up_to_ok (string : List Nat) (len : Nat) (hb : ∀ b ∈ string, b < 256)
    (h : isCharBoundaryForgiving string len = true) :
    Extracted.str_up_to string len = .ok ((Slice.sliceUpTo string.length len).apply string) := by
  rw [str_up_to_eq _ _ hb, strUpTo, if_pos h]
  rfl

theorem str_up_to_panic (string : List Nat) (len : Nat) (hb : ∀ b ∈ string, b < 256)
    (h : isCharBoundaryForgiving string len = false) :
    Extracted.str_up_to string len = .panic := by
  rw [str_up_to_eq _ _ hb, strUpTo, h]
  rfl

example : Extracted.str_up_to [0x41, 0xE2, 0x82, 0xAC] 1 = .ok [0x41] := by decide +kernel
example : Extracted.str_up_to [0x41, 0xE2, 0x82, 0xAC] 2 = .panic := by decide +kernel
example : Extracted.str_up_to [0x41, 0xE2, 0x82, 0xAC] 2
    = resOfExcept [0x41, 0xE2, 0x82, 0xAC] (strUpTo [0x41, 0xE2, 0x82, 0xAC] 2) :=
  str_up_to_eq _ _ (by decide)

theorem str_from_eq (string : List Nat) (start : Nat) (hb : ∀ b ∈ string, b < 256) :
    Extracted.str_from string start = resOfExcept string (strFrom string start) := by
  simp only [Extracted.str_from, strFrom, is_char_boundary_forgiving_eq _ _ hb, slice_from_eq,
    from_u8_subslice_of_str_eq, rs_eval]
  cases isCharBoundaryForgiving string start <;> rfl

theorem str_from_ok (string : List Nat) (start : Nat) (hb : ∀ b ∈ string, b < 256)
    (h : isCharBoundaryForgiving string start = true) :
    Extracted.str_from string start = .ok ((Slice.sliceFrom string.length start).apply string) := by
  rw [str_from_eq _ _ hb, strFrom, if_pos h]
  rfl

theorem str_from_panic (string : List Nat) (start : Nat) (hb : ∀ b ∈ string, b < 256)
    (h : isCharBoundaryForgiving string start = false) :
    Extracted.str_from string start = .panic := by
  rw [str_from_eq _ _ hb, strFrom, h]
  rfl

example : Extracted.str_from [0x41, 0xE2, 0x82, 0xAC] 1 = .ok [0xE2, 0x82, 0xAC] := by decide +kernel
example : Extracted.str_from [0x41, 0xE2, 0x82, 0xAC] 3 = .panic := by decide +kernel
example : Extracted.str_from [0x41, 0xE2, 0x82, 0xAC] 1
    = resOfExcept [0x41, 0xE2, 0x82, 0xAC] (strFrom [0x41, 0xE2, 0x82, 0xAC] 1) :=
  str_from_eq _ _ (by decide)

theorem str_range_eq (string : List Nat) (start end_ : Nat) (hb : ∀ b ∈ string, b < 256) :
    Extracted.str_range string start end_ = resOfExcept string (strRange string start end_) := by
  simp only [Extracted.str_range, strRange, is_char_boundary_forgiving_eq _ _ hb, slice_range_eq,
    from_u8_subslice_of_str_eq, rs_eval]
  cases isCharBoundaryForgiving string start
  · rfl
  · cases isCharBoundaryForgiving string end_ <;> rfl

theorem str_range_ok (string : List Nat) (start end_ : Nat) (hb : ∀ b ∈ string, b < 256)
    (h1 : isCharBoundaryForgiving string start = true) (h2 : isCharBoundaryForgiving string end_ = true) :
    Extracted.str_range string start end_
      = .ok ((Slice.sliceRange string.length start end_).apply string) := by
  rw [str_range_eq _ _ _ hb, strRange, h1, h2]
  rfl

theorem str_range_panic (string : List Nat) (start end_ : Nat) (hb : ∀ b ∈ string, b < 256)
    (h : isCharBoundaryForgiving string start = false ∨ isCharBoundaryForgiving string end_ = false) :
    Extracted.str_range string start end_ = .panic := by
  rw [str_range_eq _ _ _ hb, strRange]
  rcases h with h | h
  · rw [h]
    rfl
  · rw [h]
    cases isCharBoundaryForgiving string start <;> rfl

example : Extracted.str_range [0x41, 0xE2, 0x82, 0xAC, 0x42] 1 4 = .ok [0xE2, 0x82, 0xAC] := by decide +kernel
example : Extracted.str_range [0x41, 0xE2, 0x82, 0xAC, 0x42] 1 3 = .panic := by decide +kernel
example : Extracted.str_range [0x41, 0xE2, 0x82, 0xAC, 0x42] 1 4
    = resOfExcept [0x41, 0xE2, 0x82, 0xAC, 0x42] (strRange [0x41, 0xE2, 0x82, 0xAC, 0x42] 1 4) :=
  str_range_eq _ _ _ (by decide)

end Extracted.Equiv
