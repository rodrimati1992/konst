import KonstVerif.Extracted.Gen.Parser
import KonstVerif.Model.Basic
import KonstVerif.Lemmas.Slice
import KonstVerif.Rs.LoopLemmas
/-
  What the proofs about `konst::parsing::Parser` (Equiv/ParserA.lean, Equiv/ParserB.lean) share: the `u32`
  offset arithmetic of `ParseError::new` and of the `enable_if_start!` update.
-/
namespace Extracted.Equiv
open Rs Konst

theorem castUU32_of_lt (a : Nat) (h : a < 2 ^ 32) : Rs.castUU 32 a = a :=
  Nat.mod_eq_of_lt h

theorem length_lt_of_fit {off n : Nat} (hfit : off + n < 2 ^ 32) : n < 2 ^ 64 :=
  Nat.lt_trans (Nat.lt_of_le_of_lt (Nat.le_add_left n off) hfit) (by decide)

/-- `start_offset + (k as u32)` for `k` within the remainder: the cast and the checked `u32` addition are exact -/
theorem offset_add {ε : Type} (start len k : Nat) (hfit : start + len < 2 ^ 32) (hk : k ≤ len) :
    (Rs.uadd 32 start (Rs.castUU 32 k) : Ctl ε Nat) = .val (start + k) := by
  have h2 : start + k < 2 ^ 32 := Nat.lt_of_le_of_lt (Nat.add_le_add_left hk start) hfit
  rw [castUU32_of_lt k (Nat.lt_of_le_of_lt (Nat.le_add_left k start) h2), Rs.uadd_ok h2]

/-- `self.start_offset += (copy.str.len() - self.str.len()) as u32; rest` for a remainder no longer than
    the old one: the `usize` subtraction, the cast and the checked `u32` addition are all exact -/
theorem offset_update {ε α : Type} (start oldLen newLen : Nat) (k : Nat → Ctl ε α)
    (hfit : start + oldLen < 2 ^ 32) (hle : newLen ≤ oldLen) :
    (Rs.usub (ε := ε) 64 oldLen newLen).bind (fun t => (Rs.uadd 32 start (Rs.castUU 32 t)).bind k)
      = k (start + (oldLen - newLen)) := by
  rw [Rs.usub_ok hle, Ctl.bind_val, offset_add start oldLen _ hfit (Nat.sub_le oldLen newLen), Ctl.bind_val]

/-- `ParseError::new` (checked `u32` addition of the end offset) under the `u32` fit hypothesis -/
theorem parseError_new_mk (d : Extracted.ParseDirection) (y : Bool) (off : Nat) (s : List Nat)
    (k : Extracted.ErrorKind) (hfit : off + s.length < 2 ^ 32) :
    Extracted.ParseError.new ⟨d, y, off, s⟩ k
      = .ok { start_offset := off, end_offset := off + s.length, direction := d, kind := k,
              extra_message := [], _lifetime := () } := by
  simp only [Extracted.ParseError.new, offset_add off s.length _ hfit (Nat.le_refl _), rs_eval]

end Extracted.Equiv
