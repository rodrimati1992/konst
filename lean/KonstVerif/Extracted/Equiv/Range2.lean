import KonstVerif.Extracted.Gen.Range2
import KonstVerif.Extracted.Equiv.Range
/-
  Extracted (from /repo) = Model, for the remaining integer arms of
  `konst_kernel::step_kk::increment` / `decrement` (C09): u16, u32, u64, i16, i32, isize
  (`isize` = 64-bit signed, the target the checks run on).  Same statements as the sibling arms in
  `Equiv/Range.lean`, and instances of the same four width-generic theorems (`incrementU_eq`, …).
-/
namespace Extracted.Equiv
open Rs Konst Konst.Range

/-! ### `u16` (`MIN = 0`, `MAX = 65535`) -/
theorem increment_u16_eq (start end_ : Nat) (hs : start ≤ 65535) :
    ∃ r, intIncrement 0 65535 start end_ = some r ∧
      Extracted.increment_u16 start end_ = .ok (ofModel Int.toNat r) ∧
      toModel Int.ofNat (ofModel Int.toNat r) = r :=
  incrementU_eq 16 65535 (by decide) start end_ hs

example : Extracted.increment_u16 5 7 = .ok ⟨false, false, false, 6⟩ := by decide +kernel
example : Extracted.increment_u16 65535 0 = .ok ⟨true, true, true, 0⟩ := by decide +kernel
example : ∃ r, intIncrement 0 65535 (65535 : Nat) (3 : Nat) = some r ∧ Extracted.increment_u16 65535 3 = .ok (ofModel Int.toNat r) ∧
    toModel Int.ofNat (ofModel Int.toNat r) = r :=
  increment_u16_eq _ _ (by decide)

theorem decrement_u16_eq (start end_ : Nat) (he : end_ ≤ 65535) :
    ∃ r, intDecrement 0 65535 start end_ = some r ∧
      Extracted.decrement_u16 start end_ = .ok (ofModel Int.toNat r) ∧
      toModel Int.ofNat (ofModel Int.toNat r) = r :=
  decrementU_eq 16 65535 (by decide) start end_ he

example : Extracted.decrement_u16 5 7 = .ok ⟨false, false, false, 6⟩ := by decide +kernel
example : Extracted.decrement_u16 65535 0 = .ok ⟨true, true, true, 65535⟩ := by decide +kernel
example : ∃ r, intDecrement 0 65535 (3 : Nat) (0 : Nat) = some r ∧ Extracted.decrement_u16 3 0 = .ok (ofModel Int.toNat r) ∧
    toModel Int.ofNat (ofModel Int.toNat r) = r :=
  decrement_u16_eq _ _ (by decide)

/-! ### `u32` (`MIN = 0`, `MAX = 4294967295`) -/
theorem increment_u32_eq (start end_ : Nat) (hs : start ≤ 4294967295) :
    ∃ r, intIncrement 0 4294967295 start end_ = some r ∧
      Extracted.increment_u32 start end_ = .ok (ofModel Int.toNat r) ∧
      toModel Int.ofNat (ofModel Int.toNat r) = r :=
  incrementU_eq 32 4294967295 (by decide) start end_ hs

example : Extracted.increment_u32 5 7 = .ok ⟨false, false, false, 6⟩ := by decide +kernel
example : Extracted.increment_u32 4294967295 0 = .ok ⟨true, true, true, 0⟩ := by decide +kernel
example : ∃ r, intIncrement 0 4294967295 (4294967295 : Nat) (3 : Nat) = some r ∧ Extracted.increment_u32 4294967295 3 = .ok (ofModel Int.toNat r) ∧
    toModel Int.ofNat (ofModel Int.toNat r) = r :=
  increment_u32_eq _ _ (by decide)

theorem decrement_u32_eq (start end_ : Nat) (he : end_ ≤ 4294967295) :
    ∃ r, intDecrement 0 4294967295 start end_ = some r ∧
      Extracted.decrement_u32 start end_ = .ok (ofModel Int.toNat r) ∧
      toModel Int.ofNat (ofModel Int.toNat r) = r :=
  decrementU_eq 32 4294967295 (by decide) start end_ he

example : Extracted.decrement_u32 5 7 = .ok ⟨false, false, false, 6⟩ := by decide +kernel
example : Extracted.decrement_u32 4294967295 0 = .ok ⟨true, true, true, 4294967295⟩ := by decide +kernel
example : ∃ r, intDecrement 0 4294967295 (3 : Nat) (0 : Nat) = some r ∧ Extracted.decrement_u32 3 0 = .ok (ofModel Int.toNat r) ∧
    toModel Int.ofNat (ofModel Int.toNat r) = r :=
  decrement_u32_eq _ _ (by decide)

/-! ### `u64` (`MIN = 0`, `MAX = 18446744073709551615`) -/
theorem increment_u64_eq (start end_ : Nat) (hs : start ≤ 18446744073709551615) :
    ∃ r, intIncrement 0 18446744073709551615 start end_ = some r ∧
      Extracted.increment_u64 start end_ = .ok (ofModel Int.toNat r) ∧
      toModel Int.ofNat (ofModel Int.toNat r) = r :=
  incrementU_eq 64 18446744073709551615 (by decide) start end_ hs

example : Extracted.increment_u64 5 7 = .ok ⟨false, false, false, 6⟩ := by decide +kernel
example : Extracted.increment_u64 18446744073709551615 0 = .ok ⟨true, true, true, 0⟩ := by decide +kernel
example : ∃ r, intIncrement 0 18446744073709551615 (18446744073709551615 : Nat) (3 : Nat) = some r ∧ Extracted.increment_u64 18446744073709551615 3 = .ok (ofModel Int.toNat r) ∧
    toModel Int.ofNat (ofModel Int.toNat r) = r :=
  increment_u64_eq _ _ (by decide)

theorem decrement_u64_eq (start end_ : Nat) (he : end_ ≤ 18446744073709551615) :
    ∃ r, intDecrement 0 18446744073709551615 start end_ = some r ∧
      Extracted.decrement_u64 start end_ = .ok (ofModel Int.toNat r) ∧
      toModel Int.ofNat (ofModel Int.toNat r) = r :=
  decrementU_eq 64 18446744073709551615 (by decide) start end_ he

example : Extracted.decrement_u64 5 7 = .ok ⟨false, false, false, 6⟩ := by decide +kernel
example : Extracted.decrement_u64 18446744073709551615 0 = .ok ⟨true, true, true, 18446744073709551615⟩ := by decide +kernel
example : ∃ r, intDecrement 0 18446744073709551615 (3 : Nat) (0 : Nat) = some r ∧ Extracted.decrement_u64 3 0 = .ok (ofModel Int.toNat r) ∧
    toModel Int.ofNat (ofModel Int.toNat r) = r :=
  decrement_u64_eq _ _ (by decide)

/-! ### `i16` (`MIN = -32768`, `MAX = 32767`) -/
theorem increment_i16_eq (start end_ : Int) (hs : -32768 ≤ start ∧ start ≤ 32767) :
    ∃ r, intIncrement (-32768) 32767 start end_ = some r ∧
      Extracted.increment_i16 start end_ = .ok (ofModel id r) :=
  incrementI_eq 16 (by decide) (-32768) 32767 rfl rfl start end_ hs

example : Extracted.increment_i16 5 7 = .ok ⟨false, false, false, 6⟩ := by decide +kernel
example : Extracted.increment_i16 32767 (-32768) = .ok ⟨true, true, true, -32768⟩ := by decide +kernel
example : ∃ r, intIncrement (-32768) 32767 32767 32767 = some r ∧ Extracted.increment_i16 32767 32767 = .ok (ofModel id r) :=
  increment_i16_eq _ _ (by decide)

theorem decrement_i16_eq (start end_ : Int) (he : -32768 ≤ end_ ∧ end_ ≤ 32767) :
    ∃ r, intDecrement (-32768) 32767 start end_ = some r ∧
      Extracted.decrement_i16 start end_ = .ok (ofModel id r) :=
  decrementI_eq 16 (by decide) (-32768) 32767 rfl rfl start end_ he

example : Extracted.decrement_i16 5 7 = .ok ⟨false, false, false, 6⟩ := by decide +kernel
example : Extracted.decrement_i16 32767 (-32768) = .ok ⟨true, true, true, 32767⟩ := by decide +kernel
example : ∃ r, intDecrement (-32768) 32767 (-32768) (-32768) = some r ∧ Extracted.decrement_i16 (-32768) (-32768) = .ok (ofModel id r) :=
  decrement_i16_eq _ _ (by decide)

/-! ### `i32` (`MIN = -2147483648`, `MAX = 2147483647`) -/
theorem increment_i32_eq (start end_ : Int) (hs : -2147483648 ≤ start ∧ start ≤ 2147483647) :
    ∃ r, intIncrement (-2147483648) 2147483647 start end_ = some r ∧
      Extracted.increment_i32 start end_ = .ok (ofModel id r) :=
  incrementI_eq 32 (by decide) (-2147483648) 2147483647 rfl rfl start end_ hs

example : Extracted.increment_i32 5 7 = .ok ⟨false, false, false, 6⟩ := by decide +kernel
example : Extracted.increment_i32 2147483647 (-2147483648) = .ok ⟨true, true, true, -2147483648⟩ := by decide +kernel
example : ∃ r, intIncrement (-2147483648) 2147483647 2147483647 2147483647 = some r ∧ Extracted.increment_i32 2147483647 2147483647 = .ok (ofModel id r) :=
  increment_i32_eq _ _ (by decide)

theorem decrement_i32_eq (start end_ : Int) (he : -2147483648 ≤ end_ ∧ end_ ≤ 2147483647) :
    ∃ r, intDecrement (-2147483648) 2147483647 start end_ = some r ∧
      Extracted.decrement_i32 start end_ = .ok (ofModel id r) :=
  decrementI_eq 32 (by decide) (-2147483648) 2147483647 rfl rfl start end_ he

example : Extracted.decrement_i32 5 7 = .ok ⟨false, false, false, 6⟩ := by decide +kernel
example : Extracted.decrement_i32 2147483647 (-2147483648) = .ok ⟨true, true, true, 2147483647⟩ := by decide +kernel
example : ∃ r, intDecrement (-2147483648) 2147483647 (-2147483648) (-2147483648) = some r ∧ Extracted.decrement_i32 (-2147483648) (-2147483648) = .ok (ofModel id r) :=
  decrement_i32_eq _ _ (by decide)

/-! ### `isize` (`MIN = -9223372036854775808`, `MAX = 9223372036854775807`) -/
theorem increment_isize_eq (start end_ : Int) (hs : -9223372036854775808 ≤ start ∧ start ≤ 9223372036854775807) :
    ∃ r, intIncrement (-9223372036854775808) 9223372036854775807 start end_ = some r ∧
      Extracted.increment_isize start end_ = .ok (ofModel id r) :=
  incrementI_eq 64 (by decide) (-9223372036854775808) 9223372036854775807 rfl rfl start end_ hs

example : Extracted.increment_isize 5 7 = .ok ⟨false, false, false, 6⟩ := by decide +kernel
example : Extracted.increment_isize 9223372036854775807 (-9223372036854775808) = .ok ⟨true, true, true, -9223372036854775808⟩ := by decide +kernel
example : ∃ r, intIncrement (-9223372036854775808) 9223372036854775807 9223372036854775807 9223372036854775807 = some r ∧ Extracted.increment_isize 9223372036854775807 9223372036854775807 = .ok (ofModel id r) :=
  increment_isize_eq _ _ (by decide)

theorem decrement_isize_eq (start end_ : Int) (he : -9223372036854775808 ≤ end_ ∧ end_ ≤ 9223372036854775807) :
    ∃ r, intDecrement (-9223372036854775808) 9223372036854775807 start end_ = some r ∧
      Extracted.decrement_isize start end_ = .ok (ofModel id r) :=
  decrementI_eq 64 (by decide) (-9223372036854775808) 9223372036854775807 rfl rfl start end_ he

example : Extracted.decrement_isize 5 7 = .ok ⟨false, false, false, 6⟩ := by decide +kernel
example : Extracted.decrement_isize 9223372036854775807 (-9223372036854775808) = .ok ⟨true, true, true, 9223372036854775807⟩ := by decide +kernel
example : ∃ r, intDecrement (-9223372036854775808) 9223372036854775807 (-9223372036854775808) (-9223372036854775808) = some r ∧ Extracted.decrement_isize (-9223372036854775808) (-9223372036854775808) = .ok (ofModel id r) :=
  decrement_isize_eq _ _ (by decide)

end Extracted.Equiv
