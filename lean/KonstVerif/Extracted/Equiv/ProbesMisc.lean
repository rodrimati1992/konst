import KonstVerif.Extracted.Gen.ProbesMisc
import KonstVerif.Extracted.Equiv.Cmp
import KonstVerif.Extracted.Equiv.Cmp2
import KonstVerif.Extracted.Equiv.CmpFor
import KonstVerif.Extracted.Equiv.ParseInt
import KonstVerif.Extracted.Equiv.Split
import KonstVerif.Extracted.Equiv.Chars
import KonstVerif.Model.OptRes
import KonstVerif.Spec.OptRes
import KonstVerif.Props.C06
import KonstVerif.Props.C16
import KonstVerif.Props.C19
/-
  Extracted (the rustc expansion of the probe crate `translator/probes/src/lib.rs`, plus the
  `CmpWrapper<T>` impl methods those call sites dispatch to) = the std meaning, group `ProbesMisc`
  (22 functions + 3 hoisted loop bodies):

    cmp_u32, CmpWrapper_{u8,u32}.{const_eq,const_cmp}, CmpWrapper_{bytes,str}.{const_eq,const_cmp}   (C16)
    cm_eq_slices, cm_cmp_u32, cm_eq_str, cm_eq_opt, cm_cmp_slice_for      (`const_eq!`/`const_cmp!`/`const_cmp_for!`)
    mm_min, mm_max, mm_min_by_key, mm_max_by_key                           (`min!`/`max!`/`min_by_key!`/`max_by_key!`, C19)
    rb_try_rebind, rb_rebind_if_ok                                         (`try_rebind!`/`rebind_if_ok!`, C19)
    it_split_count, it_chars_count                                         (`iter::eval!` over `string::split`/`chars`)

  For every function `f` the obligation theorem is `f_eq` (dots of the Lean name replaced by `_`): for ALL
  arguments, under exactly the machine-range / fuel hypotheses needed, `Extracted.f … = .ok <std meaning>`.
  Where a hand-written model definition exists (`Konst.Cmp.*`, `Konst.OptRes.minBy …`) a second theorem
  `f_model` relates to it.

  Ties of min/max (read off the expansion, and proved below):
    * `mm_min a b`          = `if let Greater = cmp(a, b) { b } else { a }`  : FIRST argument on `Equal`  (= std `min`)
    * `mm_max a b`          = `if let Greater = cmp(a, b) { a } else { b }`  : SECOND argument on `Equal` (= std `max`)
    * `mm_min_by_key a b`   = `[a, b]`, `if let Greater = cmp(a.0, b.0) { b } else { a }` : FIRST on equal keys
    * `mm_max_by_key a b`   = `[b, a]`, `if let Less = cmp(b.0, a.0) { a } else { b }`    : SECOND on equal keys
  (`mm_min`/`mm_max` are on `u32`, where equal values are indistinguishable; the `_by_key` probes are on pairs
  compared by the first component, where the tie rule is observable.)
-/
namespace Extracted.Equiv
open Rs Konst Konst.Cmp Konst.Spec.Cmp

/-! ## scalar comparison: `cmp_u32`, `CmpWrapper<u8>`, `CmpWrapper<u32>` -/

theorem cmp_u32_fn : Extracted.cmp_u32 = cmpScalarFn (α := Nat) := rfl

theorem cmp_u32_eq (left right : Nat) : Extracted.cmp_u32 left right = .ok (compare left right) := by
  rw [cmp_u32_fn, cmpScalarFn_val, compare_nat]

theorem cmp_u32_model (left right : Nat) :
    Extracted.cmp_u32 left right = .ok (cmpInt (Int.ofNat left) (Int.ofNat right)) := by
  rw [cmp_u32_fn]; exact cmpScalarFn_eq Int.ofNat ofNat_inj ofNat_lt left right

example : Extracted.cmp_u32 4294967295 7 = .ok .gt := by rw [cmp_u32_eq]; decide +kernel
example : Extracted.cmp_u32 7 4294967295 = .ok .lt := by rw [cmp_u32_eq]; decide +kernel

theorem CmpWrapper_u8_const_eq_eq (self other : Nat) :
    Extracted.CmpWrapper_u8.const_eq self other = .ok (decide (self = other)) := rfl

theorem CmpWrapper_u8_const_eq_model (self other : Nat) :
    Extracted.CmpWrapper_u8.const_eq self other = .ok (eqPrim (Int.ofNat self) (Int.ofNat other)) := by
  rw [CmpWrapper_u8_const_eq_eq]; simp only [eqPrim, ofNat_inj]

example : Extracted.CmpWrapper_u8.const_eq 200 200 = .ok true := by rw [CmpWrapper_u8_const_eq_eq]; decide +kernel

theorem CmpWrapper_u8_const_cmp_eq (self other : Nat) :
    Extracted.CmpWrapper_u8.const_cmp self other = .ok (compare self other) :=
  wrap_ok (cmp_u8_std self other)

theorem CmpWrapper_u8_const_cmp_model (self other : Nat) :
    Extracted.CmpWrapper_u8.const_cmp self other = .ok (cmpInt (Int.ofNat self) (Int.ofNat other)) :=
  wrap_ok (cmp_u8_eq self other)

example : Extracted.CmpWrapper_u8.const_cmp 3 200 = .ok .lt := by rw [CmpWrapper_u8_const_cmp_eq]; decide +kernel

theorem CmpWrapper_u32_const_eq_eq (self other : Nat) :
    Extracted.CmpWrapper_u32.const_eq self other = .ok (decide (self = other)) := rfl

theorem CmpWrapper_u32_const_eq_model (self other : Nat) :
    Extracted.CmpWrapper_u32.const_eq self other = .ok (eqPrim (Int.ofNat self) (Int.ofNat other)) := by
  rw [CmpWrapper_u32_const_eq_eq]; simp only [eqPrim, ofNat_inj]

example : Extracted.CmpWrapper_u32.const_eq 70000 70001 = .ok false := by
  rw [CmpWrapper_u32_const_eq_eq]; decide +kernel

theorem CmpWrapper_u32_const_cmp_eq (self other : Nat) :
    Extracted.CmpWrapper_u32.const_cmp self other = .ok (compare self other) :=
  wrap_ok (cmp_u32_eq self other)

theorem CmpWrapper_u32_const_cmp_model (self other : Nat) :
    Extracted.CmpWrapper_u32.const_cmp self other = .ok (cmpInt (Int.ofNat self) (Int.ofNat other)) :=
  wrap_ok (cmp_u32_model self other)

example : Extracted.CmpWrapper_u32.const_cmp 70001 70000 = .ok .gt := by
  rw [CmpWrapper_u32_const_cmp_eq]; decide +kernel

/-! ## `CmpWrapper<[u8]>`, `CmpWrapper<str>`: forwarding to `eq_bytes`/`cmp_bytes`/`eq_str`/`cmp_str`

  `_model`: the right-hand side of `eq_bytes_eq` … (`∃ v, Model.f (l.map ofNat) (r.map ofNat) = some v ∧ … = .ok v`).
  `_eq`: the std meaning, `==` on `List Nat` / lexicographic `Ord::cmp` (`lexCmp compare`), obtained from the
  model statement with `Props/C16.lean` (`eqSlice_iff`, `cmpSlice_eq_lex`, …). -/

theorem CmpWrapper_bytes_const_eq_model (fuel : Nat) (self other : List Nat)
    (hb : min self.length other.length < 2 ^ 64) (hf : min self.length other.length + 1 ≤ fuel) :
    ∃ b, eqSlice (self.map Int.ofNat) (other.map Int.ofNat) = some b ∧
      Extracted.CmpWrapper_bytes.const_eq fuel self other = .ok b :=
  wrap_eq (eq_bytes_eq fuel self other hb hf)

theorem CmpWrapper_bytes_const_eq_eq (fuel : Nat) (self other : List Nat)
    (hb : min self.length other.length < 2 ^ 64) (hf : min self.length other.length + 1 ≤ fuel) :
    Extracted.CmpWrapper_bytes.const_eq fuel self other = .ok (decide (self = other)) :=
  ok_of_model (CmpWrapper_bytes_const_eq_model fuel self other hb hf)
    ((Konst.Props.C16.eqSlice_iff _ _).trans (congrArg some (stdEq_map_ofNat self other)))

example : Extracted.CmpWrapper_bytes.const_eq 4 [1, 2, 3] [1, 2, 4] = .ok false := by
  rw [CmpWrapper_bytes_const_eq_eq _ _ _ (by decide +kernel) (by decide +kernel)]; decide +kernel

theorem CmpWrapper_bytes_const_cmp_model (fuel : Nat) (self other : List Nat)
    (hb : min self.length other.length < 2 ^ 64) (hf : min self.length other.length + 1 ≤ fuel) :
    ∃ c, cmpSlice (self.map Int.ofNat) (other.map Int.ofNat) = some c ∧
      Extracted.CmpWrapper_bytes.const_cmp fuel self other = .ok c :=
  wrap_eq (cmp_bytes_eq fuel self other hb hf)

theorem CmpWrapper_bytes_const_cmp_eq (fuel : Nat) (self other : List Nat)
    (hb : min self.length other.length < 2 ^ 64) (hf : min self.length other.length + 1 ≤ fuel) :
    Extracted.CmpWrapper_bytes.const_cmp fuel self other = .ok (lexCmp compare self other) :=
  ok_of_model (CmpWrapper_bytes_const_cmp_model fuel self other hb hf)
    ((Konst.Props.C16.cmpSlice_eq_lex _ _).trans (congrArg some (lexCmp_map_ofNat self other)))

example : Extracted.CmpWrapper_bytes.const_cmp 3 [1, 9] [1, 2, 0] = .ok .gt := by
  rw [CmpWrapper_bytes_const_cmp_eq _ _ _ (by decide +kernel) (by decide +kernel)]; decide +kernel

theorem CmpWrapper_str_const_eq_model (fuel : Nat) (self other : List Nat)
    (hb : min self.length other.length < 2 ^ 64) (hf : min self.length other.length + 1 ≤ fuel) :
    ∃ b, eqStr (self.map Int.ofNat) (other.map Int.ofNat) = some b ∧
      Extracted.CmpWrapper_str.const_eq fuel self other = .ok b :=
  wrap_eq (eq_str_eq fuel self other hb hf)

theorem CmpWrapper_str_const_eq_eq (fuel : Nat) (self other : List Nat)
    (hb : min self.length other.length < 2 ^ 64) (hf : min self.length other.length + 1 ≤ fuel) :
    Extracted.CmpWrapper_str.const_eq fuel self other = .ok (decide (self = other)) :=
  ok_of_model (CmpWrapper_str_const_eq_model fuel self other hb hf)
    ((Konst.Props.C16.eqStr_iff _ _).trans (congrArg some (stdEq_map_ofNat self other)))

example : Extracted.CmpWrapper_str.const_eq 3 [104, 105] [104, 105] = .ok true := by
  rw [CmpWrapper_str_const_eq_eq _ _ _ (by decide +kernel) (by decide +kernel)]; decide +kernel

theorem CmpWrapper_str_const_cmp_model (fuel : Nat) (self other : List Nat)
    (hb : min self.length other.length < 2 ^ 64) (hf : min self.length other.length + 1 ≤ fuel) :
    ∃ c, cmpStr (self.map Int.ofNat) (other.map Int.ofNat) = some c ∧
      Extracted.CmpWrapper_str.const_cmp fuel self other = .ok c :=
  wrap_eq (cmp_str_eq fuel self other hb hf)

theorem CmpWrapper_str_const_cmp_eq (fuel : Nat) (self other : List Nat)
    (hb : min self.length other.length < 2 ^ 64) (hf : min self.length other.length + 1 ≤ fuel) :
    Extracted.CmpWrapper_str.const_cmp fuel self other = .ok (lexCmp compare self other) :=
  ok_of_model (CmpWrapper_str_const_cmp_model fuel self other hb hf)
    ((Konst.Props.C16.cmpStr_eq_lex _ _).trans (congrArg some (lexCmp_map_ofNat self other)))

example : Extracted.CmpWrapper_str.const_cmp 3 [104, 105, 33] [104, 105] = .ok .gt := by
  rw [CmpWrapper_str_const_cmp_eq _ _ _ (by decide +kernel) (by decide +kernel)]; decide +kernel

/-! ## `const_eq!` / `const_cmp!` call sites (`coerce_to_cmp!` binds both operands once, then the method call) -/

/-- `const_eq!(a, b)` on `&[u8]` -/
theorem cm_eq_slices_eq (fuel : Nat) (a b : List Nat)
    (hb : min a.length b.length < 2 ^ 64) (hf : min a.length b.length + 1 ≤ fuel) :
    Extracted.cm_eq_slices fuel a b = .ok (decide (a = b)) :=
  wrap_ok (CmpWrapper_bytes_const_eq_eq fuel a b hb hf)

theorem cm_eq_slices_model (fuel : Nat) (a b : List Nat)
    (hb : min a.length b.length < 2 ^ 64) (hf : min a.length b.length + 1 ≤ fuel) :
    ∃ v, eqSlice (a.map Int.ofNat) (b.map Int.ofNat) = some v ∧ Extracted.cm_eq_slices fuel a b = .ok v :=
  wrap_eq (CmpWrapper_bytes_const_eq_model fuel a b hb hf)

example : Extracted.cm_eq_slices 4 [1, 2, 3] [1, 2, 3] = .ok true := by
  rw [cm_eq_slices_eq _ _ _ (by decide +kernel) (by decide +kernel)]; decide +kernel

/-- `const_cmp!(a, b)` on `u32` -/
theorem cm_cmp_u32_eq (fuel : Nat) (a b : Nat) : Extracted.cm_cmp_u32 fuel a b = .ok (compare a b) :=
  wrap_ok (CmpWrapper_u32_const_cmp_eq a b)

theorem cm_cmp_u32_model (fuel : Nat) (a b : Nat) :
    Extracted.cm_cmp_u32 fuel a b = .ok (cmpInt (Int.ofNat a) (Int.ofNat b)) :=
  wrap_ok (CmpWrapper_u32_const_cmp_model a b)

example : Extracted.cm_cmp_u32 0 5 70000 = .ok .lt := by rw [cm_cmp_u32_eq]; decide +kernel

/-- `const_eq!(a, b)` on `&str` -/
theorem cm_eq_str_eq (fuel : Nat) (a b : List Nat)
    (hb : min a.length b.length < 2 ^ 64) (hf : min a.length b.length + 1 ≤ fuel) :
    Extracted.cm_eq_str fuel a b = .ok (decide (a = b)) :=
  wrap_ok (CmpWrapper_str_const_eq_eq fuel a b hb hf)

theorem cm_eq_str_model (fuel : Nat) (a b : List Nat)
    (hb : min a.length b.length < 2 ^ 64) (hf : min a.length b.length + 1 ≤ fuel) :
    ∃ v, eqStr (a.map Int.ofNat) (b.map Int.ofNat) = some v ∧ Extracted.cm_eq_str fuel a b = .ok v :=
  wrap_eq (CmpWrapper_str_const_eq_model fuel a b hb hf)

example : Extracted.cm_eq_str 3 [104, 105] [104, 106] = .ok false := by
  rw [cm_eq_str_eq _ _ _ (by decide +kernel) (by decide +kernel)]; decide +kernel

/-- `const_eq_for!(option; a, b)` with the default element comparison (`CmpWrapper<u8>::const_eq`) = `==` on
    `Option<u8>` -/
theorem cm_eq_opt_eq (fuel : Nat) (a b : Option Nat) :
    Extracted.cm_eq_opt fuel a b = .ok (decide (a = b)) := by
  unfold Extracted.cm_eq_opt
  cases a <;> cases b <;> simp [CmpWrapper_u8_const_eq_eq]

theorem cm_eq_opt_model (fuel : Nat) (a b : Option Nat) :
    ∃ v, constEqForOption (fun x y => some (eqPrim x y)) (a.map Int.ofNat) (b.map Int.ofNat) = some v ∧
      Extracted.cm_eq_opt fuel a b = .ok v := by
  rw [cm_eq_opt_eq]
  cases a <;> cases b <;> simp [constEqForOption, eqPrim, Int.natCast_inj]

example : Extracted.cm_eq_opt 0 (some 3) (some 3) = .ok true := by rw [cm_eq_opt_eq]; decide +kernel
example : Extracted.cm_eq_opt 0 (some 3) none = .ok false := by rw [cm_eq_opt_eq]; decide +kernel

/-! ## `const_cmp_for!(slice; a, b)`: the explicit slice-pattern loop, elements by `CmpWrapper<u8>::const_cmp` -/

/-- the probe's loop body is the text of `const_cmp_for!(slice; …)` (`Equiv/CmpFor.lean`) over
    `CmpWrapper<u8>::const_cmp` (the `coerce` wrapper around the left element is the identity) -/
theorem cm_cmp_slice_for_loop1 :
    Extracted.cm_cmp_slice_for.loop1 = cmpForBody Extracted.CmpWrapper_u8.const_cmp := by
  funext ⟨a, b⟩
  cases a <;> cases b <;> rfl

/-- `const_cmp_for!(slice; a, b)` = lexicographic `Ord::cmp` on `&[u8]` — the same value as `cmp_bytes`
    (`CmpWrapper_bytes_const_cmp_eq`), with fuel `min(len a, len b) + 1` and NO machine-range hypothesis (the loop
    walks slice patterns, there is no index) -/
theorem cm_cmp_slice_for_eq (fuel : Nat) (a b : List Nat) (hf : min a.length b.length + 1 ≤ fuel) :
    Extracted.cm_cmp_slice_for fuel a b = .ok (lexCmp compare a b) := by
  obtain ⟨o, h1, h2⟩ := cmpForFn_eq id (fun x y => some (compare x y)) Extracted.CmpWrapper_u8.const_cmp
    fuel a b hf (fun p _ => ⟨_, rfl, CmpWrapper_u8_const_cmp_eq p.1 p.2⟩)
  rw [List.map_id, List.map_id, Konst.Props.C16.constCmpForSlice_eq_lex _ compare (fun _ _ => rfl)] at h1
  unfold Extracted.cm_cmp_slice_for
  rw [cm_cmp_slice_for_loop1, Option.some.inj h1]
  exact h2

theorem cm_cmp_slice_for_model (fuel : Nat) (a b : List Nat) (hf : min a.length b.length + 1 ≤ fuel) :
    ∃ c, constCmpForSlice (fun x y => some (cmpInt x y)) (a.map Int.ofNat) (b.map Int.ofNat) = some c ∧
      Extracted.cm_cmp_slice_for fuel a b = .ok c := by
  refine ⟨_, Konst.Props.C16.constCmpForSlice_eq_lex _ stdCmpScalar
    (fun x y => by rw [Konst.Props.C16.cmpInt_eq_std]) _ _, ?_⟩
  rw [cm_cmp_slice_for_eq fuel a b hf, lexCmp_map_ofNat]

theorem cm_cmp_slice_for_eq_cmp_bytes (fuel : Nat) (a b : List Nat)
    (hb : min a.length b.length < 2 ^ 64) (hf : min a.length b.length + 1 ≤ fuel) :
    Extracted.cm_cmp_slice_for fuel a b = Extracted.cmp_bytes fuel a b := by
  obtain ⟨c, h1, h2⟩ := cmp_bytes_eq fuel a b hb hf
  rw [Konst.Props.C16.cmpSlice_eq_lex, lexCmp_map_ofNat] at h1
  rw [cm_cmp_slice_for_eq fuel a b hf, h2, ← Option.some.inj h1]

example : Extracted.cm_cmp_slice_for 3 [1, 9] [1, 2, 0] = .ok .gt := by
  rw [cm_cmp_slice_for_eq _ _ _ (by decide +kernel)]; decide +kernel
example : Extracted.cm_cmp_slice_for 3 [1, 2] [1, 2, 0] = .ok .lt := by
  rw [cm_cmp_slice_for_eq _ _ _ (by decide +kernel)]; decide +kernel
example : Extracted.cm_cmp_slice_for 3 [1, 2] [1, 2] = .ok .eq := by
  rw [cm_cmp_slice_for_eq _ _ _ (by decide +kernel)]; decide +kernel

/-! ## `min!` / `max!` / `min_by_key!` / `max_by_key!` (C19) -/

open Konst.OptRes in
theorem mm_min_model (fuel : Nat) (a b : Nat) :
    Extracted.mm_min fuel a b = .ok (minBy compare a b) := by
  unfold Extracted.mm_min
  simp only [CmpWrapper_u32_const_cmp_eq, Ctl.call_ok, Ctl.bind_eq, Ctl.bind_val, Ctl.pure_eq, minBy]
  cases h : compare a b <;> simp [h]

/-- `min!(a, b)` = `std::cmp::min(a, b)` (on `u32` equal values are indistinguishable; the tie rule "first argument
    on `Equal`" is `mm_min_model` + `Props/C19.lean` `minBy_eq_std`/`minmax_ties`) -/
theorem mm_min_eq (fuel : Nat) (a b : Nat) : Extracted.mm_min fuel a b = .ok (min a b) := by
  rw [mm_min_model, Konst.OptRes.minBy]
  by_cases h : a ≤ b
  · have : compare a b ≠ .gt := by
      intro hc; rw [Nat.compare_eq_gt] at hc; omega
    simp [this, Nat.min_eq_left h]
  · have : compare a b = .gt := Nat.compare_eq_gt.2 (by omega)
    simp [this, Nat.min_eq_right (by omega : b ≤ a)]

example : Extracted.mm_min 0 70000 3 = .ok 3 := by rw [mm_min_eq]; decide +kernel
example : Extracted.mm_min 0 3 70000 = .ok 3 := by rw [mm_min_eq]; decide +kernel

open Konst.OptRes in
theorem mm_max_model (fuel : Nat) (a b : Nat) :
    Extracted.mm_max fuel a b = .ok (maxBy compare a b) := by
  unfold Extracted.mm_max
  simp only [CmpWrapper_u32_const_cmp_eq, Ctl.call_ok, Ctl.bind_eq, Ctl.bind_val, Ctl.pure_eq, maxBy]
  cases h : compare a b <;> simp [h]

theorem mm_max_eq (fuel : Nat) (a b : Nat) : Extracted.mm_max fuel a b = .ok (max a b) := by
  rw [mm_max_model, Konst.OptRes.maxBy]
  by_cases h : a ≤ b
  · have : compare a b ≠ .gt := by
      intro hc; rw [Nat.compare_eq_gt] at hc; omega
    simp [this, Nat.max_eq_right h]
  · have : compare a b = .gt := Nat.compare_eq_gt.2 (by omega)
    simp [this, Nat.max_eq_left (by omega : b ≤ a)]

example : Extracted.mm_max 0 70000 3 = .ok 70000 := by rw [mm_max_eq]; decide +kernel
example : Extracted.mm_max 0 3 70000 = .ok 70000 := by rw [mm_max_eq]; decide +kernel

open Konst.OptRes in
theorem mm_min_by_key_model (fuel : Nat) (a b : Nat × Nat) :
    Extracted.mm_min_by_key fuel a b = .ok (minByKey Prod.fst compare a b) := by
  unfold Extracted.mm_min_by_key
  simp only [CmpWrapper_u32_const_cmp_eq, Ctl.call_ok, Ctl.bind_eq, Ctl.bind_val, Ctl.pure_eq, minByKey,
    minmaxByKey]
  cases h : compare a.1 b.1 <;> simp [h]

/-- `min_by_key!(a, b, |p| p.0)`: explicit tie rule — `b` only when its key is STRICTLY smaller, so the FIRST
    argument on equal keys, as `std::cmp::min_by_key` -/
theorem mm_min_by_key_eq (fuel : Nat) (a b : Nat × Nat) :
    Extracted.mm_min_by_key fuel a b = .ok (if b.1 < a.1 then b else a) := by
  rw [mm_min_by_key_model, Konst.OptRes.minByKey, Konst.OptRes.minmaxByKey]
  by_cases h : b.1 < a.1
  · simp [h, Nat.compare_eq_gt.2 h]
  · have : compare a.1 b.1 ≠ .gt := by
      intro hc; rw [Nat.compare_eq_gt] at hc; omega
    simp [h, this]

theorem mm_min_by_key_std (fuel : Nat) (a b : Nat × Nat) :
    Extracted.mm_min_by_key fuel a b = .ok (Spec.OptRes.minByKey Prod.fst compare a b) := by
  rw [mm_min_by_key_model, Konst.Props.C19.minByKey_eq_std]

theorem mm_min_by_key_tie (fuel : Nat) (a b : Nat × Nat) (h : a.1 = b.1) :
    Extracted.mm_min_by_key fuel a b = .ok a := by
  rw [mm_min_by_key_eq]; simp [h]

example : Extracted.mm_min_by_key 0 (5, 1) (5, 2) = .ok (5, 1) := by rw [mm_min_by_key_eq]; decide +kernel
example : Extracted.mm_min_by_key 0 (6, 1) (5, 2) = .ok (5, 2) := by rw [mm_min_by_key_eq]; decide +kernel

open Konst.OptRes in
theorem mm_max_by_key_model (fuel : Nat) (a b : Nat × Nat) :
    Extracted.mm_max_by_key fuel a b = .ok (maxByKey Prod.fst compare a b) := by
  unfold Extracted.mm_max_by_key
  simp only [CmpWrapper_u32_const_cmp_eq, Ctl.call_ok, Ctl.bind_eq, Ctl.bind_val, Ctl.pure_eq, maxByKey,
    minmaxByKey]
  cases h : compare b.1 a.1 <;> simp [h]

/-- `max_by_key!(a, b, |p| p.0)`: explicit tie rule — `a` only when its key is STRICTLY greater, so the SECOND
    argument on equal keys, as `std::cmp::max_by_key` -/
theorem mm_max_by_key_eq (fuel : Nat) (a b : Nat × Nat) :
    Extracted.mm_max_by_key fuel a b = .ok (if b.1 < a.1 then a else b) := by
  rw [mm_max_by_key_model, Konst.OptRes.maxByKey, Konst.OptRes.minmaxByKey]
  by_cases h : b.1 < a.1
  · simp [h, Nat.compare_eq_lt.2 h]
  · have : compare b.1 a.1 ≠ .lt := by
      intro hc; rw [Nat.compare_eq_lt] at hc; omega
    simp [h, this]

theorem mm_max_by_key_std (fuel : Nat) (a b : Nat × Nat) :
    Extracted.mm_max_by_key fuel a b = .ok (Spec.OptRes.maxByKey Prod.fst compare a b) := by
  rw [mm_max_by_key_model, Konst.Props.C19.maxByKey_eq_std]

theorem mm_max_by_key_tie (fuel : Nat) (a b : Nat × Nat) (h : a.1 = b.1) :
    Extracted.mm_max_by_key fuel a b = .ok b := by
  rw [mm_max_by_key_eq]; simp [h]

example : Extracted.mm_max_by_key 0 (5, 1) (5, 2) = .ok (5, 2) := by rw [mm_max_by_key_eq]; decide +kernel
example : Extracted.mm_max_by_key 0 (6, 1) (5, 2) = .ok (6, 1) := by rw [mm_max_by_key_eq]; decide +kernel

/-! ## `try_rebind!` / `rebind_if_ok!` around `Parser::parse_u8` (C19)

  `_eq`: relative to the call `Extracted.Parser.parse_u8 fuel p`, for EVERY outcome of that call (so without any
  hypothesis): `try_rebind!{(x, p) = p.parse_u8()}; Ok((x, p))` is the call itself (`?` + re-wrapping the two
  components), `rebind_if_ok!` assigns both components on `Ok` and leaves `x = 0`, `p` untouched on `Err`.
  `_model`: composed with `Parser.parse_u8_ok` (Equiv/ParseInt.lean) against `Konst.Parser.parseInt · false 8`. -/

theorem rb_try_rebind_eq (fuel : Nat) (p : Parser) :
    Extracted.rb_try_rebind fuel p = Extracted.Parser.parse_u8 fuel p := by
  unfold Extracted.rb_try_rebind
  cases Extracted.Parser.parse_u8 fuel p with
  | ok r => cases r <;> rfl
  | panic => rfl
  | ub => rfl
  | nofuel => rfl

theorem rb_try_rebind_ok (fuel : Nat) (p p' : Parser) (x : Nat)
    (h : Extracted.Parser.parse_u8 fuel p = .ok (.ok (x, p'))) :
    Extracted.rb_try_rebind fuel p = .ok (.ok (x, p')) := by rw [rb_try_rebind_eq, h]

theorem rb_try_rebind_err (fuel : Nat) (p : Parser) (e : ParseError)
    (h : Extracted.Parser.parse_u8 fuel p = .ok (.error e)) :
    Extracted.rb_try_rebind fuel p = .ok (.error e) := by rw [rb_try_rebind_eq, h]

theorem rb_try_rebind_model (fuel : Nat) (p : Parser)
    (hoff : p.start_offset + p.str.length < 2 ^ 32) (hv : Konst.Spec.Utf8.Valid p.str)
    (hf : p.str.length ≤ fuel) :
    let r := Konst.Parser.parseInt (toParser p) false 8
    (∃ q v t, r = .ok q v ∧ natVal v = some t ∧ Extracted.rb_try_rebind fuel p = .ok (.ok (t, ofParser q))) ∨
    (∃ e, r = .err e ∧ Extracted.rb_try_rebind fuel p = .ok (.error (ofError e))) := by
  rw [rb_try_rebind_eq]
  exact Parser.parse_u8_ok fuel p hoff hv hf

example : Extracted.rb_try_rebind 3 ⟨.FromEnd, true, 7, [49, 50, 120]⟩
    = .ok (.ok (12, ⟨.FromStart, true, 9, [120]⟩)) := by rw [rb_try_rebind_eq]; rfl
example : Extracted.rb_try_rebind 3 ⟨.FromStart, false, 0, [50, 53, 54]⟩
    = .ok (.error ⟨0, 3, .FromStart, .ParseInteger, [], ()⟩) := by rw [rb_try_rebind_eq]; rfl

/-- the value `rebind_if_ok!{(x, p) = p.parse_u8()}; (x, p)` computes from the outcome of the call -/
def pmisc_rebindIfOk (p : Parser) : Res (Except ParseError (Nat × Parser)) → Res (Nat × Parser)
  | .ok (.ok (x, p')) => .ok (x, p')
  | .ok (.error _) => .ok (0, p)
  | .panic => .panic
  | .ub => .ub
  | .nofuel => .nofuel

theorem rb_rebind_if_ok_eq (fuel : Nat) (p : Parser) :
    Extracted.rb_rebind_if_ok fuel p = pmisc_rebindIfOk p (Extracted.Parser.parse_u8 fuel p) := by
  unfold Extracted.rb_rebind_if_ok
  cases Extracted.Parser.parse_u8 fuel p with
  | ok r => cases r <;> rfl
  | panic => rfl
  | ub => rfl
  | nofuel => rfl

theorem rb_rebind_if_ok_ok (fuel : Nat) (p p' : Parser) (x : Nat)
    (h : Extracted.Parser.parse_u8 fuel p = .ok (.ok (x, p'))) :
    Extracted.rb_rebind_if_ok fuel p = .ok (x, p') := by rw [rb_rebind_if_ok_eq, h]; rfl

theorem rb_rebind_if_ok_err (fuel : Nat) (p : Parser) (e : ParseError)
    (h : Extracted.Parser.parse_u8 fuel p = .ok (.error e)) :
    Extracted.rb_rebind_if_ok fuel p = .ok (0, p) := by rw [rb_rebind_if_ok_eq, h]; rfl

theorem rb_rebind_if_ok_model (fuel : Nat) (p : Parser)
    (hoff : p.start_offset + p.str.length < 2 ^ 32) (hv : Konst.Spec.Utf8.Valid p.str)
    (hf : p.str.length ≤ fuel) :
    let r := Konst.Parser.parseInt (toParser p) false 8
    (∃ q v t, r = .ok q v ∧ natVal v = some t ∧ Extracted.rb_rebind_if_ok fuel p = .ok (t, ofParser q)) ∨
    (∃ e, r = .err e ∧ Extracted.rb_rebind_if_ok fuel p = .ok (0, p)) := by
  intro r
  rcases Parser.parse_u8_ok fuel p hoff hv hf with ⟨q, v, t, h1, h2, h3⟩ | ⟨e, h1, h3⟩
  · exact .inl ⟨q, v, t, h1, h2, rb_rebind_if_ok_ok fuel p _ t h3⟩
  · exact .inr ⟨e, h1, rb_rebind_if_ok_err fuel p _ h3⟩

example : Extracted.rb_rebind_if_ok 3 ⟨.FromEnd, true, 7, [49, 50, 120]⟩
    = .ok (12, ⟨.FromStart, true, 9, [120]⟩) := by rw [rb_rebind_if_ok_eq]; rfl
example : Extracted.rb_rebind_if_ok 3 ⟨.FromStart, false, 0, [50, 53, 54]⟩
    = .ok (0, ⟨.FromStart, false, 0, [50, 53, 54]⟩) := by rw [rb_rebind_if_ok_eq]; rfl

/-- the statements the model's tuple walker (`Model/OptRes.lean`) emits for the pattern `(x, p)` on a 2-tuple are
    the two assignments of the rustc expansion (`x = tuple.0; p = tuple.1;`), for both macros -/
example : Konst.OptRes.emitted (Konst.OptRes.tryRebindMatches ⟨false, [.place, .place]⟩)
      ⟨false, [.place, .place]⟩ 2 false
    = some [.assign ⟨0, .place⟩ (.field (.idx 0)), .assign ⟨1, .place⟩ (.field (.idx 1))] := by decide +kernel
example : Konst.OptRes.emitted (Konst.OptRes.rebindIfOkMatches ⟨false, [.place, .place]⟩)
      ⟨false, [.place, .place]⟩ 2 false
    = some [.assign ⟨0, .place⟩ (.field (.idx 0)), .assign ⟨1, .place⟩ (.field (.idx 1))] := by decide +kernel

/-! ## `iter::eval!(string::split(s, ","), count())`

  The loop calls `Split::next` until `None` and counts.  `Equiv/Split.lean` ties one call to the model's
  `Konst.Split.Iter.next`; the model's driver `Konst.Split.collect` (the function `Props/C06.lean` characterises:
  `collect_split`: exactly std's pieces `splitSpec s d`) makes the same calls, so the loop lemma is stated against
  `collect`.  The invariant `pmisc_SplitInv` carries the side conditions of `Split.next_eq` (bytes, machine bound,
  fuel) from one call to the next: every new remainder is a `View` of the previous one. -/

open Konst.Split in
/-- what `Split.next_eq` needs of the iterator, in a form preserved by `Konst.Split.Iter.next`: it is a `Split` (`fwd`), its
    remainder is a byte string no longer than `L`, its delimiter no longer than `D` -/
structure pmisc_SplitInv (L D : Nat) (it : Konst.Split.Iter) : Prop where
  fwd : it.fwd = true
  lt256 : ∀ b ∈ it.this.bytes, b < 256
  len : it.this.bytes.length ≤ L
  delim : (stateDelim (stateOfModel it.state)).length ≤ D

theorem pmisc_view_apply_mem {v : View} {l : List Nat} {b : Nat} (h : b ∈ v.apply l) : b ∈ l :=
  List.mem_of_mem_drop (List.mem_of_mem_take h)

open Konst.Split in
/-- a remainder cut out of the previous one by any view keeps the invariant (any state with a short delimiter) -/
theorem pmisc_SplitInv_cut {L D : Nat} {x : Konst.Split.Str} {st st' : Konst.Split.State} (v : View)
    (h : pmisc_SplitInv L D ⟨true, x, st⟩) (hd : (stateDelim (stateOfModel st')).length ≤ D) :
    pmisc_SplitInv L D ⟨true, x.cut v, st'⟩ :=
  ⟨rfl, fun b hb => h.lt256 b (pmisc_view_apply_mem hb),
    Nat.le_trans (Lemmas.Slice.apply_length_le v x.bytes) h.len, hd⟩

open Konst.Split in
theorem pmisc_split_next_inv {L D : Nat} {it it' : Konst.Split.Iter} {p : Konst.Split.Str}
    (hinv : pmisc_SplitInv L D it)
    (h : Konst.Split.Iter.next it = .ok (some (p, it'))) : pmisc_SplitInv L D it' := by
  obtain ⟨fwd, x, state⟩ := it
  have hfwd : fwd = true := hinv.fwd
  subst hfwd
  simp only [Konst.Split.Iter.next, ↓reduceIte] at h
  cases state with
  | finished => simp [nextBlock] at h
  | normal d =>
    simp only [nextBlock] at h
    cases hfind : StrFns.find x.bytes d with
    | none =>
      simp only [hfind, Except.ok.injEq, Option.some.injEq, Prod.mk.injEq] at h
      rw [← h.2]
      exact ⟨rfl, by simp [Str.lit], by simp [Str.lit], by simp [stateDelim]⟩
    | some pos =>
      simp only [hfind] at h
      cases h1 : Utf8.strFrom x.bytes (pos + d.length) with
      | error e => simp [h1, bind, Except.bind] at h
      | ok a =>
        cases h2 : Utf8.strUpTo x.bytes pos with
        | error e => simp [h1, h2, bind, Except.bind] at h
        | ok b =>
          simp only [h1, h2, bind, Except.bind, pure, Except.pure, Except.ok.injEq, Option.some.injEq,
            Prod.mk.injEq] at h
          rw [← h.2]
          exact pmisc_SplitInv_cut a hinv hinv.delim
  | empty es =>
    simp only [nextBlock] at h
    cases es with
    | start =>
      simp only [nextFromEmpty, Except.ok.injEq, Option.some.injEq, Prod.mk.injEq] at h
      rw [← h.2]
      exact ⟨rfl, hinv.lt256, hinv.len, by simp [stateDelim]⟩
    | cont =>
      simp only [nextFromEmpty, splitAtStr] at h
      cases h1 : Utf8.splitAt x.bytes (Utf8.findNextCharBoundary x.bytes 0) with
      | error e => simp [h1, bind, Except.bind] at h
      | ok ab =>
        obtain ⟨a, b⟩ := ab
        simp only [h1, bind, Except.bind, pure, Except.pure, Except.ok.injEq, Option.some.injEq,
          Prod.mk.injEq] at h
        rw [← h.2]
        by_cases he : x.bytes.isEmpty = true
        · simp only [he, ↓reduceIte]
          exact pmisc_SplitInv_cut b hinv (by simp [stateDelim])
        · simp only [he, Bool.false_eq_true, ↓reduceIte]
          exact pmisc_SplitInv_cut b hinv (by simp [stateDelim])

open Konst.Split in
/-- the counting loop of `it_split_count` from any `Split` state and counter `r`: if the model's driver reaches
    `None` after yielding `l` (within the same number `n` of `next` calls), the loop exits with `r + |l|`.
    `F` = fuel handed to `Split::next`, `n` = fuel of this loop -/
theorem pmisc_split_count_loop (F L D : Nat) (hL : L + D + 1 < 2 ^ 64) (hF : L + D + 2 ≤ F)
    (n : Nat) (it : Konst.Split.Iter) (r : Nat) (l : List (Konst.Split.Str × Konst.Split.Str))
    (hinv : pmisc_SplitInv L D it)
    (hc : collect Konst.Split.Iter.next Konst.Split.Iter.remainder n it = .done l) (hr : r + l.length < 2 ^ 64) :
    ∃ st, Rs.loop (ε := Nat) n (Extracted.it_split_count.loop1 F) (splitOfModel it, r)
      = .val (st, r + l.length) := by
  induction n generalizing it r l with
  | zero => simp [collect] at hc
  | succ n ih =>
    have hnext : Extracted.Split.next F (splitOfModel it) = resStep splitOfModel (Konst.Split.Iter.next it) := by
      have hlen := Nat.add_le_add hinv.len hinv.delim
      have h := Split.next_eq F it.this.off (splitOfModel it) hinv.lt256
        (Nat.lt_of_le_of_lt (Nat.add_le_add_right hlen 1) hL) (Nat.le_trans (Nat.add_le_add_right hlen 2) hF)
      rwa [splitToModel_ofModel it hinv.fwd] at h
    rw [Rs.loop_succ]
    simp only [collect] at hc
    cases hn : Konst.Split.Iter.next it with
    | error e => simp [hn] at hc
    | ok o =>
      cases o with
      | none =>
        simp only [hn, Run.done.injEq] at hc
        subst hc
        exact ⟨splitOfModel it, by simp [Extracted.it_split_count.loop1, hnext, hn]⟩
      | some pit =>
        obtain ⟨p, it'⟩ := pit
        simp only [hn] at hc
        cases hc' : collect Konst.Split.Iter.next Konst.Split.Iter.remainder n it' with
        | panic => simp [hc'] at hc
        | fuel => simp [hc'] at hc
        | done l' =>
          simp only [hc', Run.done.injEq] at hc
          subst hc
          rw [List.length_cons, Nat.add_comm _ 1, ← Nat.add_assoc] at hr ⊢
          have h1 : r + 1 < 2 ^ 64 := Nat.lt_of_le_of_lt (Nat.le_add_right _ _) hr
          obtain ⟨st, hst⟩ := ih it' (r + 1) l' (pmisc_split_next_inv hinv hn) hc' hr
          refine ⟨st, ?_⟩
          simp only [Extracted.it_split_count.loop1, hnext, hn, resStep_some, Ctl.call_ok, Ctl.bind_eq,
            Ctl.bind_val, Ctl.pure_eq, Rs.uadd, h1, ↓reduceIte, hst]

theorem pmisc_valid_comma : Konst.Spec.Utf8.Valid [44] := ⟨[44], by decide, by decide⟩

/-- `iter::eval!(string::split(s, ","), count())` = the number of pieces `str::split(",")` yields
    (`Spec/Split.lean` `splitSpec`, the reference `Props/C06.lean` is stated against), for every `&str` `s`
    (valid UTF-8: on other byte strings `str_from` behind a comma can panic).  Machine bound `|s| + 2 < 2^64` and
    fuel `|s| + 3` are those of `string::find` inside `Split::next` (`Split.next_eq`); the counter `rets += 1` stays
    `≤ |s| + 1`. -/
theorem it_split_count_eq (fuel : Nat) (s : List Nat) (hv : Konst.Spec.Utf8.Valid s)
    (hl : s.length + 2 < 2 ^ 64) (hf : s.length + 3 ≤ fuel) :
    Extracted.it_split_count fuel s = .ok (Konst.Spec.Split.splitSpec s [44]).length := by
  have hc := Konst.Props.C06.collect_split s [44] hv pmisc_valid_comma fuel hf
  have hlen : ((Konst.Spec.Split.stepsFwd [44].length 0 s (Konst.Spec.Split.splitSpec s [44])).map
      Konst.Lemmas.Split.ofP2).length = (Konst.Spec.Split.splitSpec s [44]).length := by
    have := congrArg List.length (Konst.Lemmas.Split.stepsFwd_pieces [44].length
      (Konst.Spec.Split.splitSpec s [44]) 0 s)
    simpa only [List.length_map] using this
  have hle := (Konst.Lemmas.Split.spec_lengths s [44] hv).1
  have hinv : pmisc_SplitInv s.length 1 (Konst.Split.split s [44]) :=
    ⟨rfl, pi_valid_lt_256 hv, Nat.le_refl _, by simp [Konst.Split.split, stateDelim]⟩
  obtain ⟨st, hst⟩ := pmisc_split_count_loop fuel s.length 1 (by omega) (by omega) fuel _ 0 _ hinv hc
    (by rw [hlen]; omega)
  unfold Extracted.it_split_count
  simp only [split_eq, Ctl.call_ok, Ctl.bind_eq, Ctl.bind_val, Ctl.pure_eq, hst, hlen, Nat.zero_add,
    Ctl.run_val]

/-- "a,b,,c" has four pieces -/
example : Extracted.it_split_count 9 [97, 44, 98, 44, 44, 99] = .ok 4 := by
  rw [it_split_count_eq 9 [97, 44, 98, 44, 44, 99] ⟨[97, 44, 98, 44, 44, 99], by decide +kernel, by decide +kernel⟩
    (by decide +kernel) (by decide +kernel)]
  decide +kernel

/-! ## `iter::eval!(string::chars(s), filter(|c| *c == 'a'), count())`

  One call of `Chars::next` is tied to the model by `Chars.next_eq` (Equiv/Chars.lean); on the encoding of
  `c :: cs` the model's step is `some (c, it')` with `it'` denoting `encs cs` (`Lemmas/Chars.lean`
  `chars_next_cons`), on the empty string `none` — so the loop walks the decoded characters. -/

open Konst.Spec.Utf8 in
/-- the filter-and-count loop of `it_chars_count` from any `Chars` state denoting `encs cs` and counter `r`:
    it exits with `r +` the number of `'a'` (97) among `cs`.  `F` = fuel handed to `Chars::next` -/
theorem pmisc_chars_count_loop (F : Nat) (s : List Nat) (hs64 : s.length < 2 ^ 64) (hF : s.length + 1 ≤ F)
    (n : Nat) (cs : List Nat) (it : Konst.Chars.Chars) (r : Nat)
    (hib : it.this.InBounds s.length) (hsc : ∀ c ∈ cs, isScalar c = true) (he : it.this.apply s = encs cs)
    (hn : cs.length + 1 ≤ n) (hr : r + cs.count 97 < 2 ^ 64) :
    ∃ st, Rs.loop (ε := Nat) n (Extracted.it_chars_count.loop1 F) (toChars s it, r)
      = .val (st, r + cs.count 97) := by
  induction n generalizing cs it r with
  | zero => exact absurd hn (Nat.not_succ_le_zero _)
  | succ n ih =>
    have hlen := Lemmas.Slice.apply_length_le it.this s
    obtain ⟨o, ho, hnext⟩ := Chars.next_eq F s it ⟨cs, hsc, he⟩ (Nat.lt_of_le_of_lt hlen hs64)
      (Nat.le_trans (Nat.succ_le_succ hlen) hF)
    rw [Rs.loop_succ]
    cases cs with
    | nil =>
      rw [Konst.Lemmas.Chars.chars_next_nil s it (by simpa using he)] at ho
      obtain rfl : o = none := by cases ho; rfl
      exact ⟨toChars s it, by simp [Extracted.it_chars_count.loop1, hnext, charsItem]⟩
    | cons c cs =>
      obtain ⟨it', h1, hib', he', _⟩ := Konst.Lemmas.Chars.chars_next_cons s it c cs hib hsc he
      rw [h1] at ho
      obtain rfl : o = some (c, it') := by cases ho; rfl
      have hsc' : ∀ c ∈ cs, isScalar c = true := fun x hx => hsc x (List.mem_cons_of_mem _ hx)
      have hn' : cs.length + 1 ≤ n := Nat.le_of_succ_le_succ hn
      rw [List.count_cons] at hr ⊢
      by_cases hc : c = 97
      · subst hc
        simp only [beq_self_eq_true, ↓reduceIte] at hr ⊢
        rw [Nat.add_comm _ 1, ← Nat.add_assoc] at hr ⊢
        have hr1 : r + 1 < 2 ^ 64 := Nat.lt_of_le_of_lt (Nat.le_add_right _ _) hr
        obtain ⟨st, hst⟩ := ih cs it' (r + 1) hib' hsc' he' hn' hr
        refine ⟨st, ?_⟩
        simp only [Extracted.it_chars_count.loop1, hnext, charsItem, Option.map_some, Ctl.call_ok, Ctl.bind_eq,
          Ctl.bind_val, Ctl.pure_eq, decide_true, Bool.not_true, Bool.false_eq_true, ↓reduceIte, Rs.uadd,
          hr1, hst]
      · have hb : (c == 97) = false := by simp [hc]
        simp only [hb, Bool.false_eq_true, ↓reduceIte, Nat.add_zero] at hr ⊢
        obtain ⟨st, hst⟩ := ih cs it' r hib' hsc' he' hn' hr
        refine ⟨st, ?_⟩
        simp only [Extracted.it_chars_count.loop1, hnext, charsItem, Option.map_some, Ctl.call_ok, Ctl.bind_eq,
          Ctl.bind_val, Ctl.pure_eq, hc, decide_false, Bool.not_false, ↓reduceIte, Ctl.bind_exit, hst]

open Konst.Spec.Utf8 in
theorem it_chars_count_encs (fuel : Nat) (cs : List Nat) (hsc : ∀ c ∈ cs, isScalar c = true)
    (hl : (encs cs).length < 2 ^ 64) (hf : (encs cs).length + 1 ≤ fuel) :
    Extracted.it_chars_count fuel (encs cs) = .ok (cs.count 97) := by
  have hle := Konst.Lemmas.Split.length_le_encs cs
  have hcnt : cs.count 97 ≤ cs.length := List.count_le_length
  obtain ⟨st, hst⟩ := pmisc_chars_count_loop fuel (encs cs) hl hf fuel cs (Konst.Chars.chars (encs cs)) 0
    (by simp [Konst.Chars.chars, View.InBounds]) hsc (by simp [Konst.Chars.chars, whole_apply])
    (by omega) (by omega)
  unfold Extracted.it_chars_count
  simp only [chars_eq, Ctl.call_ok, Ctl.bind_eq, Ctl.bind_val, Ctl.pure_eq, hst, Nat.zero_add, Ctl.run_val]

open Konst.Spec.Utf8 in
/-- `iter::eval!(string::chars(s), filter(|c| *c == 'a'), count())` = the number of chars equal to `'a'` (97) in
    the decoded string (`decodeAll`, the reference UTF-8 decoder of `Spec/Utf8.lean`), for every `&str` `s`.
    Machine bound `|s| < 2^64` and fuel `|s| + 1`: those of `__find_next_char_boundary` inside `Chars::next`
    (`Chars.next_eq`); the same fuel bounds the number of iterations (at most `|s|` chars + the final `None`),
    and the counter stays `≤ |s|`. -/
theorem it_chars_count_eq (fuel : Nat) (s : List Nat) (hv : Valid s)
    (hl : s.length < 2 ^ 64) (hf : s.length + 1 ≤ fuel) :
    Extracted.it_chars_count fuel s = .ok (((decodeAll s).getD []).count 97) := by
  obtain ⟨cs, hsc, rfl⟩ := hv
  rw [it_chars_count_encs fuel cs hsc hl hf, Konst.Lemmas.Utf8.decodeAll_encs cs hsc]
  rfl

/-- "a€ab" (the euro sign is three bytes) has two `'a'` -/
example : Extracted.it_chars_count 7 [0x61, 0xE2, 0x82, 0xAC, 0x61, 0x62] = .ok 2 :=
  it_chars_count_encs 7 [0x61, 0x20AC, 0x61, 0x62] (by decide +kernel) (by decide +kernel) (by decide +kernel)

end Extracted.Equiv
