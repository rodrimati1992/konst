import KonstVerif.Extracted.Gen.SplitTerm
import KonstVerif.Extracted.Equiv.StrFns
import KonstVerif.Extracted.Equiv.Str
import KonstVerif.Model.Split
import KonstVerif.Lemmas.Bytes
import KonstVerif.Rs.LoopLemmas
/-
  Extracted = Model, for `konst::string::split_terminator_items`
  (group `SplitTerm`, 6 functions): `split_terminator`, `rsplit_terminator`, `SplitTerminator::next`,
  `SplitTerminator::remainder`, `RSplitTerminator::next`, `RSplitTerminator::remainder`, against
  `Konst.Split.splitTerminator / rsplitTerminator / TIter.next / TIter.remainder / TIter.rnext /
  TIter.remainder` (Model/Split.lean, section "split_terminator_items.rs").

  Conversions (namespace `Extracted.Equiv.SplitTerm`).
    * The model's `&str` is a `Konst.Split.Str` = (byte offset inside the ORIGINAL haystack, bytes); the
      generated structures hold the bytes only (`List Nat`).  Model -> extraction FORGETS the offset
      (`Str.bytes`); extraction -> model takes the offset as an explicit parameter `off` (any value: the
      theorems hold for every offset, i.e. the code does not depend on it).
    * `emptyOfModel/emptyToModel`, `stateOfModel/stateToModel`: bijections (same constructors).
    * `iterOfModel / riterOfModel : TIter → SplitTerminator / RSplitTerminator` (the model uses ONE
      structure `TIter` for both Rust structs, which have the same two fields),
      `iterToModel / riterToModel off : SplitTerminator / RSplitTerminator → TIter`;
      `iterOfModel (iterToModel off s) = s`.
    * `resNext / resRNext`: the model's `E (Option (Str × TIter))` as the result of the extraction:
      `.ok none ↦ .ok none`, `.ok (some (p, it)) ↦ .ok (some (p.bytes, iterOfModel it))`,
      `.error _ ↦ .panic` (the model's panics: `non_char_boundary_panic` of `str_from` / `str_up_to` /
      `split_at`, and the `position -= 1` underflow of `__find_prev_char_boundary`).
      A piece / remainder the model obtains by `Str.cut x v` has the bytes `v.apply x.bytes`, so pieces are
      compared through `View.apply`.

  Shape of the theorems: the code panics EXACTLY when the model returns `.error`; no UTF-8 validity
  hypothesis is needed for `next` (both sides panic on the same non-boundary cuts).  Each `next` theorem is
  given in two (equivalent) forms:
    * `<T>.next_eq fuel off self`: for every generated state `self` and every offset `off`,
        `Extracted.<T>.next fuel self = resNext ((iterToModel off self).next)`;
    * `<T>.next_sim fuel it`: for every model state `it`,
        `Extracted.<T>.next fuel (iterOfModel it) = resNext it.next`
      (the commuting square with the abstraction map `iterOfModel`, the form that composes along a run).

  Hypotheses.
    * `hb : ∀ b ∈ this, b < 256`: the code casts `bytes[i] as i8` in the char-boundary tests.
    * forwards: `hl : this.length + d + 1 < 2 ^ 64`, `hf : this.length + d + 2 ≤ fuel`, where `d` is the
      length of the delimiter (`delimLen`; 0 in the `Empty` states): bound and fuel of `string::find`
      (`str_find_eq`); it also keeps the checked `pos + delim.len()` in range, and covers
      `__find_next_char_boundary(bytes, 0)` (`find_next_char_boundary_eq`).
    * backwards: `hl : this.length < 2 ^ 64`, `hf : this.length + 1 ≤ fuel`: those of `string::rfind`
      (`str_rfind_eq`); `pos + delim.len() ≤ this.len()` always; covers `__find_prev_char_boundary`.
-/
namespace Extracted.Equiv
open Rs Konst

namespace SplitTerm

def emptyOfModel : Split.EmptyState → Extracted.TEmptyState
  | .start => .Start
  | .cont => .Continue

def emptyToModel : Extracted.TEmptyState → Split.EmptyState
  | .Start => .start
  | .Continue => .cont

def stateOfModel : Split.TState → Extracted.TState
  | .normal delim => .Normal delim
  | .empty es => .Empty (emptyOfModel es)

def stateToModel : Extracted.TState → Split.TState
  | .Normal delim => .normal delim
  | .Empty es => .empty (emptyToModel es)

def iterOfModel (it : Split.TIter) : Extracted.SplitTerminator :=
  { this_ := it.this.bytes, state := stateOfModel it.state }

def riterOfModel (it : Split.TIter) : Extracted.RSplitTerminator :=
  { this_ := it.this.bytes, state := stateOfModel it.state }

def iterToModel (off : Nat) (s : Extracted.SplitTerminator) : Split.TIter :=
  { this := ⟨off, s.this_⟩, state := stateToModel s.state }

def riterToModel (off : Nat) (s : Extracted.RSplitTerminator) : Split.TIter :=
  { this := ⟨off, s.this_⟩, state := stateToModel s.state }

@[simp] theorem emptyOfModel_toModel (e : Extracted.TEmptyState) : emptyOfModel (emptyToModel e) = e := by
  cases e <;> rfl
@[simp] theorem emptyToModel_ofModel (e : Split.EmptyState) : emptyToModel (emptyOfModel e) = e := by
  cases e <;> rfl
@[simp] theorem stateOfModel_toModel (s : Extracted.TState) : stateOfModel (stateToModel s) = s := by
  cases s <;> simp [stateToModel, stateOfModel]
@[simp] theorem stateToModel_ofModel (s : Split.TState) : stateToModel (stateOfModel s) = s := by
  cases s <;> simp [stateToModel, stateOfModel]
@[simp] theorem iterOfModel_toModel (off : Nat) (s : Extracted.SplitTerminator) :
    iterOfModel (iterToModel off s) = s := by
  cases s; simp [iterOfModel, iterToModel]
@[simp] theorem riterOfModel_toModel (off : Nat) (s : Extracted.RSplitTerminator) :
    riterOfModel (riterToModel off s) = s := by
  cases s; simp [riterOfModel, riterToModel]
theorem iterToModel_ofModel (it : Split.TIter) : iterToModel it.this.off (iterOfModel it) = it := by
  cases it; simp [iterOfModel, iterToModel]
theorem riterToModel_ofModel (it : Split.TIter) : riterToModel it.this.off (riterOfModel it) = it := by
  cases it; simp [riterOfModel, riterToModel]

def delimLen : Extracted.TState → Nat
  | .Normal delim => delim.length
  | .Empty _ => 0

def resNext : Split.E (Option (Split.Str × Split.TIter)) →
    Res (Option (List Nat × Extracted.SplitTerminator))
  | .ok none => .ok none
  | .ok (some (p, it)) => .ok (some (p.bytes, iterOfModel it))
  | .error _ => .panic

def resRNext : Split.E (Option (Split.Str × Split.TIter)) →
    Res (Option (List Nat × Extracted.RSplitTerminator))
  | .ok none => .ok none
  | .ok (some (p, it)) => .ok (some (p.bytes, riterOfModel it))
  | .error _ => .panic

@[simp] theorem resNext_none : resNext (.ok none) = .ok none := rfl
@[simp] theorem resNext_some (p : Split.Str) (it : Split.TIter) :
    resNext (.ok (some (p, it))) = .ok (some (p.bytes, iterOfModel it)) := rfl
@[simp] theorem resNext_error (e : Utf8.Panic) : resNext (.error e) = .panic := rfl
@[simp] theorem resRNext_none : resRNext (.ok none) = .ok none := rfl
@[simp] theorem resRNext_some (p : Split.Str) (it : Split.TIter) :
    resRNext (.ok (some (p, it))) = .ok (some (p.bytes, riterOfModel it)) := rfl
@[simp] theorem resRNext_error (e : Utf8.Panic) : resRNext (.error e) = .panic := rfl

end SplitTerm

open SplitTerm

theorem split_terminator_eq (this delim : List Nat) :
    Extracted.split_terminator this delim = .ok (iterOfModel (Split.splitTerminator this delim)) := by
  unfold Extracted.split_terminator Split.splitTerminator iterOfModel
  cases delim <;> rfl

example : Extracted.split_terminator [97, 44, 98] [44]
    = .ok { this_ := [97, 44, 98], state := .Normal [44] } := by decide +kernel
example : Extracted.split_terminator [97, 44, 98] []
    = .ok (iterOfModel (Split.splitTerminator [97, 44, 98] [])) := split_terminator_eq _ _

theorem splitTerminator_toModel (this delim : List Nat) :
    iterToModel 0 (iterOfModel (Split.splitTerminator this delim)) = Split.splitTerminator this delim :=
  iterToModel_ofModel (Split.splitTerminator this delim)

theorem rsplit_terminator_eq (this delim : List Nat) :
    Extracted.rsplit_terminator this delim = .ok (riterOfModel (Split.rsplitTerminator this delim)) := by
  unfold Extracted.rsplit_terminator
  rw [split_terminator_eq]
  rfl

example : Extracted.rsplit_terminator [97, 44, 98] [44]
    = .ok { this_ := [97, 44, 98], state := .Normal [44] } := by decide +kernel

theorem SplitTerminator.next_sim (fuel : Nat) (it : Split.TIter)
    (hb : ∀ b ∈ it.this.bytes, b < 256)
    (hl : it.this.bytes.length + delimLen (stateOfModel it.state) + 1 < 2 ^ 64)
    (hf : it.this.bytes.length + delimLen (stateOfModel it.state) + 2 ≤ fuel) :
    Extracted.SplitTerminator.next fuel (iterOfModel it) = resNext it.next := by
  obtain ⟨⟨off, bytes⟩, state⟩ := it
  cases state with
  | empty es =>
    cases es with
    | start => rfl
    | cont =>
      cases bytes with
      | nil => rfl
      | cons a l =>
        unfold Extracted.SplitTerminator.next Split.TIter.next
        simp only [iterOfModel, stateOfModel, emptyOfModel, List.isEmpty_cons, ↓reduceIte, rs_eval,
          find_next_char_boundary_eq fuel (a :: l) 0 hb (by decide) (Nat.lt_trans (Nat.lt_succ_self _) hl)
            (Nat.le_trans (Nat.succ_le_succ (Nat.sub_le _ _)) (Nat.le_of_succ_le hf)),
          str_split_at_eq _ _ hb, Split.splitAtStr]
        cases Utf8.splitAt (a :: l) (Utf8.findNextCharBoundary (a :: l) 0) with
        | error e => rfl
        | ok p => rfl
  | normal delim =>
    cases bytes with
    | nil => rfl
    | cons a l =>
      unfold Extracted.SplitTerminator.next Split.TIter.next
      simp only [iterOfModel, stateOfModel, List.isEmpty_cons, ↓reduceIte, rs_eval,
        str_find_eq fuel (a :: l) delim hl hf]
      cases hr : StrFns.find (a :: l) delim with
      | none =>
        simp only [rs_eval, str_from_eq _ _ hb, str_up_to_eq _ _ hb]
        cases Utf8.strFrom (a :: l) (a :: l).length <;> cases Utf8.strUpTo (a :: l) (a :: l).length <;> rfl
      | some pos =>
        have hadd : pos + delim.length < 2 ^ 64 :=
          Nat.lt_trans (Nat.lt_succ_of_le (Nat.add_le_add_right (bytesFind_le (a :: l) delim pos hr) _)) hl
        simp only [rs_eval, uadd_ok hadd, str_from_eq _ _ hb, str_up_to_eq _ _ hb]
        cases Utf8.strFrom (a :: l) (pos + delim.length) <;> cases Utf8.strUpTo (a :: l) pos <;> rfl

theorem SplitTerminator.next_eq (fuel off : Nat) (self : Extracted.SplitTerminator)
    (hb : ∀ b ∈ self.this_, b < 256)
    (hl : self.this_.length + delimLen self.state + 1 < 2 ^ 64)
    (hf : self.this_.length + delimLen self.state + 2 ≤ fuel) :
    Extracted.SplitTerminator.next fuel self = resNext (iterToModel off self).next := by
  have h := SplitTerminator.next_sim fuel (iterToModel off self) hb
    (by simpa only [iterToModel, stateOfModel_toModel] using hl)
    (by simpa only [iterToModel, stateOfModel_toModel] using hf)
  rwa [iterOfModel_toModel] at h

example : Extracted.SplitTerminator.next 9 { this_ := [97, 44, 98, 44], state := .Normal [44] }
    = .ok (some ([97], { this_ := [98, 44], state := .Normal [44] })) := by decide +kernel
/-- no terminator left: the rest is yielded, the remainder becomes empty -/
example : Extracted.SplitTerminator.next 9 { this_ := [98], state := .Normal [44] }
    = .ok (some ([98], { this_ := [], state := .Normal [44] })) := by decide +kernel
example : Extracted.SplitTerminator.next 9 { this_ := [], state := .Normal [44] } = .ok none := by decide +kernel
/-- a delimiter (not UTF-8) found inside a multi-byte char: `str_from` panics, in code and model -/
example : Extracted.SplitTerminator.next 9 { this_ := [0x41, 0xE2, 0x82, 0xAC], state := .Normal [0xE2] }
    = .panic := by decide +kernel
/-- empty delimiter: `""` first, then one char at a time -/
example : Extracted.SplitTerminator.next 9 { this_ := [0xE2, 0x82, 0xAC, 0x41], state := .Empty .Start }
    = .ok (some ([], { this_ := [0xE2, 0x82, 0xAC, 0x41], state := .Empty .Continue })) := by decide +kernel
example : Extracted.SplitTerminator.next 9 { this_ := [0xE2, 0x82, 0xAC, 0x41], state := .Empty .Continue }
    = .ok (some ([0xE2, 0x82, 0xAC], { this_ := [0x41], state := .Empty .Continue })) := by decide +kernel
example : Extracted.SplitTerminator.next 9 { this_ := [0xE2, 0x82, 0xAC, 0x41], state := .Empty .Continue }
    = resNext (iterToModel 0 { this_ := [0xE2, 0x82, 0xAC, 0x41], state := .Empty .Continue }).next :=
  SplitTerminator.next_eq 9 0 _ (by decide) (by decide) (by decide)

theorem RSplitTerminator.next_sim (fuel : Nat) (it : Split.TIter)
    (hb : ∀ b ∈ it.this.bytes, b < 256)
    (hl : it.this.bytes.length < 2 ^ 64)
    (hf : it.this.bytes.length + 1 ≤ fuel) :
    Extracted.RSplitTerminator.next fuel (riterOfModel it) = resRNext it.rnext := by
  obtain ⟨⟨off, bytes⟩, state⟩ := it
  cases state with
  | empty es =>
    cases es with
    | start => rfl
    | cont =>
      cases bytes with
      | nil => rfl
      | cons a l =>
        unfold Extracted.RSplitTerminator.next Split.TIter.rnext
        simp only [riterOfModel, stateOfModel, emptyOfModel, List.isEmpty_cons, ↓reduceIte, rs_eval,
          find_prev_char_boundary_eq fuel (a :: l) (a :: l).length hb
            (Nat.le_trans (Nat.succ_le_succ (Nat.min_le_right _ _)) hf),
          str_split_at_eq _ _ hb, Split.splitAtStr]
        cases Utf8.findPrevCharBoundary (a :: l) (a :: l).length with
        | none => rfl
        | some k =>
          simp only [resOfOption_some, rs_eval]
          cases Utf8.splitAt (a :: l) k with
          | error e => rfl
          | ok p => rfl
  | normal delim =>
    cases bytes with
    | nil => rfl
    | cons a l =>
      unfold Extracted.RSplitTerminator.next Split.TIter.rnext
      simp only [riterOfModel, stateOfModel, List.isEmpty_cons, ↓reduceIte, rs_eval,
        str_rfind_eq fuel (a :: l) delim hl hf]
      cases hr : StrFns.rfind (a :: l) delim with
      | none =>
        simp only [rs_eval, str_from_eq _ _ hb, str_up_to_eq _ _ hb]
        cases Utf8.strUpTo (a :: l) 0 <;> cases Utf8.strFrom (a :: l) 0 <;> rfl
      | some pos =>
        have hadd : pos + delim.length < 2 ^ 64 := Nat.lt_of_le_of_lt (rfind_add_le (a :: l) delim pos hr) hl
        simp only [rs_eval, uadd_ok hadd, str_from_eq _ _ hb, str_up_to_eq _ _ hb]
        cases Utf8.strUpTo (a :: l) pos <;> cases Utf8.strFrom (a :: l) (pos + delim.length) <;> rfl

theorem RSplitTerminator.next_eq (fuel off : Nat) (self : Extracted.RSplitTerminator)
    (hb : ∀ b ∈ self.this_, b < 256)
    (hl : self.this_.length < 2 ^ 64)
    (hf : self.this_.length + 1 ≤ fuel) :
    Extracted.RSplitTerminator.next fuel self = resRNext (riterToModel off self).rnext := by
  have h := RSplitTerminator.next_sim fuel (riterToModel off self) hb hl hf
  rwa [riterOfModel_toModel] at h

example : Extracted.RSplitTerminator.next 9 { this_ := [97, 44, 98, 44], state := .Normal [44] }
    = .ok (some ([], { this_ := [97, 44, 98], state := .Normal [44] })) := by decide +kernel
example : Extracted.RSplitTerminator.next 9 { this_ := [97, 44, 98], state := .Normal [44] }
    = .ok (some ([98], { this_ := [97], state := .Normal [44] })) := by decide +kernel
/-- no delimiter left: `(0, 0)`, the whole rest is yielded, the remainder becomes empty -/
example : Extracted.RSplitTerminator.next 9 { this_ := [97], state := .Normal [44] }
    = .ok (some ([97], { this_ := [], state := .Normal [44] })) := by decide +kernel
example : Extracted.RSplitTerminator.next 9 { this_ := [0x41, 0xE2, 0x82, 0xAC], state := .Empty .Continue }
    = .ok (some ([0xE2, 0x82, 0xAC], { this_ := [0x41], state := .Empty .Continue })) := by decide +kernel
/-- not UTF-8 (starts with continuation bytes): `__find_prev_char_boundary` underflows; code and model panic -/
example : Extracted.RSplitTerminator.next 9 { this_ := [0x82, 0xAC], state := .Empty .Continue } = .panic := by decide +kernel

theorem SplitTerminator.remainder_eq (off : Nat) (self : Extracted.SplitTerminator) :
    Extracted.SplitTerminator.remainder self = .ok (iterToModel off self).remainder.bytes := rfl

theorem SplitTerminator.remainder_sim (it : Split.TIter) :
    Extracted.SplitTerminator.remainder (iterOfModel it) = .ok it.remainder.bytes := rfl

theorem RSplitTerminator.remainder_eq (off : Nat) (self : Extracted.RSplitTerminator) :
    Extracted.RSplitTerminator.remainder self = .ok (riterToModel off self).remainder.bytes := rfl

theorem RSplitTerminator.remainder_sim (it : Split.TIter) :
    Extracted.RSplitTerminator.remainder (riterOfModel it) = .ok it.remainder.bytes := rfl

example : Extracted.SplitTerminator.remainder { this_ := [98, 44], state := .Normal [44] } = .ok [98, 44] :=
  SplitTerminator.remainder_eq 2 _

end Extracted.Equiv
