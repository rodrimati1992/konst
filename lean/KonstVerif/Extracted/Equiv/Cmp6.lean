import KonstVerif.Extracted.Gen.Cmp6
import KonstVerif.Extracted.Equiv.Cmp
import KonstVerif.Extracted.Equiv.Cmp2
import KonstVerif.Extracted.Equiv.Cmp4
import KonstVerif.Extracted.Equiv.CmpFor
import KonstVerif.Extracted.Equiv.ProbesMisc
/-
  Extracted = Model, group `Cmp6` (C16):

    * `CmpWrapper<&[T]>::const_eq / const_cmp` for T ∈ {u16 … isize, bool, char}  (forward to `eq_slice_T` / `cmp_slice_T`)
    * `eq_option_slice_T` / `cmp_option_slice_T` for the same T                     (`__impl_option_cmp_fns!`)
    * `eq_slice_str`, `cmp_slice_str`, `eq_slice_bytes`, `cmp_slice_bytes`          (`const_eq_for!(slice; …)` /
      `const_cmp_for!(slice; …)` over `eq_str` / `cmp_str` / `eq_bytes` / `cmp_bytes`)
    * `CmpWrapper<&[&str]>`, `CmpWrapper<&[&[u8]]>` `::const_eq / const_cmp`, `eq/cmp_option_slice_str`,
      `eq/cmp_option_slice_bytes`, `eq_option_str`, `cmp_option_str`

  Every theorem reads `∃ v, Model.f args' = some v ∧ Extracted.f fuel args = .ok v` (model and extraction both return
  normally with the same value), `args'` being the arguments under the value- and order-preserving embedding of the
  carrier into the model's `Int` (`Int.ofNat` for the unsigned types, `char` and the bytes of a `&str`; the identity
  for the signed types; `boolInt` for `bool`), exactly as in the sibling theorems `eq_slice_T_eq`, `eq_option_bytes_eq`.

  Hypotheses:
    * a function that runs the index loop of `eq_slice_T` / `cmp_slice_T` on `(l, r)`: `min l.length r.length < 2 ^ 64`
      (`i += 1`) and `min l.length r.length + 1 ≤ fuel`, as for the callee; for the `Option` functions only in the
      `(Some(l), Some(r))` arm;
    * `eq_slice_str` / `eq_slice_bytes` (`const_eq_for!`: a `while i != len` loop with `i += 1`, calling the element
      comparison on `(l[i], r[i])`): the same two hypotheses for the outer slices, and the callee's two hypotheses for
      every pair `p ∈ l.zip r` of elements at the same index;
    * `cmp_slice_str` / `cmp_slice_bytes` (`const_cmp_for!`: a `loop` over slice patterns, no counter): fuel
      `min l.length r.length + 1`, NO machine-range hypothesis for the outer slices, and the callee's two hypotheses
      for every pair `p ∈ l.zip r`.

  The generated texts come from a handful of macros, so each is an instance of one of the generic texts below
  (`cmp6_eqOptFn`, `cmp6_cmpOptFn`, `cmp6_eqForBody`/`cmp6_eqForFn`), of the forwarding text (`wrap_eq`, `Equiv/Cmp.lean`) or of `cmpForBody`/`cmpForFn`
  (`Equiv/CmpFor.lean`), proved once.
-/
namespace Extracted.Equiv
open Rs Konst Konst.Cmp

/-! ### `__impl_option_cmp_fns!` over a payload comparison that is a function call -/

/-- the text of `__impl_option_cmp_fns! … $eq_fn_name` over a payload comparison `f` that is a call
    (`eq_option_slice_T`, `eq_option_str`: `f` = `CmpWrapper(l).const_eq(r)`) -/
def cmp6_eqOptFn {α : Type} (f : α → α → Res Bool) (left right : Option α) : Res Bool := Ctl.run (ρ := Bool) do
  let t2_ ← (match left, right with
      | (some l), (some r) => do
          let t1_ ← Ctl.call (f l r)
          pure t1_
      | none, none => do
          pure true
      | _, _ => do
          pure false)
  pure t2_

/-- the text of `__impl_option_cmp_fns! … $cmp_fn_name` over a payload comparison `f` that is a call
    (`cmp_option_slice_T`, `cmp_option_str`: `f` = `CmpWrapper(l).const_cmp(r)`) -/
def cmp6_cmpOptFn {α : Type} (f : α → α → Res Ordering) (left right : Option α) : Res Ordering :=
  Ctl.run (ρ := Ordering) do
  let t2_ ← (match left, right with
      | (some l), (some r) => do
          let t1_ ← Ctl.call (f l r)
          pure t1_
      | (some _), none => do
          pure Ordering.gt
      | none, (some _) => do
          pure Ordering.lt
      | none, none => do
          pure Ordering.eq)
  pure t2_

/-- `F` is the generated function, `hF` says that it is the common text -/
theorem cmp6_eqOptFn_eq {α β : Type} {g : α → β} {m : β → β → Option Bool} {f : α → α → Res Bool}
    {F : Option α → Option α → Res Bool} {left right : Option α} (hF : F = cmp6_eqOptFn f)
    (h : ∀ l r, left = some l → right = some r → ∃ b, m (g l) (g r) = some b ∧ f l r = .ok b) :
    ∃ b, eqOption m (left.map g) (right.map g) = some b ∧ F left right = .ok b := by
  subst hF
  unfold cmp6_eqOptFn
  cases left with
  | none => cases right <;> simp [eqOption]
  | some l =>
    cases right with
    | none => simp [eqOption]
    | some r =>
      obtain ⟨b, h1, h2⟩ := h l r rfl rfl
      exact ⟨b, by simpa [eqOption] using h1, by simp [h2]⟩

theorem cmp6_cmpOptFn_eq {α β : Type} {g : α → β} {m : β → β → Option Ordering} {f : α → α → Res Ordering}
    {F : Option α → Option α → Res Ordering} {left right : Option α} (hF : F = cmp6_cmpOptFn f)
    (h : ∀ l r, left = some l → right = some r → ∃ c, m (g l) (g r) = some c ∧ f l r = .ok c) :
    ∃ c, cmpOption m (left.map g) (right.map g) = some c ∧ F left right = .ok c := by
  subst hF
  unfold cmp6_cmpOptFn
  cases left with
  | none => cases right <;> simp [cmpOption]
  | some l =>
    cases right with
    | none => simp [cmpOption]
    | some r =>
      obtain ⟨c, h1, h2⟩ := h l r rfl rfl
      exact ⟨c, by simpa [cmpOption] using h1, by simp [h2]⟩

/-- the identity embedding (signed element types) -/
theorem cmp6_eqOptFn_eq_id {β : Type} {m : β → β → Option Bool} {f : β → β → Res Bool}
    {F : Option β → Option β → Res Bool} {left right : Option β} (hF : F = cmp6_eqOptFn f)
    (h : ∀ l r, left = some l → right = some r → ∃ b, m l r = some b ∧ f l r = .ok b) :
    ∃ b, eqOption m left right = some b ∧ F left right = .ok b := by
  have h' := cmp6_eqOptFn_eq (g := id) hF h
  rwa [Option.map_id_fun, id_eq, id_eq] at h'

theorem cmp6_cmpOptFn_eq_id {β : Type} {m : β → β → Option Ordering} {f : β → β → Res Ordering}
    {F : Option β → Option β → Res Ordering} {left right : Option β} (hF : F = cmp6_cmpOptFn f)
    (h : ∀ l r, left = some l → right = some r → ∃ c, m l r = some c ∧ f l r = .ok c) :
    ∃ c, cmpOption m left right = some c ∧ F left right = .ok c := by
  have h' := cmp6_cmpOptFn_eq (g := id) hF h
  rwa [Option.map_id_fun, id_eq, id_eq] at h'

/-! ### `const_eq_for!(slice; l, r, eq)` -/

/-- the text of `eq_slice_str.loop1` / `eq_slice_bytes.loop1`; `e` = the element comparison (with its fuel) -/
def cmp6_eqForBody {α : Type} (e : α → α → Res Bool) (left_slice right_slice : List α) :
    (Bool × Nat) → Ctl (LoopExit Bool (Bool × Nat) (Bool × Nat)) (Bool × Nat) := fun (returned, i) => do
  if (decide (i ≠ left_slice.length)) then do
      let t1_ ← Rs.index left_slice i
      let t2_ ← Rs.index right_slice i
      let t3_ ← Ctl.call (e t1_ t2_)
      let are_eq := t3_
      let returned ← (if (!are_eq) then do
            let returned := false
            Ctl.exit (.brk (returned, i))
          else do
            pure returned)
      let i ← Rs.uadd 64 i (1 : Nat)
      pure (returned, i)
  else Ctl.exit (.brk (returned, i))

set_option linter.unusedVariables false in
def cmp6_eqForFn {α : Type} (e : α → α → Res Bool) (fuel : Nat) (l r : List α) : Res Bool := Ctl.run (ρ := Bool) do
  let t4_ ← (match l, r with
      | left_slice, right_slice => do
          let returned := (decide (left_slice.length = right_slice.length))
          let returned ← (if returned then do
                let i := (0 : Nat)
                let (returned, i) ← (Rs.loop fuel (cmp6_eqForBody e left_slice right_slice) (returned, i))
                pure returned
              else do
                pure returned)
          pure returned)
  pure t4_

theorem cmp6_eqForBody_stop {α : Type} (e : α → α → Res Bool) (left right : List α) (ret : Bool) :
    cmp6_eqForBody e left right (ret, left.length) = .exit (.brk (ret, left.length)) := by
  simp only [cmp6_eqForBody, ne_eq, not_true_eq_false, decide_false, Bool.false_eq_true, if_false]

theorem cmp6_eqForBody_step {α : Type} {e : α → α → Res Bool} {left right : List α} {i : Nat} {b : Bool}
    (ret : Bool) (hl : i < left.length) (hr : i < right.length) (h1 : i + 1 < 2 ^ 64)
    (hx : e left[i] right[i] = .ok b) :
    cmp6_eqForBody e left right (ret, i)
      = if b then .val (ret, i + 1) else .exit (.brk (false, i)) := by
  simp only [cmp6_eqForBody, Rs.index, Rs.uadd, List.getElem?_eq_getElem hl, List.getElem?_eq_getElem hr,
    Nat.ne_of_lt hl, hx, h1, ne_eq, not_false_eq_true, decide_true, if_true, Ctl.call_ok, Ctl.bind_eq,
    Ctl.bind_val, Ctl.pure_eq]
  cases b <;> rfl

/-- the `while i != left_slice.len()` loop of `const_eq_for!(slice; …)`: it ends with `returned = ret` when the
    model's loop says `true`, `false` otherwise -/
theorem cmp6_eqFor_loop {α β : Type} (g : α → β) (m : β → β → Option Bool) (e : α → α → Res Bool)
    (n : Nat) (left right : List α) (ret : Bool) (i : Nat)
    (hlen : left.length = right.length) (hb : left.length < 2 ^ 64)
    (hn : left.length + 1 ≤ n + i) (hi : i ≤ left.length)
    (he : ∀ j (hl : j < left.length) (hr : j < right.length),
      ∃ b, m (g left[j]) (g right[j]) = some b ∧ e left[j] right[j] = .ok b) :
    ∃ b k, constEqForLoop m (left.map g) (right.map g) i = some b ∧
      Rs.loop (ε := Bool) n (cmp6_eqForBody e left right) (ret, i) = .val (ret && b, k) := by
  induction n generalizing i with
  | zero => exact (loop_fuel_zero hn hi).elim
  | succ n ih =>
    rw [Rs.loop_succ]
    by_cases hc : i = left.length
    · rw [hc, cmp6_eqForBody_stop, Konst.Lemmas.Cmp.constEqForLoop_stop m (List.length_map g).symm]
      exact ⟨true, _, rfl, congrArg (fun b => Ctl.val (b, left.length)) (Bool.and_true ret).symm⟩
    · have hil : i < left.length := Nat.lt_of_le_of_ne hi hc
      have hir : i < right.length := hlen ▸ hil
      obtain ⟨b, hm, hx⟩ := he i hil hir
      rw [cmp6_eqForBody_step ret hil hir (Nat.lt_of_le_of_lt hil hb) hx,
        Konst.Lemmas.Cmp.constEqForLoop_step m (l := left.map g) (by rwa [List.length_map]) (by rwa [List.length_map]),
        List.getElem_map, List.getElem_map, hm]
      cases b with
      | true => exact ih (i + 1) (loop_fuel_succ hn) hil
      | false => exact ⟨false, i, rfl, congrArg (fun b => Ctl.val (b, i)) (Bool.and_false ret).symm⟩

theorem zip_getElem_mem {α : Type} (l r : List α) (j : Nat) (hl : j < l.length) (hr : j < r.length) :
    (l[j], r[j]) ∈ l.zip r := by
  have hz : j < (l.zip r).length := by simp [List.length_zip]; omega
  have := List.getElem_mem hz
  simpa [List.getElem_zip] using this

theorem cmp6_eqForFn_eq {α β : Type} (g : α → β) (m : β → β → Option Bool) (e : α → α → Res Bool)
    (fuel : Nat) (l r : List α)
    (hb : min l.length r.length < 2 ^ 64) (hf : min l.length r.length + 1 ≤ fuel)
    (he : ∀ p ∈ l.zip r, ∃ b, m (g p.1) (g p.2) = some b ∧ e p.1 p.2 = .ok b) :
    ∃ b, constEqForSlice m (l.map g) (r.map g) = some b ∧ cmp6_eqForFn e fuel l r = .ok b := by
  unfold cmp6_eqForFn constEqForSlice
  by_cases hlen : l.length = r.length
  · rw [Nat.min_eq_left (Nat.le_of_eq hlen)] at hb hf
    obtain ⟨b, k, h1, h2⟩ := cmp6_eqFor_loop g m e fuel l r true 0 hlen hb hf (Nat.zero_le _)
      (fun j hl hr => he _ (zip_getElem_mem l r j hl hr))
    exact ⟨b, by simpa [hlen] using h1, by simp [hlen, h2]⟩
  · exact ⟨false, by simp [hlen], by simp [hlen]⟩

/-! ### the generated definitions are instances of the generic texts

  (`rfl` after `cases` on the two `Option` arguments: every generated `match` is its own auxiliary matcher) -/

theorem eq_option_slice_u16_fn (fuel : Nat) :
    Extracted.eq_option_slice_u16 fuel = cmp6_eqOptFn (Extracted.CmpWrapper_slice_u16.const_eq fuel) := by
  funext l r; cases l <;> cases r <;> rfl
theorem cmp_option_slice_u16_fn (fuel : Nat) :
    Extracted.cmp_option_slice_u16 fuel = cmp6_cmpOptFn (Extracted.CmpWrapper_slice_u16.const_cmp fuel) := by
  funext l r; cases l <;> cases r <;> rfl
theorem eq_option_slice_u32_fn (fuel : Nat) :
    Extracted.eq_option_slice_u32 fuel = cmp6_eqOptFn (Extracted.CmpWrapper_slice_u32.const_eq fuel) := by
  funext l r; cases l <;> cases r <;> rfl
theorem cmp_option_slice_u32_fn (fuel : Nat) :
    Extracted.cmp_option_slice_u32 fuel = cmp6_cmpOptFn (Extracted.CmpWrapper_slice_u32.const_cmp fuel) := by
  funext l r; cases l <;> cases r <;> rfl
theorem eq_option_slice_u64_fn (fuel : Nat) :
    Extracted.eq_option_slice_u64 fuel = cmp6_eqOptFn (Extracted.CmpWrapper_slice_u64.const_eq fuel) := by
  funext l r; cases l <;> cases r <;> rfl
theorem cmp_option_slice_u64_fn (fuel : Nat) :
    Extracted.cmp_option_slice_u64 fuel = cmp6_cmpOptFn (Extracted.CmpWrapper_slice_u64.const_cmp fuel) := by
  funext l r; cases l <;> cases r <;> rfl
theorem eq_option_slice_u128_fn (fuel : Nat) :
    Extracted.eq_option_slice_u128 fuel = cmp6_eqOptFn (Extracted.CmpWrapper_slice_u128.const_eq fuel) := by
  funext l r; cases l <;> cases r <;> rfl
theorem cmp_option_slice_u128_fn (fuel : Nat) :
    Extracted.cmp_option_slice_u128 fuel = cmp6_cmpOptFn (Extracted.CmpWrapper_slice_u128.const_cmp fuel) := by
  funext l r; cases l <;> cases r <;> rfl
theorem eq_option_slice_usize_fn (fuel : Nat) :
    Extracted.eq_option_slice_usize fuel = cmp6_eqOptFn (Extracted.CmpWrapper_slice_usize.const_eq fuel) := by
  funext l r; cases l <;> cases r <;> rfl
theorem cmp_option_slice_usize_fn (fuel : Nat) :
    Extracted.cmp_option_slice_usize fuel = cmp6_cmpOptFn (Extracted.CmpWrapper_slice_usize.const_cmp fuel) := by
  funext l r; cases l <;> cases r <;> rfl
theorem eq_option_slice_i8_fn (fuel : Nat) :
    Extracted.eq_option_slice_i8 fuel = cmp6_eqOptFn (Extracted.CmpWrapper_slice_i8.const_eq fuel) := by
  funext l r; cases l <;> cases r <;> rfl
theorem cmp_option_slice_i8_fn (fuel : Nat) :
    Extracted.cmp_option_slice_i8 fuel = cmp6_cmpOptFn (Extracted.CmpWrapper_slice_i8.const_cmp fuel) := by
  funext l r; cases l <;> cases r <;> rfl
theorem eq_option_slice_i16_fn (fuel : Nat) :
    Extracted.eq_option_slice_i16 fuel = cmp6_eqOptFn (Extracted.CmpWrapper_slice_i16.const_eq fuel) := by
  funext l r; cases l <;> cases r <;> rfl
theorem cmp_option_slice_i16_fn (fuel : Nat) :
    Extracted.cmp_option_slice_i16 fuel = cmp6_cmpOptFn (Extracted.CmpWrapper_slice_i16.const_cmp fuel) := by
  funext l r; cases l <;> cases r <;> rfl
theorem eq_option_slice_i32_fn (fuel : Nat) :
    Extracted.eq_option_slice_i32 fuel = cmp6_eqOptFn (Extracted.CmpWrapper_slice_i32.const_eq fuel) := by
  funext l r; cases l <;> cases r <;> rfl
theorem cmp_option_slice_i32_fn (fuel : Nat) :
    Extracted.cmp_option_slice_i32 fuel = cmp6_cmpOptFn (Extracted.CmpWrapper_slice_i32.const_cmp fuel) := by
  funext l r; cases l <;> cases r <;> rfl
theorem eq_option_slice_i64_fn (fuel : Nat) :
    Extracted.eq_option_slice_i64 fuel = cmp6_eqOptFn (Extracted.CmpWrapper_slice_i64.const_eq fuel) := by
  funext l r; cases l <;> cases r <;> rfl
theorem cmp_option_slice_i64_fn (fuel : Nat) :
    Extracted.cmp_option_slice_i64 fuel = cmp6_cmpOptFn (Extracted.CmpWrapper_slice_i64.const_cmp fuel) := by
  funext l r; cases l <;> cases r <;> rfl
theorem eq_option_slice_i128_fn (fuel : Nat) :
    Extracted.eq_option_slice_i128 fuel = cmp6_eqOptFn (Extracted.CmpWrapper_slice_i128.const_eq fuel) := by
  funext l r; cases l <;> cases r <;> rfl
theorem cmp_option_slice_i128_fn (fuel : Nat) :
    Extracted.cmp_option_slice_i128 fuel = cmp6_cmpOptFn (Extracted.CmpWrapper_slice_i128.const_cmp fuel) := by
  funext l r; cases l <;> cases r <;> rfl
theorem eq_option_slice_isize_fn (fuel : Nat) :
    Extracted.eq_option_slice_isize fuel = cmp6_eqOptFn (Extracted.CmpWrapper_slice_isize.const_eq fuel) := by
  funext l r; cases l <;> cases r <;> rfl
theorem cmp_option_slice_isize_fn (fuel : Nat) :
    Extracted.cmp_option_slice_isize fuel = cmp6_cmpOptFn (Extracted.CmpWrapper_slice_isize.const_cmp fuel) := by
  funext l r; cases l <;> cases r <;> rfl
theorem eq_option_slice_bool_fn (fuel : Nat) :
    Extracted.eq_option_slice_bool fuel = cmp6_eqOptFn (Extracted.CmpWrapper_slice_bool.const_eq fuel) := by
  funext l r; cases l <;> cases r <;> rfl
theorem cmp_option_slice_bool_fn (fuel : Nat) :
    Extracted.cmp_option_slice_bool fuel = cmp6_cmpOptFn (Extracted.CmpWrapper_slice_bool.const_cmp fuel) := by
  funext l r; cases l <;> cases r <;> rfl
theorem eq_option_slice_char_fn (fuel : Nat) :
    Extracted.eq_option_slice_char fuel = cmp6_eqOptFn (Extracted.CmpWrapper_slice_char.const_eq fuel) := by
  funext l r; cases l <;> cases r <;> rfl
theorem cmp_option_slice_char_fn (fuel : Nat) :
    Extracted.cmp_option_slice_char fuel = cmp6_cmpOptFn (Extracted.CmpWrapper_slice_char.const_cmp fuel) := by
  funext l r; cases l <;> cases r <;> rfl
theorem eq_option_slice_str_fn (fuel : Nat) :
    Extracted.eq_option_slice_str fuel = cmp6_eqOptFn (Extracted.CmpWrapper_slice_str.const_eq fuel) := by
  funext l r; cases l <;> cases r <;> rfl
theorem cmp_option_slice_str_fn (fuel : Nat) :
    Extracted.cmp_option_slice_str fuel = cmp6_cmpOptFn (Extracted.CmpWrapper_slice_str.const_cmp fuel) := by
  funext l r; cases l <;> cases r <;> rfl
theorem eq_option_slice_bytes_fn (fuel : Nat) :
    Extracted.eq_option_slice_bytes fuel = cmp6_eqOptFn (Extracted.CmpWrapper_slice_bytes.const_eq fuel) := by
  funext l r; cases l <;> cases r <;> rfl
theorem cmp_option_slice_bytes_fn (fuel : Nat) :
    Extracted.cmp_option_slice_bytes fuel = cmp6_cmpOptFn (Extracted.CmpWrapper_slice_bytes.const_cmp fuel) := by
  funext l r; cases l <;> cases r <;> rfl
theorem eq_option_str_fn (fuel : Nat) :
    Extracted.eq_option_str fuel = cmp6_eqOptFn (Extracted.CmpWrapper_str.const_eq fuel) := by
  funext l r; cases l <;> cases r <;> rfl
theorem cmp_option_str_fn (fuel : Nat) :
    Extracted.cmp_option_str fuel = cmp6_cmpOptFn (Extracted.CmpWrapper_str.const_cmp fuel) := by
  funext l r; cases l <;> cases r <;> rfl

theorem eq_slice_str_loop1 (fuel : Nat) : Extracted.eq_slice_str.loop1 fuel = cmp6_eqForBody (Extracted.eq_str fuel) := rfl
theorem eq_slice_bytes_loop1 (fuel : Nat) : Extracted.eq_slice_bytes.loop1 fuel = cmp6_eqForBody (Extracted.eq_bytes fuel) := rfl
theorem cmp_slice_str_loop1 (fuel : Nat) : Extracted.cmp_slice_str.loop1 fuel = cmpForBody (Extracted.cmp_str fuel) := by
  funext ⟨a, b⟩; cases a <;> cases b <;> rfl
theorem cmp_slice_bytes_loop1 (fuel : Nat) : Extracted.cmp_slice_bytes.loop1 fuel = cmpForBody (Extracted.cmp_bytes fuel) := by
  funext ⟨a, b⟩; cases a <;> cases b <;> rfl
theorem eq_slice_str_fn (fuel : Nat) : Extracted.eq_slice_str fuel = cmp6_eqForFn (Extracted.eq_str fuel) fuel := rfl
theorem eq_slice_bytes_fn (fuel : Nat) : Extracted.eq_slice_bytes fuel = cmp6_eqForFn (Extracted.eq_bytes fuel) fuel := rfl
theorem cmp_slice_str_fn (fuel : Nat) : Extracted.cmp_slice_str fuel = cmpForFn (Extracted.cmp_str fuel) fuel := by
  funext l r; unfold Extracted.cmp_slice_str cmpForFn; rw [cmp_slice_str_loop1]
theorem cmp_slice_bytes_fn (fuel : Nat) : Extracted.cmp_slice_bytes fuel = cmpForFn (Extracted.cmp_bytes fuel) fuel := by
  funext l r; unfold Extracted.cmp_slice_bytes cmpForFn; rw [cmp_slice_bytes_loop1]


/-! ### the equivalence theorems: `CmpWrapper<&[T]>` and `Option<&[T]>` for the scalar element types

  `CmpWrapper<&[T]>::const_eq / const_cmp` forward to `eq_slice_T` / `cmp_slice_T` (`Equiv/Cmp.lean` for `i8`, `u64`;
  `Equiv/Cmp4.lean` for the others) with the same hypotheses; `eq_option_slice_T` / `cmp_option_slice_T` ask them for
  the `(Some(l), Some(r))` arm only (the other arms neither loop nor index), as `eq_option_bytes_eq`. -/

theorem CmpWrapper_slice_u16_const_eq_eq (fuel : Nat) (self other : List Nat)
    (hb : min self.length other.length < 2 ^ 64) (hf : min self.length other.length + 1 ≤ fuel) :
    ∃ b, eqSlice (self.map Int.ofNat) (other.map Int.ofNat) = some b ∧
      Extracted.CmpWrapper_slice_u16.const_eq fuel self other = .ok b :=
  wrap_eq (eq_slice_u16_eq fuel self other hb hf)

theorem CmpWrapper_slice_u16_const_cmp_eq (fuel : Nat) (self other : List Nat)
    (hb : min self.length other.length < 2 ^ 64) (hf : min self.length other.length + 1 ≤ fuel) :
    ∃ c, cmpSlice (self.map Int.ofNat) (other.map Int.ofNat) = some c ∧
      Extracted.CmpWrapper_slice_u16.const_cmp fuel self other = .ok c :=
  wrap_eq (cmp_slice_u16_eq fuel self other hb hf)

theorem eq_option_slice_u16_eq (fuel : Nat) (left right : Option (List Nat))
    (hb : ∀ l r, left = some l → right = some r → min l.length r.length < 2 ^ 64)
    (hf : ∀ l r, left = some l → right = some r → min l.length r.length + 1 ≤ fuel) :
    ∃ b, eqOption eqSlice (left.map (List.map Int.ofNat)) (right.map (List.map Int.ofNat)) = some b ∧
      Extracted.eq_option_slice_u16 fuel left right = .ok b :=
  cmp6_eqOptFn_eq (eq_option_slice_u16_fn fuel) (some_some_arm hb hf (CmpWrapper_slice_u16_const_eq_eq fuel))

theorem cmp_option_slice_u16_eq (fuel : Nat) (left right : Option (List Nat))
    (hb : ∀ l r, left = some l → right = some r → min l.length r.length < 2 ^ 64)
    (hf : ∀ l r, left = some l → right = some r → min l.length r.length + 1 ≤ fuel) :
    ∃ c, cmpOption cmpSlice (left.map (List.map Int.ofNat)) (right.map (List.map Int.ofNat)) = some c ∧
      Extracted.cmp_option_slice_u16 fuel left right = .ok c :=
  cmp6_cmpOptFn_eq (cmp_option_slice_u16_fn fuel) (some_some_arm hb hf (CmpWrapper_slice_u16_const_cmp_eq fuel))

example : ∃ c, cmpOption cmpSlice (some [65535, 0]) (some [65535, 1]) = some c ∧
    Extracted.cmp_option_slice_u16 3 (some [65535, 0]) (some [65535, 1]) = .ok c :=
  cmp_option_slice_u16_eq 3 (some [65535, 0]) (some [65535, 1])
    (of_some_some (by decide +kernel)) (of_some_some (by decide +kernel))
example : Extracted.CmpWrapper_slice_u16.const_eq 3 [65535, 0] [65535, 1] = .ok false := by decide +kernel
example : Extracted.CmpWrapper_slice_u16.const_cmp 3 [65535, 0] [65535, 1] = .ok .lt := by decide +kernel
example : Extracted.eq_option_slice_u16 3 (some [65535, 0]) (some [65535, 0]) = .ok true := by decide +kernel
example : Extracted.eq_option_slice_u16 0 (some [65535, 0]) none = .ok false := by decide +kernel
example : Extracted.cmp_option_slice_u16 3 (some [65535, 0]) (some [65535, 1]) = .ok .lt := by decide +kernel
example : Extracted.cmp_option_slice_u16 0 none (some [65535, 1]) = .ok .lt := by decide +kernel

theorem CmpWrapper_slice_u32_const_eq_eq (fuel : Nat) (self other : List Nat)
    (hb : min self.length other.length < 2 ^ 64) (hf : min self.length other.length + 1 ≤ fuel) :
    ∃ b, eqSlice (self.map Int.ofNat) (other.map Int.ofNat) = some b ∧
      Extracted.CmpWrapper_slice_u32.const_eq fuel self other = .ok b :=
  wrap_eq (eq_slice_u32_eq fuel self other hb hf)

theorem CmpWrapper_slice_u32_const_cmp_eq (fuel : Nat) (self other : List Nat)
    (hb : min self.length other.length < 2 ^ 64) (hf : min self.length other.length + 1 ≤ fuel) :
    ∃ c, cmpSlice (self.map Int.ofNat) (other.map Int.ofNat) = some c ∧
      Extracted.CmpWrapper_slice_u32.const_cmp fuel self other = .ok c :=
  wrap_eq (cmp_slice_u32_eq fuel self other hb hf)

theorem eq_option_slice_u32_eq (fuel : Nat) (left right : Option (List Nat))
    (hb : ∀ l r, left = some l → right = some r → min l.length r.length < 2 ^ 64)
    (hf : ∀ l r, left = some l → right = some r → min l.length r.length + 1 ≤ fuel) :
    ∃ b, eqOption eqSlice (left.map (List.map Int.ofNat)) (right.map (List.map Int.ofNat)) = some b ∧
      Extracted.eq_option_slice_u32 fuel left right = .ok b :=
  cmp6_eqOptFn_eq (eq_option_slice_u32_fn fuel) (some_some_arm hb hf (CmpWrapper_slice_u32_const_eq_eq fuel))

theorem cmp_option_slice_u32_eq (fuel : Nat) (left right : Option (List Nat))
    (hb : ∀ l r, left = some l → right = some r → min l.length r.length < 2 ^ 64)
    (hf : ∀ l r, left = some l → right = some r → min l.length r.length + 1 ≤ fuel) :
    ∃ c, cmpOption cmpSlice (left.map (List.map Int.ofNat)) (right.map (List.map Int.ofNat)) = some c ∧
      Extracted.cmp_option_slice_u32 fuel left right = .ok c :=
  cmp6_cmpOptFn_eq (cmp_option_slice_u32_fn fuel) (some_some_arm hb hf (CmpWrapper_slice_u32_const_cmp_eq fuel))

example : ∃ c, cmpOption cmpSlice (some [4294967295, 7]) (some [4294967295, 2]) = some c ∧
    Extracted.cmp_option_slice_u32 3 (some [4294967295, 7]) (some [4294967295, 2]) = .ok c :=
  cmp_option_slice_u32_eq 3 (some [4294967295, 7]) (some [4294967295, 2])
    (of_some_some (by decide +kernel)) (of_some_some (by decide +kernel))
example : Extracted.CmpWrapper_slice_u32.const_eq 3 [4294967295, 7] [4294967295, 2] = .ok false := by decide +kernel
example : Extracted.CmpWrapper_slice_u32.const_cmp 3 [4294967295, 7] [4294967295, 2] = .ok .gt := by decide +kernel
example : Extracted.eq_option_slice_u32 3 (some [4294967295, 7]) (some [4294967295, 7]) = .ok true := by decide +kernel
example : Extracted.eq_option_slice_u32 0 (some [4294967295, 7]) none = .ok false := by decide +kernel
example : Extracted.cmp_option_slice_u32 3 (some [4294967295, 7]) (some [4294967295, 2]) = .ok .gt := by decide +kernel
example : Extracted.cmp_option_slice_u32 0 none (some [4294967295, 2]) = .ok .lt := by decide +kernel

theorem CmpWrapper_slice_u64_const_eq_eq (fuel : Nat) (self other : List Nat)
    (hb : min self.length other.length < 2 ^ 64) (hf : min self.length other.length + 1 ≤ fuel) :
    ∃ b, eqSlice (self.map Int.ofNat) (other.map Int.ofNat) = some b ∧
      Extracted.CmpWrapper_slice_u64.const_eq fuel self other = .ok b :=
  wrap_eq (eq_slice_u64_eq fuel self other hb hf)

theorem CmpWrapper_slice_u64_const_cmp_eq (fuel : Nat) (self other : List Nat)
    (hb : min self.length other.length < 2 ^ 64) (hf : min self.length other.length + 1 ≤ fuel) :
    ∃ c, cmpSlice (self.map Int.ofNat) (other.map Int.ofNat) = some c ∧
      Extracted.CmpWrapper_slice_u64.const_cmp fuel self other = .ok c :=
  wrap_eq (cmp_slice_u64_eq fuel self other hb hf)

theorem eq_option_slice_u64_eq (fuel : Nat) (left right : Option (List Nat))
    (hb : ∀ l r, left = some l → right = some r → min l.length r.length < 2 ^ 64)
    (hf : ∀ l r, left = some l → right = some r → min l.length r.length + 1 ≤ fuel) :
    ∃ b, eqOption eqSlice (left.map (List.map Int.ofNat)) (right.map (List.map Int.ofNat)) = some b ∧
      Extracted.eq_option_slice_u64 fuel left right = .ok b :=
  cmp6_eqOptFn_eq (eq_option_slice_u64_fn fuel) (some_some_arm hb hf (CmpWrapper_slice_u64_const_eq_eq fuel))

theorem cmp_option_slice_u64_eq (fuel : Nat) (left right : Option (List Nat))
    (hb : ∀ l r, left = some l → right = some r → min l.length r.length < 2 ^ 64)
    (hf : ∀ l r, left = some l → right = some r → min l.length r.length + 1 ≤ fuel) :
    ∃ c, cmpOption cmpSlice (left.map (List.map Int.ofNat)) (right.map (List.map Int.ofNat)) = some c ∧
      Extracted.cmp_option_slice_u64 fuel left right = .ok c :=
  cmp6_cmpOptFn_eq (cmp_option_slice_u64_fn fuel) (some_some_arm hb hf (CmpWrapper_slice_u64_const_cmp_eq fuel))

example : ∃ c, cmpOption cmpSlice (some [18446744073709551615, 0]) (some [18446744073709551615, 1]) = some c ∧
    Extracted.cmp_option_slice_u64 3 (some [18446744073709551615, 0]) (some [18446744073709551615, 1]) = .ok c :=
  cmp_option_slice_u64_eq 3 (some [18446744073709551615, 0]) (some [18446744073709551615, 1])
    (of_some_some (by decide +kernel)) (of_some_some (by decide +kernel))
example : Extracted.CmpWrapper_slice_u64.const_eq 3 [18446744073709551615, 0] [18446744073709551615, 1] = .ok false := by decide +kernel
example : Extracted.CmpWrapper_slice_u64.const_cmp 3 [18446744073709551615, 0] [18446744073709551615, 1] = .ok .lt := by decide +kernel
example : Extracted.eq_option_slice_u64 3 (some [18446744073709551615, 0]) (some [18446744073709551615, 0]) = .ok true := by decide +kernel
example : Extracted.eq_option_slice_u64 0 (some [18446744073709551615, 0]) none = .ok false := by decide +kernel
example : Extracted.cmp_option_slice_u64 3 (some [18446744073709551615, 0]) (some [18446744073709551615, 1]) = .ok .lt := by decide +kernel
example : Extracted.cmp_option_slice_u64 0 none (some [18446744073709551615, 1]) = .ok .lt := by decide +kernel

theorem CmpWrapper_slice_u128_const_eq_eq (fuel : Nat) (self other : List Nat)
    (hb : min self.length other.length < 2 ^ 64) (hf : min self.length other.length + 1 ≤ fuel) :
    ∃ b, eqSlice (self.map Int.ofNat) (other.map Int.ofNat) = some b ∧
      Extracted.CmpWrapper_slice_u128.const_eq fuel self other = .ok b :=
  wrap_eq (eq_slice_u128_eq fuel self other hb hf)

theorem CmpWrapper_slice_u128_const_cmp_eq (fuel : Nat) (self other : List Nat)
    (hb : min self.length other.length < 2 ^ 64) (hf : min self.length other.length + 1 ≤ fuel) :
    ∃ c, cmpSlice (self.map Int.ofNat) (other.map Int.ofNat) = some c ∧
      Extracted.CmpWrapper_slice_u128.const_cmp fuel self other = .ok c :=
  wrap_eq (cmp_slice_u128_eq fuel self other hb hf)

theorem eq_option_slice_u128_eq (fuel : Nat) (left right : Option (List Nat))
    (hb : ∀ l r, left = some l → right = some r → min l.length r.length < 2 ^ 64)
    (hf : ∀ l r, left = some l → right = some r → min l.length r.length + 1 ≤ fuel) :
    ∃ b, eqOption eqSlice (left.map (List.map Int.ofNat)) (right.map (List.map Int.ofNat)) = some b ∧
      Extracted.eq_option_slice_u128 fuel left right = .ok b :=
  cmp6_eqOptFn_eq (eq_option_slice_u128_fn fuel) (some_some_arm hb hf (CmpWrapper_slice_u128_const_eq_eq fuel))

theorem cmp_option_slice_u128_eq (fuel : Nat) (left right : Option (List Nat))
    (hb : ∀ l r, left = some l → right = some r → min l.length r.length < 2 ^ 64)
    (hf : ∀ l r, left = some l → right = some r → min l.length r.length + 1 ≤ fuel) :
    ∃ c, cmpOption cmpSlice (left.map (List.map Int.ofNat)) (right.map (List.map Int.ofNat)) = some c ∧
      Extracted.cmp_option_slice_u128 fuel left right = .ok c :=
  cmp6_cmpOptFn_eq (cmp_option_slice_u128_fn fuel) (some_some_arm hb hf (CmpWrapper_slice_u128_const_cmp_eq fuel))

example : ∃ c, cmpOption cmpSlice (some [340282366920938463463374607431768211455, 1]) (some [340282366920938463463374607431768211455, 0]) = some c ∧
    Extracted.cmp_option_slice_u128 3 (some [340282366920938463463374607431768211455, 1]) (some [340282366920938463463374607431768211455, 0]) = .ok c :=
  cmp_option_slice_u128_eq 3 (some [340282366920938463463374607431768211455, 1]) (some [340282366920938463463374607431768211455, 0])
    (of_some_some (by decide +kernel)) (of_some_some (by decide +kernel))
example : Extracted.CmpWrapper_slice_u128.const_eq 3 [340282366920938463463374607431768211455, 1] [340282366920938463463374607431768211455, 0] = .ok false := by decide +kernel
example : Extracted.CmpWrapper_slice_u128.const_cmp 3 [340282366920938463463374607431768211455, 1] [340282366920938463463374607431768211455, 0] = .ok .gt := by decide +kernel
example : Extracted.eq_option_slice_u128 3 (some [340282366920938463463374607431768211455, 1]) (some [340282366920938463463374607431768211455, 1]) = .ok true := by decide +kernel
example : Extracted.eq_option_slice_u128 0 (some [340282366920938463463374607431768211455, 1]) none = .ok false := by decide +kernel
example : Extracted.cmp_option_slice_u128 3 (some [340282366920938463463374607431768211455, 1]) (some [340282366920938463463374607431768211455, 0]) = .ok .gt := by decide +kernel
example : Extracted.cmp_option_slice_u128 0 none (some [340282366920938463463374607431768211455, 0]) = .ok .lt := by decide +kernel

theorem CmpWrapper_slice_usize_const_eq_eq (fuel : Nat) (self other : List Nat)
    (hb : min self.length other.length < 2 ^ 64) (hf : min self.length other.length + 1 ≤ fuel) :
    ∃ b, eqSlice (self.map Int.ofNat) (other.map Int.ofNat) = some b ∧
      Extracted.CmpWrapper_slice_usize.const_eq fuel self other = .ok b :=
  wrap_eq (eq_slice_usize_eq fuel self other hb hf)

theorem CmpWrapper_slice_usize_const_cmp_eq (fuel : Nat) (self other : List Nat)
    (hb : min self.length other.length < 2 ^ 64) (hf : min self.length other.length + 1 ≤ fuel) :
    ∃ c, cmpSlice (self.map Int.ofNat) (other.map Int.ofNat) = some c ∧
      Extracted.CmpWrapper_slice_usize.const_cmp fuel self other = .ok c :=
  wrap_eq (cmp_slice_usize_eq fuel self other hb hf)

theorem eq_option_slice_usize_eq (fuel : Nat) (left right : Option (List Nat))
    (hb : ∀ l r, left = some l → right = some r → min l.length r.length < 2 ^ 64)
    (hf : ∀ l r, left = some l → right = some r → min l.length r.length + 1 ≤ fuel) :
    ∃ b, eqOption eqSlice (left.map (List.map Int.ofNat)) (right.map (List.map Int.ofNat)) = some b ∧
      Extracted.eq_option_slice_usize fuel left right = .ok b :=
  cmp6_eqOptFn_eq (eq_option_slice_usize_fn fuel) (some_some_arm hb hf (CmpWrapper_slice_usize_const_eq_eq fuel))

theorem cmp_option_slice_usize_eq (fuel : Nat) (left right : Option (List Nat))
    (hb : ∀ l r, left = some l → right = some r → min l.length r.length < 2 ^ 64)
    (hf : ∀ l r, left = some l → right = some r → min l.length r.length + 1 ≤ fuel) :
    ∃ c, cmpOption cmpSlice (left.map (List.map Int.ofNat)) (right.map (List.map Int.ofNat)) = some c ∧
      Extracted.cmp_option_slice_usize fuel left right = .ok c :=
  cmp6_cmpOptFn_eq (cmp_option_slice_usize_fn fuel) (some_some_arm hb hf (CmpWrapper_slice_usize_const_cmp_eq fuel))

example : ∃ c, cmpOption cmpSlice (some [18446744073709551615, 3]) (some [18446744073709551615, 4]) = some c ∧
    Extracted.cmp_option_slice_usize 3 (some [18446744073709551615, 3]) (some [18446744073709551615, 4]) = .ok c :=
  cmp_option_slice_usize_eq 3 (some [18446744073709551615, 3]) (some [18446744073709551615, 4])
    (of_some_some (by decide +kernel)) (of_some_some (by decide +kernel))
example : Extracted.CmpWrapper_slice_usize.const_eq 3 [18446744073709551615, 3] [18446744073709551615, 4] = .ok false := by decide +kernel
example : Extracted.CmpWrapper_slice_usize.const_cmp 3 [18446744073709551615, 3] [18446744073709551615, 4] = .ok .lt := by decide +kernel
example : Extracted.eq_option_slice_usize 3 (some [18446744073709551615, 3]) (some [18446744073709551615, 3]) = .ok true := by decide +kernel
example : Extracted.eq_option_slice_usize 0 (some [18446744073709551615, 3]) none = .ok false := by decide +kernel
example : Extracted.cmp_option_slice_usize 3 (some [18446744073709551615, 3]) (some [18446744073709551615, 4]) = .ok .lt := by decide +kernel
example : Extracted.cmp_option_slice_usize 0 none (some [18446744073709551615, 4]) = .ok .lt := by decide +kernel

theorem CmpWrapper_slice_i8_const_eq_eq (fuel : Nat) (self other : List Int)
    (hb : min self.length other.length < 2 ^ 64) (hf : min self.length other.length + 1 ≤ fuel) :
    ∃ b, eqSlice self other = some b ∧
      Extracted.CmpWrapper_slice_i8.const_eq fuel self other = .ok b :=
  wrap_eq (eq_slice_i8_eq fuel self other hb hf)

theorem CmpWrapper_slice_i8_const_cmp_eq (fuel : Nat) (self other : List Int)
    (hb : min self.length other.length < 2 ^ 64) (hf : min self.length other.length + 1 ≤ fuel) :
    ∃ c, cmpSlice self other = some c ∧
      Extracted.CmpWrapper_slice_i8.const_cmp fuel self other = .ok c :=
  wrap_eq (cmp_slice_i8_eq fuel self other hb hf)

theorem eq_option_slice_i8_eq (fuel : Nat) (left right : Option (List Int))
    (hb : ∀ l r, left = some l → right = some r → min l.length r.length < 2 ^ 64)
    (hf : ∀ l r, left = some l → right = some r → min l.length r.length + 1 ≤ fuel) :
    ∃ b, eqOption eqSlice left right = some b ∧
      Extracted.eq_option_slice_i8 fuel left right = .ok b :=
  cmp6_eqOptFn_eq_id (eq_option_slice_i8_fn fuel) (some_some_arm hb hf (CmpWrapper_slice_i8_const_eq_eq fuel))

theorem cmp_option_slice_i8_eq (fuel : Nat) (left right : Option (List Int))
    (hb : ∀ l r, left = some l → right = some r → min l.length r.length < 2 ^ 64)
    (hf : ∀ l r, left = some l → right = some r → min l.length r.length + 1 ≤ fuel) :
    ∃ c, cmpOption cmpSlice left right = some c ∧
      Extracted.cmp_option_slice_i8 fuel left right = .ok c :=
  cmp6_cmpOptFn_eq_id (cmp_option_slice_i8_fn fuel) (some_some_arm hb hf (CmpWrapper_slice_i8_const_cmp_eq fuel))

example : ∃ c, cmpOption cmpSlice (some [-1, -128]) (some [-1, 127]) = some c ∧
    Extracted.cmp_option_slice_i8 3 (some [-1, -128]) (some [-1, 127]) = .ok c :=
  cmp_option_slice_i8_eq 3 _ _
    (of_some_some (by decide +kernel)) (of_some_some (by decide +kernel))
example : Extracted.CmpWrapper_slice_i8.const_eq 3 [-1, -128] [-1, 127] = .ok false := by decide +kernel
example : Extracted.CmpWrapper_slice_i8.const_cmp 3 [-1, -128] [-1, 127] = .ok .lt := by decide +kernel
example : Extracted.eq_option_slice_i8 3 (some [-1, -128]) (some [-1, -128]) = .ok true := by decide +kernel
example : Extracted.eq_option_slice_i8 0 (some [-1, -128]) none = .ok false := by decide +kernel
example : Extracted.cmp_option_slice_i8 3 (some [-1, -128]) (some [-1, 127]) = .ok .lt := by decide +kernel
example : Extracted.cmp_option_slice_i8 0 none (some [-1, 127]) = .ok .lt := by decide +kernel

theorem CmpWrapper_slice_i16_const_eq_eq (fuel : Nat) (self other : List Int)
    (hb : min self.length other.length < 2 ^ 64) (hf : min self.length other.length + 1 ≤ fuel) :
    ∃ b, eqSlice self other = some b ∧
      Extracted.CmpWrapper_slice_i16.const_eq fuel self other = .ok b :=
  wrap_eq (eq_slice_i16_eq fuel self other hb hf)

theorem CmpWrapper_slice_i16_const_cmp_eq (fuel : Nat) (self other : List Int)
    (hb : min self.length other.length < 2 ^ 64) (hf : min self.length other.length + 1 ≤ fuel) :
    ∃ c, cmpSlice self other = some c ∧
      Extracted.CmpWrapper_slice_i16.const_cmp fuel self other = .ok c :=
  wrap_eq (cmp_slice_i16_eq fuel self other hb hf)

theorem eq_option_slice_i16_eq (fuel : Nat) (left right : Option (List Int))
    (hb : ∀ l r, left = some l → right = some r → min l.length r.length < 2 ^ 64)
    (hf : ∀ l r, left = some l → right = some r → min l.length r.length + 1 ≤ fuel) :
    ∃ b, eqOption eqSlice left right = some b ∧
      Extracted.eq_option_slice_i16 fuel left right = .ok b :=
  cmp6_eqOptFn_eq_id (eq_option_slice_i16_fn fuel) (some_some_arm hb hf (CmpWrapper_slice_i16_const_eq_eq fuel))

theorem cmp_option_slice_i16_eq (fuel : Nat) (left right : Option (List Int))
    (hb : ∀ l r, left = some l → right = some r → min l.length r.length < 2 ^ 64)
    (hf : ∀ l r, left = some l → right = some r → min l.length r.length + 1 ≤ fuel) :
    ∃ c, cmpOption cmpSlice left right = some c ∧
      Extracted.cmp_option_slice_i16 fuel left right = .ok c :=
  cmp6_cmpOptFn_eq_id (cmp_option_slice_i16_fn fuel) (some_some_arm hb hf (CmpWrapper_slice_i16_const_cmp_eq fuel))

example : ∃ c, cmpOption cmpSlice (some [-1, 32767]) (some [-1, -32768]) = some c ∧
    Extracted.cmp_option_slice_i16 3 (some [-1, 32767]) (some [-1, -32768]) = .ok c :=
  cmp_option_slice_i16_eq 3 _ _
    (of_some_some (by decide +kernel)) (of_some_some (by decide +kernel))
example : Extracted.CmpWrapper_slice_i16.const_eq 3 [-1, 32767] [-1, -32768] = .ok false := by decide +kernel
example : Extracted.CmpWrapper_slice_i16.const_cmp 3 [-1, 32767] [-1, -32768] = .ok .gt := by decide +kernel
example : Extracted.eq_option_slice_i16 3 (some [-1, 32767]) (some [-1, 32767]) = .ok true := by decide +kernel
example : Extracted.eq_option_slice_i16 0 (some [-1, 32767]) none = .ok false := by decide +kernel
example : Extracted.cmp_option_slice_i16 3 (some [-1, 32767]) (some [-1, -32768]) = .ok .gt := by decide +kernel
example : Extracted.cmp_option_slice_i16 0 none (some [-1, -32768]) = .ok .lt := by decide +kernel

theorem CmpWrapper_slice_i32_const_eq_eq (fuel : Nat) (self other : List Int)
    (hb : min self.length other.length < 2 ^ 64) (hf : min self.length other.length + 1 ≤ fuel) :
    ∃ b, eqSlice self other = some b ∧
      Extracted.CmpWrapper_slice_i32.const_eq fuel self other = .ok b :=
  wrap_eq (eq_slice_i32_eq fuel self other hb hf)

theorem CmpWrapper_slice_i32_const_cmp_eq (fuel : Nat) (self other : List Int)
    (hb : min self.length other.length < 2 ^ 64) (hf : min self.length other.length + 1 ≤ fuel) :
    ∃ c, cmpSlice self other = some c ∧
      Extracted.CmpWrapper_slice_i32.const_cmp fuel self other = .ok c :=
  wrap_eq (cmp_slice_i32_eq fuel self other hb hf)

theorem eq_option_slice_i32_eq (fuel : Nat) (left right : Option (List Int))
    (hb : ∀ l r, left = some l → right = some r → min l.length r.length < 2 ^ 64)
    (hf : ∀ l r, left = some l → right = some r → min l.length r.length + 1 ≤ fuel) :
    ∃ b, eqOption eqSlice left right = some b ∧
      Extracted.eq_option_slice_i32 fuel left right = .ok b :=
  cmp6_eqOptFn_eq_id (eq_option_slice_i32_fn fuel) (some_some_arm hb hf (CmpWrapper_slice_i32_const_eq_eq fuel))

theorem cmp_option_slice_i32_eq (fuel : Nat) (left right : Option (List Int))
    (hb : ∀ l r, left = some l → right = some r → min l.length r.length < 2 ^ 64)
    (hf : ∀ l r, left = some l → right = some r → min l.length r.length + 1 ≤ fuel) :
    ∃ c, cmpOption cmpSlice left right = some c ∧
      Extracted.cmp_option_slice_i32 fuel left right = .ok c :=
  cmp6_cmpOptFn_eq_id (cmp_option_slice_i32_fn fuel) (some_some_arm hb hf (CmpWrapper_slice_i32_const_cmp_eq fuel))

example : ∃ c, cmpOption cmpSlice (some [0, -2147483648]) (some [0, 2147483647]) = some c ∧
    Extracted.cmp_option_slice_i32 3 (some [0, -2147483648]) (some [0, 2147483647]) = .ok c :=
  cmp_option_slice_i32_eq 3 _ _
    (of_some_some (by decide +kernel)) (of_some_some (by decide +kernel))
example : Extracted.CmpWrapper_slice_i32.const_eq 3 [0, -2147483648] [0, 2147483647] = .ok false := by decide +kernel
example : Extracted.CmpWrapper_slice_i32.const_cmp 3 [0, -2147483648] [0, 2147483647] = .ok .lt := by decide +kernel
example : Extracted.eq_option_slice_i32 3 (some [0, -2147483648]) (some [0, -2147483648]) = .ok true := by decide +kernel
example : Extracted.eq_option_slice_i32 0 (some [0, -2147483648]) none = .ok false := by decide +kernel
example : Extracted.cmp_option_slice_i32 3 (some [0, -2147483648]) (some [0, 2147483647]) = .ok .lt := by decide +kernel
example : Extracted.cmp_option_slice_i32 0 none (some [0, 2147483647]) = .ok .lt := by decide +kernel

theorem CmpWrapper_slice_i64_const_eq_eq (fuel : Nat) (self other : List Int)
    (hb : min self.length other.length < 2 ^ 64) (hf : min self.length other.length + 1 ≤ fuel) :
    ∃ b, eqSlice self other = some b ∧
      Extracted.CmpWrapper_slice_i64.const_eq fuel self other = .ok b :=
  wrap_eq (eq_slice_i64_eq fuel self other hb hf)

theorem CmpWrapper_slice_i64_const_cmp_eq (fuel : Nat) (self other : List Int)
    (hb : min self.length other.length < 2 ^ 64) (hf : min self.length other.length + 1 ≤ fuel) :
    ∃ c, cmpSlice self other = some c ∧
      Extracted.CmpWrapper_slice_i64.const_cmp fuel self other = .ok c :=
  wrap_eq (cmp_slice_i64_eq fuel self other hb hf)

theorem eq_option_slice_i64_eq (fuel : Nat) (left right : Option (List Int))
    (hb : ∀ l r, left = some l → right = some r → min l.length r.length < 2 ^ 64)
    (hf : ∀ l r, left = some l → right = some r → min l.length r.length + 1 ≤ fuel) :
    ∃ b, eqOption eqSlice left right = some b ∧
      Extracted.eq_option_slice_i64 fuel left right = .ok b :=
  cmp6_eqOptFn_eq_id (eq_option_slice_i64_fn fuel) (some_some_arm hb hf (CmpWrapper_slice_i64_const_eq_eq fuel))

theorem cmp_option_slice_i64_eq (fuel : Nat) (left right : Option (List Int))
    (hb : ∀ l r, left = some l → right = some r → min l.length r.length < 2 ^ 64)
    (hf : ∀ l r, left = some l → right = some r → min l.length r.length + 1 ≤ fuel) :
    ∃ c, cmpOption cmpSlice left right = some c ∧
      Extracted.cmp_option_slice_i64 fuel left right = .ok c :=
  cmp6_cmpOptFn_eq_id (cmp_option_slice_i64_fn fuel) (some_some_arm hb hf (CmpWrapper_slice_i64_const_cmp_eq fuel))

example : ∃ c, cmpOption cmpSlice (some [5, 9223372036854775807]) (some [5, -9223372036854775808]) = some c ∧
    Extracted.cmp_option_slice_i64 3 (some [5, 9223372036854775807]) (some [5, -9223372036854775808]) = .ok c :=
  cmp_option_slice_i64_eq 3 _ _
    (of_some_some (by decide +kernel)) (of_some_some (by decide +kernel))
example : Extracted.CmpWrapper_slice_i64.const_eq 3 [5, 9223372036854775807] [5, -9223372036854775808] = .ok false := by decide +kernel
example : Extracted.CmpWrapper_slice_i64.const_cmp 3 [5, 9223372036854775807] [5, -9223372036854775808] = .ok .gt := by decide +kernel
example : Extracted.eq_option_slice_i64 3 (some [5, 9223372036854775807]) (some [5, 9223372036854775807]) = .ok true := by decide +kernel
example : Extracted.eq_option_slice_i64 0 (some [5, 9223372036854775807]) none = .ok false := by decide +kernel
example : Extracted.cmp_option_slice_i64 3 (some [5, 9223372036854775807]) (some [5, -9223372036854775808]) = .ok .gt := by decide +kernel
example : Extracted.cmp_option_slice_i64 0 none (some [5, -9223372036854775808]) = .ok .lt := by decide +kernel

theorem CmpWrapper_slice_i128_const_eq_eq (fuel : Nat) (self other : List Int)
    (hb : min self.length other.length < 2 ^ 64) (hf : min self.length other.length + 1 ≤ fuel) :
    ∃ b, eqSlice self other = some b ∧
      Extracted.CmpWrapper_slice_i128.const_eq fuel self other = .ok b :=
  wrap_eq (eq_slice_i128_eq fuel self other hb hf)

theorem CmpWrapper_slice_i128_const_cmp_eq (fuel : Nat) (self other : List Int)
    (hb : min self.length other.length < 2 ^ 64) (hf : min self.length other.length + 1 ≤ fuel) :
    ∃ c, cmpSlice self other = some c ∧
      Extracted.CmpWrapper_slice_i128.const_cmp fuel self other = .ok c :=
  wrap_eq (cmp_slice_i128_eq fuel self other hb hf)

theorem eq_option_slice_i128_eq (fuel : Nat) (left right : Option (List Int))
    (hb : ∀ l r, left = some l → right = some r → min l.length r.length < 2 ^ 64)
    (hf : ∀ l r, left = some l → right = some r → min l.length r.length + 1 ≤ fuel) :
    ∃ b, eqOption eqSlice left right = some b ∧
      Extracted.eq_option_slice_i128 fuel left right = .ok b :=
  cmp6_eqOptFn_eq_id (eq_option_slice_i128_fn fuel) (some_some_arm hb hf (CmpWrapper_slice_i128_const_eq_eq fuel))

theorem cmp_option_slice_i128_eq (fuel : Nat) (left right : Option (List Int))
    (hb : ∀ l r, left = some l → right = some r → min l.length r.length < 2 ^ 64)
    (hf : ∀ l r, left = some l → right = some r → min l.length r.length + 1 ≤ fuel) :
    ∃ c, cmpOption cmpSlice left right = some c ∧
      Extracted.cmp_option_slice_i128 fuel left right = .ok c :=
  cmp6_cmpOptFn_eq_id (cmp_option_slice_i128_fn fuel) (some_some_arm hb hf (CmpWrapper_slice_i128_const_cmp_eq fuel))

example : ∃ c, cmpOption cmpSlice (some [-3, -170141183460469231731687303715884105728]) (some [-3, 170141183460469231731687303715884105727]) = some c ∧
    Extracted.cmp_option_slice_i128 3 (some [-3, -170141183460469231731687303715884105728]) (some [-3, 170141183460469231731687303715884105727]) = .ok c :=
  cmp_option_slice_i128_eq 3 _ _
    (of_some_some (by decide +kernel)) (of_some_some (by decide +kernel))
example : Extracted.CmpWrapper_slice_i128.const_eq 3 [-3, -170141183460469231731687303715884105728] [-3, 170141183460469231731687303715884105727] = .ok false := by decide +kernel
example : Extracted.CmpWrapper_slice_i128.const_cmp 3 [-3, -170141183460469231731687303715884105728] [-3, 170141183460469231731687303715884105727] = .ok .lt := by decide +kernel
example : Extracted.eq_option_slice_i128 3 (some [-3, -170141183460469231731687303715884105728]) (some [-3, -170141183460469231731687303715884105728]) = .ok true := by decide +kernel
example : Extracted.eq_option_slice_i128 0 (some [-3, -170141183460469231731687303715884105728]) none = .ok false := by decide +kernel
example : Extracted.cmp_option_slice_i128 3 (some [-3, -170141183460469231731687303715884105728]) (some [-3, 170141183460469231731687303715884105727]) = .ok .lt := by decide +kernel
example : Extracted.cmp_option_slice_i128 0 none (some [-3, 170141183460469231731687303715884105727]) = .ok .lt := by decide +kernel

theorem CmpWrapper_slice_isize_const_eq_eq (fuel : Nat) (self other : List Int)
    (hb : min self.length other.length < 2 ^ 64) (hf : min self.length other.length + 1 ≤ fuel) :
    ∃ b, eqSlice self other = some b ∧
      Extracted.CmpWrapper_slice_isize.const_eq fuel self other = .ok b :=
  wrap_eq (eq_slice_isize_eq fuel self other hb hf)

theorem CmpWrapper_slice_isize_const_cmp_eq (fuel : Nat) (self other : List Int)
    (hb : min self.length other.length < 2 ^ 64) (hf : min self.length other.length + 1 ≤ fuel) :
    ∃ c, cmpSlice self other = some c ∧
      Extracted.CmpWrapper_slice_isize.const_cmp fuel self other = .ok c :=
  wrap_eq (cmp_slice_isize_eq fuel self other hb hf)

theorem eq_option_slice_isize_eq (fuel : Nat) (left right : Option (List Int))
    (hb : ∀ l r, left = some l → right = some r → min l.length r.length < 2 ^ 64)
    (hf : ∀ l r, left = some l → right = some r → min l.length r.length + 1 ≤ fuel) :
    ∃ b, eqOption eqSlice left right = some b ∧
      Extracted.eq_option_slice_isize fuel left right = .ok b :=
  cmp6_eqOptFn_eq_id (eq_option_slice_isize_fn fuel) (some_some_arm hb hf (CmpWrapper_slice_isize_const_eq_eq fuel))

theorem cmp_option_slice_isize_eq (fuel : Nat) (left right : Option (List Int))
    (hb : ∀ l r, left = some l → right = some r → min l.length r.length < 2 ^ 64)
    (hf : ∀ l r, left = some l → right = some r → min l.length r.length + 1 ≤ fuel) :
    ∃ c, cmpOption cmpSlice left right = some c ∧
      Extracted.cmp_option_slice_isize fuel left right = .ok c :=
  cmp6_cmpOptFn_eq_id (cmp_option_slice_isize_fn fuel) (some_some_arm hb hf (CmpWrapper_slice_isize_const_cmp_eq fuel))

example : ∃ c, cmpOption cmpSlice (some [1, 9223372036854775807]) (some [1, -9223372036854775808]) = some c ∧
    Extracted.cmp_option_slice_isize 3 (some [1, 9223372036854775807]) (some [1, -9223372036854775808]) = .ok c :=
  cmp_option_slice_isize_eq 3 _ _
    (of_some_some (by decide +kernel)) (of_some_some (by decide +kernel))
example : Extracted.CmpWrapper_slice_isize.const_eq 3 [1, 9223372036854775807] [1, -9223372036854775808] = .ok false := by decide +kernel
example : Extracted.CmpWrapper_slice_isize.const_cmp 3 [1, 9223372036854775807] [1, -9223372036854775808] = .ok .gt := by decide +kernel
example : Extracted.eq_option_slice_isize 3 (some [1, 9223372036854775807]) (some [1, 9223372036854775807]) = .ok true := by decide +kernel
example : Extracted.eq_option_slice_isize 0 (some [1, 9223372036854775807]) none = .ok false := by decide +kernel
example : Extracted.cmp_option_slice_isize 3 (some [1, 9223372036854775807]) (some [1, -9223372036854775808]) = .ok .gt := by decide +kernel
example : Extracted.cmp_option_slice_isize 0 none (some [1, -9223372036854775808]) = .ok .lt := by decide +kernel

theorem CmpWrapper_slice_bool_const_eq_eq (fuel : Nat) (self other : List Bool)
    (hb : min self.length other.length < 2 ^ 64) (hf : min self.length other.length + 1 ≤ fuel) :
    ∃ b, eqSlice (self.map boolInt) (other.map boolInt) = some b ∧
      Extracted.CmpWrapper_slice_bool.const_eq fuel self other = .ok b :=
  wrap_eq (eq_slice_bool_eq fuel self other hb hf)

theorem CmpWrapper_slice_bool_const_cmp_eq (fuel : Nat) (self other : List Bool)
    (hb : min self.length other.length < 2 ^ 64) (hf : min self.length other.length + 1 ≤ fuel) :
    ∃ c, cmpSlice (self.map boolInt) (other.map boolInt) = some c ∧
      Extracted.CmpWrapper_slice_bool.const_cmp fuel self other = .ok c :=
  wrap_eq (cmp_slice_bool_eq fuel self other hb hf)

theorem eq_option_slice_bool_eq (fuel : Nat) (left right : Option (List Bool))
    (hb : ∀ l r, left = some l → right = some r → min l.length r.length < 2 ^ 64)
    (hf : ∀ l r, left = some l → right = some r → min l.length r.length + 1 ≤ fuel) :
    ∃ b, eqOption eqSlice (left.map (List.map boolInt)) (right.map (List.map boolInt)) = some b ∧
      Extracted.eq_option_slice_bool fuel left right = .ok b :=
  cmp6_eqOptFn_eq (eq_option_slice_bool_fn fuel) (some_some_arm hb hf (CmpWrapper_slice_bool_const_eq_eq fuel))

theorem cmp_option_slice_bool_eq (fuel : Nat) (left right : Option (List Bool))
    (hb : ∀ l r, left = some l → right = some r → min l.length r.length < 2 ^ 64)
    (hf : ∀ l r, left = some l → right = some r → min l.length r.length + 1 ≤ fuel) :
    ∃ c, cmpOption cmpSlice (left.map (List.map boolInt)) (right.map (List.map boolInt)) = some c ∧
      Extracted.cmp_option_slice_bool fuel left right = .ok c :=
  cmp6_cmpOptFn_eq (cmp_option_slice_bool_fn fuel) (some_some_arm hb hf (CmpWrapper_slice_bool_const_cmp_eq fuel))

example : ∃ c, cmpOption cmpSlice (some [1, 0]) (some [1, 1]) = some c ∧
    Extracted.cmp_option_slice_bool 3 (some [true, false]) (some [true, true]) = .ok c :=
  cmp_option_slice_bool_eq 3 (some [true, false]) (some [true, true])
    (of_some_some (by decide +kernel)) (of_some_some (by decide +kernel))
example : Extracted.CmpWrapper_slice_bool.const_eq 3 [true, false] [true, true] = .ok false := by decide +kernel
example : Extracted.CmpWrapper_slice_bool.const_cmp 3 [true, false] [true, true] = .ok .lt := by decide +kernel
example : Extracted.eq_option_slice_bool 3 (some [true, false]) (some [true, false]) = .ok true := by decide +kernel
example : Extracted.eq_option_slice_bool 0 (some [true, false]) none = .ok false := by decide +kernel
example : Extracted.cmp_option_slice_bool 3 (some [true, false]) (some [true, true]) = .ok .lt := by decide +kernel
example : Extracted.cmp_option_slice_bool 0 none (some [true, true]) = .ok .lt := by decide +kernel

theorem CmpWrapper_slice_char_const_eq_eq (fuel : Nat) (self other : List Nat)
    (hb : min self.length other.length < 2 ^ 64) (hf : min self.length other.length + 1 ≤ fuel) :
    ∃ b, eqSlice (self.map Int.ofNat) (other.map Int.ofNat) = some b ∧
      Extracted.CmpWrapper_slice_char.const_eq fuel self other = .ok b :=
  wrap_eq (eq_slice_char_eq fuel self other hb hf)

theorem CmpWrapper_slice_char_const_cmp_eq (fuel : Nat) (self other : List Nat)
    (hb : min self.length other.length < 2 ^ 64) (hf : min self.length other.length + 1 ≤ fuel) :
    ∃ c, cmpSlice (self.map Int.ofNat) (other.map Int.ofNat) = some c ∧
      Extracted.CmpWrapper_slice_char.const_cmp fuel self other = .ok c :=
  wrap_eq (cmp_slice_char_eq fuel self other hb hf)

theorem eq_option_slice_char_eq (fuel : Nat) (left right : Option (List Nat))
    (hb : ∀ l r, left = some l → right = some r → min l.length r.length < 2 ^ 64)
    (hf : ∀ l r, left = some l → right = some r → min l.length r.length + 1 ≤ fuel) :
    ∃ b, eqOption eqSlice (left.map (List.map Int.ofNat)) (right.map (List.map Int.ofNat)) = some b ∧
      Extracted.eq_option_slice_char fuel left right = .ok b :=
  cmp6_eqOptFn_eq (eq_option_slice_char_fn fuel) (some_some_arm hb hf (CmpWrapper_slice_char_const_eq_eq fuel))

theorem cmp_option_slice_char_eq (fuel : Nat) (left right : Option (List Nat))
    (hb : ∀ l r, left = some l → right = some r → min l.length r.length < 2 ^ 64)
    (hf : ∀ l r, left = some l → right = some r → min l.length r.length + 1 ≤ fuel) :
    ∃ c, cmpOption cmpSlice (left.map (List.map Int.ofNat)) (right.map (List.map Int.ofNat)) = some c ∧
      Extracted.cmp_option_slice_char fuel left right = .ok c :=
  cmp6_cmpOptFn_eq (cmp_option_slice_char_fn fuel) (some_some_arm hb hf (CmpWrapper_slice_char_const_cmp_eq fuel))

example : ∃ c, cmpOption cmpSlice (some [0x10FFFF, 0xE000]) (some [0x10FFFF, 0x61]) = some c ∧
    Extracted.cmp_option_slice_char 3 (some [0x10FFFF, 0xE000]) (some [0x10FFFF, 0x61]) = .ok c :=
  cmp_option_slice_char_eq 3 (some [0x10FFFF, 0xE000]) (some [0x10FFFF, 0x61])
    (of_some_some (by decide +kernel)) (of_some_some (by decide +kernel))
example : Extracted.CmpWrapper_slice_char.const_eq 3 [0x10FFFF, 0xE000] [0x10FFFF, 0x61] = .ok false := by decide +kernel
example : Extracted.CmpWrapper_slice_char.const_cmp 3 [0x10FFFF, 0xE000] [0x10FFFF, 0x61] = .ok .gt := by decide +kernel
example : Extracted.eq_option_slice_char 3 (some [0x10FFFF, 0xE000]) (some [0x10FFFF, 0xE000]) = .ok true := by decide +kernel
example : Extracted.eq_option_slice_char 0 (some [0x10FFFF, 0xE000]) none = .ok false := by decide +kernel
example : Extracted.cmp_option_slice_char 3 (some [0x10FFFF, 0xE000]) (some [0x10FFFF, 0x61]) = .ok .gt := by decide +kernel
example : Extracted.cmp_option_slice_char 0 none (some [0x10FFFF, 0x61]) = .ok .lt := by decide +kernel

/-! ### `Option<&str>`: the `(Some(l), Some(r))` arm runs the loops of `eq_str` / `cmp_str` through
  `CmpWrapper<&str>::const_eq / const_cmp` (group `ProbesMisc`: `CmpWrapper_str_const_eq_model`, `…_const_cmp_model`) -/

theorem eq_option_str_eq (fuel : Nat) (left right : Option (List Nat))
    (hb : ∀ l r, left = some l → right = some r → min l.length r.length < 2 ^ 64)
    (hf : ∀ l r, left = some l → right = some r → min l.length r.length + 1 ≤ fuel) :
    ∃ b, eqOption eqStr (left.map (List.map Int.ofNat)) (right.map (List.map Int.ofNat)) = some b ∧
      Extracted.eq_option_str fuel left right = .ok b :=
  cmp6_eqOptFn_eq (eq_option_str_fn fuel) (some_some_arm hb hf (CmpWrapper_str_const_eq_model fuel))

theorem cmp_option_str_eq (fuel : Nat) (left right : Option (List Nat))
    (hb : ∀ l r, left = some l → right = some r → min l.length r.length < 2 ^ 64)
    (hf : ∀ l r, left = some l → right = some r → min l.length r.length + 1 ≤ fuel) :
    ∃ c, cmpOption cmpStr (left.map (List.map Int.ofNat)) (right.map (List.map Int.ofNat)) = some c ∧
      Extracted.cmp_option_str fuel left right = .ok c :=
  cmp6_cmpOptFn_eq (cmp_option_str_fn fuel) (some_some_arm hb hf (CmpWrapper_str_const_cmp_model fuel))

example : ∃ c, cmpOption cmpStr (some [104, 105, 33]) (some [104, 105]) = some c ∧
    Extracted.cmp_option_str 3 (some [104, 105, 33]) (some [104, 105]) = .ok c :=
  cmp_option_str_eq 3 (some [104, 105, 33]) (some [104, 105])
    (of_some_some (by decide +kernel)) (of_some_some (by decide +kernel))
example : Extracted.eq_option_str 3 (some [104, 105]) (some [104, 105]) = .ok true := by decide +kernel
example : Extracted.eq_option_str 3 (some [104, 105]) (some [104, 106]) = .ok false := by decide +kernel
example : Extracted.eq_option_str 0 none none = .ok true := by decide +kernel
example : Extracted.cmp_option_str 3 (some [104, 105, 33]) (some [104, 105]) = .ok .gt := by decide +kernel
example : Extracted.cmp_option_str 0 (some []) none = .ok .gt := by decide +kernel

/-! ### `&[&str]` and `&[&[u8]]`: `const_eq_for!(slice; …)` / `const_cmp_for!(slice; …)` over the element comparison

  A `&str` is its UTF-8 bytes; both element types are `List Nat`, handed to the model as `List Int` through
  `List.map Int.ofNat`.  `hb`/`hf`: the outer slices (`hb` only for the `eq` functions, whose loop has a counter);
  `hbe`/`hfe`: the hypotheses of the element comparison (`eq_str_eq`, `cmp_str_eq`, `eq_bytes_eq`, `cmp_bytes_eq`) for
  the pairs of elements at the same index. -/

theorem eq_slice_str_eq (fuel : Nat) (l r : List (List Nat))
    (hb : min l.length r.length < 2 ^ 64) (hf : min l.length r.length + 1 ≤ fuel)
    (hbe : ∀ p ∈ l.zip r, min p.1.length p.2.length < 2 ^ 64)
    (hfe : ∀ p ∈ l.zip r, min p.1.length p.2.length + 1 ≤ fuel) :
    ∃ b, eqSliceStr (l.map (List.map Int.ofNat)) (r.map (List.map Int.ofNat)) = some b ∧
      Extracted.eq_slice_str fuel l r = .ok b := by
  rw [eq_slice_str_fn]
  exact cmp6_eqForFn_eq (List.map Int.ofNat) eqStr _ fuel l r hb hf
    (fun p hp => eq_str_eq fuel p.1 p.2 (hbe p hp) (hfe p hp))

theorem cmp_slice_str_eq (fuel : Nat) (l r : List (List Nat))
    (hf : min l.length r.length + 1 ≤ fuel)
    (hbe : ∀ p ∈ l.zip r, min p.1.length p.2.length < 2 ^ 64)
    (hfe : ∀ p ∈ l.zip r, min p.1.length p.2.length + 1 ≤ fuel) :
    ∃ c, cmpSliceStr (l.map (List.map Int.ofNat)) (r.map (List.map Int.ofNat)) = some c ∧
      Extracted.cmp_slice_str fuel l r = .ok c := by
  rw [cmp_slice_str_fn]
  exact cmpForFn_eq (List.map Int.ofNat) cmpStr _ fuel l r hf
    (fun p hp => cmp_str_eq fuel p.1 p.2 (hbe p hp) (hfe p hp))

theorem CmpWrapper_slice_str_const_eq_eq (fuel : Nat) (l r : List (List Nat))
    (hb : min l.length r.length < 2 ^ 64) (hf : min l.length r.length + 1 ≤ fuel)
    (hbe : ∀ p ∈ l.zip r, min p.1.length p.2.length < 2 ^ 64)
    (hfe : ∀ p ∈ l.zip r, min p.1.length p.2.length + 1 ≤ fuel) :
    ∃ b, eqSliceStr (l.map (List.map Int.ofNat)) (r.map (List.map Int.ofNat)) = some b ∧
      Extracted.CmpWrapper_slice_str.const_eq fuel l r = .ok b :=
  wrap_eq (eq_slice_str_eq fuel l r hb hf hbe hfe)

theorem CmpWrapper_slice_str_const_cmp_eq (fuel : Nat) (l r : List (List Nat))
    (hf : min l.length r.length + 1 ≤ fuel)
    (hbe : ∀ p ∈ l.zip r, min p.1.length p.2.length < 2 ^ 64)
    (hfe : ∀ p ∈ l.zip r, min p.1.length p.2.length + 1 ≤ fuel) :
    ∃ c, cmpSliceStr (l.map (List.map Int.ofNat)) (r.map (List.map Int.ofNat)) = some c ∧
      Extracted.CmpWrapper_slice_str.const_cmp fuel l r = .ok c :=
  wrap_eq (cmp_slice_str_eq fuel l r hf hbe hfe)

theorem eq_option_slice_str_eq (fuel : Nat) (left right : Option (List (List Nat)))
    (hb : ∀ l r, left = some l → right = some r → min l.length r.length < 2 ^ 64)
    (hf : ∀ l r, left = some l → right = some r → min l.length r.length + 1 ≤ fuel)
    (hbe : ∀ l r, left = some l → right = some r → ∀ p ∈ l.zip r, min p.1.length p.2.length < 2 ^ 64)
    (hfe : ∀ l r, left = some l → right = some r → ∀ p ∈ l.zip r, min p.1.length p.2.length + 1 ≤ fuel) :
    ∃ b, eqOption eqSliceStr (left.map (List.map (List.map Int.ofNat))) (right.map (List.map (List.map Int.ofNat))) = some b ∧
      Extracted.eq_option_slice_str fuel left right = .ok b :=
  cmp6_eqOptFn_eq (eq_option_slice_str_fn fuel)
    (fun l r hl hr => CmpWrapper_slice_str_const_eq_eq fuel l r (hb l r hl hr) (hf l r hl hr)
      (hbe l r hl hr) (hfe l r hl hr))

theorem cmp_option_slice_str_eq (fuel : Nat) (left right : Option (List (List Nat)))
    (hf : ∀ l r, left = some l → right = some r → min l.length r.length + 1 ≤ fuel)
    (hbe : ∀ l r, left = some l → right = some r → ∀ p ∈ l.zip r, min p.1.length p.2.length < 2 ^ 64)
    (hfe : ∀ l r, left = some l → right = some r → ∀ p ∈ l.zip r, min p.1.length p.2.length + 1 ≤ fuel) :
    ∃ c, cmpOption cmpSliceStr (left.map (List.map (List.map Int.ofNat))) (right.map (List.map (List.map Int.ofNat))) = some c ∧
      Extracted.cmp_option_slice_str fuel left right = .ok c :=
  cmp6_cmpOptFn_eq (cmp_option_slice_str_fn fuel)
    (fun l r hl hr => CmpWrapper_slice_str_const_cmp_eq fuel l r (hf l r hl hr) (hbe l r hl hr) (hfe l r hl hr))

example : ∃ b, eqSliceStr [[104, 105], [33]] [[104, 105], [34]] = some b ∧
    Extracted.eq_slice_str 3 [[104, 105], [33]] [[104, 105], [34]] = .ok b :=
  eq_slice_str_eq 3 [[104, 105], [33]] [[104, 105], [34]] (by decide +kernel) (by decide +kernel) (by decide +kernel) (by decide +kernel)
example : ∃ c, cmpSliceStr [[104, 105], [33, 1]] [[104, 105], [33]] = some c ∧
    Extracted.cmp_slice_str 3 [[104, 105], [33, 1]] [[104, 105], [33]] = .ok c :=
  cmp_slice_str_eq 3 [[104, 105], [33, 1]] [[104, 105], [33]] (by decide +kernel) (by decide +kernel) (by decide +kernel)
example : ∃ c, cmpOption cmpSliceStr (some [[104, 105], [33, 1]]) (some [[104, 105], [33]]) = some c ∧
    Extracted.cmp_option_slice_str 3 (some [[104, 105], [33, 1]]) (some [[104, 105], [33]]) = .ok c :=
  cmp_option_slice_str_eq 3 (some [[104, 105], [33, 1]]) (some [[104, 105], [33]])
    (of_some_some (by decide +kernel)) (of_some_some (by decide +kernel))
    (of_some_some (by decide +kernel))
example : ∃ b, eqOption eqSliceStr (some [[104, 105], [33]]) (some [[104, 105], [34]]) = some b ∧
    Extracted.eq_option_slice_str 3 (some [[104, 105], [33]]) (some [[104, 105], [34]]) = .ok b :=
  eq_option_slice_str_eq 3 (some [[104, 105], [33]]) (some [[104, 105], [34]])
    (of_some_some (by decide +kernel)) (of_some_some (by decide +kernel))
    (of_some_some (by decide +kernel)) (of_some_some (by decide +kernel))
example : Extracted.eq_slice_str 3 [[104, 105], [33]] [[104, 105], [34]] = .ok false := by decide +kernel
example : Extracted.eq_slice_str 3 [[104, 105], [33]] [[104, 105], [33]] = .ok true := by decide +kernel
example : Extracted.eq_slice_str 0 [[104, 105], [33]] [[104, 105]] = .ok false := by decide +kernel
example : Extracted.cmp_slice_str 3 [[104, 105], [33, 1]] [[104, 105], [33]] = .ok .gt := by decide +kernel
example : Extracted.cmp_slice_str 3 [[104, 105]] [[104, 105], []] = .ok .lt := by decide +kernel
example : Extracted.cmp_slice_str 3 [[104], [7]] [[104], [7]] = .ok .eq := by decide +kernel
example : Extracted.CmpWrapper_slice_str.const_eq 3 [[1], [2]] [[1], [2]] = .ok true := by decide +kernel
example : Extracted.CmpWrapper_slice_str.const_cmp 3 [[1], [2]] [[1], [3]] = .ok .lt := by decide +kernel
example : Extracted.eq_option_slice_str 3 (some [[1], [2]]) (some [[1], [2]]) = .ok true := by decide +kernel
example : Extracted.eq_option_slice_str 0 none (some []) = .ok false := by decide +kernel
example : Extracted.cmp_option_slice_str 3 (some [[1], [2]]) (some [[1], [3]]) = .ok .lt := by decide +kernel
example : Extracted.cmp_option_slice_str 0 (some []) none = .ok .gt := by decide +kernel

theorem eq_slice_bytes_eq (fuel : Nat) (l r : List (List Nat))
    (hb : min l.length r.length < 2 ^ 64) (hf : min l.length r.length + 1 ≤ fuel)
    (hbe : ∀ p ∈ l.zip r, min p.1.length p.2.length < 2 ^ 64)
    (hfe : ∀ p ∈ l.zip r, min p.1.length p.2.length + 1 ≤ fuel) :
    ∃ b, eqSliceBytes (l.map (List.map Int.ofNat)) (r.map (List.map Int.ofNat)) = some b ∧
      Extracted.eq_slice_bytes fuel l r = .ok b := by
  rw [eq_slice_bytes_fn]
  exact cmp6_eqForFn_eq (List.map Int.ofNat) eqSlice _ fuel l r hb hf
    (fun p hp => eq_bytes_eq fuel p.1 p.2 (hbe p hp) (hfe p hp))

theorem cmp_slice_bytes_eq (fuel : Nat) (l r : List (List Nat))
    (hf : min l.length r.length + 1 ≤ fuel)
    (hbe : ∀ p ∈ l.zip r, min p.1.length p.2.length < 2 ^ 64)
    (hfe : ∀ p ∈ l.zip r, min p.1.length p.2.length + 1 ≤ fuel) :
    ∃ c, cmpSliceBytes (l.map (List.map Int.ofNat)) (r.map (List.map Int.ofNat)) = some c ∧
      Extracted.cmp_slice_bytes fuel l r = .ok c := by
  rw [cmp_slice_bytes_fn]
  exact cmpForFn_eq (List.map Int.ofNat) cmpSlice _ fuel l r hf
    (fun p hp => cmp_bytes_eq fuel p.1 p.2 (hbe p hp) (hfe p hp))

theorem CmpWrapper_slice_bytes_const_eq_eq (fuel : Nat) (l r : List (List Nat))
    (hb : min l.length r.length < 2 ^ 64) (hf : min l.length r.length + 1 ≤ fuel)
    (hbe : ∀ p ∈ l.zip r, min p.1.length p.2.length < 2 ^ 64)
    (hfe : ∀ p ∈ l.zip r, min p.1.length p.2.length + 1 ≤ fuel) :
    ∃ b, eqSliceBytes (l.map (List.map Int.ofNat)) (r.map (List.map Int.ofNat)) = some b ∧
      Extracted.CmpWrapper_slice_bytes.const_eq fuel l r = .ok b :=
  wrap_eq (eq_slice_bytes_eq fuel l r hb hf hbe hfe)

theorem CmpWrapper_slice_bytes_const_cmp_eq (fuel : Nat) (l r : List (List Nat))
    (hf : min l.length r.length + 1 ≤ fuel)
    (hbe : ∀ p ∈ l.zip r, min p.1.length p.2.length < 2 ^ 64)
    (hfe : ∀ p ∈ l.zip r, min p.1.length p.2.length + 1 ≤ fuel) :
    ∃ c, cmpSliceBytes (l.map (List.map Int.ofNat)) (r.map (List.map Int.ofNat)) = some c ∧
      Extracted.CmpWrapper_slice_bytes.const_cmp fuel l r = .ok c :=
  wrap_eq (cmp_slice_bytes_eq fuel l r hf hbe hfe)

theorem eq_option_slice_bytes_eq (fuel : Nat) (left right : Option (List (List Nat)))
    (hb : ∀ l r, left = some l → right = some r → min l.length r.length < 2 ^ 64)
    (hf : ∀ l r, left = some l → right = some r → min l.length r.length + 1 ≤ fuel)
    (hbe : ∀ l r, left = some l → right = some r → ∀ p ∈ l.zip r, min p.1.length p.2.length < 2 ^ 64)
    (hfe : ∀ l r, left = some l → right = some r → ∀ p ∈ l.zip r, min p.1.length p.2.length + 1 ≤ fuel) :
    ∃ b, eqOption eqSliceBytes (left.map (List.map (List.map Int.ofNat))) (right.map (List.map (List.map Int.ofNat))) = some b ∧
      Extracted.eq_option_slice_bytes fuel left right = .ok b :=
  cmp6_eqOptFn_eq (eq_option_slice_bytes_fn fuel)
    (fun l r hl hr => CmpWrapper_slice_bytes_const_eq_eq fuel l r (hb l r hl hr) (hf l r hl hr)
      (hbe l r hl hr) (hfe l r hl hr))

theorem cmp_option_slice_bytes_eq (fuel : Nat) (left right : Option (List (List Nat)))
    (hf : ∀ l r, left = some l → right = some r → min l.length r.length + 1 ≤ fuel)
    (hbe : ∀ l r, left = some l → right = some r → ∀ p ∈ l.zip r, min p.1.length p.2.length < 2 ^ 64)
    (hfe : ∀ l r, left = some l → right = some r → ∀ p ∈ l.zip r, min p.1.length p.2.length + 1 ≤ fuel) :
    ∃ c, cmpOption cmpSliceBytes (left.map (List.map (List.map Int.ofNat))) (right.map (List.map (List.map Int.ofNat))) = some c ∧
      Extracted.cmp_option_slice_bytes fuel left right = .ok c :=
  cmp6_cmpOptFn_eq (cmp_option_slice_bytes_fn fuel)
    (fun l r hl hr => CmpWrapper_slice_bytes_const_cmp_eq fuel l r (hf l r hl hr) (hbe l r hl hr) (hfe l r hl hr))

example : ∃ b, eqSliceBytes [[104, 105], [33]] [[104, 105], [34]] = some b ∧
    Extracted.eq_slice_bytes 3 [[104, 105], [33]] [[104, 105], [34]] = .ok b :=
  eq_slice_bytes_eq 3 [[104, 105], [33]] [[104, 105], [34]] (by decide +kernel) (by decide +kernel) (by decide +kernel) (by decide +kernel)
example : ∃ c, cmpSliceBytes [[104, 105], [33, 1]] [[104, 105], [33]] = some c ∧
    Extracted.cmp_slice_bytes 3 [[104, 105], [33, 1]] [[104, 105], [33]] = .ok c :=
  cmp_slice_bytes_eq 3 [[104, 105], [33, 1]] [[104, 105], [33]] (by decide +kernel) (by decide +kernel) (by decide +kernel)
example : ∃ c, cmpOption cmpSliceBytes (some [[104, 105], [33, 1]]) (some [[104, 105], [33]]) = some c ∧
    Extracted.cmp_option_slice_bytes 3 (some [[104, 105], [33, 1]]) (some [[104, 105], [33]]) = .ok c :=
  cmp_option_slice_bytes_eq 3 (some [[104, 105], [33, 1]]) (some [[104, 105], [33]])
    (of_some_some (by decide +kernel)) (of_some_some (by decide +kernel))
    (of_some_some (by decide +kernel))
example : ∃ b, eqOption eqSliceBytes (some [[104, 105], [33]]) (some [[104, 105], [34]]) = some b ∧
    Extracted.eq_option_slice_bytes 3 (some [[104, 105], [33]]) (some [[104, 105], [34]]) = .ok b :=
  eq_option_slice_bytes_eq 3 (some [[104, 105], [33]]) (some [[104, 105], [34]])
    (of_some_some (by decide +kernel)) (of_some_some (by decide +kernel))
    (of_some_some (by decide +kernel)) (of_some_some (by decide +kernel))
example : Extracted.eq_slice_bytes 3 [[104, 105], [33]] [[104, 105], [34]] = .ok false := by decide +kernel
example : Extracted.eq_slice_bytes 3 [[104, 105], [33]] [[104, 105], [33]] = .ok true := by decide +kernel
example : Extracted.eq_slice_bytes 0 [[104, 105], [33]] [[104, 105]] = .ok false := by decide +kernel
example : Extracted.cmp_slice_bytes 3 [[104, 105], [33, 1]] [[104, 105], [33]] = .ok .gt := by decide +kernel
example : Extracted.cmp_slice_bytes 3 [[104, 105]] [[104, 105], []] = .ok .lt := by decide +kernel
example : Extracted.cmp_slice_bytes 3 [[104], [7]] [[104], [7]] = .ok .eq := by decide +kernel
example : Extracted.CmpWrapper_slice_bytes.const_eq 3 [[1], [2]] [[1], [2]] = .ok true := by decide +kernel
example : Extracted.CmpWrapper_slice_bytes.const_cmp 3 [[1], [2]] [[1], [3]] = .ok .lt := by decide +kernel
example : Extracted.eq_option_slice_bytes 3 (some [[1], [2]]) (some [[1], [2]]) = .ok true := by decide +kernel
example : Extracted.eq_option_slice_bytes 0 none (some []) = .ok false := by decide +kernel
example : Extracted.cmp_option_slice_bytes 3 (some [[1], [2]]) (some [[1], [3]]) = .ok .lt := by decide +kernel
example : Extracted.cmp_option_slice_bytes 0 (some []) none = .ok .gt := by decide +kernel

end Extracted.Equiv
