import KonstVerif.Extracted.Gen.ProbesPm
import KonstVerif.Extracted.Equiv.ParserA
import KonstVerif.Model.ParserMethod
import KonstVerif.Props.C18
import KonstVerif.Lemmas.ParserPM
import KonstVerif.Lemmas.Chars
import KonstVerif.Rs.LoopLemmas
/-
  Extracted (the rustc-expanded call sites of `parser_method!` in the probe crate
  translator/probes/src/lib.rs, group `ProbesPm`) = the hand-written model of the macro
  (`Konst.PM.*`, Model/ParserMethod.lean, the definitions Props/C18.lean part (ii) is about):

    pm_strip_prefix, pm_strip_suffix, pm_find_skip, pm_rfind_skip     arms `"ab" | "a" => 0, "b" => 1, _ => 9`
    pm_trim_start_matches, pm_trim_end_matches                        literals `"ab" | "a" | "b\u{e9}"`

  Conversions.  The model's state `PState` is (start offset, remainder bytes); `toPState` projects the generated
  `Parser` on it, `ofPState p d s` puts a model state back into `p` with parse direction `d`
  (`yielded_last_split` is never touched by the macro).  A match-like form returns the branch value and the
  parser: `pmOutcome p d o` = (`o.1.getD 9`, the parser with direction `d` if an arm ran — `Parser::skip` writes
  `FromStart`, `skip_back` writes `FromEnd` — and the untouched `p` in the default branch).

  Hypotheses.
    * `hb : ∀ b ∈ p.str, b < 256` — the remainder is a byte string (`as i8` casts in the char-boundary tests);
    * `hfit : p.start_offset + p.str.length < 2 ^ 32` — only for the start forms (`Parser::skip` adds to the `u32`
      `start_offset` with a checked addition); the end forms leave `start_offset` alone;
    * explicit fuel `p.str.length + 1 ≤ fuel`.
  NO validity of the remainder as UTF-8 is needed:
    * start forms: `Parser::skip` rounds the byte count UP to a char boundary exactly as the model's `skip` does
      (`skip_pm`), valid remainder or not;
    * end forms: the model's `skipBack` has no panic case while the code panics (`pos -= 1` at 0) if there is no char
      boundary at or below the position; but the macro only ever asks for a position at which a literal starts (an
      ASCII byte here) or for the end of the remainder, which are char boundaries, so `skip_back` neither rounds nor
      panics (`pm_skip_back_at`).  (`skip_back_pm` is the general tie: it also holds whenever the remainder does not
      start with a continuation byte.)
  The `_std` corollaries read the results through Spec/ParserMethod.lean / plain prefix-suffix tests, using the
  Props/C18 theorems about the model; those of the start forms assume a valid-UTF-8 remainder (so that no rounding
  happens), those of the end forms hold for all byte remainders.
-/
namespace Extracted.Equiv
open Rs Konst

/-! ### conversions -/

def toPState (p : Extracted.Parser) : Konst.PM.PState := ⟨p.start_offset, p.str⟩

def ofPState (p : Extracted.Parser) (d : Extracted.ParseDirection) (s : Konst.PM.PState) : Extracted.Parser :=
  { p with parse_direction := d, start_offset := s.start, str := s.rem }

/-- the `Parser::skip` of Model/Parser.lean (the one `Parser_skip_eq` is about) never panics and is the
    `skip` of Model/ParserMethod.lean on (start offset, remainder) -/
theorem skip_model_pm (q : Konst.Parser.Parser) (bc : Nat) :
    Konst.Parser.skip q bc
      = .ok { q with dir := .fromStart,
                     startOffset := (Konst.PM.skip ⟨q.startOffset, q.str⟩ bc).start,
                     str := (Konst.PM.skip ⟨q.startOffset, q.str⟩ bc).rem } .unit := by
  rw [Konst.Lemmas.Parser.skip_eq]
  simp only [Konst.PM.skip, Konst.Lemmas.Parser.skipCount,
    ← Konst.Lemmas.ParserPM.skipUp_eq_pm ⟨q.startOffset, q.str⟩]

theorem skip_pm (fuel : Nat) (p : Extracted.Parser) (bc : Nat)
    (hfit : p.start_offset + p.str.length < 2 ^ 32) (hb : ∀ b ∈ p.str, b < 256)
    (hf : p.str.length - bc + 1 ≤ fuel) :
    Extracted.Parser.skip fuel p bc = .ok (ofPState p .FromStart (Konst.PM.skip (toPState p) bc)) := by
  rw [Parser_skip_eq fuel p bc hfit hb hf, skip_model_pm]
  simp [parserToModel, parserOfModel, ofPState, toPState, dirOfModel]

theorem pm_down_le (p : Konst.PM.PState) (pos : Nat) : Konst.PM.skipBack.down p pos ≤ pos := by
  induction pos with
  | zero => simp [Konst.PM.skipBack.down]
  | succ pos ih =>
    rw [Konst.PM.skipBack.down]
    split <;> omega

/-- `Parser::skip_back` of Model/Parser.lean is the `skipBack` of Model/ParserMethod.lean (which has no panic
    case) whenever the remainder does not start with a continuation byte, or the target position is a char
    boundary already -/
theorem skipBack_model_pm (q : Konst.Parser.Parser) (bc : Nat)
    (h : Utf8.isCharBoundaryBytes q.str 0 = true ∨
      Utf8.isCharBoundaryBytes q.str (q.str.length - bc) = true) :
    Konst.Parser.skipBack q bc
      = .ok { q with dir := .fromEnd, str := (Konst.PM.skipBack ⟨q.startOffset, q.str⟩ bc).rem } .unit := by
  have hd := Konst.Lemmas.ParserPM.skipDown_eq_pm ⟨q.startOffset, q.str⟩ (q.str.length - bc) h
  rw [Konst.Lemmas.Parser.skipBack_eq, hd]
  dsimp only
  rw [Konst.Lemmas.Parser.strUpTo_of_bnd (skipDown_boundary _ _ _ hd)]
  rfl

theorem skip_back_pm (fuel : Nat) (p : Extracted.Parser) (bc : Nat)
    (hb : ∀ b ∈ p.str, b < 256) (hf : p.str.length - bc + 1 ≤ fuel)
    (h : Utf8.isCharBoundaryBytes p.str 0 = true ∨
      Utf8.isCharBoundaryBytes p.str (p.str.length - bc) = true) :
    Extracted.Parser.skip_back fuel p bc
      = .ok (ofPState p .FromEnd (Konst.PM.skipBack (toPState p) bc)) := by
  rw [Parser_skip_back_eq fuel p bc hb hf, skipBack_model_pm _ _ h]
  simp [parserToModel, parserOfModel, ofPState, toPState, dirOfModel, Konst.PM.skipBack]

/-! ### the arms of the probes -/

/-- `"ab" | "a" => 0, "b" => 1` (default `_ => 9`) -/
def pmArms : List (Nat × List Nat) := [(0, [97, 98]), (0, [97]), (1, [98])]

/-- `"ab" | "a" | "b\u{e9}"` of the trim probes (the branch numbers play no role) -/
def pmTrimLits : List (Nat × List Nat) := [(0, [97, 98]), (0, [97]), (0, [98, 195, 169])]

/-- the result of a match-like form: branch value (default 9) and parser; the parse direction is the one
    `Parser::skip`/`skip_back` writes when an arm ran, and untouched in the default branch -/
def pmOutcome (p : Extracted.Parser) (d : Extracted.ParseDirection) (o : Konst.PM.Outcome) :
    Nat × Extracted.Parser :=
  (o.1.getD 9, ofPState p (if o.1.isSome then d else p.parse_direction) o.2)

theorem ofPState_self (p : Extracted.Parser) : ofPState p p.parse_direction (toPState p) = p := rfl

theorem pm_le_add2 (n : Nat) : n ≤ n + 1 + 1 := by omega
theorem pm_le_add3 (n : Nat) : n ≤ n + 1 + 1 + 1 := by omega

theorem bind_remainder {ε β : Type} (p : Extracted.Parser) (f : List Nat → Ctl ε β) :
    (Ctl.call (Extracted.Parser.fn_remainder p) >>= f) = f p.str := rfl

theorem toPState_rem (p : Extracted.Parser) : (toPState p).rem = p.str := rfl

theorem pmOutcome_none (p : Extracted.Parser) (d : Extracted.ParseDirection) :
    pmOutcome p d (none, toPState p) = (9, p) := rfl

theorem pmOutcome_some (p : Extracted.Parser) (d : Extracted.ParseDirection) (i : Nat) (st : Konst.PM.PState) :
    pmOutcome p d (some i, st) = (i, ofPState p d st) := rfl

theorem firstArm_start_nil : Konst.PM.firstArm Konst.PM.matchStart pmArms [] = none := rfl

theorem firstArm_start_one (a : Nat) :
    Konst.PM.firstArm Konst.PM.matchStart pmArms [a]
      = if a = 97 then some (0, []) else if a = 98 then some (1, []) else none := by
  by_cases ha : a = 97
  · subst ha
    rfl
  · have ha' : ¬ 97 = a := fun h => ha h.symm
    by_cases hb : a = 98
    · subst hb
      rfl
    · have hb' : ¬ 98 = a := fun h => hb h.symm
      simp [Konst.PM.firstArm, Konst.PM.matchStart, pmArms, ha, ha', hb, hb']

theorem firstArm_start_two (a b : Nat) (r : List Nat) :
    Konst.PM.firstArm Konst.PM.matchStart pmArms (a :: b :: r)
      = if a = 97 ∧ b = 98 then some (0, r) else if a = 97 then some (0, b :: r)
        else if a = 98 then some (1, b :: r) else none := by
  by_cases ha : a = 97
  · subst ha
    by_cases hb : b = 98
    · subst hb
      rfl
    · have hb' : ¬ 98 = b := fun h => hb h.symm
      simp [Konst.PM.firstArm, Konst.PM.matchStart, pmArms, hb, hb']
  · have ha' : ¬ 97 = a := fun h => ha h.symm
    by_cases hb : a = 98
    · subst hb
      rfl
    · have hb' : ¬ 98 = a := fun h => hb h.symm
      simp [Konst.PM.firstArm, Konst.PM.matchStart, pmArms, ha, ha', hb, hb']

theorem pm_strip_prefix_eq (fuel : Nat) (p : Extracted.Parser)
    (hfit : p.start_offset + p.str.length < 2 ^ 32) (hb : ∀ b ∈ p.str, b < 256)
    (hf : p.str.length + 1 ≤ fuel) :
    Extracted.pm_strip_prefix fuel p
      = .ok (pmOutcome p .FromStart (Konst.PM.stripPrefix pmArms (toPState p))) := by
  have hsk : ∀ {ε β : Type} bc (f : Extracted.Parser → Ctl ε β), (Ctl.call (Extracted.Parser.skip fuel p bc) >>= f)
      = f (ofPState p .FromStart (Konst.PM.skip (toPState p) bc)) := by
    intro ε β bc f
    rw [skip_pm fuel p bc hfit hb (by omega)]
    rfl
  clear hfit hb hf
  rw [Konst.PM.stripPrefix, toPState_rem]
  obtain ⟨d, y, off, s⟩ := p
  rcases s with _ | ⟨a, _ | ⟨b, r⟩⟩
  · simp only [Extracted.pm_strip_prefix, ↓bind_remainder, rs_eval,
      firstArm_start_nil, pmOutcome_none]
  · rw [firstArm_start_one]
    by_cases ha : a = 97
    · simp only [Extracted.pm_strip_prefix, Konst.PM.setStart, toPState_rem, ↓bind_remainder, ↓hsk, ha, rs_eval,
        ↓reduceIte, pmOutcome_some, List.length_cons, List.length_nil, Nat.zero_le]
    · by_cases hb8 : a = 98
      · simp only [Extracted.pm_strip_prefix, Konst.PM.setStart, toPState_rem, ↓bind_remainder, ↓hsk, hb8, rs_eval,
          ↓reduceIte, pmOutcome_some, List.length_cons, List.length_nil, Nat.zero_le, Nat.reduceEqDiff]
      · simp only [Extracted.pm_strip_prefix, ↓bind_remainder, ha, hb8, rs_eval,
          ↓reduceIte, pmOutcome_none]
  · rw [firstArm_start_two]
    by_cases ha : a = 97
    · by_cases hb2 : b = 98
      · simp only [Extracted.pm_strip_prefix, Konst.PM.setStart, toPState_rem, ↓bind_remainder, ↓hsk, ha, hb2,
          rs_eval, ↓reduceIte, pmOutcome_some, List.length_cons, pm_le_add2]
      · simp only [Extracted.pm_strip_prefix, Konst.PM.setStart, toPState_rem, ↓bind_remainder, ↓hsk, ha, hb2,
          rs_eval, ↓reduceIte, pmOutcome_some, List.length_cons, Nat.le_add_right]
    · by_cases hb8 : a = 98
      · simp only [Extracted.pm_strip_prefix, Konst.PM.setStart, toPState_rem, ↓bind_remainder, ↓hsk, hb8, rs_eval,
          ↓reduceIte, Nat.reduceEqDiff, pmOutcome_some, List.length_cons, Nat.le_add_right]
      · simp only [Extracted.pm_strip_prefix, ↓bind_remainder, ha, hb8, rs_eval,
          ↓reduceIte, pmOutcome_none]

example : Extracted.pm_strip_prefix 6 ⟨.FromEnd, false, 5, [97, 98, 0xC3, 0xA9, 33]⟩
    = .ok (0, ⟨.FromStart, false, 7, [0xC3, 0xA9, 33]⟩) := by
  decide +kernel
/-- not valid UTF-8 after the literal: `Parser::skip` rounds up to the next char boundary, as the model does -/
example : Extracted.pm_strip_prefix 6 ⟨.FromEnd, false, 5, [98, 0xA9, 0xA9, 33]⟩
    = .ok (1, ⟨.FromStart, false, 8, [33]⟩) := by
  decide +kernel
example : Extracted.pm_strip_prefix 6 ⟨.FromEnd, true, 5, [99, 97]⟩ = .ok (9, ⟨.FromEnd, true, 5, [99, 97]⟩) := by
  decide +kernel

/-- the parser advanced by `n` bytes from the start (what `strip_prefix` of a matched `n`-byte literal gives) -/
def pmAdvStart (p : Extracted.Parser) (n : Nat) : Extracted.Parser :=
  { p with parse_direction := .FromStart, start_offset := p.start_offset + n, str := p.str.drop n }

def pmAdvEnd (p : Extracted.Parser) (n : Nat) : Extracted.Parser :=
  { p with parse_direction := .FromEnd, str := p.str.take (p.str.length - n) }

theorem pmArms_valid : ∀ a ∈ pmArms, ∃ ls, a.2 = Konst.Spec.Utf8.encs ls := by
  intro a ha
  simp only [pmArms, List.mem_cons, List.not_mem_nil, or_false] at ha
  rcases ha with rfl | rfl | rfl
  · exact ⟨[97, 98], by decide⟩
  · exact ⟨[97], by decide⟩
  · exact ⟨[98], by decide⟩

/-- std-level reading on a `&str` remainder (valid UTF-8): exactly `strip_prefix("ab")`, else
    `strip_prefix("a")`, else `strip_prefix("b")`, else the default -/
theorem pm_strip_prefix_std (fuel : Nat) (p : Extracted.Parser) (hv : Konst.Spec.Utf8.Valid p.str)
    (hfit : p.start_offset + p.str.length < 2 ^ 32) (hf : p.str.length + 1 ≤ fuel) :
    Extracted.pm_strip_prefix fuel p
      = .ok (if [97, 98].isPrefixOf p.str then (0, pmAdvStart p 2)
             else if [97].isPrefixOf p.str then (0, pmAdvStart p 1)
             else if [98].isPrefixOf p.str then (1, pmAdvStart p 1)
             else (9, p)) := by
  obtain ⟨cs, hcs, hp⟩ := hv
  have hb : ∀ b ∈ p.str, b < 256 := by rw [hp]; exact Konst.Lemmas.Utf8.encs_lt_256 cs hcs
  rw [pm_strip_prefix_eq fuel p hfit hb hf,
    Konst.Props.C18.strip_prefix_exact pmArms (toPState p) cs hcs hp pmArms_valid]
  have hts : (toPState p).rem = p.str := rfl
  simp only [hts, Konst.PM.Spec.firstPrefix, pmArms, List.find?_cons, List.find?_nil]
  by_cases h1 : [97, 98].isPrefixOf p.str = true
  · simp [h1, pmOutcome, ofPState, pmAdvStart, toPState]
  · by_cases h2 : [97].isPrefixOf p.str = true
    · simp [h1, h2, pmOutcome, ofPState, pmAdvStart, toPState]
    · by_cases h3 : [98].isPrefixOf p.str = true
      · simp [h1, h2, h3, pmOutcome, ofPState, pmAdvStart, toPState]
      · simp [h1, h2, h3, pmOutcome, ofPState_self]

/-! ### slice patterns `[rem @ .., a, b]`: `Rs.snocView` on lists given as `init ++ [a, b]` -/

theorem pm_snocView_one (a : Nat) : Rs.snocView [a] = .snoc [] .nil a := rfl

theorem pm_snocView_snoc1 (init : List Nat) (a : Nat) :
    Rs.snocView (init ++ [a]) = .snoc init (Rs.snocView init) a := Rs.snocView_append_singleton init a

theorem pm_snocView_snoc2 (init : List Nat) (a b : Nat) :
    Rs.snocView (init ++ [a, b]) = .snoc (init ++ [a]) (.snoc init (Rs.snocView init) a) b := by
  have : init ++ [a, b] = (init ++ [a]) ++ [b] := by simp
  rw [this, Rs.snocView_append_singleton, Rs.snocView_append_singleton]

theorem pm_snocView_snoc3 (init : List Nat) (a b c : Nat) :
    Rs.snocView (init ++ [a, b, c])
      = .snoc (init ++ [a, b]) (.snoc (init ++ [a]) (.snoc init (Rs.snocView init) a) b) c := by
  have : init ++ [a, b, c] = (init ++ [a, b]) ++ [c] := by simp
  rw [this, Rs.snocView_append_singleton, pm_snocView_snoc2]

theorem pm_snoc_cases2 (s : List Nat) : s = [] ∨ (∃ a, s = [a]) ∨ ∃ init a b, s = init ++ [a, b] := by
  rcases Konst.Lemmas.Slice.eq_nil_or_snoc s with h | ⟨init, b, h⟩
  · exact Or.inl h
  · rcases Konst.Lemmas.Slice.eq_nil_or_snoc init with h' | ⟨init', a, h'⟩
    · exact Or.inr (Or.inl ⟨b, by simp [h, h']⟩)
    · exact Or.inr (Or.inr ⟨init', a, b, by simp [h, h']⟩)

theorem pm_snoc_cases3 (s : List Nat) :
    s = [] ∨ (∃ a, s = [a]) ∨ (∃ a b, s = [a, b]) ∨ ∃ init a b c, s = init ++ [a, b, c] := by
  rcases pm_snoc_cases2 s with h | h | ⟨init, b, c, h⟩
  · exact Or.inl h
  · exact Or.inr (Or.inl h)
  · rcases Konst.Lemmas.Slice.eq_nil_or_snoc init with h' | ⟨init', a, h'⟩
    · exact Or.inr (Or.inr (Or.inl ⟨b, c, by simp [h, h']⟩))
    · exact Or.inr (Or.inr (Or.inr ⟨init', a, b, c, by simp [h, h']⟩))

/-- the slice pattern `[rem @ .., l0, l1, ..]` of the model on `init ++ lit` -/
theorem matchEnd_append (lit init : List Nat) : Konst.PM.matchEnd lit (init ++ lit) = some init := by
  simp [Konst.PM.matchEnd, List.isSuffixOf_iff_suffix]

theorem matchEnd_none (lit bytes : List Nat) (h : ¬ lit <:+ bytes) : Konst.PM.matchEnd lit bytes = none := by
  simp [Konst.PM.matchEnd, List.isSuffixOf_iff_suffix, h]

/-! ### `Parser::skip_back` to the start of an ASCII byte (or to the end) never rounds and never panics -/

theorem pm_boundary_at_ascii (pre post : List Nat)
    (hpost : post = [] ∨ ∃ x r, post = x :: r ∧ x < 128) :
    Utf8.isCharBoundaryBytes (pre ++ post) pre.length = true := by
  rcases hpost with rfl | ⟨x, r, rfl, hx⟩
  · simp [Utf8.isCharBoundaryBytes]
  · have h1 : Utf8.asI8 x = (x : Int) := by simp [Utf8.asI8, hx]
    simp [Utf8.isCharBoundaryBytes, Utf8.byteIsCharBoundary, h1]

theorem pm_skip_back_at (fuel : Nat) (p : Extracted.Parser) (pre post : List Nat) (hs : p.str = pre ++ post)
    (hpost : post = [] ∨ ∃ x r, post = x :: r ∧ x < 128)
    (hb : ∀ b ∈ p.str, b < 256) (hf : p.str.length + 1 ≤ fuel) :
    Extracted.Parser.skip_back fuel p (p.str.length - pre.length)
      = .ok (ofPState p .FromEnd (Konst.PM.skipBack (toPState p) (p.str.length - pre.length))) := by
  apply skip_back_pm fuel p _ hb (by omega)
  right
  have : p.str.length - (p.str.length - pre.length) = pre.length := by
    rw [hs]; simp
  rw [this, hs]
  exact pm_boundary_at_ascii pre post hpost

theorem pm_skipBack_at (p : Extracted.Parser) (pre post : List Nat) (hs : p.str = pre ++ post)
    (hpost : post = [] ∨ ∃ x r, post = x :: r ∧ x < 128) :
    Konst.PM.skipBack (toPState p) post.length = ⟨p.start_offset, pre⟩ := by
  have hts : (toPState p).rem = p.str := rfl
  have hlen : (toPState p).rem.length - post.length = pre.length := by rw [hts, hs]; simp
  rw [Konst.Props.C18.skipBack_exact (toPState p) post.length (by rw [hts, hs]; simp)
    (by rw [hlen, hts, hs]; exact pm_boundary_at_ascii pre post hpost), hlen, hts, hs]
  simp [toPState]

/-- an arm of a start form, `p = p.skip(p.remainder().len() - rem.len())`, whatever follows it -/
theorem pm_start_arm {ε β : Type} (fuel : Nat) (p : Extracted.Parser) (rem : List Nat)
    (f : Extracted.Parser → Ctl ε β) (hfit : p.start_offset + p.str.length < 2 ^ 32) (hb : ∀ b ∈ p.str, b < 256)
    (hf : p.str.length + 1 ≤ fuel) (hl : rem.length ≤ p.str.length) :
    (Rs.usub 64 p.str.length rem.length >>= fun t => Ctl.call (Extracted.Parser.skip fuel p t) >>= f)
      = f (ofPState p .FromStart (Konst.PM.setStart (toPState p) rem)) := by
  rw [Rs.usub_bind _ hl, skip_pm fuel p _ hfit hb (Nat.le_trans (Nat.succ_le_succ (Nat.sub_le _ _)) hf)]
  rfl

/-- an arm of an end form, `p = p.skip_back(p.remainder().len() - rem.len())` with `rem` cut before an ASCII byte -/
theorem pm_end_arm {ε β : Type} (fuel : Nat) (p : Extracted.Parser) (pre post : List Nat)
    (f : Extracted.Parser → Ctl ε β) (hs : p.str = pre ++ post)
    (hpost : post = [] ∨ ∃ x r, post = x :: r ∧ x < 128) (hb : ∀ b ∈ p.str, b < 256)
    (hf : p.str.length + 1 ≤ fuel) :
    (Rs.usub 64 p.str.length pre.length >>= fun t => Ctl.call (Extracted.Parser.skip_back fuel p t) >>= f)
      = f (ofPState p .FromEnd (Konst.PM.setEnd (toPState p) pre)) := by
  have hl : pre.length ≤ p.str.length := by
    rw [hs, List.length_append]
    exact Nat.le_add_right _ _
  rw [Rs.usub_bind _ hl, pm_skip_back_at fuel p pre post hs hpost hb hf]
  rfl

theorem matchEnd_same_len (lit lit' init : List Nat) (h : lit'.length = lit.length) :
    Konst.PM.matchEnd lit (init ++ lit') = if lit = lit' then some init else none := by
  by_cases he : lit = lit'
  · subst he; simp [matchEnd_append]
  · simp only [he, if_false]
    apply matchEnd_none
    rintro ⟨t, ht⟩
    exact he (List.append_inj_right' ht h.symm)

theorem matchEnd_short (lit bytes : List Nat) (h : bytes.length < lit.length) :
    Konst.PM.matchEnd lit bytes = none := by
  apply matchEnd_none
  intro hsuf
  have := hsuf.length_le
  omega

theorem firstArm_end_nil : Konst.PM.firstArm Konst.PM.matchEnd pmArms [] = none := by decide

theorem firstArm_end_one (a : Nat) :
    Konst.PM.firstArm Konst.PM.matchEnd pmArms [a]
      = if a = 97 then some (0, []) else if a = 98 then some (1, []) else none := by
  have h1 := matchEnd_same_len [97] [a] [] rfl
  have h2 := matchEnd_same_len [98] [a] [] rfl
  have h0 := matchEnd_short [97, 98] [a] (by simp)
  simp only [List.nil_append] at h1 h2
  simp only [pmArms, Konst.PM.firstArm, h0, h1, h2]
  by_cases ha : a = 97
  · simp [ha]
  · have ha' : ¬ 97 = a := fun h => ha h.symm
    by_cases hb : a = 98
    · simp [hb]
    · have hb' : ¬ 98 = a := fun h => hb h.symm
      simp [ha, ha', hb, hb']

theorem firstArm_end_two (init : List Nat) (a b : Nat) :
    Konst.PM.firstArm Konst.PM.matchEnd pmArms (init ++ [a, b])
      = if a = 97 ∧ b = 98 then some (0, init)
        else if b = 97 then some (0, init ++ [a])
        else if b = 98 then some (1, init ++ [a]) else none := by
  have h0 := matchEnd_same_len [97, 98] [a, b] init rfl
  have h1 := matchEnd_same_len [97] [b] (init ++ [a]) rfl
  have h2 := matchEnd_same_len [98] [b] (init ++ [a]) rfl
  have e : init ++ [a] ++ [b] = init ++ [a, b] := by simp
  rw [e] at h1 h2
  simp only [pmArms, Konst.PM.firstArm, h0, h1, h2, List.cons.injEq, and_true, eq_comm (a := 97),
    eq_comm (a := 98)]
  by_cases hab : a = 97 ∧ b = 98
  · rw [if_pos hab, if_pos hab]
  · rw [if_neg hab, if_neg hab]
    by_cases hb7 : b = 97
    · rw [if_pos hb7, if_pos hb7]
    · rw [if_neg hb7, if_neg hb7]
      by_cases hb8 : b = 98
      · rw [if_pos hb8, if_pos hb8]
      · rw [if_neg hb8, if_neg hb8]

/-- a matched arm of the end forms (all literals starting with an ASCII byte) cuts the bytes right before an
    ASCII byte -/
theorem firstArm_end_cut (lits : List (Nat × List Nat))
    (hl : ∀ a ∈ lits, ∃ x r, a.2 = x :: r ∧ x < 128) (s : List Nat) (i : Nat) (rem : List Nat)
    (h : Konst.PM.firstArm Konst.PM.matchEnd lits s = some (i, rem)) :
    ∃ x r, x < 128 ∧ s = rem ++ x :: r := by
  induction lits with
  | nil => simp [Konst.PM.firstArm] at h
  | cons a rest ih =>
    obtain ⟨j, lit⟩ := a
    simp only [Konst.PM.firstArm, Konst.PM.matchEnd] at h
    by_cases hp : lit.isSuffixOf s = true
    · obtain ⟨t, ht⟩ := List.isSuffixOf_iff_suffix.mp hp
      obtain ⟨x, r, hx, hx128⟩ := hl (j, lit) (by simp)
      simp only [hp, if_true, Option.some.injEq, Prod.mk.injEq] at h
      have : rem = t := by rw [← h.2, ← ht]; simp
      exact ⟨x, r, hx128, by rw [this, ← ht]; simp only [] at hx; rw [hx]⟩
    · simp only [hp, Bool.false_eq_true, if_false] at h
      exact ih (fun a ha => hl a (by simp [ha])) h

theorem pmArms_ascii : ∀ a ∈ pmArms, ∃ x r, a.2 = x :: r ∧ x < 128 := by
  intro a ha
  simp only [pmArms, List.mem_cons, List.not_mem_nil, or_false] at ha
  rcases ha with rfl | rfl | rfl
  · exact ⟨97, [98], rfl, by omega⟩
  · exact ⟨97, [], rfl, by omega⟩
  · exact ⟨98, [], rfl, by omega⟩

/-- no UTF-8 hypothesis and no offset bound: `skip_back` is always asked for a position where an ASCII
    literal starts, so it neither rounds nor panics, and it leaves `start_offset` alone -/
theorem pm_strip_suffix_eq (fuel : Nat) (p : Extracted.Parser)
    (hb : ∀ b ∈ p.str, b < 256) (hf : p.str.length + 1 ≤ fuel) :
    Extracted.pm_strip_suffix fuel p
      = .ok (pmOutcome p .FromEnd (Konst.PM.stripSuffix pmArms (toPState p))) := by
  rw [Konst.PM.stripSuffix, toPState_rem]
  rcases pm_snoc_cases2 p.str with hs | ⟨a, hs⟩ | ⟨init, a, b, hs⟩
  · have hv : Rs.snocView p.str = .nil := by rw [hs]; rfl
    rw [hs, firstArm_end_nil]
    simp only [Extracted.pm_strip_suffix, ↓bind_remainder, hv, rs_eval, pmOutcome_none]
  · have hv : Rs.snocView p.str = .snoc [] .nil a := by rw [hs]; rfl
    have harm := fun hx f => pm_end_arm (ε := Nat × Extracted.Parser) (β := Extracted.Parser) fuel p [] [a] f hs (Or.inr ⟨a, [], rfl, hx⟩) hb hf
    rw [hs, firstArm_end_one]
    by_cases ha : a = 97
    · simp only [Extracted.pm_strip_suffix, ↓bind_remainder, hv, ha, rs_eval, ↓reduceIte, ↓harm (by omega),
        pmOutcome_some]
    · by_cases hb8 : a = 98
      · simp only [Extracted.pm_strip_suffix, ↓bind_remainder, hv, hb8, rs_eval, ↓reduceIte, Nat.reduceEqDiff,
          ↓harm (by omega), pmOutcome_some]
      · simp only [Extracted.pm_strip_suffix, ↓bind_remainder, hv, ha, hb8, rs_eval, ↓reduceIte, pmOutcome_none]
  · have hv : Rs.snocView p.str = .snoc (init ++ [a]) (.snoc init (Rs.snocView init) a) b := by
      rw [hs]
      exact pm_snocView_snoc2 init a b
    have harm2 := fun hx f => pm_end_arm (ε := Nat × Extracted.Parser) (β := Extracted.Parser) fuel p init [a, b] f hs
      (Or.inr ⟨a, [b], rfl, hx⟩) hb hf
    have harm1 := fun hx f => pm_end_arm (ε := Nat × Extracted.Parser) (β := Extracted.Parser) fuel p (init ++ [a]) [b] f
      (by rw [hs, List.append_assoc]; rfl) (Or.inr ⟨b, [], rfl, hx⟩) hb hf
    rw [hs, firstArm_end_two]
    by_cases hab : a = 97 ∧ b = 98
    · simp only [Extracted.pm_strip_suffix, ↓bind_remainder, hv, hab.1, hab.2, rs_eval, ↓reduceIte, ↓harm2 (by omega),
        pmOutcome_some]
    · by_cases hb7 : b = 97
      · simp only [Extracted.pm_strip_suffix, ↓bind_remainder, hv, hb7, rs_eval, ↓reduceIte, Nat.reduceEqDiff,
          ↓harm1 (by omega), pmOutcome_some]
      · by_cases hb8 : b = 98
        · have ha : ¬ a = 97 := fun h => hab ⟨h, hb8⟩
          simp only [Extracted.pm_strip_suffix, ↓bind_remainder, hv, hb8, ha, rs_eval, ↓reduceIte, Nat.reduceEqDiff,
            ↓harm1 (by omega), pmOutcome_some]
        · simp only [Extracted.pm_strip_suffix, ↓bind_remainder, hv, hb7, hb8, rs_eval, ↓reduceIte, pmOutcome_none]

example : Extracted.pm_strip_suffix 6 ⟨.FromStart, false, 5, [33, 0xC3, 0xA9, 97, 98]⟩
    = .ok (0, ⟨.FromEnd, false, 5, [33, 0xC3, 0xA9]⟩) := by
  decide +kernel
/-- "ab" is not a suffix, "b" is -/
example : Extracted.pm_strip_suffix 6 ⟨.FromStart, true, 5, [0xA9, 0xA9, 98]⟩
    = .ok (1, ⟨.FromEnd, true, 5, [0xA9, 0xA9]⟩) := by
  decide +kernel
example : Extracted.pm_strip_suffix 6 ⟨.FromStart, true, 5, [97, 99]⟩ = .ok (9, ⟨.FromStart, true, 5, [97, 99]⟩) := by
  decide +kernel

/-- `__priv_pa_bytes_accessor!(set, ..)` of the end forms at the start of an ASCII byte: cuts exactly there -/
theorem setEnd_cut (p : Extracted.Parser) (pre post : List Nat) (hs : p.str = pre ++ post)
    (hpost : post = [] ∨ ∃ x r, post = x :: r ∧ x < 128) :
    Konst.PM.setEnd (toPState p) pre = ⟨p.start_offset, pre⟩ := by
  unfold Konst.PM.setEnd
  have hts : (toPState p).rem = p.str := rfl
  have hl : (toPState p).rem.length - pre.length = post.length := by rw [hts, hs]; simp
  rw [hl]
  exact pm_skipBack_at p pre post hs hpost

/-- std-level reading, for ANY remainder bytes: exactly `strip_suffix("ab")`, else `strip_suffix("a")`, else
    `strip_suffix("b")`, else the default -/
theorem pm_strip_suffix_std (fuel : Nat) (p : Extracted.Parser)
    (hb : ∀ b ∈ p.str, b < 256) (hf : p.str.length + 1 ≤ fuel) :
    Extracted.pm_strip_suffix fuel p
      = .ok (if [97, 98].isSuffixOf p.str then (0, pmAdvEnd p 2)
             else if [97].isSuffixOf p.str then (0, pmAdvEnd p 1)
             else if [98].isSuffixOf p.str then (1, pmAdvEnd p 1)
             else (9, p)) := by
  have hts : (toPState p).rem = p.str := rfl
  rw [pm_strip_suffix_eq fuel p hb hf]
  unfold Konst.PM.stripSuffix
  rw [hts]
  by_cases h1 : [97, 98].isSuffixOf p.str = true
  · obtain ⟨t, ht⟩ := List.isSuffixOf_iff_suffix.mp h1
    have e : p.str.take (p.str.length - 2) = t := by rw [← ht]; simp
    simp [Konst.PM.firstArm, Konst.PM.matchEnd, pmArms, h1, e,
      setEnd_cut p t [97, 98] ht.symm (Or.inr ⟨97, [98], rfl, by omega⟩), pmOutcome, ofPState, pmAdvEnd]
  · by_cases h2 : [97].isSuffixOf p.str = true
    · obtain ⟨t, ht⟩ := List.isSuffixOf_iff_suffix.mp h2
      have e : p.str.take (p.str.length - 1) = t := by rw [← ht]; simp
      simp [Konst.PM.firstArm, Konst.PM.matchEnd, pmArms, h1, h2, e,
        setEnd_cut p t [97] ht.symm (Or.inr ⟨97, [], rfl, by omega⟩), pmOutcome, ofPState, pmAdvEnd]
    · by_cases h3 : [98].isSuffixOf p.str = true
      · obtain ⟨t, ht⟩ := List.isSuffixOf_iff_suffix.mp h3
        have e : p.str.take (p.str.length - 1) = t := by rw [← ht]; simp
        simp [Konst.PM.firstArm, Konst.PM.matchEnd, pmArms, h1, h2, h3, e,
          setEnd_cut p t [98] ht.symm (Or.inr ⟨98, [], rfl, by omega⟩), pmOutcome, ofPState, pmAdvEnd]
      · simp [Konst.PM.firstArm, Konst.PM.matchEnd, pmArms, h1, h2, h3, pmOutcome, ofPState_self]

theorem searchLoop_length_le (arms : List (Nat × List Nat)) (bytes : List Nat) :
    (Konst.PM.searchLoop arms bytes).length ≤ bytes.length := by
  induction bytes with
  | nil => exact Nat.le_refl _
  | cons b r ih =>
    rw [Konst.PM.searchLoop]
    split
    · exact Nat.le_refl _
    · exact Nat.le_succ_of_le ih

/-- the search `loop` of a find form, for any arms: a body that stops where an arm matches and else drops the first
    byte computes the model's `searchLoop` -/
theorem search_loop {ε : Type} (arms : List (Nat × List Nat))
    (body : List Nat → Ctl (LoopExit ε (List Nat) (List Nat)) (List Nat))
    (hnil : body [] = .exit (.brk []))
    (hcons : ∀ b t, body (b :: t) = if (Konst.PM.firstArm Konst.PM.matchStart arms (b :: t)).isSome
      then .exit (.brk (b :: t)) else .val t)
    (n : Nat) (bytes : List Nat) (hn : bytes.length < n) :
    Rs.loop n body bytes = .val (Konst.PM.searchLoop arms bytes) := by
  induction n generalizing bytes with
  | zero => exact absurd hn (Nat.not_lt_zero _)
  | succ n ih =>
    rw [Rs.loop_succ]
    cases bytes with
    | nil =>
      rw [hnil]
      rfl
    | cons b t =>
      rw [hcons, Konst.PM.searchLoop]
      cases Konst.PM.firstArm Konst.PM.matchStart arms (b :: t) with
      | none => exact ih t (Nat.lt_of_succ_lt_succ hn)
      | some x => rfl

theorem pm_find_loop1_cons (a : Nat) (t : List Nat) :
    Extracted.pm_find_skip.loop1 (a :: t)
      = if (Konst.PM.firstArm Konst.PM.matchStart pmArms (a :: t)).isSome then .exit (.brk (a :: t))
        else .val t := by
  cases t with
  | nil =>
    rw [firstArm_start_one]
    by_cases ha : a = 97
    · simp only [Extracted.pm_find_skip.loop1, ha, rs_eval, ↓reduceIte, Option.isSome_some]
    · by_cases hb : a = 98
      · simp only [Extracted.pm_find_skip.loop1, hb, rs_eval, ↓reduceIte, Nat.reduceEqDiff, Option.isSome_some]
      · simp only [Extracted.pm_find_skip.loop1, ha, hb, rs_eval, ↓reduceIte, Option.isSome_none]
  | cons b r =>
    rw [firstArm_start_two]
    by_cases ha : a = 97
    · by_cases hb2 : b = 98
      · simp only [Extracted.pm_find_skip.loop1, ha, hb2, rs_eval, ↓reduceIte, Option.isSome_some]
      · simp only [Extracted.pm_find_skip.loop1, ha, hb2, rs_eval, ↓reduceIte, Option.isSome_some]
    · by_cases hb : a = 98
      · simp only [Extracted.pm_find_skip.loop1, hb, rs_eval, ↓reduceIte, Nat.reduceEqDiff, Option.isSome_some]
      · simp only [Extracted.pm_find_skip.loop1, ha, hb, rs_eval, ↓reduceIte, Option.isSome_none]

theorem pm_find_loop (n : Nat) (bytes : List Nat) (hn : bytes.length < n) :
    Rs.loop (ε := Nat × Extracted.Parser) n Extracted.pm_find_skip.loop1 bytes
      = Ctl.val (Konst.PM.searchLoop pmArms bytes) :=
  search_loop pmArms _ rfl pm_find_loop1_cons n bytes hn

theorem pm_find_skip_eq (fuel : Nat) (p : Extracted.Parser)
    (hfit : p.start_offset + p.str.length < 2 ^ 32) (hb : ∀ b ∈ p.str, b < 256)
    (hf : p.str.length + 1 ≤ fuel) :
    Extracted.pm_find_skip fuel p
      = .ok (pmOutcome p .FromStart (Konst.PM.findSkip pmArms (toPState p))) := by
  have hsk : ∀ {ε β : Type} bc (f : Extracted.Parser → Ctl ε β), (Ctl.call (Extracted.Parser.skip fuel p bc) >>= f)
      = f (ofPState p .FromStart (Konst.PM.skip (toPState p) bc)) := by
    intro ε β bc f
    rw [skip_pm fuel p bc hfit hb (by omega)]
    rfl
  have hsl := searchLoop_length_le pmArms p.str
  have hloop : ∀ {β : Type} (f : List Nat → Ctl (Nat × Extracted.Parser) β),
      (Rs.loop fuel Extracted.pm_find_skip.loop1 p.str >>= f) = f (Konst.PM.searchLoop pmArms p.str) := by
    intro β f
    rw [pm_find_loop fuel p.str hf]
    rfl
  rw [Konst.PM.findSkip, toPState_rem]
  generalize Konst.PM.searchLoop pmArms p.str = s at hsl hloop
  clear hfit hb hf
  rcases s with _ | ⟨a, _ | ⟨b, r⟩⟩
  · simp only [Extracted.pm_find_skip, ↓bind_remainder, ↓hloop, rs_eval, firstArm_start_nil, pmOutcome_none]
  · rw [firstArm_start_one]
    by_cases ha : a = 97
    · simp only [Extracted.pm_find_skip, Konst.PM.setStart, toPState_rem, ↓bind_remainder, ↓hloop, ↓hsk, ha, rs_eval,
        ↓reduceIte, pmOutcome_some, List.length_nil, Nat.zero_le]
    · by_cases hb8 : a = 98
      · simp only [Extracted.pm_find_skip, Konst.PM.setStart, toPState_rem, ↓bind_remainder, ↓hloop, ↓hsk, hb8,
          rs_eval, ↓reduceIte, pmOutcome_some, List.length_nil, Nat.zero_le, Nat.reduceEqDiff]
      · simp only [Extracted.pm_find_skip, ↓bind_remainder, ↓hloop, ha, hb8, rs_eval, ↓reduceIte, pmOutcome_none]
  · rw [firstArm_start_two]
    have hl1 : (b :: r).length ≤ p.str.length := Nat.le_of_succ_le hsl
    have hl0 : r.length ≤ p.str.length := Nat.le_of_succ_le hl1
    by_cases ha : a = 97
    · by_cases hb2 : b = 98
      · simp only [Extracted.pm_find_skip, Konst.PM.setStart, toPState_rem, ↓bind_remainder, ↓hloop, ↓hsk, ha, hb2,
          rs_eval, ↓reduceIte, pmOutcome_some, hl0]
      · simp only [Extracted.pm_find_skip, Konst.PM.setStart, toPState_rem, ↓bind_remainder, ↓hloop, ↓hsk, ha, hb2,
          rs_eval, ↓reduceIte, pmOutcome_some, hl1]
    · by_cases hb8 : a = 98
      · simp only [Extracted.pm_find_skip, Konst.PM.setStart, toPState_rem, ↓bind_remainder, ↓hloop, ↓hsk, hb8,
          rs_eval, ↓reduceIte, Nat.reduceEqDiff, pmOutcome_some, hl1]
      · simp only [Extracted.pm_find_skip, ↓bind_remainder, ↓hloop, ha, hb8, rs_eval, ↓reduceIte, pmOutcome_none]

/-- earliest match is "a" at position 2 (first listed alternative there), although "b" occurs nowhere before -/
example : Extracted.pm_find_skip 7 ⟨.FromEnd, false, 5, [33, 0xC3, 0xA9, 97, 99, 98]⟩
    = .ok (0, ⟨.FromStart, false, 9, [99, 98]⟩) := by
  decide +kernel
example : Extracted.pm_find_skip 7 ⟨.FromEnd, false, 5, [33, 99, 98, 0xA9, 97]⟩
    = .ok (1, ⟨.FromStart, false, 9, [97]⟩) := by
  decide +kernel
example : Extracted.pm_find_skip 7 ⟨.FromEnd, true, 5, [33, 99]⟩ = .ok (9, ⟨.FromEnd, true, 5, [33, 99]⟩) := by
  decide +kernel

/-- reference-level reading on a `&str` remainder (valid UTF-8), `Spec/ParserMethod.lean`: the earliest position at
    which an alternative matches, there the first listed one; the parser is advanced to exactly the end of that
    match (via `Props.C18.find_skip_exact`) -/
theorem pm_find_skip_std (fuel : Nat) (p : Extracted.Parser) (hv : Konst.Spec.Utf8.Valid p.str)
    (hfit : p.start_offset + p.str.length < 2 ^ 32) (hf : p.str.length + 1 ≤ fuel) :
    Extracted.pm_find_skip fuel p
      = .ok (match Konst.PM.Spec.findSkipSpec pmArms p.str with
             | some (i, rem) =>
               (i, { p with parse_direction := .FromStart,
                            start_offset := p.start_offset + (p.str.length - rem.length), str := rem })
             | none => (9, p)) := by
  obtain ⟨cs, hcs, hp⟩ := hv
  have hb : ∀ b ∈ p.str, b < 256 := by rw [hp]; exact Konst.Lemmas.Utf8.encs_lt_256 cs hcs
  rw [pm_find_skip_eq fuel p hfit hb hf,
    Konst.Props.C18.find_skip_exact pmArms (toPState p) cs hcs hp pmArms_valid]
  have hts : (toPState p).rem = p.str := rfl
  rw [hts]
  cases Konst.PM.Spec.findSkipSpec pmArms p.str with
  | none => simp [pmOutcome, ofPState_self]
  | some r => simp [pmOutcome, ofPState, toPState]

theorem rsearchLoop_nil (arms : List (Nat × List Nat)) (f : Nat) : Konst.PM.rsearchLoop arms f [] = [] := by
  cases f with
  | zero =>
    rw [Konst.PM.rsearchLoop]
    split <;> rfl
  | succ f =>
    rw [Konst.PM.rsearchLoop]
    split <;> rfl

theorem rsearchLoop_prefix (arms : List (Nat × List Nat)) (f : Nat) (bytes : List Nat) :
    ∃ post, bytes = Konst.PM.rsearchLoop arms f bytes ++ post := by
  induction f generalizing bytes with
  | zero =>
    rw [Konst.PM.rsearchLoop]
    cases Konst.PM.firstArm Konst.PM.matchEnd arms bytes <;> exact ⟨[], (List.append_nil _).symm⟩
  | succ f ih =>
    rcases Konst.Lemmas.Slice.eq_nil_or_snoc bytes with rfl | ⟨init, x, rfl⟩
    · exact ⟨[], by rw [rsearchLoop_nil]; rfl⟩
    · rw [Konst.PM.rsearchLoop]
      cases Konst.PM.firstArm Konst.PM.matchEnd arms (init ++ [x]) with
      | some y => exact ⟨[], (List.append_nil _).symm⟩
      | none =>
        obtain ⟨post, hp⟩ := ih init
        simp only [List.append_eq_nil_iff, List.cons_ne_nil, and_false, if_false, List.dropLast_concat]
        exact ⟨post ++ [x], by rw [← List.append_assoc, ← hp]⟩

/-- the search `loop` of an rfind form, for any arms: a body that stops where an arm matches and else drops the last
    byte computes the model's `rsearchLoop` (`n` = fuel of the loop, `f` = the model's fuel) -/
theorem rsearch_loop {ε : Type} (arms : List (Nat × List Nat))
    (body : List Nat → Ctl (LoopExit ε (List Nat) (List Nat)) (List Nat))
    (hnil : body [] = .exit (.brk []))
    (hsnoc : ∀ init x, body (init ++ [x]) = if (Konst.PM.firstArm Konst.PM.matchEnd arms (init ++ [x])).isSome
      then .exit (.brk (init ++ [x])) else .val init)
    (n f : Nat) (bytes : List Nat) (hfl : bytes.length ≤ f) (hn : bytes.length < n) :
    Rs.loop n body bytes = .val (Konst.PM.rsearchLoop arms f bytes) := by
  induction n generalizing bytes f with
  | zero => exact absurd hn (Nat.not_lt_zero _)
  | succ n ih =>
    rw [Rs.loop_succ]
    rcases Konst.Lemmas.Slice.eq_nil_or_snoc bytes with rfl | ⟨init, x, rfl⟩
    · rw [hnil, rsearchLoop_nil]
    · rw [List.length_append] at hfl hn
      obtain ⟨f, rfl⟩ : ∃ f', f = f' + 1 := ⟨f - 1, (Nat.sub_add_cancel (Nat.le_trans (Nat.le_add_left _ _) hfl)).symm⟩
      rw [hsnoc, Konst.PM.rsearchLoop]
      cases Konst.PM.firstArm Konst.PM.matchEnd arms (init ++ [x]) with
      | some y => rfl
      | none =>
        simp only [List.append_eq_nil_iff, List.cons_ne_nil, and_false, if_false, List.dropLast_concat]
        exact ih f init (Nat.le_of_succ_le_succ hfl) (Nat.lt_of_succ_lt_succ hn)

theorem pm_rfind_loop1_one (a : Nat) :
    Extracted.pm_rfind_skip.loop1 [a]
      = if (Konst.PM.firstArm Konst.PM.matchEnd pmArms [a]).isSome then .exit (.brk [a]) else .val [] := by
  have hu : Rs.unsnoc [a] = some ([], a) := rfl
  rw [firstArm_end_one]
  unfold Extracted.pm_rfind_skip.loop1
  by_cases ha : a = 97
  · simp only [pm_snocView_one, ha, rs_eval, ↓reduceIte, Option.isSome_some]
  · by_cases hb : a = 98
    · simp only [pm_snocView_one, hb, rs_eval, ↓reduceIte, Nat.reduceEqDiff, Option.isSome_some]
    · simp only [pm_snocView_one, hu, ha, hb, rs_eval, ↓reduceIte, Option.isSome_none]

theorem pm_rfind_loop1_two (init : List Nat) (a b : Nat) :
    Extracted.pm_rfind_skip.loop1 (init ++ [a, b])
      = if (Konst.PM.firstArm Konst.PM.matchEnd pmArms (init ++ [a, b])).isSome then .exit (.brk (init ++ [a, b]))
        else .val (init ++ [a]) := by
  have hu : Rs.unsnoc (init ++ [a, b]) = some (init ++ [a], b) := by
    rw [← Rs.unsnoc_concat (init ++ [a]) b, List.append_assoc]
    rfl
  rw [firstArm_end_two]
  unfold Extracted.pm_rfind_skip.loop1
  by_cases hab : a = 97 ∧ b = 98
  · simp only [pm_snocView_snoc2, hab.1, hab.2, rs_eval, ↓reduceIte, Option.isSome_some]
  · by_cases hb7 : b = 97
    · simp only [pm_snocView_snoc2, hb7, rs_eval, ↓reduceIte, Nat.reduceEqDiff, Option.isSome_some]
    · by_cases hb8 : b = 98
      · have ha : ¬ a = 97 := fun h => hab ⟨h, hb8⟩
        simp only [pm_snocView_snoc2, hb8, ha, rs_eval, ↓reduceIte, Nat.reduceEqDiff, Option.isSome_some]
      · simp only [pm_snocView_snoc2, hu, hb7, hb8, rs_eval, ↓reduceIte, Option.isSome_none]

theorem pm_rfind_loop (n f : Nat) (bytes : List Nat) (hfl : bytes.length ≤ f) (hn : bytes.length < n) :
    Rs.loop (ε := Nat × Extracted.Parser) n Extracted.pm_rfind_skip.loop1 bytes
      = Ctl.val (Konst.PM.rsearchLoop pmArms f bytes) := by
  refine rsearch_loop pmArms _ rfl (fun init x => ?_) n f bytes hfl hn
  rcases Konst.Lemmas.Slice.eq_nil_or_snoc init with rfl | ⟨i, a, rfl⟩
  · exact pm_rfind_loop1_one x
  · rw [List.append_assoc]
    exact pm_rfind_loop1_two i a x

/-- no UTF-8 hypothesis and no offset bound (as for `pm_strip_suffix`) -/
theorem pm_rfind_skip_eq (fuel : Nat) (p : Extracted.Parser)
    (hb : ∀ b ∈ p.str, b < 256) (hf : p.str.length + 1 ≤ fuel) :
    Extracted.pm_rfind_skip fuel p
      = .ok (pmOutcome p .FromEnd (Konst.PM.rfindSkip pmArms (toPState p))) := by
  obtain ⟨post, hpost⟩ := rsearchLoop_prefix pmArms p.str.length p.str
  have hloop : ∀ {β : Type} (f : List Nat → Ctl (Nat × Extracted.Parser) β),
      (Rs.loop fuel Extracted.pm_rfind_skip.loop1 p.str >>= f)
        = f (Konst.PM.rsearchLoop pmArms p.str.length p.str) := by
    intro β f
    rw [pm_rfind_loop fuel p.str.length p.str (Nat.le_refl _) hf]
    rfl
  rw [Konst.PM.rfindSkip, toPState_rem]
  generalize Konst.PM.rsearchLoop pmArms p.str.length p.str = s at hpost hloop
  rcases pm_snoc_cases2 s with rfl | ⟨a, rfl⟩ | ⟨init, a, b, rfl⟩
  · rw [firstArm_end_nil]
    simp only [Extracted.pm_rfind_skip, ↓bind_remainder, ↓hloop, Rs.snocView_nil, rs_eval, pmOutcome_none]
  · have harm := fun hx f => pm_end_arm (ε := Nat × Extracted.Parser) (β := Extracted.Parser) fuel p [] ([a] ++ post) f
      hpost (Or.inr ⟨a, post, rfl, hx⟩) hb hf
    rw [firstArm_end_one]
    by_cases ha : a = 97
    · simp only [Extracted.pm_rfind_skip, ↓bind_remainder, ↓hloop, pm_snocView_one, ha, rs_eval, ↓reduceIte,
        ↓harm (by omega), pmOutcome_some]
    · by_cases hb8 : a = 98
      · simp only [Extracted.pm_rfind_skip, ↓bind_remainder, ↓hloop, pm_snocView_one, hb8, rs_eval, ↓reduceIte,
          Nat.reduceEqDiff, ↓harm (by omega), pmOutcome_some]
      · simp only [Extracted.pm_rfind_skip, ↓bind_remainder, ↓hloop, pm_snocView_one, ha, hb8, rs_eval, ↓reduceIte,
          pmOutcome_none]
  · have harm2 := fun hx f => pm_end_arm (ε := Nat × Extracted.Parser) (β := Extracted.Parser) fuel p init
      ([a, b] ++ post) f (by rw [hpost, List.append_assoc]) (Or.inr ⟨a, [b] ++ post, rfl, hx⟩) hb hf
    have harm1 := fun hx f => pm_end_arm (ε := Nat × Extracted.Parser) (β := Extracted.Parser) fuel p (init ++ [a])
      ([b] ++ post) f (by rw [hpost, List.append_assoc, List.append_assoc]; rfl) (Or.inr ⟨b, post, rfl, hx⟩) hb hf
    rw [firstArm_end_two]
    by_cases hab : a = 97 ∧ b = 98
    · simp only [Extracted.pm_rfind_skip, ↓bind_remainder, ↓hloop, pm_snocView_snoc2, hab.1, hab.2, rs_eval,
        ↓reduceIte, ↓harm2 (by omega), pmOutcome_some]
    · by_cases hb7 : b = 97
      · simp only [Extracted.pm_rfind_skip, ↓bind_remainder, ↓hloop, pm_snocView_snoc2, hb7, rs_eval, ↓reduceIte,
          Nat.reduceEqDiff, ↓harm1 (by omega), pmOutcome_some]
      · by_cases hb8 : b = 98
        · have ha : ¬ a = 97 := fun h => hab ⟨h, hb8⟩
          simp only [Extracted.pm_rfind_skip, ↓bind_remainder, ↓hloop, pm_snocView_snoc2, hb8, ha, rs_eval,
            ↓reduceIte, Nat.reduceEqDiff, ↓harm1 (by omega), pmOutcome_some]
        · simp only [Extracted.pm_rfind_skip, ↓bind_remainder, ↓hloop, pm_snocView_snoc2, hb7, hb8, rs_eval,
            ↓reduceIte, pmOutcome_none]

/-- latest end position with a match: "a" ending at 4 ("ab" does not end there, "b" ends nowhere later) -/
example : Extracted.pm_rfind_skip 7 ⟨.FromStart, false, 5, [98, 99, 0xC3, 97, 0xA9, 33]⟩
    = .ok (0, ⟨.FromEnd, false, 5, [98, 99, 0xC3]⟩) := by
  decide +kernel
example : Extracted.pm_rfind_skip 7 ⟨.FromStart, false, 5, [97, 98, 99, 98, 33]⟩
    = .ok (1, ⟨.FromEnd, false, 5, [97, 98, 99]⟩) := by
  decide +kernel
example : Extracted.pm_rfind_skip 7 ⟨.FromStart, false, 5, [33, 97, 98, 33]⟩
    = .ok (0, ⟨.FromEnd, false, 5, [33]⟩) := by
  decide +kernel
example : Extracted.pm_rfind_skip 7 ⟨.FromBoth, true, 5, [33, 99]⟩ = .ok (9, ⟨.FromBoth, true, 5, [33, 99]⟩) := by
  decide +kernel

/-- reference-level reading, for ANY remainder bytes (`Spec/ParserMethod.lean`): the latest end position at which an
    alternative matches as a suffix, there the first listed one; the remainder is cut exactly before that match
    (via `Props.C18.find_form_earliest_then_first_listed`) -/
theorem pm_rfind_skip_std (fuel : Nat) (p : Extracted.Parser)
    (hb : ∀ b ∈ p.str, b < 256) (hf : p.str.length + 1 ≤ fuel) :
    Extracted.pm_rfind_skip fuel p
      = .ok (match Konst.PM.Spec.rfindSkipSpec pmArms p.str with
             | some (i, rem) => (i, { p with parse_direction := .FromEnd, str := rem })
             | none => (9, p)) := by
  have hts : (toPState p).rem = p.str := rfl
  rw [pm_rfind_skip_eq fuel p hb hf, (Konst.Props.C18.find_form_earliest_then_first_listed pmArms (toPState p)).2,
    hts]
  have hspec := Konst.Props.C18.rfindLoop_eq_spec pmArms p.str
  rw [← (Konst.Props.C18.search_then_match pmArms).2] at hspec
  obtain ⟨post, hpost⟩ := rsearchLoop_prefix pmArms p.str.length p.str
  cases hr : Konst.PM.Spec.rfindSkipSpec pmArms p.str with
  | none => simp [pmOutcome, ofPState_self]
  | some r =>
    obtain ⟨i, rem⟩ := r
    rw [hr] at hspec
    obtain ⟨x, t, hx, hs⟩ := firstArm_end_cut pmArms pmArms_ascii _ i rem hspec
    have hcut := setEnd_cut p rem (x :: t ++ post) (by rw [hpost, hs]; simp) (Or.inr ⟨x, t ++ post, rfl, hx⟩)
    simp [pmOutcome, ofPState, hcut]

theorem pm_ne_add1 (n : Nat) : ¬ n = n + 1 := by omega
theorem pm_ne_add3 (n : Nat) : ¬ n = n + 1 + 1 + 1 := by omega

/-- the `while let` loop of a trim form, for any literals and either slice pattern: a body that does the model's
    step computes the model's `trimLoop` (`n` = fuel of the loop, `k` = the model's) -/
theorem trim_loop {ε : Type} (m : List Nat → List Nat → Option (List Nat)) (lits : List (Nat × List Nat))
    (body : List Nat → Ctl (LoopExit ε (List Nat) (List Nat)) (List Nat))
    (hstep : ∀ bytes, body bytes = match Konst.PM.firstArm m lits bytes with
      | none => .exit (.brk bytes)
      | some (_, rem) => if rem.length = bytes.length then .exit (.brk bytes) else .val rem)
    (hlen : ∀ bytes i rem, Konst.PM.firstArm m lits bytes = some (i, rem) → rem.length ≤ bytes.length)
    (n k : Nat) (bytes : List Nat) (hk : bytes.length < k) (hn : bytes.length < n) :
    Rs.loop n body bytes = .val (Konst.PM.trimLoop m lits k bytes) := by
  induction n generalizing bytes k with
  | zero => exact absurd hn (Nat.not_lt_zero _)
  | succ n ih =>
    obtain ⟨k, rfl⟩ : ∃ k', k = k' + 1 := ⟨k - 1, (Nat.sub_add_cancel (Nat.succ_le_of_lt (Nat.zero_lt_of_lt hk))).symm⟩
    rw [Rs.loop_succ, hstep, Konst.PM.trimLoop]
    cases h : Konst.PM.firstArm m lits bytes with
    | none => rfl
    | some x =>
      have hl := hlen bytes x.1 x.2 h
      by_cases he : x.2.length = bytes.length
      · simp only [he, if_true]
      · simp only [he, if_false]
        have hlt : x.2.length < bytes.length := Nat.lt_of_le_of_ne hl he
        exact ih k x.2 (Nat.lt_of_lt_of_le hlt (Nat.le_of_lt_succ hk)) (Nat.lt_of_lt_of_le hlt (Nat.le_of_lt_succ hn))

theorem pm_trim_start_step (bytes : List Nat) :
    Extracted.pm_trim_start_matches.loop1 bytes
      = match Konst.PM.firstArm Konst.PM.matchStart pmTrimLits bytes with
        | none => Ctl.exit (.brk bytes)
        | some (_, rem) => if rem.length = bytes.length then Ctl.exit (.brk bytes) else Ctl.val rem := by
  unfold Extracted.pm_trim_start_matches.loop1
  rcases bytes with _ | ⟨a, _ | ⟨b, _ | ⟨c, r⟩⟩⟩
  · simp [Konst.PM.firstArm, Konst.PM.matchStart, pmTrimLits]
  · by_cases ha : a = 97
    · simp [Konst.PM.firstArm, Konst.PM.matchStart, pmTrimLits, ha]
    · have ha' : ¬ 97 = a := fun h => ha h.symm
      simp [Konst.PM.firstArm, Konst.PM.matchStart, pmTrimLits, ha, ha']
  · by_cases ha : a = 97
    · by_cases hb : b = 98
      · simp [Konst.PM.firstArm, Konst.PM.matchStart, pmTrimLits, ha, hb]
      · have hb' : ¬ 98 = b := fun h => hb h.symm
        simp [Konst.PM.firstArm, Konst.PM.matchStart, pmTrimLits, ha, hb, hb']
    · have ha' : ¬ 97 = a := fun h => ha h.symm
      simp [Konst.PM.firstArm, Konst.PM.matchStart, pmTrimLits, ha, ha']
  · by_cases ha : a = 97
    · by_cases hb : b = 98
      · simp [Konst.PM.firstArm, Konst.PM.matchStart, pmTrimLits, ha, hb]
      · have hb' : ¬ 98 = b := fun h => hb h.symm
        simp [Konst.PM.firstArm, Konst.PM.matchStart, pmTrimLits, ha, hb, hb']
    · have ha' : ¬ 97 = a := fun h => ha h.symm
      by_cases h3 : a = 98 ∧ b = 195 ∧ c = 169
      · simp [Konst.PM.firstArm, Konst.PM.matchStart, pmTrimLits, h3.1, h3.2.1, h3.2.2, pm_ne_add3]
      · have h3' : ¬ (98 = a ∧ 195 = b ∧ 169 = c) := fun h => h3 ⟨h.1.symm, h.2.1.symm, h.2.2.symm⟩
        simp [Konst.PM.firstArm, Konst.PM.matchStart, pmTrimLits, ha, ha', h3']
        intro h1 h2 h3c
        exact absurd ⟨h1, h2, h3c⟩ h3

theorem pm_trim_start_loop (n k : Nat) (bytes : List Nat) (hk : bytes.length < k) (hn : bytes.length < n) :
    Rs.loop (ε := Extracted.Parser) n Extracted.pm_trim_start_matches.loop1 bytes
      = Ctl.val (Konst.PM.trimLoop Konst.PM.matchStart pmTrimLits k bytes) :=
  trim_loop _ _ _ pm_trim_start_step (Konst.Props.C18.firstArm_len _ (fun _ _ _ => Konst.Props.C18.matchStart_len) _) n k bytes hk hn

theorem pm_trim_start_matches_eq (fuel : Nat) (p : Extracted.Parser)
    (hfit : p.start_offset + p.str.length < 2 ^ 32) (hb : ∀ b ∈ p.str, b < 256)
    (hf : p.str.length + 1 ≤ fuel) :
    Extracted.pm_trim_start_matches fuel p
      = .ok (ofPState p .FromStart (Konst.PM.trimStartMatches pmTrimLits (toPState p))) := by
  have hloop : ∀ {β : Type} (f : List Nat → Ctl Extracted.Parser β),
      (Rs.loop fuel Extracted.pm_trim_start_matches.loop1 p.str >>= f)
        = f (Konst.PM.trimLoop Konst.PM.matchStart pmTrimLits (p.str.length + 1) p.str) := by
    intro β f
    rw [pm_trim_start_loop fuel (p.str.length + 1) p.str (Nat.lt_succ_self _) hf]
    rfl
  have harm := fun f => pm_start_arm (ε := Extracted.Parser) (β := Extracted.Parser) fuel p _ f hfit hb hf
    (Konst.Props.C18.trimLoop_len Konst.PM.matchStart (fun _ _ _ => Konst.Props.C18.matchStart_len) pmTrimLits (p.str.length + 1) p.str)
  simp only [Extracted.pm_trim_start_matches, ↓bind_remainder, ↓hloop, ↓harm, rs_eval]
  rfl

/-- "ab", "bé", "a" removed, stops at "cb" -/
example : Extracted.pm_trim_start_matches 9 ⟨.FromEnd, false, 5, [97, 98, 98, 195, 169, 97, 99, 98]⟩
    = .ok ⟨.FromStart, false, 11, [99, 98]⟩ := by
  decide +kernel
/-- not valid UTF-8 after the last match: `Parser::skip` rounds up, as the model does -/
example : Extracted.pm_trim_start_matches 9 ⟨.FromEnd, false, 5, [97, 97, 0xA9, 33]⟩
    = .ok ⟨.FromStart, false, 8, [33]⟩ := by
  decide +kernel
example : Extracted.pm_trim_start_matches 9 ⟨.FromEnd, true, 5, [98, 97]⟩ = .ok ⟨.FromStart, true, 5, [98, 97]⟩ := by
  decide +kernel

theorem pmTrimLits_valid : ∀ a ∈ pmTrimLits, ∃ ls, a.2 = Konst.Spec.Utf8.encs ls := by
  intro a ha
  simp only [pmTrimLits, List.mem_cons, List.not_mem_nil, or_false] at ha
  rcases ha with rfl | rfl | rfl
  · exact ⟨[97, 98], by decide⟩
  · exact ⟨[97], by decide⟩
  · exact ⟨[98, 233], by decide⟩

/-- reference-level reading on a `&str` remainder (valid UTF-8), `Spec/ParserMethod.lean`: repeatedly remove the first
    listed alternative that is a prefix; the parser is advanced by exactly the bytes removed
    (via `Props.C18.trim_start_exact`) -/
theorem pm_trim_start_matches_std (fuel : Nat) (p : Extracted.Parser) (hv : Konst.Spec.Utf8.Valid p.str)
    (hfit : p.start_offset + p.str.length < 2 ^ 32) (hf : p.str.length + 1 ≤ fuel) :
    Extracted.pm_trim_start_matches fuel p
      = .ok { p with parse_direction := .FromStart,
                     start_offset := p.start_offset
                       + (p.str.length - (Konst.PM.Spec.trimStartSpec pmTrimLits p.str).length),
                     str := Konst.PM.Spec.trimStartSpec pmTrimLits p.str } := by
  obtain ⟨cs, hcs, hp⟩ := hv
  have hb : ∀ b ∈ p.str, b < 256 := by rw [hp]; exact Konst.Lemmas.Utf8.encs_lt_256 cs hcs
  rw [pm_trim_start_matches_eq fuel p hfit hb hf,
    Konst.Props.C18.trim_start_exact pmTrimLits (toPState p) cs hcs hp pmTrimLits_valid]
  simp [ofPState, toPState]

theorem pm_snocView_two (a b : Nat) : Rs.snocView [a, b] = .snoc [a] (.snoc [] .nil a) b := rfl

theorem firstArm_trim_end_nil : Konst.PM.firstArm Konst.PM.matchEnd pmTrimLits [] = none := by decide

theorem firstArm_trim_end_one (a : Nat) :
    Konst.PM.firstArm Konst.PM.matchEnd pmTrimLits [a] = if a = 97 then some (0, []) else none := by
  have h0 := matchEnd_short [97, 98] [a] (by simp)
  have h1 := matchEnd_same_len [97] [a] [] rfl
  have h2 := matchEnd_short [98, 195, 169] [a] (by simp)
  simp only [List.nil_append] at h1
  simp only [pmTrimLits, Konst.PM.firstArm, h0, h1, h2, List.cons.injEq, and_true, eq_comm (a := 97)]
  by_cases ha : a = 97
  · rw [if_pos ha, if_pos ha]
  · rw [if_neg ha, if_neg ha]

theorem firstArm_trim_end_two (a b : Nat) :
    Konst.PM.firstArm Konst.PM.matchEnd pmTrimLits [a, b]
      = if a = 97 ∧ b = 98 then some (0, []) else if b = 97 then some (0, [a]) else none := by
  have h0 := matchEnd_same_len [97, 98] [a, b] [] rfl
  have h1 := matchEnd_same_len [97] [b] [a] rfl
  have h2 := matchEnd_short [98, 195, 169] [a, b] (by simp)
  simp only [List.nil_append, List.cons_append] at h0 h1
  simp only [pmTrimLits, Konst.PM.firstArm, h0, h1, h2, List.cons.injEq, and_true, eq_comm (a := 97),
    eq_comm (a := 98)]
  by_cases hab : a = 97 ∧ b = 98
  · rw [if_pos hab, if_pos hab]
  · rw [if_neg hab, if_neg hab]
    by_cases hb7 : b = 97
    · rw [if_pos hb7, if_pos hb7]
    · rw [if_neg hb7, if_neg hb7]

theorem firstArm_trim_end_three (init : List Nat) (a b c : Nat) :
    Konst.PM.firstArm Konst.PM.matchEnd pmTrimLits (init ++ [a, b, c])
      = if b = 97 ∧ c = 98 then some (0, init ++ [a])
        else if c = 97 then some (0, init ++ [a, b])
        else if a = 98 ∧ b = 195 ∧ c = 169 then some (0, init) else none := by
  have h0 := matchEnd_same_len [97, 98] [b, c] (init ++ [a]) rfl
  have h1 := matchEnd_same_len [97] [c] (init ++ [a, b]) rfl
  have h2 := matchEnd_same_len [98, 195, 169] [a, b, c] init rfl
  have e0 : init ++ [a] ++ [b, c] = init ++ [a, b, c] := by simp
  have e1 : init ++ [a, b] ++ [c] = init ++ [a, b, c] := by simp
  rw [e0] at h0
  rw [e1] at h1
  simp only [pmTrimLits, Konst.PM.firstArm, h0, h1, h2, List.cons.injEq, and_true, eq_comm (a := 97),
    eq_comm (a := 98), eq_comm (a := 195), eq_comm (a := 169)]
  by_cases hb : b = 97 ∧ c = 98
  · rw [if_pos hb, if_pos hb]
  · rw [if_neg hb, if_neg hb]
    by_cases hc : c = 97
    · rw [if_pos hc, if_pos hc]
    · rw [if_neg hc, if_neg hc]
      by_cases h3 : a = 98 ∧ b = 195 ∧ c = 169
      · rw [if_pos h3, if_pos h3]
      · rw [if_neg h3, if_neg h3]

theorem pm_trim_end_step (bytes : List Nat) :
    Extracted.pm_trim_end_matches.loop1 bytes
      = match Konst.PM.firstArm Konst.PM.matchEnd pmTrimLits bytes with
        | none => Ctl.exit (.brk bytes)
        | some (_, rem) => if rem.length = bytes.length then Ctl.exit (.brk bytes) else Ctl.val rem := by
  unfold Extracted.pm_trim_end_matches.loop1
  rcases pm_snoc_cases3 bytes with rfl | ⟨a, rfl⟩ | ⟨a, b, rfl⟩ | ⟨init, a, b, c, rfl⟩
  · rfl
  · rw [firstArm_trim_end_one]
    by_cases ha : a = 97
    · simp only [pm_snocView_one, ha, rs_eval, decide_eq_true_eq, ↓reduceIte]
    · simp only [pm_snocView_one, ha, rs_eval, ↓reduceIte]
  · rw [firstArm_trim_end_two]
    by_cases hab : a = 97 ∧ b = 98
    · simp only [pm_snocView_two, hab.1, hab.2, rs_eval, decide_eq_true_eq, ↓reduceIte]
    · by_cases hb7 : b = 97
      · simp only [pm_snocView_two, hb7, rs_eval, decide_eq_true_eq, ↓reduceIte, Nat.reduceEqDiff]
      · simp only [pm_snocView_two, hab, hb7, rs_eval, Bool.and_eq_true, decide_eq_true_eq, ↓reduceIte]
  · rw [firstArm_trim_end_three]
    by_cases hb : b = 97 ∧ c = 98
    · simp only [pm_snocView_snoc3, hb.1, hb.2, rs_eval, decide_eq_true_eq, ↓reduceIte]
    · by_cases hc : c = 97
      · simp only [pm_snocView_snoc3, hc, rs_eval, decide_eq_true_eq, ↓reduceIte, Nat.reduceEqDiff]
      · by_cases h3 : a = 98 ∧ b = 195 ∧ c = 169
        · simp only [pm_snocView_snoc3, h3.1, h3.2.1, h3.2.2, rs_eval, decide_eq_true_eq, ↓reduceIte,
            Nat.reduceEqDiff]
        · simp only [pm_snocView_snoc3, and_assoc, hb, hc, h3, rs_eval, Bool.and_eq_true, decide_eq_true_eq, ↓reduceIte]

theorem pmTrimLits_ascii : ∀ a ∈ pmTrimLits, ∃ x r, a.2 = x :: r ∧ x < 128 := by
  intro a ha
  simp only [pmTrimLits, List.mem_cons, List.not_mem_nil, or_false] at ha
  rcases ha with rfl | rfl | rfl
  · exact ⟨97, [98], rfl, by omega⟩
  · exact ⟨97, [], rfl, by omega⟩
  · exact ⟨98, [195, 169], rfl, by omega⟩

theorem pm_trim_end_loop (n k : Nat) (bytes : List Nat) (hk : bytes.length < k) (hn : bytes.length < n) :
    Rs.loop (ε := Extracted.Parser) n Extracted.pm_trim_end_matches.loop1 bytes
      = Ctl.val (Konst.PM.trimLoop Konst.PM.matchEnd pmTrimLits k bytes) :=
  trim_loop _ _ _ pm_trim_end_step (Konst.Props.C18.firstArm_len _ (fun _ _ _ => Konst.Props.C18.matchEnd_len) _) n k bytes hk hn

/-- what the trim-end loop leaves is a prefix of the bytes, cut before an ASCII byte (or nothing was removed) -/
theorem trimLoop_end_cut (m : Nat) (bytes : List Nat) :
    ∃ post, bytes = Konst.PM.trimLoop Konst.PM.matchEnd pmTrimLits m bytes ++ post ∧
      (post = [] ∨ ∃ x r, post = x :: r ∧ x < 128) := by
  induction m generalizing bytes with
  | zero => exact ⟨[], by simp [Konst.PM.trimLoop], Or.inl rfl⟩
  | succ m ih =>
    rw [Konst.PM.trimLoop]
    cases h : Konst.PM.firstArm Konst.PM.matchEnd pmTrimLits bytes with
    | none => exact ⟨[], by simp, Or.inl rfl⟩
    | some x =>
      obtain ⟨i, rem⟩ := x
      by_cases he : rem.length = bytes.length
      · exact ⟨[], by simp [he], Or.inl rfl⟩
      · simp only [he, if_false]
        obtain ⟨x, r, hx, hs⟩ := firstArm_end_cut _ pmTrimLits_ascii _ _ _ h
        obtain ⟨post, hp, hpost⟩ := ih rem
        refine ⟨post ++ x :: r, by rw [← List.append_assoc, ← hp]; exact hs, Or.inr ?_⟩
        rcases hpost with rfl | ⟨y, t, rfl, hy⟩
        · exact ⟨x, r, rfl, hx⟩
        · exact ⟨y, t ++ x :: r, rfl, hy⟩

/-- no UTF-8 hypothesis and no offset bound (as for `pm_strip_suffix`) -/
theorem pm_trim_end_matches_eq (fuel : Nat) (p : Extracted.Parser)
    (hb : ∀ b ∈ p.str, b < 256) (hf : p.str.length + 1 ≤ fuel) :
    Extracted.pm_trim_end_matches fuel p
      = .ok (ofPState p .FromEnd (Konst.PM.trimEndMatches pmTrimLits (toPState p))) := by
  have hloop : ∀ {β : Type} (f : List Nat → Ctl Extracted.Parser β),
      (Rs.loop fuel Extracted.pm_trim_end_matches.loop1 p.str >>= f)
        = f (Konst.PM.trimLoop Konst.PM.matchEnd pmTrimLits (p.str.length + 1) p.str) := by
    intro β f
    rw [pm_trim_end_loop fuel (p.str.length + 1) p.str (Nat.lt_succ_self _) hf]
    rfl
  obtain ⟨post, hp, hpost⟩ := trimLoop_end_cut (p.str.length + 1) p.str
  have harm := fun f => pm_end_arm (ε := Extracted.Parser) (β := Extracted.Parser) fuel p _ post f hp hpost hb hf
  simp only [Extracted.pm_trim_end_matches, ↓bind_remainder, ↓hloop, ↓harm, rs_eval]
  rfl

/-- "a", "ab", "bé" removed from the end, stops at "!b" -/
example : Extracted.pm_trim_end_matches 9 ⟨.FromStart, false, 5, [33, 98, 98, 195, 169, 97, 98, 97]⟩
    = .ok ⟨.FromEnd, false, 5, [33, 98]⟩ := by
  decide +kernel
/-- the remainder need not be valid UTF-8 -/
example : Extracted.pm_trim_end_matches 9 ⟨.FromStart, false, 5, [0xA9, 0xA9, 97, 97]⟩
    = .ok ⟨.FromEnd, false, 5, [0xA9, 0xA9]⟩ := by
  decide +kernel
example : Extracted.pm_trim_end_matches 9 ⟨.FromStart, true, 5, [97, 98, 99]⟩ = .ok ⟨.FromEnd, true, 5, [97, 98, 99]⟩ := by
  decide +kernel

/-- reference-level reading, for ANY remainder bytes (`Spec/ParserMethod.lean`): repeatedly remove the first listed
    alternative that is a suffix; the remainder is cut exactly there (via `Props.C18.trimEnd_eq_spec`) -/
theorem pm_trim_end_matches_std (fuel : Nat) (p : Extracted.Parser)
    (hb : ∀ b ∈ p.str, b < 256) (hf : p.str.length + 1 ≤ fuel) :
    Extracted.pm_trim_end_matches fuel p
      = .ok { p with parse_direction := .FromEnd, str := Konst.PM.Spec.trimEndSpec pmTrimLits p.str } := by
  have hts : (toPState p).rem = p.str := rfl
  rw [pm_trim_end_matches_eq fuel p hb hf]
  unfold Konst.PM.trimEndMatches
  rw [hts]
  obtain ⟨post, hp, hpost⟩ := trimLoop_end_cut (p.str.length + 1) p.str
  rw [Konst.Props.C18.trimEnd_eq_spec pmTrimLits _ _ (Nat.lt_succ_self _)] at hp ⊢
  rw [setEnd_cut p _ post hp hpost]
  simp [ofPState]

end Extracted.Equiv
