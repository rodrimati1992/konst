import KonstVerif.Extracted.Gen.SliceConcat
import KonstVerif.Extracted.Equiv.SliceFns
import KonstVerif.Extracted.Equiv.Concat
/-
  Extracted = Model, for the const fns behind `slice::slice_concat!` (C20), generic in
  the element type: `konst_kernel::slice::slice_for_konst::{concat_sum_lengths, first_elem, concat_slices}`
  (generated names `slice_concat_sum_lengths`, `slice_first_elem`, `slice_concat_slices`) against the model's
  `sliceConcatSumLengths`, `firstElem`, `concatSlices` (`Model/Concat.lean`).

  As in `Equiv/Concat.lean`: `extracted = outToRes (model)`, i.e. `.ok v` exactly when the model says `.ok v`,
  `.panic` exactly when the model says `.panic _`; never `ub`/`nofuel`.  `forRange_loop` and the byte-copy block
  `cc_write_block` of `Equiv/Concat.lean` are generic in the element type and are reused here.
-/
namespace Extracted.Equiv
open Rs Konst Konst.Concat

variable {T : Type}

theorem sc_sum_loop (n : Nat) (slices : List (List T)) (i sum : Nat) (hl : slices.length < 2 ^ 64)
    (hi : i ≤ slices.length) (hn : slices.length - i + 1 ≤ n) :
    Rs.loop n (Extracted.slice_concat_sum_lengths.loop1 T slices.length slices) (i, sum)
      = ctlOf slices.length (sliceSumLoop (slices.drop i) sum) := by
  refine forRange_loop slices _ (fun x s => ckAdd s x.length) sliceSumLoop (fun _ _ => True)
    (fun _ => rfl) (fun _ _ _ => rfl) ?_ ?_ (fun _ _ _ _ _ _ => trivial) n i sum hi trivial hn
  · intro s
    simp [Extracted.slice_concat_sum_lengths.loop1]
  · intro i s hc _
    have h1 : i + 1 < 2 ^ 64 := by omega
    simp only [Extracted.slice_concat_sum_lengths.loop1, hc, decide_true, ↓reduceIte, Rs.uadd, h1, Ctl.bind_eq,
      Ctl.bind_val, Rs.index, List.getElem?_eq_getElem hc, Ctl.pure_eq]
    exact uadd_ctlOf _ _ _

theorem slice_concat_sum_lengths_eq (fuel : Nat) (slices : List (List T))
    (hl : slices.length < 2 ^ 64) (hf : slices.length + 1 ≤ fuel) :
    Extracted.slice_concat_sum_lengths fuel slices = outToRes (sliceConcatSumLengths slices) := by
  unfold Extracted.slice_concat_sum_lengths sliceConcatSumLengths
  have := sc_sum_loop fuel slices 0 0 hl (by omega) (by omega)
  rw [List.drop_zero] at this
  simp only [this]
  cases sliceSumLoop slices 0 <;> simp

example : Extracted.slice_concat_sum_lengths 4 [[1, 2], [], [3, 4, 5]] = .ok 5 := by
  rw [slice_concat_sum_lengths_eq 4 _ (by decide) (by decide)]; rfl

/-- the search loop of `first_elem`: `return first` at the first non-empty slice, falls out at the end otherwise -/
theorem sc_first_loop (n : Nat) (slices : List (List T)) (i : Nat) (hl : slices.length < 2 ^ 64)
    (hi : i ≤ slices.length) (hn : slices.length - i + 1 ≤ n) :
    Rs.loop n (Extracted.slice_first_elem.loop1 T slices.length slices) i
      = match firstElem (slices.drop i) with
        | .ok x => Ctl.exit x
        | .panic _ => Ctl.val slices.length := by
  induction n generalizing i with
  | zero => omega
  | succ n ih =>
    rw [Rs.loop_succ]
    by_cases hc : i < slices.length
    · have h1 : i + 1 < 2 ^ 64 := by omega
      rw [List.drop_eq_getElem_cons hc]
      simp only [Extracted.slice_first_elem.loop1, hc, decide_true, ↓reduceIte, Rs.uadd, h1, Ctl.bind_eq,
        Ctl.bind_val, Rs.index, List.getElem?_eq_getElem hc, Ctl.pure_eq]
      cases hx : slices[i] with
      | nil =>
        simp only [firstElem, Ctl.bind_val]
        exact ih (i := i + 1) (by omega) (by omega)
      | cons x r => simp [firstElem]
    · have : i = slices.length := by omega
      subst this
      simp [Extracted.slice_first_elem.loop1, firstElem]

theorem slice_first_elem_eq (fuel : Nat) (slices : List (List T))
    (hl : slices.length < 2 ^ 64) (hf : slices.length + 1 ≤ fuel) :
    Extracted.slice_first_elem fuel slices = outToRes (firstElem slices) := by
  unfold Extracted.slice_first_elem
  have := sc_first_loop fuel slices 0 hl (by omega) (by omega)
  rw [List.drop_zero] at this
  simp only [this]
  cases firstElem slices <;> simp [Ctl.run]

example : Extracted.slice_first_elem 4 [[], [], [7, 8]] = .ok 7 := by
  rw [slice_first_elem_eq 4 _ (by decide) (by decide)]; rfl
example : Extracted.slice_first_elem 3 [([] : List Nat), []] = .panic := by
  rw [slice_first_elem_eq 3 _ (by decide) (by decide)]; rfl

theorem sc_concat_loop2 (N end_ : Nat) (slice : List T) :
    Extracted.slice_concat_slices.loop2 T N end_ slice = cc_wbody end_ slice := rfl

/-- `F` = fuel handed to the inner loops -/
theorem sc_concat_loop1 (N F n : Nat) (ss : List (List T)) (i : Nat) (out : List T) (oi : Nat)
    (hl : ss.length < 2 ^ 64) (hN : out.length < 2 ^ 64) (hF : ∀ s ∈ ss, s.length + 1 ≤ F)
    (hi : i ≤ ss.length) (hn : ss.length - i + 1 ≤ n) :
    Rs.loop n (Extracted.slice_concat_slices.loop1 T N F ss.length ss) (i, out, oi)
      = ctlOf ss.length (sliceFillLoop (ss.drop i) out oi) := by
  refine forRange_loop ss _ (fun s st => writeBytes s st.1 st.2) (fun l st => sliceFillLoop l st.1 st.2)
    (fun _ st => st.1.length < 2 ^ 64) (fun _ => rfl) (fun _ _ _ => rfl) ?_ ?_
    (fun _ st st' _ => cc_write_inv _ st st') n i (out, oi) hi hN hn
  · intro st
    simp [Extracted.slice_concat_slices.loop1]
  · rintro i ⟨out, oi⟩ hc (hN : out.length < 2 ^ 64)
    have h1 : i + 1 < 2 ^ 64 := by omega
    have hlen : ss[i].length + 1 ≤ F := hF _ (List.getElem_mem hc)
    simp only [Extracted.slice_concat_slices.loop1, hc, decide_true, ↓reduceIte, Rs.uadd, h1, Ctl.bind_eq,
      Ctl.bind_val, Rs.index, List.getElem?_eq_getElem hc, sc_concat_loop2, cc_write_block F _ out oi hN hlen,
      Ctl.pure_eq]
    exact ctlOf_bind _ _ _

/-- `concat_slices::<T, N>`, for every `N : usize`: `N = 0` returns the empty array without looking at the slices
    (the `try_into_array_func::<T, N>(&[])` early return); otherwise `[*first_elem(slices); N]` is filled by index:
    the panic of `first_elem` (all slices empty) and the panic at `out[out_i] = …` (`N` smaller than the total
    length) exactly when the model says so -/
theorem slice_concat_slices_eq (N fuel : Nat) (slices : List (List T)) (hN : N < 2 ^ 64)
    (hl : slices.length < 2 ^ 64) (hf : slices.length + 1 ≤ fuel) (hfs : ∀ s ∈ slices, s.length + 1 ≤ fuel) :
    Extracted.slice_concat_slices N fuel slices = outToRes (concatSlices N slices) := by
  unfold Extracted.slice_concat_slices concatSlices
  rw [try_into_array_func_eq]
  by_cases h0 : 0 = N
  · subst h0
    simp [Konst.Slice.tryIntoArray, View.apply]
  · have h0' : ¬ ([] : List T).length = N := by simpa using h0
    simp only [Konst.Slice.tryIntoArray, h0', h0, ↓reduceIte, Ctl.call_ok, Ctl.bind_eq, Ctl.bind_val, Ctl.pure_eq,
      slice_first_elem_eq fuel slices hl hf]
    cases firstElem slices with
    | panic p => simp
    | ok x =>
      have := sc_concat_loop1 N fuel fuel slices 0 (List.replicate N x) 0 hl (by simpa using hN) hfs
        (by omega) (by omega)
      rw [List.drop_zero] at this
      simp only [outToRes_ok, Ctl.call_ok, Ctl.bind_val, Rs.repeatN, this, Out.ok_bind]
      cases sliceFillLoop slices (List.replicate N x) 0 with
      | panic p => simp
      | ok r => obtain ⟨o, k⟩ := r; simp

example : Extracted.slice_concat_slices 5 4 [[1, 2], [], [3, 4, 5]] = .ok [1, 2, 3, 4, 5] := by
  rw [slice_concat_slices_eq 5 4 _ (by decide) (by decide) (by decide) (by decide)]; rfl
example : Extracted.slice_concat_slices 7 4 [[], [1, 2], [3, 4, 5]] = .ok [1, 2, 3, 4, 5, 1, 1] := by
  rw [slice_concat_slices_eq 7 4 _ (by decide) (by decide) (by decide) (by decide)]; rfl
example : Extracted.slice_concat_slices 4 4 [[1, 2], [], [3, 4, 5]] = .panic := by
  rw [slice_concat_slices_eq 4 4 _ (by decide) (by decide) (by decide) (by decide)]; rfl
example : Extracted.slice_concat_slices 0 1 [[1, 2], [], [3, 4, 5]] = .ok [] := by rfl
example : Extracted.slice_concat_slices 2 3 [([] : List Nat), []] = .panic := by
  rw [slice_concat_slices_eq 2 3 _ (by decide) (by decide) (by decide) (by decide)]; rfl

/-! ## corollaries: closed forms and std level (via `Props/C20.lean`, `Lemmas/Concat.lean`) -/

open Konst.Spec.Concat Konst.Props.C20 Konst.Lemmas.Concat

theorem slice_concat_sum_lengths_total (fuel : Nat) (slices : List (List T))
    (hl : slices.length < 2 ^ 64) (hf : slices.length + 1 ≤ fuel) (ht : slices.flatten.length < 2 ^ 64) :
    Extracted.slice_concat_sum_lengths fuel slices = .ok slices.flatten.length := by
  rw [slice_concat_sum_lengths_eq fuel slices hl hf, sliceConcatSumLengths, sliceSumLoop_eq slices 0 (by decide),
    Nat.zero_add, if_pos (by simpa [USIZE] using ht)]
  rfl

theorem slice_concat_sum_lengths_overflow (fuel : Nat) (slices : List (List T))
    (hl : slices.length < 2 ^ 64) (hf : slices.length + 1 ≤ fuel) (ht : ¬ slices.flatten.length < 2 ^ 64) :
    Extracted.slice_concat_sum_lengths fuel slices = .panic := by
  rw [slice_concat_sum_lengths_eq fuel slices hl hf, sliceConcatSumLengths, sliceSumLoop_eq slices 0 (by decide),
    Nat.zero_add, if_neg (by simpa [USIZE] using ht)]
  rfl

theorem slice_first_elem_head (fuel : Nat) (slices : List (List T))
    (hl : slices.length < 2 ^ 64) (hf : slices.length + 1 ≤ fuel) :
    Extracted.slice_first_elem fuel slices
      = match slices.flatten.head? with
        | some x => .ok x
        | none => .panic := by
  rw [slice_first_elem_eq fuel slices hl hf, firstElem_eq]
  cases slices.flatten.head? <;> rfl

/-- `concat_slices::<T, LEN>` with `LEN` = the total length (what `slice_concat!` instantiates): `slices.concat()` -/
theorem slice_concat_slices_exact (fuel : Nat) (slices : List (List T)) (hN : slices.flatten.length < 2 ^ 64)
    (hl : slices.length < 2 ^ 64) (hf : slices.length + 1 ≤ fuel) (hfs : ∀ s ∈ slices, s.length + 1 ≤ fuel) :
    Extracted.slice_concat_slices slices.flatten.length fuel slices = .ok (stdConcat slices) := by
  rw [slice_concat_slices_eq _ fuel slices hN hl hf hfs, concatSlices_eq]
  rfl

theorem slice_concat_slices_padded (N fuel : Nat) (slices : List (List T)) (x : T) (hN : N < 2 ^ 64)
    (hl : slices.length < 2 ^ 64) (hf : slices.length + 1 ≤ fuel) (hfs : ∀ s ∈ slices, s.length + 1 ≤ fuel)
    (h0 : N ≠ 0) (hx : slices.flatten.head? = some x) (ht : slices.flatten.length ≤ N) :
    Extracted.slice_concat_slices N fuel slices
      = .ok (slices.flatten ++ List.replicate (N - slices.flatten.length) x) := by
  rw [slice_concat_slices_eq N fuel slices hN hl hf hfs, concatSlices_general, if_neg h0, hx]
  simp only [if_pos ht]
  rfl

/-- the panic is the index out of bounds at `out[out_i] = …` -/
theorem slice_concat_slices_too_small (N fuel : Nat) (slices : List (List T)) (hN : N < 2 ^ 64)
    (hl : slices.length < 2 ^ 64) (hf : slices.length + 1 ≤ fuel) (hfs : ∀ s ∈ slices, s.length + 1 ≤ fuel)
    (h0 : N ≠ 0) (ht : N < slices.flatten.length) :
    Extracted.slice_concat_slices N fuel slices = .panic := by
  rw [slice_concat_slices_eq N fuel slices hN hl hf hfs, concatSlices_general, if_neg h0]
  cases hx : slices.flatten.head? with
  | none => rfl
  | some x =>
    simp only [if_neg (show ¬ slices.flatten.length ≤ N by omega)]
    rfl

/-- `concat_slices::<T, 0>` returns `[]` whatever the slices are (even non-empty: the early return comes first) -/
theorem slice_concat_slices_zero (fuel : Nat) (slices : List (List T)) :
    Extracted.slice_concat_slices 0 fuel slices = .ok [] := by
  unfold Extracted.slice_concat_slices
  rw [try_into_array_func_eq]
  simp [Konst.Slice.tryIntoArray, View.apply]

/-- `concat_slices::<T, N>` with `N > 0` and only empty slices: the panic of `first_elem` -/
theorem slice_concat_slices_no_elem (N fuel : Nat) (slices : List (List T)) (hN : N < 2 ^ 64)
    (hl : slices.length < 2 ^ 64) (hf : slices.length + 1 ≤ fuel) (hfs : ∀ s ∈ slices, s.length + 1 ≤ fuel)
    (h0 : N ≠ 0) (hx : slices.flatten = []) :
    Extracted.slice_concat_slices N fuel slices = .panic := by
  rw [slice_concat_slices_eq N fuel slices hN hl hf hfs, concatSlices_general, if_neg h0, hx]
  rfl

example : Extracted.slice_concat_slices 5 4 [[1, 2], [], [3, 4, 5]] = .ok [1, 2, 3, 4, 5] :=
  slice_concat_slices_exact 4 [[1, 2], [], [3, 4, 5]] (by decide) (by decide) (by decide) (by decide)

end Extracted.Equiv
