import KonstVerif.Extracted.Gen.SliceFns
import KonstVerif.Extracted.Equiv.Slice
/-
  Extracted = Model/Slice.lean, for konst::slice::slice_const_methods
  (group `SliceFns`): get, get_from, get_up_to, get_range, split_at and the `*_mut` twins, split_at_mut,
  try_into_array_func.
  The model works on the *length* of the slice and returns `View`s; the statements apply the view(s)
  to the argument.  `= .ok v` also says: no panic, no overflow, no out-of-bounds `from_raw_parts` (ub).
  The `*_mut` twins have no separate model definition (Model/Slice.lean: "*_mut twins"): they are related
  to the model function of the shared-reference twin (same macro body in the Rust source).
  No machine-bound hypothesis is needed by any of these theorems.
-/
namespace Extracted.Equiv
open Rs Konst Konst.Slice

/-- `get` returns the element itself (`Option<&T>`); the model returns the length-1 view at `index`, hence the
    second conjunct. -/
theorem get_eq {T : Type} (s : List T) (index : Nat) :
    Extracted.get s index = .ok s[index]? ∧
    Option.map (fun v => v.apply s) (Konst.Slice.get s.length index)
      = Option.map (fun x => [x]) s[index]? := by
  unfold Extracted.get Konst.Slice.get Rs.index
  by_cases h : index < s.length
  · have hd : s.drop index = s[index] :: s.drop (index + 1) := List.drop_eq_getElem_cons h
    simp [h, View.apply]
    rw [hd]; rfl
  · simp [h]

example : Extracted.get [10, 20, 30] 1 = .ok (some 20) := rfl
example : Extracted.get [10, 20, 30] 3 = .ok none := rfl

theorem get_from_eq {T : Type} (s : List T) (start : Nat) :
    Extracted.get_from s start = .ok (Option.map (fun v => v.apply s) (getFrom s.length start)) := by
  unfold Extracted.get_from getFrom sliceFromImpl overflowingSub Rs.uOverflowingSub
  by_cases h : start ≤ s.length
  · simp [h, Rs.rawParts, View.apply, Ctl.run, Ctl.bind]
  · simp [h, Ctl.run, Ctl.bind]

example : Extracted.get_from [1, 2, 3, 4] 1 = .ok (some [2, 3, 4]) := rfl
example : Extracted.get_from [1, 2, 3, 4] 5 = .ok none := rfl

theorem get_up_to_eq {T : Type} (s : List T) (len : Nat) :
    Extracted.get_up_to s len = .ok (Option.map (fun v => v.apply s) (getUpTo s.length len)) := by
  unfold Extracted.get_up_to getUpTo sliceUpToImpl overflowingSub Rs.uOverflowingSub
  by_cases h : len ≤ s.length
  · simp [h, Rs.rawParts, View.apply, Ctl.run, Ctl.bind]
  · simp [h, Ctl.run, Ctl.bind]

example : Extracted.get_up_to [1, 2, 3, 4] 3 = .ok (some [1, 2, 3]) := rfl
example : Extracted.get_up_to [1, 2, 3, 4] 5 = .ok none := rfl

theorem get_range_eq {T : Type} (s : List T) (start end_ : Nat) :
    Extracted.get_range s start end_
      = .ok (Option.map (fun v => v.apply s) (getRange s.length start end_)) := by
  unfold Extracted.get_range getRange
  simp only [get_up_to_eq, get_from_eq, Ctl.call_ok, Ctl.bind_val, Ctl.bind_eq]
  cases hu : getUpTo s.length end_ with
  | none => simp
  | some u =>
    have hl : (u.apply s).length = u.len := Lemmas.Slice.apply_length (Lemmas.Slice.sliceUpToImpl_inBounds hu)
    simp only [Option.map_some, Ctl.pure_eq, Ctl.bind_val, Ctl.run_val, hl]
    cases hw : getFrom u.len start with
    | none => simp
    | some w => simp [comp_apply u w s (Lemmas.Slice.sliceFromImpl_inBounds hw)]

example : Extracted.get_range [1, 2, 3, 4, 5] 1 4 = .ok (some [2, 3, 4]) := rfl
example : Extracted.get_range [1, 2, 3, 4, 5] 1 6 = .ok none := rfl
example : Extracted.get_range [1, 2, 3, 4, 5] 4 3 = .ok none := rfl

theorem split_at_eq {T : Type} (s : List T) (at_ : Nat) :
    Extracted.split_at s at_
      = .ok (((splitAt s.length at_).1).apply s, ((splitAt s.length at_).2).apply s) := by
  unfold Extracted.split_at splitAt
  simp [slice_up_to_eq, slice_from_eq]

example : Extracted.split_at [1, 2, 3, 4] 1 = .ok ([1], [2, 3, 4]) := rfl
example : Extracted.split_at [1, 2, 3, 4] 9 = .ok ([1, 2, 3, 4], []) := rfl

/-! ### the `*_mut` twins (values only: the returned `&mut` sub-slice as the list of its elements).
    The generated definitions are those of the shared-reference twins word for word (same macro body),
    so each statement is the twin's up to unfolding. -/

theorem slice_from_mut_eq {T : Type} (s : List T) (start : Nat) :
    Extracted.slice_from_mut s start = .ok ((sliceFrom s.length start).apply s) :=
  slice_from_eq s start

example : Extracted.slice_from_mut [1, 2, 3, 4] 1 = .ok [2, 3, 4] := rfl
example : Extracted.slice_from_mut [1, 2, 3, 4] 7 = .ok [] := rfl

theorem slice_up_to_mut_eq {T : Type} (s : List T) (len : Nat) :
    Extracted.slice_up_to_mut s len = .ok ((sliceUpTo s.length len).apply s) :=
  slice_up_to_eq s len

example : Extracted.slice_up_to_mut [1, 2, 3, 4] 3 = .ok [1, 2, 3] := rfl
example : Extracted.slice_up_to_mut [1, 2, 3, 4] 7 = .ok [1, 2, 3, 4] := rfl

theorem slice_range_mut_eq {T : Type} (s : List T) (start end_ : Nat) :
    Extracted.slice_range_mut s start end_ = .ok ((sliceRange s.length start end_).apply s) :=
  slice_range_eq s start end_

example : Extracted.slice_range_mut [1, 2, 3, 4, 5] 1 4 = .ok [2, 3, 4] := rfl
example : Extracted.slice_range_mut [1, 2, 3, 4, 5] 1 9 = .ok [2, 3, 4, 5] := rfl

theorem get_from_mut_eq {T : Type} (s : List T) (start : Nat) :
    Extracted.get_from_mut s start
      = .ok (Option.map (fun v => v.apply s) (getFrom s.length start)) :=
  get_from_eq s start

example : Extracted.get_from_mut [1, 2, 3, 4] 4 = .ok (some []) := rfl
example : Extracted.get_from_mut [1, 2, 3, 4] 5 = .ok none := rfl

theorem get_up_to_mut_eq {T : Type} (s : List T) (len : Nat) :
    Extracted.get_up_to_mut s len
      = .ok (Option.map (fun v => v.apply s) (getUpTo s.length len)) :=
  get_up_to_eq s len

example : Extracted.get_up_to_mut [1, 2, 3, 4] 2 = .ok (some [1, 2]) := rfl
example : Extracted.get_up_to_mut [1, 2, 3, 4] 5 = .ok none := rfl

theorem get_range_mut_eq {T : Type} (s : List T) (start end_ : Nat) :
    Extracted.get_range_mut s start end_
      = .ok (Option.map (fun v => v.apply s) (getRange s.length start end_)) :=
  get_range_eq s start end_

example : Extracted.get_range_mut [1, 2, 3, 4, 5] 2 5 = .ok (some [3, 4, 5]) := rfl
example : Extracted.get_range_mut [1, 2, 3, 4, 5] 2 1 = .ok none := rfl

/-! ### `split_at_mut` (own code path, own model definition `splitAtMut`) -/

theorem split_at_mut_eq {T : Type} (s : List T) (at_ : Nat) :
    Extracted.split_at_mut s at_
      = .ok (((splitAtMut s.length at_).1).apply s, ((splitAtMut s.length at_).2).apply s) := by
  unfold Extracted.split_at_mut splitAtMut Rs.usub
  by_cases h : at_ ≤ s.length
  · have h' : ¬ at_ > s.length := by omega
    simp [h, h', Rs.rawParts, View.apply, Ctl.run, Ctl.bind]
  · have h' : at_ > s.length := by omega
    simp [h', Ctl.run, Ctl.bind, View.apply]

example : Extracted.split_at_mut [1, 2, 3, 4] 1 = .ok ([1], [2, 3, 4]) := rfl
example : Extracted.split_at_mut [1, 2, 3, 4] 9 = .ok ([1, 2, 3, 4], []) := rfl

/-- `try_into_array_func::<T, N>`: succeeds exactly when `len = N` (the model's `tryIntoArray`), then views the
    whole slice; the `Dereference { ptr }.reff` read of `N` elements is in bounds (no `ub`). -/
theorem try_into_array_func_eq {T : Type} (N : Nat) (s : List T) :
    Extracted.try_into_array_func N s =
      .ok (match tryIntoArray s.length N with
           | some v => Except.ok (v.apply s)
           | none => Except.error { slice_len := s.length, array_len := N }) := by
  unfold Extracted.try_into_array_func tryIntoArray
  by_cases h : s.length = N
  · subst h
    simp [Rs.rawParts, View.apply]
  · simp [h]

example : Extracted.try_into_array_func 2 [7, 8] = .ok (Except.ok [7, 8]) := rfl
example : Extracted.try_into_array_func 3 [7, 8] = .ok (Except.error { slice_len := 2, array_len := 3 }) := rfl

end Extracted.Equiv
