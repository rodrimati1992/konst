import KonstVerif.Extracted.Gen.ParseInt2
import KonstVerif.Extracted.Equiv.ParseInt
import KonstVerif.Extracted.Equiv.ParsePrim
import KonstVerif.Extracted.Equiv.ParseWith
/-
  Extracted = Model, for the remaining instances of `parse_integer!` /
  `define_parse_methods!` / `impl_std_parser_one!` (group `ParseInt2`): `Parser::parse_T`,
  `konst::primitive::parse_T` and `StdParser::<T>::parse_with` for T ∈ {u16, u64, i16, i32, isize}
  (`isize` is 64 bits wide, as `usize`: `Konst.USIZE`).

  Nothing is proved afresh here: the generated definitions are instances of the SAME texts as their siblings in
  `Equiv/ParseInt.lean` — `intLoop bits T` (loop body), `parseU bits` (unsigned), `parseI bits MAX MIN` (signed) — BY
  `rfl` (`parse_*_loop1_eq`, `parse_*_shape`), so `parseU_eq` / `parseI_eq` (proved once for every `bits ≥ 4`
  from the loop lemma `intLoop_spec`) give the `_eq` theorems, `parseInt_resOf_ok` the `_ok` theorems;
  `prim_parse_T` is an instance of `primShape` (`Equiv/ParsePrim.lean`), so `primInt_eq` / `primInt_ok` apply;
  `StdParser_T.parse_with` is `Parser.parse_T` by `pw_run_call` (`Equiv/ParseWith.lean`).

  Statements and hypotheses are those of the siblings with the type's width / signedness:
  `start_offset + str.len() < 2^32`, bytes `< 256` (resp. `Spec.Utf8.Valid` in the `_ok` theorems), fuel `≥ str.len()`.
-/
namespace Extracted.Equiv
open Rs Konst

/-! ### the generated definitions are instances of `intLoop` / `parseU` / `parseI` -/

theorem parse_u16_loop1_eq : Extracted.Parser.parse_u16.loop1 = intLoop 16 Nat := rfl
theorem parse_u64_loop1_eq : Extracted.Parser.parse_u64.loop1 = intLoop 64 Nat := rfl
theorem parse_i16_loop1_eq : Extracted.Parser.parse_i16.loop1 = intLoop 16 Int := rfl
theorem parse_i32_loop1_eq : Extracted.Parser.parse_i32.loop1 = intLoop 32 Int := rfl
theorem parse_isize_loop1_eq : Extracted.Parser.parse_isize.loop1 = intLoop 64 Int := rfl

theorem parse_u16_shape : Extracted.Parser.parse_u16 = parseU 16 := rfl
theorem parse_u64_shape : Extracted.Parser.parse_u64 = parseU 64 := rfl
theorem parse_i16_shape : Extracted.Parser.parse_i16 = parseI 16 32767 (-32768) := rfl
theorem parse_i32_shape : Extracted.Parser.parse_i32 = parseI 32 2147483647 (-2147483648) := rfl
theorem parse_isize_shape : Extracted.Parser.parse_isize = parseI 64 9223372036854775807 (-9223372036854775808) := rfl

theorem prim_parse_u16_shape (fuel : Nat) (s : List Nat) :
    Extracted.prim_parse_u16 fuel s = primShape ({ _priv := () } : ParseIntError) (Parser.parse_u16 fuel) s :=
  primShape_of_cases _ _ _ _ (fun _ _ => rfl) (fun _ => rfl)
theorem prim_parse_u64_shape (fuel : Nat) (s : List Nat) :
    Extracted.prim_parse_u64 fuel s = primShape ({ _priv := () } : ParseIntError) (Parser.parse_u64 fuel) s :=
  primShape_of_cases _ _ _ _ (fun _ _ => rfl) (fun _ => rfl)
theorem prim_parse_i16_shape (fuel : Nat) (s : List Nat) :
    Extracted.prim_parse_i16 fuel s = primShape ({ _priv := () } : ParseIntError) (Parser.parse_i16 fuel) s :=
  primShape_of_cases _ _ _ _ (fun _ _ => rfl) (fun _ => rfl)
theorem prim_parse_i32_shape (fuel : Nat) (s : List Nat) :
    Extracted.prim_parse_i32 fuel s = primShape ({ _priv := () } : ParseIntError) (Parser.parse_i32 fuel) s :=
  primShape_of_cases _ _ _ _ (fun _ _ => rfl) (fun _ => rfl)
theorem prim_parse_isize_shape (fuel : Nat) (s : List Nat) :
    Extracted.prim_parse_isize fuel s = primShape ({ _priv := () } : ParseIntError) (Parser.parse_isize fuel) s :=
  primShape_of_cases _ _ _ _ (fun _ _ => rfl) (fun _ => rfl)

/-! ### `u16` -/

theorem Parser.parse_u16_eq (fuel : Nat) (p : Parser)
    (hoff : p.start_offset + p.str.length < 2 ^ 32) (hb : ∀ b ∈ p.str, b < 256)
    (hf : p.str.length ≤ fuel) :
    Extracted.Parser.parse_u16 fuel p = resOf natVal (Konst.Parser.parseInt (toParser p) false 16) := by
  rw [parse_u16_shape]; exact parseU_eq 16 (by decide) fuel p hoff hb hf

theorem Parser.parse_u16_ok (fuel : Nat) (p : Parser)
    (hoff : p.start_offset + p.str.length < 2 ^ 32) (hv : Konst.Spec.Utf8.Valid p.str)
    (hf : p.str.length ≤ fuel) :
    let r := Konst.Parser.parseInt (toParser p) false 16
    (∃ q v t, r = .ok q v ∧ natVal v = some t ∧ Extracted.Parser.parse_u16 fuel p = .ok (.ok (t, ofParser q))) ∨
    (∃ e, r = .err e ∧ Extracted.Parser.parse_u16 fuel p = .ok (.error (ofError e))) := by
  rw [Parser.parse_u16_eq fuel p hoff (pi_valid_lt_256 hv) hf]
  exact parseInt_resOf_ok natVal p false 16 hv natVal_ok

/- "65535," at offset 7 (direction and flag arbitrary) and "65536" -/
example : Extracted.Parser.parse_u16 6 ⟨.FromEnd, true, 7, [54, 53, 53, 51, 53, 44]⟩
    = resOf natVal (Konst.Parser.parseInt (toParser ⟨.FromEnd, true, 7, [54, 53, 53, 51, 53, 44]⟩) false 16) :=
  Parser.parse_u16_eq _ _ (by decide) (by decide) (by decide)
example : Extracted.Parser.parse_u16 6 ⟨.FromEnd, true, 7, [54, 53, 53, 51, 53, 44]⟩
    = .ok (.ok (65535, ⟨.FromStart, true, 12, [44]⟩)) := by decide +kernel
example : Extracted.Parser.parse_u16 5 ⟨.FromStart, false, 0, [54, 53, 53, 51, 54]⟩
    = .ok (.error ⟨0, 5, .FromStart, .ParseInteger, [], ()⟩) := by decide +kernel

theorem prim_parse_u16_eq (fuel : Nat) (s : List Nat)
    (hlen : s.length < 2 ^ 32) (hb : ∀ b ∈ s, b < 256) (hf : s.length ≤ fuel) :
    Extracted.prim_parse_u16 fuel s =
      if Konst.Parser.parseInt (Konst.Parser.new s) false 16 = .panic then .panic
      else wholeRes ({ _priv := () } : ParseIntError) (fun n => natVal (.int n)) (ParseInt.parseWhole false 16 s) := by
  rw [prim_parse_u16_shape]
  exact primInt_eq natVal false 16 _ s
    (Parser.parse_u16_eq fuel (newParser s) (by simpa [newParser] using hlen) hb hf) natVal_ok

theorem prim_parse_u16_ok (fuel : Nat) (s : List Nat)
    (hlen : s.length < 2 ^ 32) (hv : Konst.Spec.Utf8.Valid s) (hf : s.length ≤ fuel) :
    (∃ n : Nat, ParseInt.parseWhole false 16 s = some (n : Int) ∧ Extracted.prim_parse_u16 fuel s = .ok (.ok n)) ∨
    (ParseInt.parseWhole false 16 s = none ∧ Extracted.prim_parse_u16 fuel s = .ok (.error { _priv := () })) :=
  primInt_ok natVal (fun t : Nat => (t : Int)) false 16 _ s
    (prim_parse_u16_eq fuel s hlen (pi_valid_lt_256 hv) hf) hv
    fun n hn => ⟨n.toNat, natVal_int n (parseWhole_unsigned_nonneg 16 s n hn)⟩

/- "65535", "65536", "65535x" -/
example : Extracted.prim_parse_u16 5 [54, 53, 53, 51, 53] =
    if Konst.Parser.parseInt (Konst.Parser.new [54, 53, 53, 51, 53]) false 16 = .panic then .panic
    else wholeRes ({ _priv := () } : ParseIntError) (fun n => natVal (.int n)) (ParseInt.parseWhole false 16 [54, 53, 53, 51, 53]) :=
  prim_parse_u16_eq _ _ (by decide) (by decide) (by decide)
example : Extracted.prim_parse_u16 5 [54, 53, 53, 51, 53] = .ok (.ok (65535)) := by decide +kernel
example : Extracted.prim_parse_u16 5 [54, 53, 53, 51, 54] = .ok (.error { _priv := () }) := by decide +kernel
example : Extracted.prim_parse_u16 6 [54, 53, 53, 51, 53, 120] = .ok (.error { _priv := () }) := by decide +kernel

theorem StdParser_u16_parse_with_eq (fuel : Nat) (p : Extracted.Parser) :
    Extracted.StdParser_u16.parse_with fuel p = Extracted.Parser.parse_u16 fuel p := pw_run_call _

example : Extracted.StdParser_u16.parse_with 6 ⟨.FromEnd, true, 7, [54, 53, 53, 51, 53, 44]⟩
    = Extracted.Parser.parse_u16 6 ⟨.FromEnd, true, 7, [54, 53, 53, 51, 53, 44]⟩ := StdParser_u16_parse_with_eq _ _
example : Extracted.StdParser_u16.parse_with 6 ⟨.FromEnd, true, 7, [54, 53, 53, 51, 53, 44]⟩
    = .ok (.ok (65535, ⟨.FromStart, true, 12, [44]⟩)) := by decide +kernel

/-! ### `u64` -/

theorem Parser.parse_u64_eq (fuel : Nat) (p : Parser)
    (hoff : p.start_offset + p.str.length < 2 ^ 32) (hb : ∀ b ∈ p.str, b < 256)
    (hf : p.str.length ≤ fuel) :
    Extracted.Parser.parse_u64 fuel p = resOf natVal (Konst.Parser.parseInt (toParser p) false 64) := by
  rw [parse_u64_shape]; exact parseU_eq 64 (by decide) fuel p hoff hb hf

theorem Parser.parse_u64_ok (fuel : Nat) (p : Parser)
    (hoff : p.start_offset + p.str.length < 2 ^ 32) (hv : Konst.Spec.Utf8.Valid p.str)
    (hf : p.str.length ≤ fuel) :
    let r := Konst.Parser.parseInt (toParser p) false 64
    (∃ q v t, r = .ok q v ∧ natVal v = some t ∧ Extracted.Parser.parse_u64 fuel p = .ok (.ok (t, ofParser q))) ∨
    (∃ e, r = .err e ∧ Extracted.Parser.parse_u64 fuel p = .ok (.error (ofError e))) := by
  rw [Parser.parse_u64_eq fuel p hoff (pi_valid_lt_256 hv) hf]
  exact parseInt_resOf_ok natVal p false 64 hv natVal_ok

/- "18446744073709551615;" at offset 7 (direction and flag arbitrary) and "18446744073709551616" -/
example : Extracted.Parser.parse_u64 21 ⟨.FromEnd, true, 7, [49, 56, 52, 52, 54, 55, 52, 52, 48, 55, 51, 55, 48, 57, 53, 53, 49, 54, 49, 53, 59]⟩
    = resOf natVal (Konst.Parser.parseInt (toParser ⟨.FromEnd, true, 7, [49, 56, 52, 52, 54, 55, 52, 52, 48, 55, 51, 55, 48, 57, 53, 53, 49, 54, 49, 53, 59]⟩) false 64) :=
  Parser.parse_u64_eq _ _ (by decide) (by decide) (by decide)
example : Extracted.Parser.parse_u64 21 ⟨.FromEnd, true, 7, [49, 56, 52, 52, 54, 55, 52, 52, 48, 55, 51, 55, 48, 57, 53, 53, 49, 54, 49, 53, 59]⟩
    = .ok (.ok (18446744073709551615, ⟨.FromStart, true, 27, [59]⟩)) := by decide +kernel
example : Extracted.Parser.parse_u64 20 ⟨.FromStart, false, 0, [49, 56, 52, 52, 54, 55, 52, 52, 48, 55, 51, 55, 48, 57, 53, 53, 49, 54, 49, 54]⟩
    = .ok (.error ⟨0, 20, .FromStart, .ParseInteger, [], ()⟩) := by decide +kernel

theorem prim_parse_u64_eq (fuel : Nat) (s : List Nat)
    (hlen : s.length < 2 ^ 32) (hb : ∀ b ∈ s, b < 256) (hf : s.length ≤ fuel) :
    Extracted.prim_parse_u64 fuel s =
      if Konst.Parser.parseInt (Konst.Parser.new s) false 64 = .panic then .panic
      else wholeRes ({ _priv := () } : ParseIntError) (fun n => natVal (.int n)) (ParseInt.parseWhole false 64 s) := by
  rw [prim_parse_u64_shape]
  exact primInt_eq natVal false 64 _ s
    (Parser.parse_u64_eq fuel (newParser s) (by simpa [newParser] using hlen) hb hf) natVal_ok

theorem prim_parse_u64_ok (fuel : Nat) (s : List Nat)
    (hlen : s.length < 2 ^ 32) (hv : Konst.Spec.Utf8.Valid s) (hf : s.length ≤ fuel) :
    (∃ n : Nat, ParseInt.parseWhole false 64 s = some (n : Int) ∧ Extracted.prim_parse_u64 fuel s = .ok (.ok n)) ∨
    (ParseInt.parseWhole false 64 s = none ∧ Extracted.prim_parse_u64 fuel s = .ok (.error { _priv := () })) :=
  primInt_ok natVal (fun t : Nat => (t : Int)) false 64 _ s
    (prim_parse_u64_eq fuel s hlen (pi_valid_lt_256 hv) hf) hv
    fun n hn => ⟨n.toNat, natVal_int n (parseWhole_unsigned_nonneg 64 s n hn)⟩

/- "18446744073709551615", "18446744073709551616", "18446744073709551615x" -/
example : Extracted.prim_parse_u64 20 [49, 56, 52, 52, 54, 55, 52, 52, 48, 55, 51, 55, 48, 57, 53, 53, 49, 54, 49, 53] =
    if Konst.Parser.parseInt (Konst.Parser.new [49, 56, 52, 52, 54, 55, 52, 52, 48, 55, 51, 55, 48, 57, 53, 53, 49, 54, 49, 53]) false 64 = .panic then .panic
    else wholeRes ({ _priv := () } : ParseIntError) (fun n => natVal (.int n)) (ParseInt.parseWhole false 64 [49, 56, 52, 52, 54, 55, 52, 52, 48, 55, 51, 55, 48, 57, 53, 53, 49, 54, 49, 53]) :=
  prim_parse_u64_eq _ _ (by decide) (by decide) (by decide)
example : Extracted.prim_parse_u64 20 [49, 56, 52, 52, 54, 55, 52, 52, 48, 55, 51, 55, 48, 57, 53, 53, 49, 54, 49, 53] = .ok (.ok (18446744073709551615)) := by decide +kernel
example : Extracted.prim_parse_u64 20 [49, 56, 52, 52, 54, 55, 52, 52, 48, 55, 51, 55, 48, 57, 53, 53, 49, 54, 49, 54] = .ok (.error { _priv := () }) := by decide +kernel
example : Extracted.prim_parse_u64 21 [49, 56, 52, 52, 54, 55, 52, 52, 48, 55, 51, 55, 48, 57, 53, 53, 49, 54, 49, 53, 120] = .ok (.error { _priv := () }) := by decide +kernel

theorem StdParser_u64_parse_with_eq (fuel : Nat) (p : Extracted.Parser) :
    Extracted.StdParser_u64.parse_with fuel p = Extracted.Parser.parse_u64 fuel p := pw_run_call _

example : Extracted.StdParser_u64.parse_with 21 ⟨.FromEnd, true, 7, [49, 56, 52, 52, 54, 55, 52, 52, 48, 55, 51, 55, 48, 57, 53, 53, 49, 54, 49, 53, 59]⟩
    = Extracted.Parser.parse_u64 21 ⟨.FromEnd, true, 7, [49, 56, 52, 52, 54, 55, 52, 52, 48, 55, 51, 55, 48, 57, 53, 53, 49, 54, 49, 53, 59]⟩ := StdParser_u64_parse_with_eq _ _
example : Extracted.StdParser_u64.parse_with 21 ⟨.FromEnd, true, 7, [49, 56, 52, 52, 54, 55, 52, 52, 48, 55, 51, 55, 48, 57, 53, 53, 49, 54, 49, 53, 59]⟩
    = .ok (.ok (18446744073709551615, ⟨.FromStart, true, 27, [59]⟩)) := by decide +kernel

/-! ### `i16` -/

theorem Parser.parse_i16_eq (fuel : Nat) (p : Parser)
    (hoff : p.start_offset + p.str.length < 2 ^ 32) (hb : ∀ b ∈ p.str, b < 256)
    (hf : p.str.length ≤ fuel) :
    Extracted.Parser.parse_i16 fuel p = resOf intVal (Konst.Parser.parseInt (toParser p) true 16) := by
  rw [parse_i16_shape]; exact parseI_eq 16 (by decide) _ _ (by decide) (by decide) fuel p hoff hb hf

theorem Parser.parse_i16_ok (fuel : Nat) (p : Parser)
    (hoff : p.start_offset + p.str.length < 2 ^ 32) (hv : Konst.Spec.Utf8.Valid p.str)
    (hf : p.str.length ≤ fuel) :
    let r := Konst.Parser.parseInt (toParser p) true 16
    (∃ q v t, r = .ok q v ∧ intVal v = some t ∧ Extracted.Parser.parse_i16 fuel p = .ok (.ok (t, ofParser q))) ∨
    (∃ e, r = .err e ∧ Extracted.Parser.parse_i16 fuel p = .ok (.error (ofError e))) := by
  rw [Parser.parse_i16_eq fuel p hoff (pi_valid_lt_256 hv) hf]
  exact parseInt_resOf_ok intVal p true 16 hv fun n _ => intVal_some n

/- "-32768" at offset 7 (direction and flag arbitrary) and "32768" -/
example : Extracted.Parser.parse_i16 6 ⟨.FromEnd, true, 7, [45, 51, 50, 55, 54, 56]⟩
    = resOf intVal (Konst.Parser.parseInt (toParser ⟨.FromEnd, true, 7, [45, 51, 50, 55, 54, 56]⟩) true 16) :=
  Parser.parse_i16_eq _ _ (by decide) (by decide) (by decide)
example : Extracted.Parser.parse_i16 6 ⟨.FromEnd, true, 7, [45, 51, 50, 55, 54, 56]⟩
    = .ok (.ok (-32768, ⟨.FromStart, true, 13, []⟩)) := by decide +kernel
example : Extracted.Parser.parse_i16 5 ⟨.FromStart, false, 0, [51, 50, 55, 54, 56]⟩
    = .ok (.error ⟨0, 5, .FromStart, .ParseInteger, [], ()⟩) := by decide +kernel

theorem prim_parse_i16_eq (fuel : Nat) (s : List Nat)
    (hlen : s.length < 2 ^ 32) (hb : ∀ b ∈ s, b < 256) (hf : s.length ≤ fuel) :
    Extracted.prim_parse_i16 fuel s =
      if Konst.Parser.parseInt (Konst.Parser.new s) true 16 = .panic then .panic
      else wholeRes ({ _priv := () } : ParseIntError) (fun n => intVal (.int n)) (ParseInt.parseWhole true 16 s) := by
  rw [prim_parse_i16_shape]
  exact primInt_eq intVal true 16 _ s
    (Parser.parse_i16_eq fuel (newParser s) (by simpa [newParser] using hlen) hb hf)
    fun n _ => intVal_some n

theorem prim_parse_i16_ok (fuel : Nat) (s : List Nat)
    (hlen : s.length < 2 ^ 32) (hv : Konst.Spec.Utf8.Valid s) (hf : s.length ≤ fuel) :
    (∃ n : Int, ParseInt.parseWhole true 16 s = some n ∧ Extracted.prim_parse_i16 fuel s = .ok (.ok n)) ∨
    (ParseInt.parseWhole true 16 s = none ∧ Extracted.prim_parse_i16 fuel s = .ok (.error { _priv := () })) :=
  primInt_ok intVal id true 16 _ s
    (prim_parse_i16_eq fuel s hlen (pi_valid_lt_256 hv) hf) hv
    fun n _ => ⟨n, rfl, rfl⟩

/- "-32768", "32768", "-32768x" -/
example : Extracted.prim_parse_i16 6 [45, 51, 50, 55, 54, 56] =
    if Konst.Parser.parseInt (Konst.Parser.new [45, 51, 50, 55, 54, 56]) true 16 = .panic then .panic
    else wholeRes ({ _priv := () } : ParseIntError) (fun n => intVal (.int n)) (ParseInt.parseWhole true 16 [45, 51, 50, 55, 54, 56]) :=
  prim_parse_i16_eq _ _ (by decide) (by decide) (by decide)
example : Extracted.prim_parse_i16 6 [45, 51, 50, 55, 54, 56] = .ok (.ok (-32768)) := by decide +kernel
example : Extracted.prim_parse_i16 5 [51, 50, 55, 54, 56] = .ok (.error { _priv := () }) := by decide +kernel
example : Extracted.prim_parse_i16 7 [45, 51, 50, 55, 54, 56, 120] = .ok (.error { _priv := () }) := by decide +kernel

theorem StdParser_i16_parse_with_eq (fuel : Nat) (p : Extracted.Parser) :
    Extracted.StdParser_i16.parse_with fuel p = Extracted.Parser.parse_i16 fuel p := pw_run_call _

example : Extracted.StdParser_i16.parse_with 6 ⟨.FromEnd, true, 7, [45, 51, 50, 55, 54, 56]⟩
    = Extracted.Parser.parse_i16 6 ⟨.FromEnd, true, 7, [45, 51, 50, 55, 54, 56]⟩ := StdParser_i16_parse_with_eq _ _
example : Extracted.StdParser_i16.parse_with 6 ⟨.FromEnd, true, 7, [45, 51, 50, 55, 54, 56]⟩
    = .ok (.ok (-32768, ⟨.FromStart, true, 13, []⟩)) := by decide +kernel

/-! ### `i32` -/

theorem Parser.parse_i32_eq (fuel : Nat) (p : Parser)
    (hoff : p.start_offset + p.str.length < 2 ^ 32) (hb : ∀ b ∈ p.str, b < 256)
    (hf : p.str.length ≤ fuel) :
    Extracted.Parser.parse_i32 fuel p = resOf intVal (Konst.Parser.parseInt (toParser p) true 32) := by
  rw [parse_i32_shape]; exact parseI_eq 32 (by decide) _ _ (by decide) (by decide) fuel p hoff hb hf

theorem Parser.parse_i32_ok (fuel : Nat) (p : Parser)
    (hoff : p.start_offset + p.str.length < 2 ^ 32) (hv : Konst.Spec.Utf8.Valid p.str)
    (hf : p.str.length ≤ fuel) :
    let r := Konst.Parser.parseInt (toParser p) true 32
    (∃ q v t, r = .ok q v ∧ intVal v = some t ∧ Extracted.Parser.parse_i32 fuel p = .ok (.ok (t, ofParser q))) ∨
    (∃ e, r = .err e ∧ Extracted.Parser.parse_i32 fuel p = .ok (.error (ofError e))) := by
  rw [Parser.parse_i32_eq fuel p hoff (pi_valid_lt_256 hv) hf]
  exact parseInt_resOf_ok intVal p true 32 hv fun n _ => intVal_some n

/- "-2147483648 " at offset 7 (direction and flag arbitrary) and "2147483648" -/
example : Extracted.Parser.parse_i32 12 ⟨.FromEnd, true, 7, [45, 50, 49, 52, 55, 52, 56, 51, 54, 52, 56, 32]⟩
    = resOf intVal (Konst.Parser.parseInt (toParser ⟨.FromEnd, true, 7, [45, 50, 49, 52, 55, 52, 56, 51, 54, 52, 56, 32]⟩) true 32) :=
  Parser.parse_i32_eq _ _ (by decide) (by decide) (by decide)
example : Extracted.Parser.parse_i32 12 ⟨.FromEnd, true, 7, [45, 50, 49, 52, 55, 52, 56, 51, 54, 52, 56, 32]⟩
    = .ok (.ok (-2147483648, ⟨.FromStart, true, 18, [32]⟩)) := by decide +kernel
example : Extracted.Parser.parse_i32 10 ⟨.FromStart, false, 0, [50, 49, 52, 55, 52, 56, 51, 54, 52, 56]⟩
    = .ok (.error ⟨0, 10, .FromStart, .ParseInteger, [], ()⟩) := by decide +kernel

theorem prim_parse_i32_eq (fuel : Nat) (s : List Nat)
    (hlen : s.length < 2 ^ 32) (hb : ∀ b ∈ s, b < 256) (hf : s.length ≤ fuel) :
    Extracted.prim_parse_i32 fuel s =
      if Konst.Parser.parseInt (Konst.Parser.new s) true 32 = .panic then .panic
      else wholeRes ({ _priv := () } : ParseIntError) (fun n => intVal (.int n)) (ParseInt.parseWhole true 32 s) := by
  rw [prim_parse_i32_shape]
  exact primInt_eq intVal true 32 _ s
    (Parser.parse_i32_eq fuel (newParser s) (by simpa [newParser] using hlen) hb hf)
    fun n _ => intVal_some n

theorem prim_parse_i32_ok (fuel : Nat) (s : List Nat)
    (hlen : s.length < 2 ^ 32) (hv : Konst.Spec.Utf8.Valid s) (hf : s.length ≤ fuel) :
    (∃ n : Int, ParseInt.parseWhole true 32 s = some n ∧ Extracted.prim_parse_i32 fuel s = .ok (.ok n)) ∨
    (ParseInt.parseWhole true 32 s = none ∧ Extracted.prim_parse_i32 fuel s = .ok (.error { _priv := () })) :=
  primInt_ok intVal id true 32 _ s
    (prim_parse_i32_eq fuel s hlen (pi_valid_lt_256 hv) hf) hv
    fun n _ => ⟨n, rfl, rfl⟩

/- "-2147483648", "2147483648", "-2147483648x" -/
example : Extracted.prim_parse_i32 11 [45, 50, 49, 52, 55, 52, 56, 51, 54, 52, 56] =
    if Konst.Parser.parseInt (Konst.Parser.new [45, 50, 49, 52, 55, 52, 56, 51, 54, 52, 56]) true 32 = .panic then .panic
    else wholeRes ({ _priv := () } : ParseIntError) (fun n => intVal (.int n)) (ParseInt.parseWhole true 32 [45, 50, 49, 52, 55, 52, 56, 51, 54, 52, 56]) :=
  prim_parse_i32_eq _ _ (by decide) (by decide) (by decide)
example : Extracted.prim_parse_i32 11 [45, 50, 49, 52, 55, 52, 56, 51, 54, 52, 56] = .ok (.ok (-2147483648)) := by decide +kernel
example : Extracted.prim_parse_i32 10 [50, 49, 52, 55, 52, 56, 51, 54, 52, 56] = .ok (.error { _priv := () }) := by decide +kernel
example : Extracted.prim_parse_i32 12 [45, 50, 49, 52, 55, 52, 56, 51, 54, 52, 56, 120] = .ok (.error { _priv := () }) := by decide +kernel

theorem StdParser_i32_parse_with_eq (fuel : Nat) (p : Extracted.Parser) :
    Extracted.StdParser_i32.parse_with fuel p = Extracted.Parser.parse_i32 fuel p := pw_run_call _

example : Extracted.StdParser_i32.parse_with 12 ⟨.FromEnd, true, 7, [45, 50, 49, 52, 55, 52, 56, 51, 54, 52, 56, 32]⟩
    = Extracted.Parser.parse_i32 12 ⟨.FromEnd, true, 7, [45, 50, 49, 52, 55, 52, 56, 51, 54, 52, 56, 32]⟩ := StdParser_i32_parse_with_eq _ _
example : Extracted.StdParser_i32.parse_with 12 ⟨.FromEnd, true, 7, [45, 50, 49, 52, 55, 52, 56, 51, 54, 52, 56, 32]⟩
    = .ok (.ok (-2147483648, ⟨.FromStart, true, 18, [32]⟩)) := by decide +kernel

/-! ### `isize` -/

/-- `isize` is 64 bits wide (`Konst.USIZE`) -/
theorem Parser.parse_isize_eq (fuel : Nat) (p : Parser)
    (hoff : p.start_offset + p.str.length < 2 ^ 32) (hb : ∀ b ∈ p.str, b < 256)
    (hf : p.str.length ≤ fuel) :
    Extracted.Parser.parse_isize fuel p = resOf intVal (Konst.Parser.parseInt (toParser p) true 64) := by
  rw [parse_isize_shape]; exact parseI_eq 64 (by decide) _ _ (by decide) (by decide) fuel p hoff hb hf

theorem Parser.parse_isize_ok (fuel : Nat) (p : Parser)
    (hoff : p.start_offset + p.str.length < 2 ^ 32) (hv : Konst.Spec.Utf8.Valid p.str)
    (hf : p.str.length ≤ fuel) :
    let r := Konst.Parser.parseInt (toParser p) true 64
    (∃ q v t, r = .ok q v ∧ intVal v = some t ∧ Extracted.Parser.parse_isize fuel p = .ok (.ok (t, ofParser q))) ∨
    (∃ e, r = .err e ∧ Extracted.Parser.parse_isize fuel p = .ok (.error (ofError e))) := by
  rw [Parser.parse_isize_eq fuel p hoff (pi_valid_lt_256 hv) hf]
  exact parseInt_resOf_ok intVal p true 64 hv fun n _ => intVal_some n

/- "-9223372036854775808" at offset 7 (direction and flag arbitrary) and "9223372036854775808" -/
example : Extracted.Parser.parse_isize 20 ⟨.FromEnd, true, 7, [45, 57, 50, 50, 51, 51, 55, 50, 48, 51, 54, 56, 53, 52, 55, 55, 53, 56, 48, 56]⟩
    = resOf intVal (Konst.Parser.parseInt (toParser ⟨.FromEnd, true, 7, [45, 57, 50, 50, 51, 51, 55, 50, 48, 51, 54, 56, 53, 52, 55, 55, 53, 56, 48, 56]⟩) true 64) :=
  Parser.parse_isize_eq _ _ (by decide) (by decide) (by decide)
example : Extracted.Parser.parse_isize 20 ⟨.FromEnd, true, 7, [45, 57, 50, 50, 51, 51, 55, 50, 48, 51, 54, 56, 53, 52, 55, 55, 53, 56, 48, 56]⟩
    = .ok (.ok (-9223372036854775808, ⟨.FromStart, true, 27, []⟩)) := by decide +kernel
example : Extracted.Parser.parse_isize 19 ⟨.FromStart, false, 0, [57, 50, 50, 51, 51, 55, 50, 48, 51, 54, 56, 53, 52, 55, 55, 53, 56, 48, 56]⟩
    = .ok (.error ⟨0, 19, .FromStart, .ParseInteger, [], ()⟩) := by decide +kernel

theorem prim_parse_isize_eq (fuel : Nat) (s : List Nat)
    (hlen : s.length < 2 ^ 32) (hb : ∀ b ∈ s, b < 256) (hf : s.length ≤ fuel) :
    Extracted.prim_parse_isize fuel s =
      if Konst.Parser.parseInt (Konst.Parser.new s) true 64 = .panic then .panic
      else wholeRes ({ _priv := () } : ParseIntError) (fun n => intVal (.int n)) (ParseInt.parseWhole true 64 s) := by
  rw [prim_parse_isize_shape]
  exact primInt_eq intVal true 64 _ s
    (Parser.parse_isize_eq fuel (newParser s) (by simpa [newParser] using hlen) hb hf)
    fun n _ => intVal_some n

theorem prim_parse_isize_ok (fuel : Nat) (s : List Nat)
    (hlen : s.length < 2 ^ 32) (hv : Konst.Spec.Utf8.Valid s) (hf : s.length ≤ fuel) :
    (∃ n : Int, ParseInt.parseWhole true 64 s = some n ∧ Extracted.prim_parse_isize fuel s = .ok (.ok n)) ∨
    (ParseInt.parseWhole true 64 s = none ∧ Extracted.prim_parse_isize fuel s = .ok (.error { _priv := () })) :=
  primInt_ok intVal id true 64 _ s
    (prim_parse_isize_eq fuel s hlen (pi_valid_lt_256 hv) hf) hv
    fun n _ => ⟨n, rfl, rfl⟩

/- "-9223372036854775808", "9223372036854775808", "-9223372036854775808x" -/
example : Extracted.prim_parse_isize 20 [45, 57, 50, 50, 51, 51, 55, 50, 48, 51, 54, 56, 53, 52, 55, 55, 53, 56, 48, 56] =
    if Konst.Parser.parseInt (Konst.Parser.new [45, 57, 50, 50, 51, 51, 55, 50, 48, 51, 54, 56, 53, 52, 55, 55, 53, 56, 48, 56]) true 64 = .panic then .panic
    else wholeRes ({ _priv := () } : ParseIntError) (fun n => intVal (.int n)) (ParseInt.parseWhole true 64 [45, 57, 50, 50, 51, 51, 55, 50, 48, 51, 54, 56, 53, 52, 55, 55, 53, 56, 48, 56]) :=
  prim_parse_isize_eq _ _ (by decide) (by decide) (by decide)
example : Extracted.prim_parse_isize 20 [45, 57, 50, 50, 51, 51, 55, 50, 48, 51, 54, 56, 53, 52, 55, 55, 53, 56, 48, 56] = .ok (.ok (-9223372036854775808)) := by decide +kernel
example : Extracted.prim_parse_isize 19 [57, 50, 50, 51, 51, 55, 50, 48, 51, 54, 56, 53, 52, 55, 55, 53, 56, 48, 56] = .ok (.error { _priv := () }) := by decide +kernel
example : Extracted.prim_parse_isize 21 [45, 57, 50, 50, 51, 51, 55, 50, 48, 51, 54, 56, 53, 52, 55, 55, 53, 56, 48, 56, 120] = .ok (.error { _priv := () }) := by decide +kernel

theorem StdParser_isize_parse_with_eq (fuel : Nat) (p : Extracted.Parser) :
    Extracted.StdParser_isize.parse_with fuel p = Extracted.Parser.parse_isize fuel p := pw_run_call _

example : Extracted.StdParser_isize.parse_with 20 ⟨.FromEnd, true, 7, [45, 57, 50, 50, 51, 51, 55, 50, 48, 51, 54, 56, 53, 52, 55, 55, 53, 56, 48, 56]⟩
    = Extracted.Parser.parse_isize 20 ⟨.FromEnd, true, 7, [45, 57, 50, 50, 51, 51, 55, 50, 48, 51, 54, 56, 53, 52, 55, 55, 53, 56, 48, 56]⟩ := StdParser_isize_parse_with_eq _ _
example : Extracted.StdParser_isize.parse_with 20 ⟨.FromEnd, true, 7, [45, 57, 50, 50, 51, 51, 55, 50, 48, 51, 54, 56, 53, 52, 55, 55, 53, 56, 48, 56]⟩
    = .ok (.ok (-9223372036854775808, ⟨.FromStart, true, 27, []⟩)) := by decide +kernel

end Extracted.Equiv
