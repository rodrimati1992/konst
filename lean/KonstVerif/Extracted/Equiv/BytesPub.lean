import KonstVerif.Extracted.Gen.BytesPub
import KonstVerif.Extracted.Equiv.Bytes2
import KonstVerif.Extracted.Equiv.BytesTrim
import KonstVerif.Extracted.Equiv.SliceFns
/-
  Extracted = Model, for the public byte-slice functions of
  konst::slice::slice_const_methods (group `BytesPub`) and the `&mut` element accessors.

  * `bytes_start_with`, `bytes_end_with`, `bytes_find`, `bytes_contain`, `bytes_rcontain`, `bytes_strip_prefix`,
    `bytes_strip_suffix`, `bytes_find_skip/keep`, `bytes_rfind_skip/keep`, `bytes_trim_(start_|end_|)matches`
    (Lean names `pub_bytes_*`: the `__bytes_*` workers of group `Bytes` already own the names `bytes_*`) are
    `let p = PatternNorm::new(p); __bytes_*(left, p.as_bytes())`.  The translator models a `BytesPattern`
    argument as its bytes, so `PatternNorm::new` is the identity and each theorem is the worker's theorem
    (Equiv/Bytes.lean, Bytes2.lean, BytesTrim.lean) transported through the call, with the same hypotheses and
    the same model definition (Model/Bytes.lean).
  * `get_mut`, `first_mut`, `last_mut`, `split_first_mut`, `split_last_mut` return `&mut T` elements (values only:
    the element itself), the model (Model/Slice.lean `get`, `first`, `last`, `splitFirst`, `splitLast`) returns
    length-1 `View`s: stated like `get_eq` of Equiv/SliceFns.lean — first conjunct the exact extracted value,
    second conjunct: that is the (single) element of the model's view (and, for the `split_*` pair, the rest
    is the model's second view).  No machine-bound hypothesis is needed by these five.
-/
namespace Extracted.Equiv
open Rs Konst Konst.Bytes Konst.Slice

theorem wrap_call_ok {α : Type} {r : Res α} {v : α} (h : r = .ok v) :
    Ctl.run (ρ := α) (do let t ← Ctl.call r; pure t) = .ok v := by
  subst h; rfl

theorem pub_bytes_strip_prefix_eq (fuel : Nat) (left pre : List Nat) (hf : pre.length + 1 ≤ fuel) :
    Extracted.pub_bytes_strip_prefix fuel left pre = .ok (stripPrefixL left pre) :=
  wrap_call_ok (bytes_strip_prefix_eq fuel left pre hf)

theorem pub_bytes_start_with_eq (fuel : Nat) (left pat : List Nat) (hf : pat.length + 1 ≤ fuel) :
    Extracted.pub_bytes_start_with fuel left pat = .ok (startsWith left pat) :=
  wrap_call_ok (bytes_start_with_eq fuel left pat hf)

theorem pub_bytes_strip_suffix_eq (fuel : Nat) (left suf : List Nat) (hf : suf.length + 1 ≤ fuel) :
    Extracted.pub_bytes_strip_suffix fuel left suf = .ok (stripSuffixL left suf) :=
  wrap_call_ok (bytes_strip_suffix_eq fuel left suf hf)

theorem pub_bytes_end_with_eq (fuel : Nat) (left pat : List Nat) (hf : pat.length + 1 ≤ fuel) :
    Extracted.pub_bytes_end_with fuel left pat = .ok (endsWith left pat) :=
  wrap_call_ok (bytes_end_with_eq fuel left pat hf)

example : Extracted.pub_bytes_strip_prefix 3 [1, 2, 3] [1, 2] = .ok (some [3]) := by
  decide +kernel
example : Extracted.pub_bytes_start_with 3 [1, 2, 3] [2, 3] = .ok false := by
  decide +kernel
example : Extracted.pub_bytes_strip_suffix 3 [1, 2, 3] [2, 3] = .ok (some [1]) := by
  decide +kernel
example : Extracted.pub_bytes_end_with 3 [1, 2, 3] [2, 3] = .ok true := by
  decide +kernel

theorem pub_bytes_find_eq (fuel : Nat) (left pat : List Nat)
    (hb : left.length + pat.length + 1 < 2 ^ 64) (hf : left.length + pat.length + 2 ≤ fuel) :
    Extracted.pub_bytes_find fuel left pat = .ok (bytesFind left pat) :=
  wrap_call_ok (bytes_find_eq fuel left pat hb hf)

theorem pub_bytes_contain_eq (fuel : Nat) (left pat : List Nat)
    (hb : left.length + pat.length + 1 < 2 ^ 64) (hf : left.length + pat.length + 2 ≤ fuel) :
    Extracted.pub_bytes_contain fuel left pat = .ok (bytesContain left pat) :=
  wrap_call_ok (bytes_contain_eq fuel left pat hb hf)

/-- (through `__bytes_rcontain`, whose `bytes_rfind::<N, [u8]>` call is the `extern` of group `Bytes`) -/
theorem pub_bytes_rcontain_eq (fuel : Nat) (left pat : List Nat)
    (hb : left.length < 2 ^ 64) (hf : left.length + 1 ≤ fuel) :
    Extracted.pub_bytes_rcontain fuel left pat = .ok (bytesRcontain left pat) :=
  wrap_call_ok (bytes_rcontain_eq fuel left pat hb hf)

example : Extracted.pub_bytes_find 9 [1, 2, 3, 2, 3] [2, 3] = .ok (some 1) := by
  decide +kernel
example : Extracted.pub_bytes_contain 6 [1, 2, 3] [2] = .ok true := by
  decide +kernel
example : Extracted.pub_bytes_rcontain 4 [1, 2, 3] [4] = .ok false := by
  decide +kernel

theorem pub_bytes_find_skip_eq (fuel : Nat) (this needle : List Nat)
    (hb : this.length + needle.length + 1 < 2 ^ 64) (hf : this.length + needle.length + 2 ≤ fuel) :
    Extracted.pub_bytes_find_skip fuel this needle
      = .ok (Option.map (fun v => v.apply this) (findSkip this needle)) :=
  wrap_call_ok (bytes_find_skip_eq fuel this needle hb hf)

theorem pub_bytes_find_keep_eq (fuel : Nat) (this needle : List Nat)
    (hb : this.length + needle.length + 1 < 2 ^ 64) (hf : this.length + needle.length + 2 ≤ fuel) :
    Extracted.pub_bytes_find_keep fuel this needle
      = .ok (Option.map (fun v => v.apply this) (findKeep this needle)) :=
  wrap_call_ok (bytes_find_keep_eq fuel this needle hb hf)

theorem pub_bytes_rfind_skip_eq (fuel : Nat) (this needle : List Nat)
    (hb : this.length < 2 ^ 64) (hf : this.length + 1 ≤ fuel) :
    Extracted.pub_bytes_rfind_skip fuel this needle
      = .ok (Option.map (fun v => v.apply this) (rfindSkip this needle)) :=
  wrap_call_ok (bytes_rfind_skip_eq fuel this needle hb hf)

theorem pub_bytes_rfind_keep_eq (fuel : Nat) (this needle : List Nat)
    (hb : this.length < 2 ^ 64) (hf : this.length + 1 ≤ fuel) :
    Extracted.pub_bytes_rfind_keep fuel this needle
      = .ok (Option.map (fun v => v.apply this) (rfindKeep this needle)) :=
  wrap_call_ok (bytes_rfind_keep_eq fuel this needle hb hf)

example : Extracted.pub_bytes_find_skip 8 [1, 2, 3, 4] [2, 3] = .ok (some [4]) := by
  decide +kernel
example : Extracted.pub_bytes_find_keep 8 [1, 2, 3, 4] [2, 3] = .ok (some [2, 3, 4]) := by
  decide +kernel
example : Extracted.pub_bytes_rfind_skip 6 [1, 2, 3, 2, 3] [2, 3] = .ok (some [1, 2, 3]) := by
  decide +kernel
example : Extracted.pub_bytes_rfind_keep 7 [1, 2, 3, 2, 3, 4] [2, 3] = .ok (some [1, 2, 3, 2, 3]) := by
  decide +kernel

theorem pub_bytes_trim_start_matches_eq (fuel : Nat) (this needle : List Nat)
    (hf : this.length + needle.length + 1 ≤ fuel) :
    Extracted.pub_bytes_trim_start_matches fuel this needle = .ok (trimStartMatchesL this needle) :=
  wrap_call_ok (bytes_trim_start_matches_eq fuel this needle hf)

theorem pub_bytes_trim_end_matches_eq (fuel : Nat) (this needle : List Nat)
    (hf : this.length + needle.length + 1 ≤ fuel) :
    Extracted.pub_bytes_trim_end_matches fuel this needle = .ok (trimEndMatchesL this needle) :=
  wrap_call_ok (bytes_trim_end_matches_eq fuel this needle hf)

/-- the model has no list-valued `trimMatchesL`; `trimMatches` is a `View` into `this` -/
theorem pub_bytes_trim_matches_eq (fuel : Nat) (this needle : List Nat)
    (hf : this.length + needle.length + 1 ≤ fuel) :
    Extracted.pub_bytes_trim_matches fuel this needle = .ok ((trimMatches this needle).apply this) :=
  wrap_call_ok (bytes_trim_matches_eq fuel this needle hf)

example : Extracted.pub_bytes_trim_start_matches 9 [1, 2, 1, 2, 1, 3] [1, 2] = .ok [1, 3] :=
  pub_bytes_trim_start_matches_eq 9 [1, 2, 1, 2, 1, 3] [1, 2] (by decide)
example : Extracted.pub_bytes_trim_end_matches 9 [3, 1, 1, 2, 1, 2] [1, 2] = .ok [3, 1] :=
  pub_bytes_trim_end_matches_eq 9 [3, 1, 1, 2, 1, 2] [1, 2] (by decide)
example : Extracted.pub_bytes_trim_matches 9 [1, 1, 1, 5, 1, 1] [1, 1] = .ok [1, 5] :=
  pub_bytes_trim_matches_eq 9 [1, 1, 1, 5, 1, 1] [1, 1] (by decide)

theorem get_mut_eq {T : Type} (s : List T) (index : Nat) :
    Extracted.get_mut s index = .ok s[index]? ∧
    Option.map (fun v => v.apply s) (Konst.Slice.get s.length index)
      = Option.map (fun x => [x]) s[index]? := by
  refine ⟨?_, (get_eq s index).2⟩
  unfold Extracted.get_mut Rs.index
  by_cases h : index < s.length
  · simp [h]
  · simp [h]

example : Extracted.get_mut [10, 20, 30] 1 = .ok (some 20) := (get_mut_eq [10, 20, 30] 1).1
example : Extracted.get_mut [10, 20, 30] 3 = .ok none := (get_mut_eq [10, 20, 30] 3).1

theorem first_mut_eq {T : Type} (s : List T) :
    Extracted.first_mut s = .ok s.head? ∧
    Option.map (fun v => v.apply s) (first s.length) = Option.map (fun x => [x]) s.head? := by
  unfold Extracted.first_mut first
  cases s with
  | nil => simp
  | cons x r => simp [View.apply]

theorem last_mut_eq {T : Type} (s : List T) :
    Extracted.last_mut s = .ok s.getLast? ∧
    Option.map (fun v => v.apply s) (last s.length) = Option.map (fun x => [x]) s.getLast? := by
  unfold Extracted.last_mut last
  rcases List.eq_nil_or_concat s with rfl | ⟨l, x, rfl⟩
  · exact ⟨rfl, rfl⟩
  · simp [unsnoc_concat, View.apply]

theorem split_first_mut_eq {T : Type} (s : List T) :
    Extracted.split_first_mut s = .ok (s.head?.map (fun x => (x, s.tail))) ∧
    Option.map (fun p => (p.1.apply s, p.2.apply s)) (splitFirst s.length)
      = Option.map (fun x => ([x], s.tail)) s.head? := by
  unfold Extracted.split_first_mut splitFirst
  cases s with
  | nil => simp
  | cons x r => simp [View.apply]

theorem split_last_mut_eq {T : Type} (s : List T) :
    Extracted.split_last_mut s = .ok (s.getLast?.map (fun x => (x, s.dropLast))) ∧
    Option.map (fun p => (p.1.apply s, p.2.apply s)) (splitLast s.length)
      = Option.map (fun x => ([x], s.dropLast)) s.getLast? := by
  unfold Extracted.split_last_mut splitLast
  rcases List.eq_nil_or_concat s with rfl | ⟨l, x, rfl⟩
  · exact ⟨rfl, rfl⟩
  · simp [unsnoc_concat, View.apply]

example : Extracted.first_mut [10, 20, 30] = .ok (some 10) := (first_mut_eq [10, 20, 30]).1
example : Extracted.first_mut ([] : List Nat) = .ok none := (first_mut_eq []).1
example : Extracted.last_mut [10, 20, 30] = .ok (some 30) := (last_mut_eq [10, 20, 30]).1
example : Extracted.split_first_mut [10, 20, 30] = .ok (some (10, [20, 30])) :=
  (split_first_mut_eq [10, 20, 30]).1
example : Extracted.split_last_mut [10, 20, 30] = .ok (some (30, [10, 20])) :=
  (split_last_mut_eq [10, 20, 30]).1
example : Option.map (fun p => (p.1.apply [10, 20, 30], p.2.apply [10, 20, 30])) (splitLast 3)
    = some ([30], [10, 20]) := by decide +kernel

end Extracted.Equiv
