import KonstVerif.Rs.Prelude
import KonstVerif.Model.Cmp
/-
  `const_cmp_for!(slice; left, right, cmp)` (C16): the text of its expansion over an arbitrary element comparison,
  and its loop, proved once.  Instances: `cmp_slice_str`, `cmp_slice_bytes` (`Equiv/Cmp6.lean`) and the probe
  `cm_cmp_slice_for` (`Equiv/ProbesMisc.lean`).
-/
namespace Extracted.Equiv
open Rs Konst Konst.Cmp

/-- the text of `cmp_slice_str.loop1` / `cmp_slice_bytes.loop1`; `c` = the element comparison (with its fuel) -/
def cmpForBody {α : Type} (c : α → α → Res Ordering) :
    (List α × List α) → Ctl (LoopExit Ordering (List α × List α) ((List α × List α) × Ordering)) (List α × List α) :=
  fun (left_slice, right_slice) => do
  let (left_slice, right_slice) ← (match left_slice, right_slice with
      | (l :: l_rem), (r :: r_rem) => do
          let left_slice := l_rem
          let right_slice := r_rem
          let t2_ ← (do
                let t1_ ← Ctl.call (c l r)
                pure t1_)
          let ord := t2_
          let t3_ ← (match ord with
              | Ordering.eq => do
                  pure true
              | _ => do
                  pure false)
          let _ ← (if (!t3_) then do
                Ctl.exit (.brk ((left_slice, right_slice), ord))
              else do
                pure ())
          pure (left_slice, right_slice)
      | ([]), ([]) => do
          Ctl.exit (.brk ((left_slice, right_slice), Ordering.eq))
      | ([]), _ => do
          Ctl.exit (.brk ((left_slice, right_slice), Ordering.lt))
      | _, ([]) => do
          Ctl.exit (.brk ((left_slice, right_slice), Ordering.gt)))
  pure (left_slice, right_slice)

set_option linter.unusedVariables false in
def cmpForFn {α : Type} (c : α → α → Res Ordering) (fuel : Nat) (left right : List α) : Res Ordering :=
  Ctl.run (ρ := Ordering) do
  let t6_ ← (match left, right with
      | left_slice, right_slice => do
          let (t5_, left_slice, right_slice) ← (do
                let ((left_slice, right_slice), v4_) ← (Rs.loop fuel (cmpForBody c) (left_slice, right_slice))
                pure (v4_, left_slice, right_slice))
          pure t5_)
  pure t6_

theorem cmpForBody_cons {α : Type} {c : α → α → Res Ordering} {x y : α} {o : Ordering} (a b : List α)
    (h : c x y = .ok o) :
    cmpForBody c (x :: a, y :: b) = if o = .eq then .val (a, b) else .exit (.brk ((a, b), o)) := by
  simp only [cmpForBody, h, Ctl.call_ok, Ctl.bind_eq, Ctl.bind_val, Ctl.pure_eq]
  cases o <;> rfl

/-- the loop of `const_cmp_for!(slice; …)` from any pair of remaining slices: it breaks with the model's value
    (`st` = the slices left when it stopped; not observable).  One iteration per common element plus the deciding
    one; nothing can overflow (no counter) -/
theorem cmpFor_loop {α β : Type} (g : α → β) (m : β → β → Option Ordering) (c : α → α → Res Ordering)
    (n : Nat) (left right : List α) (hn : min left.length right.length + 1 ≤ n)
    (he : ∀ p ∈ left.zip right, ∃ o, m (g p.1) (g p.2) = some o ∧ c p.1 p.2 = .ok o) :
    ∃ o st, constCmpForSlice m (left.map g) (right.map g) = some o ∧
      Rs.loop (ε := Ordering) n (cmpForBody c) (left, right) = .val (st, o) := by
  induction n generalizing left right with
  | zero => exact absurd hn (Nat.not_succ_le_zero _)
  | succ n ih =>
    rw [Rs.loop_succ]
    cases left with
    | nil =>
      cases right with
      | nil => exact ⟨.eq, ([], []), rfl, rfl⟩
      | cons y b => exact ⟨.lt, ([], y :: b), rfl, rfl⟩
    | cons x a =>
      cases right with
      | nil => exact ⟨.gt, (x :: a, []), rfl, rfl⟩
      | cons y b =>
        obtain ⟨o, hm, hx⟩ := he (x, y) List.mem_cons_self
        rw [List.length_cons, List.length_cons, Nat.succ_min_succ] at hn
        obtain ⟨o', st, hm', hx'⟩ := ih a b (Nat.le_of_succ_le_succ hn)
          (fun p hp => he p (List.mem_cons_of_mem _ hp))
        rw [cmpForBody_cons a b hx, List.map_cons, List.map_cons, constCmpForSlice, hm]
        cases o with
        | eq => exact ⟨o', st, hm', hx'⟩
        | lt => exact ⟨.lt, (a, b), rfl, rfl⟩
        | gt => exact ⟨.gt, (a, b), rfl, rfl⟩

theorem cmpForFn_eq {α β : Type} (g : α → β) (m : β → β → Option Ordering) (c : α → α → Res Ordering)
    (fuel : Nat) (left right : List α) (hf : min left.length right.length + 1 ≤ fuel)
    (he : ∀ p ∈ left.zip right, ∃ o, m (g p.1) (g p.2) = some o ∧ c p.1 p.2 = .ok o) :
    ∃ o, constCmpForSlice m (left.map g) (right.map g) = some o ∧ cmpForFn c fuel left right = .ok o := by
  obtain ⟨o, st, h1, h2⟩ := cmpFor_loop g m c fuel left right hf he
  refine ⟨o, h1, ?_⟩
  simp only [cmpForFn, h2]
  rfl

end Extracted.Equiv
