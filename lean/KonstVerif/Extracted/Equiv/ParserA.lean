import KonstVerif.Extracted.Gen.Parser
import KonstVerif.Extracted.Equiv.Str
import KonstVerif.Extracted.Equiv.StrFns
import KonstVerif.Model.Parser
import KonstVerif.Lemmas.Parser
import KonstVerif.Extracted.Equiv.ParserCommon
/-
  Extracted = Model, for `konst::parsing::Parser` part A (group `Parser`, C13):

    ParseError::new, Parser::new, with_start_offset, skip, skip_back, start_offset, end_offset, into_error,
    strip_prefix, strip_suffix, trim, trim_start, trim_end, trim_matches, trim_start_matches,
    trim_end_matches, find_skip, rfind_skip

  against `Konst.Parser.*` (Model/Parser.lean), the definitions Props/C13.lean and Props/C14.lean are about.

  Conversions.  The generated structures (`Extracted.Parser`, `Extracted.ParseError`,
  `Extracted.ParseDirection`, `Extracted.ErrorKind`) and the model's (`Konst.Parser.Parser`, …) are related
  by explicit maps in both directions:

    * `dirToModel/dirOfModel`, `kindToModel/kindOfModel`, `parserToModel/parserOfModel`: bijections
      (same constructors / same four fields);
    * `errorToModel` IGNORES the two fields the model does not have, `ParseError.extra_message` and
      `ParseError._lifetime`; `errorOfModel` fills them with what `ParseError::new` writes
      (`extra_message: &""` = `[]`, `_lifetime: PhantomData` = `()`), so the theorems below are stated with
      `errorOfModel` and also pin those two fields down.  `errorToModel (errorOfModel e) = e`.
    * the model's `Res` (`ok parser value | err e | panic`) is mapped to the result of the extraction by
      `resSelf` (methods returning `Self`) and `resResult` (methods returning `Result<Self, ParseError>`).

  Hypotheses.
    * `hfit : p.start_offset + p.str.length < 2 ^ 32`: the offsets fit `u32`.  This is exactly the
      `base + len < 2^32` assumption under which the model (offsets in `Nat`) and the code (checked `u32`
      `+=`, `as u32` casts) agree (Model/Parser.lean header; `Props.C13.offsets_fit_u32`).
    * `hb : ∀ b ∈ p.str, b < 256` where the code casts a byte `as i8` (char-boundary tests: `skip`, `skip_back`).
    * explicit fuel.
-/
namespace Extracted.Equiv
open Rs Konst

/-! ### conversions -/

def dirToModel : Extracted.ParseDirection → Konst.Parser.ParseDirection
  | .FromStart => .fromStart
  | .FromEnd => .fromEnd
  | .FromBoth => .fromBoth

def dirOfModel : Konst.Parser.ParseDirection → Extracted.ParseDirection
  | .fromStart => .FromStart
  | .fromEnd => .FromEnd
  | .fromBoth => .FromBoth

def kindToModel : Extracted.ErrorKind → Konst.Parser.ErrorKind
  | .ParseInteger => .parseInteger
  | .ParseBool => .parseBool
  | .Find => .find
  | .Strip => .strip
  | .SplitExhausted => .splitExhausted
  | .DelimiterNotFound => .delimiterNotFound
  | .Other => .other

def kindOfModel : Konst.Parser.ErrorKind → Extracted.ErrorKind
  | .parseInteger => .ParseInteger
  | .parseBool => .ParseBool
  | .find => .Find
  | .strip => .Strip
  | .splitExhausted => .SplitExhausted
  | .delimiterNotFound => .DelimiterNotFound
  | .other => .Other

def parserToModel (p : Extracted.Parser) : Konst.Parser.Parser :=
  { dir := dirToModel p.parse_direction, yieldedLastSplit := p.yielded_last_split,
    startOffset := p.start_offset, str := p.str }

def parserOfModel (q : Konst.Parser.Parser) : Extracted.Parser :=
  { parse_direction := dirOfModel q.dir, yielded_last_split := q.yieldedLastSplit,
    start_offset := q.startOffset, str := q.str }

def errorToModel (e : Extracted.ParseError) : Konst.Parser.ParseError :=
  { startOffset := e.start_offset, endOffset := e.end_offset, dir := dirToModel e.direction,
    kind := kindToModel e.kind }

def errorOfModel (e : Konst.Parser.ParseError) : Extracted.ParseError :=
  { start_offset := e.startOffset, end_offset := e.endOffset, direction := dirOfModel e.dir,
    kind := kindOfModel e.kind, extra_message := [], _lifetime := () }

@[simp] theorem dirOfModel_toModel (d : Extracted.ParseDirection) : dirOfModel (dirToModel d) = d := by
  cases d <;> rfl
@[simp] theorem dirToModel_ofModel (d : Konst.Parser.ParseDirection) : dirToModel (dirOfModel d) = d := by
  cases d <;> rfl
@[simp] theorem kindOfModel_toModel (k : Extracted.ErrorKind) : kindOfModel (kindToModel k) = k := by
  cases k <;> rfl
@[simp] theorem kindToModel_ofModel (k : Konst.Parser.ErrorKind) : kindToModel (kindOfModel k) = k := by
  cases k <;> rfl
@[simp] theorem parserOfModel_toModel (p : Extracted.Parser) : parserOfModel (parserToModel p) = p := by
  cases p; simp [parserOfModel, parserToModel]
@[simp] theorem parserToModel_ofModel (q : Konst.Parser.Parser) : parserToModel (parserOfModel q) = q := by
  cases q; simp [parserOfModel, parserToModel]
@[simp] theorem errorToModel_ofModel (e : Konst.Parser.ParseError) : errorToModel (errorOfModel e) = e := by
  cases e; simp [errorOfModel, errorToModel]
/-- the other round trip holds exactly on the errors `ParseError::new` builds -/
theorem errorOfModel_toModel (e : Extracted.ParseError) (h : e.extra_message = []) :
    errorOfModel (errorToModel e) = e := by
  cases e; simp_all [errorOfModel, errorToModel]

/-- the model's result of a method returning `Self` as the result of the extraction.
    Such a method's model returns `.ok parser .unit` or `.panic`; the other shapes (`err`, a non-unit
    value) are never produced by the model functions below (see the `…_model_ok` lemmas at the end of the
    file) and are mapped to `ub`, so that nothing would be hidden if one ever were. -/
def resSelf : Konst.Parser.Res → Res Extracted.Parser
  | .ok q .unit => .ok (parserOfModel q)
  | .ok _ _ => .ub
  | .err _ => .ub
  | .panic => .panic

def resResult : Konst.Parser.Res → Res (Except Extracted.ParseError Extracted.Parser)
  | .ok q .unit => .ok (.ok (parserOfModel q))
  | .ok _ _ => .ub
  | .err e => .ok (.error (errorOfModel e))
  | .panic => .panic

@[simp] theorem resSelf_ok (q : Konst.Parser.Parser) : resSelf (.ok q .unit) = .ok (parserOfModel q) := rfl
@[simp] theorem resSelf_panic : resSelf .panic = .panic := rfl
@[simp] theorem resResult_ok (q : Konst.Parser.Parser) :
    resResult (.ok q .unit) = .ok (.ok (parserOfModel q)) := rfl
@[simp] theorem resResult_err (e : Konst.Parser.ParseError) :
    resResult (.err e) = .ok (.error (errorOfModel e)) := rfl
@[simp] theorem resResult_panic : resResult .panic = .panic := rfl

theorem ParseError_new_eq (p : Extracted.Parser) (kind : Extracted.ErrorKind)
    (hfit : p.start_offset + p.str.length < 2 ^ 32) :
    Extracted.ParseError.new p kind
      = .ok (errorOfModel (Konst.Parser.ParseError.new (parserToModel p) (kindToModel kind))) := by
  obtain ⟨d, y, off, s⟩ := p
  rw [parseError_new_mk d y off s kind hfit]
  simp [errorOfModel, Konst.Parser.ParseError.new, parserToModel]

example : Extracted.ParseError.new ⟨.FromEnd, false, 7, [1, 2, 3]⟩ .Strip
    = .ok ⟨7, 10, .FromEnd, .Strip, [], ()⟩ := by
  decide +kernel

/-- outside the hypothesis the checked `u32` addition panics (or the `as u32` cast wraps): e.g. -/
example : Extracted.ParseError.new ⟨.FromStart, false, 2 ^ 32 - 1, [1]⟩ .Other = .panic := by decide +kernel

theorem Parser_new_eq (string : List Nat) :
    Extracted.Parser.new string = .ok (parserOfModel (Konst.Parser.new string)) := rfl

example : Extracted.Parser.new [104, 105] = .ok ⟨.FromStart, false, 0, [104, 105]⟩ := by
  rw [Parser_new_eq]; decide

/-- `start_offset as u32` wraps; the model keeps the `usize` value, so they agree for `start_offset < 2^32` -/
theorem Parser_with_start_offset_eq (string : List Nat) (start_offset : Nat) (h : start_offset < 2 ^ 32) :
    Extracted.Parser.with_start_offset string start_offset
      = .ok (parserOfModel (Konst.Parser.withStartOffset string start_offset)) := by
  unfold Extracted.Parser.with_start_offset Konst.Parser.withStartOffset
  simp [castUU32_of_lt _ h, parserOfModel, dirOfModel]

theorem Parser_with_start_offset_wrap (string : List Nat) (start_offset : Nat) :
    Extracted.Parser.with_start_offset string start_offset
      = .ok (parserOfModel (Konst.Parser.withStartOffset string (start_offset % 2 ^ 32))) := rfl

example : Extracted.Parser.with_start_offset [104, 105] 9 = .ok ⟨.FromStart, false, 9, [104, 105]⟩ := by
  decide +kernel

/-- `Parser::start_offset` (the model has the field only) -/
theorem Parser_fn_start_offset_eq (p : Extracted.Parser) :
    Extracted.Parser.fn_start_offset p = .ok (parserToModel p).startOffset := rfl

example : Extracted.Parser.fn_start_offset ⟨.FromStart, false, 9, [104, 105]⟩ = .ok 9 := by
  rw [Parser_fn_start_offset_eq]; rfl

/-- `Parser::end_offset`: `self.start_offset as usize + self.str.len()` is a checked `usize` addition;
    `start_offset + len < 2^64` suffices (implied by `hfit` of the other theorems) -/
theorem Parser_fn_end_offset_eq (p : Extracted.Parser) (hfit : p.start_offset + p.str.length < 2 ^ 64) :
    Extracted.Parser.fn_end_offset p = .ok (Konst.Parser.Parser.endOffset (parserToModel p)) := by
  unfold Extracted.Parser.fn_end_offset Konst.Parser.Parser.endOffset
  simp [Rs.uadd, hfit, parserToModel]

example : Extracted.Parser.fn_end_offset ⟨.FromStart, false, 9, [104, 105]⟩ = .ok 11 := by
  decide +kernel

theorem Parser_into_error_eq (p : Extracted.Parser) (kind : Extracted.ErrorKind)
    (hfit : p.start_offset + p.str.length < 2 ^ 32) :
    Extracted.Parser.into_error p kind
      = .ok (errorOfModel (Konst.Parser.Parser.intoError (parserToModel p) (kindToModel kind))) := by
  unfold Extracted.Parser.into_error Konst.Parser.Parser.intoError
  simp [ParseError_new_eq p kind hfit]

example : Extracted.Parser.into_error ⟨.FromBoth, true, 7, [1, 2, 3]⟩ .Find
    = .ok ⟨7, 10, .FromBoth, .Find, [], ()⟩ := by
  decide +kernel

/-! ### `strip_prefix`, `strip_suffix` (`try_parsing!`) -/

theorem Parser_strip_prefix_eq (fuel : Nat) (p : Extracted.Parser) (matched : List Nat)
    (hfit : p.start_offset + p.str.length < 2 ^ 32) (hf : matched.length + 1 ≤ fuel) :
    Extracted.Parser.strip_prefix fuel p matched
      = resResult (Konst.Parser.stripPrefix (parserToModel p) matched) := by
  obtain ⟨d, y, off, s⟩ := p
  simp only [Extracted.Parser.strip_prefix, Konst.Parser.stripPrefix, Konst.Parser.tryParsing, parserToModel,
    parseError_new_mk _ _ _ _ _ hfit, str_strip_prefix_eq fuel _ _ hf, rs_eval]
  cases StrFns.stripPrefix s matched with
  | none => rfl
  | some v =>
    simp only [Option.map, Rs.block, rs_eval, offset_update off s.length _ _ hfit (Lemmas.Slice.apply_length_le v s)]
    rfl

example : Extracted.Parser.strip_prefix 3 ⟨.FromEnd, false, 5, [104, 105, 33]⟩ [104, 105]
    = .ok (.ok ⟨.FromStart, false, 7, [33]⟩) := by
  rw [Parser_strip_prefix_eq 3 _ _ (by decide) (by decide)]; rfl
example : Extracted.Parser.strip_prefix 3 ⟨.FromEnd, false, 5, [104, 105, 33]⟩ [105]
    = .ok (.error ⟨5, 8, .FromStart, .Strip, [], ()⟩) := by
  rw [Parser_strip_prefix_eq 3 _ _ (by decide) (by decide)]; rfl

theorem Parser_strip_suffix_eq (fuel : Nat) (p : Extracted.Parser) (matched : List Nat)
    (hfit : p.start_offset + p.str.length < 2 ^ 32) (hf : matched.length + 1 ≤ fuel) :
    Extracted.Parser.strip_suffix fuel p matched
      = resResult (Konst.Parser.stripSuffix (parserToModel p) matched) := by
  obtain ⟨d, y, off, s⟩ := p
  simp only [Extracted.Parser.strip_suffix, Konst.Parser.stripSuffix, Konst.Parser.tryParsing, parserToModel,
    parseError_new_mk _ _ _ _ _ hfit, str_strip_suffix_eq fuel _ _ hf, rs_eval]
  cases StrFns.stripSuffix s matched <;> rfl

example : Extracted.Parser.strip_suffix 3 ⟨.FromStart, false, 5, [104, 105, 33]⟩ [105, 33]
    = .ok (.ok ⟨.FromEnd, false, 5, [104]⟩) := by
  rw [Parser_strip_suffix_eq 3 _ _ (by decide) (by decide)]; rfl
example : Extracted.Parser.strip_suffix 3 ⟨.FromStart, false, 5, [104, 105, 33]⟩ [105]
    = .ok (.error ⟨5, 8, .FromEnd, .Strip, [], ()⟩) := by
  rw [Parser_strip_suffix_eq 3 _ _ (by decide) (by decide)]; rfl

/-- `Parser::trim` is written out in the source: only the start trim is added to `start_offset` -/
theorem Parser_trim_eq (fuel : Nat) (p : Extracted.Parser)
    (hfit : p.start_offset + p.str.length < 2 ^ 32) (hf : p.str.length + 1 ≤ fuel) :
    Extracted.Parser.trim fuel p = resSelf (Konst.Parser.trim (parserToModel p)) := by
  have hle := Lemmas.Slice.apply_length_le (StrFns.trimStart p.str) p.str
  simp only [Extracted.Parser.trim, str_trim_start_eq fuel _ hf,
    str_trim_end_eq fuel _ (Nat.le_trans (Nat.succ_le_succ hle) hf), rs_eval, offset_update _ _ _ _ hfit hle]
  rfl

example : Extracted.Parser.trim 6 ⟨.FromStart, false, 5, [32, 12, 120, 9, 13]⟩
    = .ok ⟨.FromBoth, false, 7, [120]⟩ := by
  decide +kernel

theorem Parser_trim_start_eq (fuel : Nat) (p : Extracted.Parser)
    (hfit : p.start_offset + p.str.length < 2 ^ 32) (hf : p.str.length + 1 ≤ fuel) :
    Extracted.Parser.trim_start fuel p = resSelf (Konst.Parser.trimStart (parserToModel p)) := by
  have hle := Lemmas.Slice.apply_length_le (StrFns.trimStart p.str) p.str
  unfold Extracted.Parser.trim_start Konst.Parser.trimStart Konst.Parser.parsing
  simp [str_trim_start_eq fuel _ hf, offset_update _ _ _ _ hfit hle, Konst.Parser.enableIfStartAdd,
    Konst.Parser.Parser.setStr, parserToModel, parserOfModel, dirOfModel]

example : Extracted.Parser.trim_start 6 ⟨.FromEnd, false, 5, [32, 12, 120, 9, 13]⟩
    = .ok ⟨.FromStart, false, 7, [120, 9, 13]⟩ := by
  decide +kernel

/-- `trim_end` leaves `start_offset` alone: no bound on the offsets is needed -/
theorem Parser_trim_end_eq (fuel : Nat) (p : Extracted.Parser) (hf : p.str.length + 1 ≤ fuel) :
    Extracted.Parser.trim_end fuel p = resSelf (Konst.Parser.trimEnd (parserToModel p)) := by
  unfold Extracted.Parser.trim_end Konst.Parser.trimEnd Konst.Parser.parsing
  simp [str_trim_end_eq fuel _ hf, Konst.Parser.enableIfStartAdd,
    Konst.Parser.Parser.setStr, parserToModel, parserOfModel, dirOfModel]

example : Extracted.Parser.trim_end 6 ⟨.FromStart, false, 5, [32, 12, 120, 9, 13]⟩
    = .ok ⟨.FromEnd, false, 5, [32, 12, 120]⟩ := by
  decide +kernel

theorem Parser_trim_matches_eq (fuel : Nat) (p : Extracted.Parser) (needle : List Nat)
    (hfit : p.start_offset + p.str.length < 2 ^ 32) (hf : p.str.length + needle.length + 1 ≤ fuel) :
    Extracted.Parser.trim_matches fuel p needle
      = resSelf (Konst.Parser.trimMatches (parserToModel p) needle) := by
  have hle := Lemmas.Slice.apply_length_le (StrFns.trimStartMatches p.str needle) p.str
  simp only [Extracted.Parser.trim_matches, str_trim_start_matches_eq fuel _ _ hf,
    str_trim_end_matches_eq fuel _ _ (Nat.le_trans (Nat.succ_le_succ (Nat.add_le_add_right hle _)) hf), rs_eval,
    offset_update _ _ _ _ hfit hle]
  rfl

example : Extracted.Parser.trim_matches 9 ⟨.FromStart, false, 5, [1, 1, 1, 5, 1, 1]⟩ [1, 1]
    = .ok ⟨.FromBoth, false, 7, [1, 5]⟩ := by
  decide +kernel

theorem Parser_trim_start_matches_eq (fuel : Nat) (p : Extracted.Parser) (needle : List Nat)
    (hfit : p.start_offset + p.str.length < 2 ^ 32) (hf : p.str.length + needle.length + 1 ≤ fuel) :
    Extracted.Parser.trim_start_matches fuel p needle
      = resSelf (Konst.Parser.trimStartMatches (parserToModel p) needle) := by
  have hle := Lemmas.Slice.apply_length_le (StrFns.trimStartMatches p.str needle) p.str
  unfold Extracted.Parser.trim_start_matches Konst.Parser.trimStartMatches Konst.Parser.parsing
  simp [str_trim_start_matches_eq fuel _ _ hf, offset_update _ _ _ _ hfit hle,
    Konst.Parser.enableIfStartAdd, Konst.Parser.Parser.setStr, parserToModel, parserOfModel, dirOfModel]

example : Extracted.Parser.trim_start_matches 9 ⟨.FromEnd, false, 5, [1, 2, 1, 2, 1, 3]⟩ [1, 2]
    = .ok ⟨.FromStart, false, 9, [1, 3]⟩ := by
  decide +kernel

/-- `trim_end_matches` leaves `start_offset` alone: no bound on the offsets is needed -/
theorem Parser_trim_end_matches_eq (fuel : Nat) (p : Extracted.Parser) (needle : List Nat)
    (hf : p.str.length + needle.length + 1 ≤ fuel) :
    Extracted.Parser.trim_end_matches fuel p needle
      = resSelf (Konst.Parser.trimEndMatches (parserToModel p) needle) := by
  unfold Extracted.Parser.trim_end_matches Konst.Parser.trimEndMatches Konst.Parser.parsing
  simp [str_trim_end_matches_eq fuel _ _ hf, Konst.Parser.enableIfStartAdd,
    Konst.Parser.Parser.setStr, parserToModel, parserOfModel, dirOfModel]

example : Extracted.Parser.trim_end_matches 9 ⟨.FromStart, false, 5, [3, 1, 1, 2, 1, 2]⟩ [1, 2]
    = .ok ⟨.FromEnd, false, 5, [3, 1]⟩ := by
  decide +kernel

/-! ### `find_skip`, `rfind_skip` (`try_parsing!`) -/

/-- the machine bound `hb` is the one of `bytes_find` (`i + pat.len()` is a checked `usize` addition);
    with `hfit` it only constrains the needle: `needle.length + 2^32 ≤ 2^64` suffices -/
theorem Parser_find_skip_eq (fuel : Nat) (p : Extracted.Parser) (needle : List Nat)
    (hfit : p.start_offset + p.str.length < 2 ^ 32)
    (hb : p.str.length + needle.length + 1 < 2 ^ 64) (hf : p.str.length + needle.length + 2 ≤ fuel) :
    Extracted.Parser.find_skip fuel p needle
      = resResult (Konst.Parser.findSkip (parserToModel p) needle) := by
  obtain ⟨d, y, off, s⟩ := p
  simp only [Extracted.Parser.find_skip, Konst.Parser.findSkip, Konst.Parser.tryParsing, parserToModel,
    parseError_new_mk _ _ _ _ _ hfit, str_find_skip_eq fuel _ _ hb hf, rs_eval]
  cases StrFns.findSkip s needle with
  | none => rfl
  | some v =>
    simp only [Option.map, Rs.block, rs_eval, offset_update off s.length _ _ hfit (Lemmas.Slice.apply_length_le v s)]
    rfl

example : Extracted.Parser.find_skip 8 ⟨.FromEnd, false, 5, [1, 2, 3, 4]⟩ [2, 3]
    = .ok (.ok ⟨.FromStart, false, 8, [4]⟩) := by
  rw [Parser_find_skip_eq 8 _ _ (by decide) (by decide) (by decide)]; rfl
example : Extracted.Parser.find_skip 8 ⟨.FromEnd, false, 5, [1, 2, 3, 4]⟩ [3, 2]
    = .ok (.error ⟨5, 9, .FromStart, .Find, [], ()⟩) := by
  rw [Parser_find_skip_eq 8 _ _ (by decide) (by decide) (by decide)]; rfl

theorem Parser_rfind_skip_eq (fuel : Nat) (p : Extracted.Parser) (needle : List Nat)
    (hfit : p.start_offset + p.str.length < 2 ^ 32) (hf : p.str.length + 1 ≤ fuel) :
    Extracted.Parser.rfind_skip fuel p needle
      = resResult (Konst.Parser.rfindSkip (parserToModel p) needle) := by
  obtain ⟨d, y, off, s⟩ := p
  simp only [Extracted.Parser.rfind_skip, Konst.Parser.rfindSkip, Konst.Parser.tryParsing, parserToModel,
    parseError_new_mk _ _ _ _ _ hfit, str_rfind_skip_eq fuel _ _ (length_lt_of_fit hfit) hf, rs_eval]
  cases StrFns.rfindSkip s needle <;> rfl

example : Extracted.Parser.rfind_skip 6 ⟨.FromStart, false, 5, [1, 2, 3, 2, 3]⟩ [2, 3]
    = .ok (.ok ⟨.FromEnd, false, 5, [1, 2, 3]⟩) := by
  rw [Parser_rfind_skip_eq 6 _ _ (by decide) (by decide)]; rfl
example : Extracted.Parser.rfind_skip 6 ⟨.FromStart, false, 5, [1, 2, 3, 2, 3]⟩ [4]
    = .ok (.error ⟨5, 10, .FromEnd, .Find, [], ()⟩) := by
  rw [Parser_rfind_skip_eq 6 _ _ (by decide) (by decide)]; rfl

theorem isCharBoundaryBytes_length (bytes : List Nat) : Utf8.isCharBoundaryBytes bytes bytes.length = true :=
  Lemmas.Parser.bnd_len bytes

/-- a strict boundary also passes the forgiving test (the one `str_from`/`str_up_to` use) -/
theorem forgiving_of_strict (bytes : List Nat) (i : Nat) (h : Utf8.isCharBoundaryBytes bytes i = true) :
    Utf8.isCharBoundaryForgiving bytes i = true :=
  Lemmas.Parser.forgiving_of_bnd h

theorem lt_of_not_boundary (bytes : List Nat) (bc : Nat) (h : bc ≤ bytes.length)
    (ht : Utf8.isCharBoundaryBytes bytes bc = false) : bc < bytes.length :=
  Nat.lt_of_le_of_ne h fun e => by
    rw [e, isCharBoundaryBytes_length] at ht
    exact Bool.noConfusion ht

theorem skipUp_le (bytes : List Nat) (m bc : Nat) (h : bc ≤ bytes.length) :
    Konst.Parser.skipUp bytes m bc ≤ bytes.length := by
  induction m generalizing bc with
  | zero => exact h
  | succ m ih =>
    rw [Konst.Parser.skipUp]
    cases ht : Utf8.isCharBoundaryBytes bytes bc with
    | true => exact h
    | false => exact ih (bc + 1) (lt_of_not_boundary bytes bc h ht)

theorem skip_loop1_eq (bytes : List Nat) (bc : Nat) (hb : ∀ b ∈ bytes, b < 256) :
    Extracted.Parser.skip.loop1 bytes bc
      = if Utf8.isCharBoundaryBytes bytes bc = true then Ctl.exit (.brk bc) else Rs.uadd 64 bc 1 := by
  simp only [Extracted.Parser.skip.loop1, is_char_boundary_bytes_eq _ _ hb, rs_eval]
  cases Utf8.isCharBoundaryBytes bytes bc <;> rfl

/-- the `while` loop of `skip` from any state `bc ≤ len`: `n` = fuel, `m` = the model's fuel -/
theorem skip_loop (n m : Nat) (bytes : List Nat) (bc : Nat) (hb : ∀ b ∈ bytes, b < 256)
    (hl : bytes.length < 2 ^ 64) (hle : bc ≤ bytes.length)
    (hn : bytes.length < bc + n) (hm : bytes.length < bc + m) :
    Rs.loop (ε := Extracted.Parser) n (Extracted.Parser.skip.loop1 bytes) bc
      = Ctl.val (Konst.Parser.skipUp bytes m bc) := by
  induction n generalizing bc m with
  | zero => exact absurd hn (Nat.not_lt.2 hle)
  | succ n ih =>
    cases m with
    | zero => exact absurd hm (Nat.not_lt.2 hle)
    | succ m =>
      rw [Rs.loop_succ, Konst.Parser.skipUp, skip_loop1_eq bytes bc hb]
      cases ht : Utf8.isCharBoundaryBytes bytes bc with
      | true => rfl
      | false =>
        have hlt := lt_of_not_boundary bytes bc hle ht
        rw [if_neg Bool.false_ne_true, if_neg Bool.false_ne_true, Rs.uadd_ok (Nat.lt_of_le_of_lt hlt hl)]
        exact ih (bc := bc + 1) (m := m) hlt (Nat.add_right_comm bc 1 n ▸ hn) (Nat.add_right_comm bc 1 m ▸ hm)

/-- `Parser::skip`.  The right-hand side is `.ok` (see `Parser_skip_ok`): the loop stops on a strict char
    boundary `≤ len`, where `str_from` does not panic. -/
theorem Parser_skip_eq (fuel : Nat) (p : Extracted.Parser) (byte_count : Nat)
    (hfit : p.start_offset + p.str.length < 2 ^ 32) (hb : ∀ b ∈ p.str, b < 256)
    (hf : p.str.length - byte_count + 1 ≤ fuel) :
    Extracted.Parser.skip fuel p byte_count
      = resSelf (Konst.Parser.skip (parserToModel p) byte_count) := by
  obtain ⟨d, y, off, s⟩ := p
  unfold Extracted.Parser.skip Konst.Parser.skip
  by_cases hgt : byte_count > s.length
  · simp only [parserToModel, hgt, ↓reduceIte, rs_eval,
      offset_add off s.length _ hfit (Nat.le_refl _), str_from_eq _ _ hb]
    cases Utf8.strFrom s s.length <;> rfl
  · have hle : byte_count ≤ s.length := Nat.le_of_not_gt hgt
    have hm : s.length < byte_count + (s.length + 1) :=
      Nat.lt_of_lt_of_le (Nat.lt_succ_self _) (Nat.le_add_left _ _)
    simp only [parserToModel, hgt, ↓reduceIte, rs_eval,
      skip_loop fuel (s.length + 1) s byte_count hb (length_lt_of_fit hfit) hle ((Nat.sub_lt_iff_lt_add' hle).mp hf) hm,
      offset_add off s.length _ hfit (skipUp_le s _ _ hle), str_from_eq _ _ hb]
    cases Utf8.strFrom s (Konst.Parser.skipUp s (s.length + 1) byte_count) <;> rfl

example : Extracted.Parser.skip 4 ⟨.FromEnd, false, 5, [0x41, 0xE2, 0x82, 0xAC, 0x42]⟩ 2
    = .ok ⟨.FromStart, false, 9, [0x42]⟩ := by
  decide +kernel
example : Extracted.Parser.skip 1 ⟨.FromEnd, false, 5, [0x41, 0xE2, 0x82, 0xAC, 0x42]⟩ 9
    = .ok ⟨.FromStart, false, 10, []⟩ := by
  decide +kernel

theorem skipUp_boundary (bytes : List Nat) (m bc : Nat) (h : bc ≤ bytes.length)
    (hm : bytes.length - bc + 1 ≤ m) :
    Utf8.isCharBoundaryBytes bytes (Konst.Parser.skipUp bytes m bc) = true :=
  (Lemmas.Parser.skipUp_spec bytes m bc h hm).2

/-- `Parser::skip` never panics (on any bytes `< 256`, valid UTF-8 or not): the model's result is `.ok` -/
theorem skip_model_ok (q : Konst.Parser.Parser) (byteCount : Nat) :
    ∃ q', Konst.Parser.skip q byteCount = .ok q' .unit :=
  ⟨_, Lemmas.Parser.skip_eq q byteCount⟩

theorem Parser_skip_ok (fuel : Nat) (p : Extracted.Parser) (byte_count : Nat)
    (hfit : p.start_offset + p.str.length < 2 ^ 32) (hb : ∀ b ∈ p.str, b < 256)
    (hf : p.str.length - byte_count + 1 ≤ fuel) :
    ∃ q', Konst.Parser.skip (parserToModel p) byte_count = .ok q' .unit ∧
      Extracted.Parser.skip fuel p byte_count = .ok (parserOfModel q') := by
  obtain ⟨q', hq⟩ := skip_model_ok (parserToModel p) byte_count
  exact ⟨q', hq, by rw [Parser_skip_eq fuel p byte_count hfit hb hf, hq]; rfl⟩

theorem skip_back_loop1_eq (bytes : List Nat) (pos : Nat) (hb : ∀ b ∈ bytes, b < 256) :
    Extracted.Parser.skip_back.loop1 bytes pos
      = if Utf8.isCharBoundaryBytes bytes pos = true then Ctl.exit (.brk pos) else Rs.usub 64 pos 1 := by
  simp only [Extracted.Parser.skip_back.loop1, is_char_boundary_bytes_eq _ _ hb, rs_eval]
  cases Utf8.isCharBoundaryBytes bytes pos <;> rfl

/-- the `while` loop of `skip_back` from any state `pos`: it breaks at the model's position, and panics
    (`pos -= 1` at `pos == 0`) exactly when the model's loop returns `none` -/
theorem skip_back_loop (n : Nat) (bytes : List Nat) (pos : Nat) (hb : ∀ b ∈ bytes, b < 256)
    (hn : pos + 1 ≤ n) :
    Rs.loop (ε := Extracted.Parser) n (Extracted.Parser.skip_back.loop1 bytes) pos
      = (Konst.Parser.skipDown bytes pos).elim Ctl.panic Ctl.val := by
  induction n generalizing pos with
  | zero => exact absurd hn (Nat.not_succ_le_zero pos)
  | succ n ih =>
    rw [Rs.loop_succ, skip_back_loop1_eq bytes pos hb]
    cases pos with
    | zero =>
      rw [Konst.Parser.skipDown]
      cases Utf8.isCharBoundaryBytes bytes 0 <;> rfl
    | succ pos =>
      rw [Konst.Parser.skipDown]
      cases Utf8.isCharBoundaryBytes bytes (pos + 1) with
      | true => rfl
      | false => exact ih pos (Nat.le_of_succ_le_succ hn)

/-- `Parser::skip_back`: the code panics (arithmetic underflow of `pos -= 1` at `pos == 0`) exactly when the
    model does, i.e. when `skipDown` finds no strict char boundary at or below `len - byte_count`
    (`Parser_skip_back_panic_iff`); impossible when `str` starts with a non-continuation byte.
    `start_offset` is untouched: no bound on the offsets is needed. -/
theorem Parser_skip_back_eq (fuel : Nat) (p : Extracted.Parser) (byte_count : Nat)
    (hb : ∀ b ∈ p.str, b < 256) (hf : p.str.length - byte_count + 1 ≤ fuel) :
    Extracted.Parser.skip_back fuel p byte_count
      = resSelf (Konst.Parser.skipBack (parserToModel p) byte_count) := by
  obtain ⟨d, y, off, s⟩ := p
  unfold Extracted.Parser.skip_back Konst.Parser.skipBack Rs.uSaturatingSub
  simp only [parserToModel]
  rw [skip_back_loop fuel s (s.length - byte_count) hb hf]
  cases Konst.Parser.skipDown s (s.length - byte_count) with
  | none => rfl
  | some k =>
    simp only [Option.elim, rs_eval, str_up_to_eq _ _ hb]
    cases Utf8.strUpTo s k <;> rfl

example : Extracted.Parser.skip_back 4 ⟨.FromStart, false, 5, [0x41, 0xE2, 0x82, 0xAC, 0x42]⟩ 2
    = .ok ⟨.FromEnd, false, 5, [0x41]⟩ := by
  decide +kernel
example : Extracted.Parser.skip_back 2 ⟨.FromStart, false, 5, [0x82, 0xAC, 0x42]⟩ 2 = .panic := by
  decide +kernel

theorem skipDown_boundary (bytes : List Nat) (pos k : Nat) (h : Konst.Parser.skipDown bytes pos = some k) :
    Utf8.isCharBoundaryBytes bytes k = true := by
  induction pos with
  | zero =>
    by_cases ht : Utf8.isCharBoundaryBytes bytes 0 = true
    · simp only [Konst.Parser.skipDown, ht, ↓reduceIte, Option.some.injEq] at h; subst h; exact ht
    · simp [Konst.Parser.skipDown, ht] at h
  | succ pos ih =>
    by_cases ht : Utf8.isCharBoundaryBytes bytes (pos + 1) = true
    · simp only [Konst.Parser.skipDown, ht, ↓reduceIte, Option.some.injEq] at h; subst h; exact ht
    · simp only [Konst.Parser.skipDown, ht, Bool.false_eq_true, ↓reduceIte] at h; exact ih h

theorem Parser_skip_back_panic_iff (fuel : Nat) (p : Extracted.Parser) (byte_count : Nat)
    (hb : ∀ b ∈ p.str, b < 256) (hf : p.str.length - byte_count + 1 ≤ fuel) :
    Extracted.Parser.skip_back fuel p byte_count = .panic
      ↔ Konst.Parser.skipDown p.str (p.str.length - byte_count) = none := by
  rw [Parser_skip_back_eq fuel p byte_count hb hf]
  unfold Konst.Parser.skipBack
  simp only [parserToModel]
  cases hr : Konst.Parser.skipDown p.str (p.str.length - byte_count) with
  | none => simp
  | some k =>
    have hk := forgiving_of_strict _ _ (skipDown_boundary _ _ _ hr)
    simp [Utf8.strUpTo, hk]

/-! ### the shapes `resSelf`/`resResult` are applied to

  None of the junk cases of `resSelf`/`resResult` (mapped to `ub`) occurs on the right-hand sides above:
  the `Self`-returning models return `.ok _ .unit` (`skip_back`: or `.panic`, `Parser_skip_back_panic_iff`;
  `skip`: `skip_model_ok`), the `Result`-returning ones `.ok _ .unit` or `.err _`, never `.panic`. -/

theorem trim_model_ok (q : Konst.Parser.Parser) : ∃ q', Konst.Parser.trim q = .ok q' .unit := ⟨_, rfl⟩
theorem trimStart_model_ok (q : Konst.Parser.Parser) : ∃ q', Konst.Parser.trimStart q = .ok q' .unit :=
  ⟨_, rfl⟩
theorem trimEnd_model_ok (q : Konst.Parser.Parser) : ∃ q', Konst.Parser.trimEnd q = .ok q' .unit := ⟨_, rfl⟩
theorem trimMatches_model_ok (q : Konst.Parser.Parser) (n : List Nat) :
    ∃ q', Konst.Parser.trimMatches q n = .ok q' .unit := ⟨_, rfl⟩
theorem trimStartMatches_model_ok (q : Konst.Parser.Parser) (n : List Nat) :
    ∃ q', Konst.Parser.trimStartMatches q n = .ok q' .unit := ⟨_, rfl⟩
theorem trimEndMatches_model_ok (q : Konst.Parser.Parser) (n : List Nat) :
    ∃ q', Konst.Parser.trimEndMatches q n = .ok q' .unit := ⟨_, rfl⟩

def IsResult (r : Konst.Parser.Res) : Prop := (∃ q', r = .ok q' .unit) ∨ (∃ e, r = .err e)

theorem stripPrefix_model_shape (q : Konst.Parser.Parser) (m : List Nat) :
    IsResult (Konst.Parser.stripPrefix q m) := by
  unfold Konst.Parser.stripPrefix Konst.Parser.tryParsing
  cases h : StrFns.stripPrefix q.str m <;> simp [IsResult, h]

theorem stripSuffix_model_shape (q : Konst.Parser.Parser) (m : List Nat) :
    IsResult (Konst.Parser.stripSuffix q m) := by
  unfold Konst.Parser.stripSuffix Konst.Parser.tryParsing
  cases h : StrFns.stripSuffix q.str m <;> simp [IsResult, h]

theorem findSkip_model_shape (q : Konst.Parser.Parser) (n : List Nat) :
    IsResult (Konst.Parser.findSkip q n) := by
  unfold Konst.Parser.findSkip Konst.Parser.tryParsing
  cases h : StrFns.findSkip q.str n <;> simp [IsResult, h]

theorem rfindSkip_model_shape (q : Konst.Parser.Parser) (n : List Nat) :
    IsResult (Konst.Parser.rfindSkip q n) := by
  unfold Konst.Parser.rfindSkip Konst.Parser.tryParsing
  cases h : StrFns.rfindSkip q.str n <;> simp [IsResult, h]

end Extracted.Equiv
