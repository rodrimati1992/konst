import KonstVerif.Extracted.Gen.Bytes
import KonstVerif.Extracted.Equiv.Slice
import KonstVerif.Model.Bytes
import KonstVerif.Rs.LoopLemmas
/-
  Extracted = Model, for the byte-slice search functions (C04/C05).
-/
namespace Extracted.Equiv
open Rs Konst Konst.Bytes

theorem strip_prefix_loop1_cons (lb rb : Nat) (l p : List Nat) :
    Extracted.bytes_strip_prefix.loop1 (lb :: l, rb :: p) =
      if lb = rb then .val (l, p) else .exit (.out none) := by
  by_cases h : lb = rb <;> simp [Extracted.bytes_strip_prefix.loop1, h]

theorem strip_prefix_loop (fuel : Nat) (left pre : List Nat) (hf : pre.length < fuel) :
    exitOrFst none (stripPrefixLoop left pre)
      (Rs.loop fuel Extracted.bytes_strip_prefix.loop1 (left, pre)) := by
  induction fuel generalizing left pre with
  | zero => cases hf
  | succ n ih =>
    rw [Rs.loop_succ]
    cases left with
    | nil => cases pre <;> exact ⟨_, rfl⟩
    | cons lb l =>
      cases pre with
      | nil => exact ⟨_, rfl⟩
      | cons rb p =>
        rw [strip_prefix_loop1_cons, stripPrefixLoop]
        by_cases h : lb = rb
        · rw [if_pos h, if_neg (by simp [h])]
          exact ih l p (Nat.lt_of_succ_lt_succ hf)
        · rw [if_neg h, if_pos (by simp [h])]
          rfl

theorem bytes_strip_prefix_eq (fuel : Nat) (left pre : List Nat) (hf : pre.length + 1 ≤ fuel) :
    Extracted.bytes_strip_prefix fuel left pre = .ok (stripPrefixL left pre) := by
  unfold Extracted.bytes_strip_prefix stripPrefixL
  by_cases hlen : left.length < pre.length
  · simp only [hlen, ↓reduceIte, rs_eval]
  · simp only [hlen, ↓reduceIte, rs_eval]
    rw [(strip_prefix_loop fuel left pre hf).bind_eq _ (fun l => .val (some l)) fun _ _ => rfl]
    cases stripPrefixLoop left pre <;> rfl

/-- `matches!(r, Some(_))` on the result of a call -/
theorem call_isSome {α : Type} {r : Res (Option α)} {o : Option α} (h : r = .ok o)
    (k : Option α → Ctl Bool Bool) (hs : ∀ a, k (some a) = .val true) (hn : k none = .val false) :
    Ctl.run (ρ := Bool) (do let t ← Ctl.call r; let b ← k t; pure b) = .ok o.isSome := by
  subst h
  cases o with
  | none => simp only [rs_eval, hn]; rfl
  | some a => simp only [rs_eval, hs]; rfl

theorem bytes_start_with_eq (fuel : Nat) (left pat : List Nat) (hf : pat.length + 1 ≤ fuel) :
    Extracted.bytes_start_with fuel left pat = .ok (startsWith left pat) :=
  call_isSome (bytes_strip_prefix_eq fuel left pat hf) _ (fun _ => rfl) rfl

theorem find_loop1_eq (F : Nat) (left pat : List Nat) (i : Nat) (hF : pat.length + 1 ≤ F)
    (hb : left.length + pat.length + 1 < 2 ^ 64) (hi : i ≤ left.length + 1) :
    Extracted.bytes_find.loop1 F pat left i =
      if i + pat.length ≤ left.length then
        if startsWith (sliceFromL left i) pat then .exit (.out (some i)) else .val (i + 1)
      else .exit (.brk i) := by
  have hadd := Nat.lt_of_le_of_lt (Nat.add_le_add_right hi pat.length) (Nat.add_right_comm .. ▸ hb)
  rw [sliceFromL]
  by_cases hc : i + pat.length ≤ left.length
  · have h1 := Nat.lt_of_le_of_lt
      (Nat.succ_le_succ (Nat.le_trans (Nat.le_trans (Nat.le_add_right i _) hc) (Nat.le_add_right _ _))) hb
    simp only [Extracted.bytes_find.loop1, rs_eval, hadd, hc, ↓reduceIte, slice_from_eq,
      bytes_start_with_eq F _ pat hF, h1]
    cases startsWith ((Slice.sliceFrom left.length i).apply left) pat <;> rfl
  · simp only [Extracted.bytes_find.loop1, rs_eval, hadd, hc, ↓reduceIte]

/-- the `while i + pattern.len() <= left.len()` loop of `__bytes_find`, with the `None` that follows it
    (`F` = fuel handed to callees, `n` = fuel of the loop, `m` = fuel of the model's loop) -/
theorem find_loop (F : Nat) (left pat : List Nat) (hF : pat.length + 1 ≤ F)
    (hb : left.length + pat.length + 1 < 2 ^ 64)
    (n m i : Nat) (hn : left.length + 1 < i + n) (hm : left.length < i + m) (hi : i ≤ left.length + 1) :
    Ctl.run ((Rs.loop n (Extracted.bytes_find.loop1 F pat left) i).bind fun _ => .val none) =
      .ok (findLoop left pat m i) := by
  induction n generalizing i m with
  | zero => exact absurd hi (Nat.not_le_of_lt hn)
  | succ n ih =>
    rw [Rs.loop_succ, find_loop1_eq F left pat i hF hb hi]
    by_cases hc : i + pat.length ≤ left.length
    · have hlt : i ≤ left.length := Nat.le_trans (Nat.le_add_right i _) hc
      cases m with
      | zero => exact absurd hlt (Nat.not_le_of_lt hm)
      | succ m =>
        rw [findLoop, if_pos hc, if_pos hc]
        by_cases hs : startsWith (sliceFromL left i) pat = true
        · rw [if_pos hs, if_pos hs]
          rfl
        · rw [if_neg hs, if_neg hs]
          rw [← Nat.succ_add_eq_add_succ i] at hn hm
          exact ih m (i + 1) hn hm (Nat.succ_le_succ hlt)
    · rw [if_neg hc]
      cases m with
      | zero => rfl
      | succ m =>
        rw [findLoop, if_neg hc]
        rfl

theorem bytes_find_eq (fuel : Nat) (left pat : List Nat)
    (hb : left.length + pat.length + 1 < 2 ^ 64) (hf : left.length + pat.length + 2 ≤ fuel) :
    Extracted.bytes_find fuel left pat = .ok (bytesFind left pat) :=
  find_loop fuel left pat (by omega) hb fuel (left.length + 1) 0 (by omega) (by omega) (Nat.zero_le _)

end Extracted.Equiv
