import KonstVerif.Extracted.Gen.Array
import KonstVerif.Model.ArrayBuilder
import KonstVerif.Model.ArrayConsumer
import KonstVerif.Lemmas.ArrayBuilder
import KonstVerif.Lemmas.ArrayConsumer
import KonstVerif.Lemmas.ArrayHistories
/-
  Extracted = Model/ArrayBuilder.lean, Model/ArrayConsumer.lean, group `Array`:
  konst::array::ArrayBuilder::{new, len, is_full, as_slice, push, build} and
  konst::array::ArrayConsumer::{new, empty, is_empty, slice_len, assert_is_empty, as_slice, next, next_back}.

  Conversion maps.  The generated structures carry `N` as a type index and hold `array`, `inited` /
  `taken_front`, `taken_back`; the model structures store `n` as a field.  `X.toModel` sets `n := N` and
  copies the fields; `X.ofModel N` forgets `n` (`toModel (ofModel N m) = m` iff `m.n = N`,
  `ofModel N (toModel x) = x` always).  `&mut self` methods return `(result, self)`; the model returns an
  outcome type holding the next state: `pushRes`, `takeRes` translate the outcome constructor by constructor
  (`ub ↦ .ub`, `panic ↦ .panic`), `optUb` reads a model `Option` whose `none` is "a never-written slot was
  read" as `.ub`, `buildRes` translates `BuildRes`.

  Shape of the statements, per function:

  * `<f>_res`: `Extracted.f … = <conversion> (model f (toModel …))` — the generated code is `ub` EXACTLY when
    the model says `ub`/`none`, panics exactly when the model says `panic`, and otherwise returns the model's
    value and the model's next state.  Hypotheses are only *type* facts the list representation loses
    (`array.length = N`: the field is a `[MaybeUninit<T>; N]`), the machine bound `N < 2^64` (for the checked
    `+= 1`), and, where the model totalises something the code checks, the corresponding part of the structure
    invariant, stated explicitly:
      - `taken_front + taken_back ≤ N` for the consumer functions: the code computes
        `N - taken_front - taken_back` in checked `usize` arithmetic (panic on underflow), the model in
        truncated `Nat` subtraction (Model/ArrayConsumer.lean says so in its header).  For `is_empty` and
        `slice_len` the `_res` theorem is unconditional and states the panic branch exactly.
      - `ArrayBuilder::as_slice`: `from_raw_parts(ptr, inited)` past the array (`inited > array.length`) is
        `ub` in the generated code; the model's `take` silently clips.  The `_res` theorem is unconditional
        and states that `ub` branch exactly.
  * `<f>_eq` / `<f>_wf` / `<f>_nil`: under the structure invariant the property theorems use —
    `Konst.ArrayBuilder.Wf (toModel b) acc` (Lemmas/ArrayBuilder.lean: `inited = acc.length ≤ n`,
    `slots = acc.map some ++ replicate (n - inited) none`) and `Konst.ArrayConsumer.Wf (toModel c) rem`
    (Lemmas/ArrayConsumer.lean: `slots = pre ++ rem.map some ++ post` with `|pre| = taken_front`,
    `|post| = taken_back`, `n = |pre| + |rem| + |post|`) — the conclusion is `= .ok …` with the model's value / next
    state, the model's outcome is given explicitly, and the invariant holds of the next state (citing `wf_push_ok`,
    `wf_next_cons`, `wf_nextBack_snoc`); `_nil` is `next` / `next_back` on an empty consumer.  Where the name `_eq`
    was taken by an intermediate form (`new`, `empty`: the `rfl` equation; `slice_len`, `is_empty`: the `_res`
    theorem under `taken_front + taken_back ≤ N` alone) the invariant version is called `_wf`.
  * `<f>_panic`: the by-design panics (push on a full builder, build on a non-full one, assert_is_empty on a
    non-empty consumer) are `= .panic` exactly there, matching the model's `panic` constructor.
-/
namespace Extracted.Equiv
open Rs Konst

/-- model `Option` whose `none` is "an uninitialised slot was read" as a `Res` -/
def optUb {α : Type} : Option α → Res α
  | some a => .ok a
  | none => .ub

@[simp] theorem arr_run_ub {ρ : Type} : Ctl.run (.ub : Ctl ρ ρ) = .ub := rfl

theorem arr_decide_eq_beq (a b : Nat) : decide (a = b) = (a == b) := by
  by_cases h : a = b <;> simp [h]

/-- `readInit` (model, recursive) is the prelude's "all slots initialised, then strip the `some`s" -/
theorem readInit_eq_filterMap {α : Type} (l : List (Option α)) :
    Konst.ArrayBuilder.readInit l = if l.all Option.isSome = true then some (l.filterMap id) else none := by
  induction l with
  | nil => simp [Konst.ArrayBuilder.readInit]
  | cons o r ih =>
    cases o with
    | none => simp [Konst.ArrayBuilder.readInit]
    | some v =>
      by_cases h : r.all Option.isSome = true
      · simp only [h, ↓reduceIte] at ih
        simp [Konst.ArrayBuilder.readInit, ih, h]
      · simp only [h] at ih
        simp [Konst.ArrayBuilder.readInit, ih, h]

/-! ### `ArrayBuilder` -/

def ArrayBuilder.toModel {T : Type} {N : Nat} (b : Extracted.ArrayBuilder T N) : Konst.ArrayBuilder.Builder T :=
  ⟨N, b.array, b.inited⟩
def ArrayBuilder.ofModel {T : Type} (N : Nat) (b : Konst.ArrayBuilder.Builder T) : Extracted.ArrayBuilder T N :=
  ⟨b.slots, b.inited⟩

@[simp] theorem ArrayBuilder.ofModel_toModel {T : Type} {N : Nat} (b : Extracted.ArrayBuilder T N) :
    ArrayBuilder.ofModel N (ArrayBuilder.toModel b) = b := rfl
theorem ArrayBuilder.toModel_ofModel {T : Type} (b : Konst.ArrayBuilder.Builder T) :
    ArrayBuilder.toModel (ArrayBuilder.ofModel b.n b) = b := rfl
@[simp] theorem ArrayBuilder.toModel_n {T : Type} {N : Nat} (b : Extracted.ArrayBuilder T N) :
    (ArrayBuilder.toModel b).n = N := rfl

def pushRes {T : Type} (N : Nat) : Konst.ArrayBuilder.PushRes T → Res (Unit × Extracted.ArrayBuilder T N)
  | .ok b => .ok ((), ArrayBuilder.ofModel N b)
  | .panic => .panic

def buildRes {T : Type} : Konst.ArrayBuilder.BuildRes T → Res (List T)
  | .array l => .ok l
  | .panic => .panic
  | .ub => .ub

theorem ArrayBuilder.wf_fields {T : Type} {N : Nat} {b : Extracted.ArrayBuilder T N} {acc : List T}
    (h : Konst.ArrayBuilder.Wf (ArrayBuilder.toModel b) acc) :
    b.array.length = N ∧ b.inited = acc.length ∧ acc.length ≤ N := by
  obtain ⟨hle, hi, hs⟩ := h
  simp only [ArrayBuilder.toModel] at hle hi hs
  refine ⟨?_, hi, hle⟩
  rw [hs]; simp; omega

theorem ArrayBuilder_new_eq {T : Type} (N : Nat) :
    (Extracted.ArrayBuilder.new N : Res (Extracted.ArrayBuilder T N))
      = .ok (ArrayBuilder.ofModel N (Konst.ArrayBuilder.new N)) := rfl

theorem ArrayBuilder_new_wf {T : Type} (N : Nat) :
    ∃ b : Extracted.ArrayBuilder T N, Extracted.ArrayBuilder.new N = .ok b
      ∧ ArrayBuilder.toModel b = Konst.ArrayBuilder.new N ∧ Konst.ArrayBuilder.Wf (ArrayBuilder.toModel b) [] :=
  ⟨_, rfl, rfl, Konst.ArrayBuilder.wf_new N⟩

example : (Extracted.ArrayBuilder.new 2 : Res (Extracted.ArrayBuilder Nat 2)) = .ok ⟨[none, none], 0⟩ := by
  rw [ArrayBuilder_new_eq]; rfl

theorem ArrayBuilder_fn_len_eq {T : Type} (N : Nat) (b : Extracted.ArrayBuilder T N) :
    Extracted.ArrayBuilder.fn_len N b = .ok (Konst.ArrayBuilder.len (ArrayBuilder.toModel b)) := rfl

example : Extracted.ArrayBuilder.fn_len 2 (⟨[some 7, none], 1⟩ : Extracted.ArrayBuilder Nat 2) = .ok 1 := by
  rw [ArrayBuilder_fn_len_eq]; rfl

theorem ArrayBuilder_is_full_eq {T : Type} (N : Nat) (b : Extracted.ArrayBuilder T N) :
    Extracted.ArrayBuilder.is_full N b = .ok (Konst.ArrayBuilder.isFull (ArrayBuilder.toModel b)) := by
  unfold Extracted.ArrayBuilder.is_full Konst.ArrayBuilder.isFull ArrayBuilder.toModel
  by_cases h : b.inited = N <;> simp [h]

example : Extracted.ArrayBuilder.is_full 2 (⟨[some 7, none], 1⟩ : Extracted.ArrayBuilder Nat 2) = .ok false := by
  rw [ArrayBuilder_is_full_eq]; rfl

/-- `as_slice`, unconditionally: `ub` exactly when the model's read hits a never-written slot, or when
    `inited > array.length` (`from_raw_parts` past the array; the model's `take` clips there — outside the
    invariant, which has `inited ≤ N = array.length`). -/
theorem ArrayBuilder_as_slice_res {T : Type} (N : Nat) (b : Extracted.ArrayBuilder T N) :
    Extracted.ArrayBuilder.as_slice N b
      = if b.inited ≤ b.array.length then optUb (Konst.ArrayBuilder.asSlice (ArrayBuilder.toModel b))
        else .ub := by
  unfold Extracted.ArrayBuilder.as_slice Konst.ArrayBuilder.asSlice ArrayBuilder.toModel
  simp only [Rs.rawPartsInit, readInit_eq_filterMap, List.drop_zero, Nat.zero_add]
  by_cases hi : b.inited ≤ b.array.length
  · by_cases h : (b.array.take b.inited).all Option.isSome = true <;> simp [h, hi, optUb]
  · simp [hi]

theorem ArrayBuilder_as_slice_eq {T : Type} (N : Nat) (b : Extracted.ArrayBuilder T N) (acc : List T)
    (h : Konst.ArrayBuilder.Wf (ArrayBuilder.toModel b) acc) :
    Extracted.ArrayBuilder.as_slice N b = .ok acc
      ∧ Konst.ArrayBuilder.asSlice (ArrayBuilder.toModel b) = some acc := by
  obtain ⟨hl, hi, hle⟩ := ArrayBuilder.wf_fields h
  have hi' : b.inited ≤ b.array.length := by omega
  rw [ArrayBuilder_as_slice_res N b, Konst.ArrayBuilder.wf_asSlice h]
  simp [hi', optUb]

example : Extracted.ArrayBuilder.as_slice 3 (⟨[some 7, some 8, none], 2⟩ : Extracted.ArrayBuilder Nat 3)
    = .ok [7, 8] := by
  rw [ArrayBuilder_as_slice_res]; rfl
example : Extracted.ArrayBuilder.as_slice 3 (⟨[some 7, none, none], 2⟩ : Extracted.ArrayBuilder Nat 3)
    = .ub := by
  rw [ArrayBuilder_as_slice_res]; rfl

example : Extracted.ArrayBuilder.as_slice 1 (⟨[some 7], 2⟩ : Extracted.ArrayBuilder Nat 1) = .ub := by
  rw [ArrayBuilder_as_slice_res]; rfl

/-- `array.length = N` is the type of the field; `N < 2^64` keeps the checked `inited += 1` from overflowing. -/
theorem ArrayBuilder_push_res {T : Type} (N : Nat) (b : Extracted.ArrayBuilder T N) (v : T)
    (hN : N < 2 ^ 64) (hlen : b.array.length = N) :
    Extracted.ArrayBuilder.push N b v = pushRes N (Konst.ArrayBuilder.push (ArrayBuilder.toModel b) v) := by
  unfold Extracted.ArrayBuilder.push Konst.ArrayBuilder.push ArrayBuilder.toModel
  by_cases h : b.inited < N
  · have h1 : b.inited < b.array.length := by omega
    have h2 : b.inited + 1 < 2 ^ 64 := by omega
    simp [h, h1, h2, Rs.setIndex, Rs.uadd, pushRes, ArrayBuilder.ofModel]
  · simp [h, pushRes]

theorem ArrayBuilder_push_eq {T : Type} (N : Nat) (b : Extracted.ArrayBuilder T N) (v : T) (acc : List T)
    (hN : N < 2 ^ 64) (h : Konst.ArrayBuilder.Wf (ArrayBuilder.toModel b) acc) (hlt : acc.length < N) :
    ∃ b' : Extracted.ArrayBuilder T N,
      Extracted.ArrayBuilder.push N b v = .ok ((), b')
        ∧ Konst.ArrayBuilder.push (ArrayBuilder.toModel b) v = .ok (ArrayBuilder.toModel b')
        ∧ Konst.ArrayBuilder.Wf (ArrayBuilder.toModel b') (acc ++ [v]) := by
  obtain ⟨hl, hi, hle⟩ := ArrayBuilder.wf_fields h
  obtain ⟨m, hp, hw, hn⟩ := Konst.ArrayBuilder.wf_push_ok h v hlt
  have hn' : m.n = N := hn
  refine ⟨ArrayBuilder.ofModel N m, ?_, ?_, ?_⟩
  · rw [ArrayBuilder_push_res N b v hN hl, hp]; rfl
  · rw [hp, ← hn']; rfl
  · rw [← hn']; exact hw

/-- the by-design panic `assert!(self.inited < N)` -/
theorem ArrayBuilder_push_panic {T : Type} (N : Nat) (b : Extracted.ArrayBuilder T N) (v : T) (acc : List T)
    (h : Konst.ArrayBuilder.Wf (ArrayBuilder.toModel b) acc) (hfull : acc.length = N) :
    Extracted.ArrayBuilder.push N b v = .panic
      ∧ Konst.ArrayBuilder.push (ArrayBuilder.toModel b) v = .panic := by
  obtain ⟨hl, hi, hle⟩ := ArrayBuilder.wf_fields h
  refine ⟨?_, Konst.ArrayBuilder.wf_push_full h v hfull⟩
  unfold Extracted.ArrayBuilder.push
  have : ¬ b.inited < N := by omega
  simp [this]

example : Extracted.ArrayBuilder.push 2 (⟨[some 7, none], 1⟩ : Extracted.ArrayBuilder Nat 2) 9
    = .ok ((), ⟨[some 7, some 9], 2⟩) := by
  rw [ArrayBuilder_push_res _ _ _ (by decide) (by decide)]; rfl
example : Extracted.ArrayBuilder.push 2 (⟨[some 7, some 9], 2⟩ : Extracted.ArrayBuilder Nat 2) 5 = .panic := by
  rw [ArrayBuilder_push_res _ _ _ (by decide) (by decide)]; rfl

/-- `ub` is the whole-array read hitting a never-written slot.  Only the type fact `array.length = N` is assumed. -/
theorem ArrayBuilder_build_res {T : Type} (N : Nat) (b : Extracted.ArrayBuilder T N)
    (hlen : b.array.length = N) :
    Extracted.ArrayBuilder.build N b = buildRes (Konst.ArrayBuilder.build (ArrayBuilder.toModel b)) := by
  unfold Extracted.ArrayBuilder.build Konst.ArrayBuilder.build
  rw [ArrayBuilder_is_full_eq]
  unfold ArrayBuilder.toModel
  by_cases hf : Konst.ArrayBuilder.isFull
      ({ n := N, slots := b.array, inited := b.inited } : Konst.ArrayBuilder.Builder T) = true
  · simp only [hf, Ctl.call_ok, Ctl.bind_eq, Ctl.bind_val, Bool.not_true, Bool.false_eq_true, ↓reduceIte,
      Ctl.pure_eq, Rs.assumeInitArray, readInit_eq_filterMap, hlen, true_and]
    by_cases h : b.array.all Option.isSome = true <;> simp [h, buildRes, Ctl.run]
  · simp [hf, buildRes]

theorem ArrayBuilder_build_eq {T : Type} (N : Nat) (b : Extracted.ArrayBuilder T N) (acc : List T)
    (h : Konst.ArrayBuilder.Wf (ArrayBuilder.toModel b) acc) (hfull : acc.length = N) :
    Extracted.ArrayBuilder.build N b = .ok acc
      ∧ Konst.ArrayBuilder.build (ArrayBuilder.toModel b) = .array acc := by
  obtain ⟨hl, hi, hle⟩ := ArrayBuilder.wf_fields h
  have hb : Konst.ArrayBuilder.build (ArrayBuilder.toModel b) = .array acc := by
    rw [Konst.ArrayBuilder.wf_build h]; simp [hfull]
  rw [ArrayBuilder_build_res N b hl, hb]
  exact ⟨rfl, rfl⟩

/-- the by-design panic `assert!(self.is_full())` -/
theorem ArrayBuilder_build_panic {T : Type} (N : Nat) (b : Extracted.ArrayBuilder T N) (acc : List T)
    (h : Konst.ArrayBuilder.Wf (ArrayBuilder.toModel b) acc) (hlt : acc.length < N) :
    Extracted.ArrayBuilder.build N b = .panic
      ∧ Konst.ArrayBuilder.build (ArrayBuilder.toModel b) = .panic := by
  obtain ⟨hl, hi, hle⟩ := ArrayBuilder.wf_fields h
  have hne : ¬ acc.length = N := by omega
  have hb : Konst.ArrayBuilder.build (ArrayBuilder.toModel b) = .panic := by
    rw [Konst.ArrayBuilder.wf_build h]; simp [hne]
  rw [ArrayBuilder_build_res N b hl, hb]
  exact ⟨rfl, rfl⟩

example : Extracted.ArrayBuilder.build 2 (⟨[some 7, some 9], 2⟩ : Extracted.ArrayBuilder Nat 2) = .ok [7, 9] := by
  rw [ArrayBuilder_build_res _ _ (by decide)]; rfl
example : Extracted.ArrayBuilder.build 2 (⟨[some 7, none], 1⟩ : Extracted.ArrayBuilder Nat 2) = .panic := by
  rw [ArrayBuilder_build_res _ _ (by decide)]; rfl
example : Extracted.ArrayBuilder.build 2 (⟨[some 7, none], 2⟩ : Extracted.ArrayBuilder Nat 2) = .ub := by
  rw [ArrayBuilder_build_res _ _ (by decide)]; rfl

/-! ### `ArrayConsumer` -/

def ArrayConsumer.toModel {T : Type} {N : Nat} (c : Extracted.ArrayConsumer T N) : Konst.ArrayConsumer.Consumer T :=
  ⟨N, c.array, c.taken_front, c.taken_back⟩
def ArrayConsumer.ofModel {T : Type} (N : Nat) (c : Konst.ArrayConsumer.Consumer T) : Extracted.ArrayConsumer T N :=
  ⟨c.slots, c.takenFront, c.takenBack⟩

@[simp] theorem ArrayConsumer.ofModel_toModel {T : Type} {N : Nat} (c : Extracted.ArrayConsumer T N) :
    ArrayConsumer.ofModel N (ArrayConsumer.toModel c) = c := rfl
theorem ArrayConsumer.toModel_ofModel {T : Type} (c : Konst.ArrayConsumer.Consumer T) :
    ArrayConsumer.toModel (ArrayConsumer.ofModel c.n c) = c := rfl
@[simp] theorem ArrayConsumer.toModel_n {T : Type} {N : Nat} (c : Extracted.ArrayConsumer T N) :
    (ArrayConsumer.toModel c).n = N := rfl

/-- on `None` the state is the unchanged `self` (the model's `Take.none` carries no state) -/
def takeRes {T : Type} (N : Nat) (self : Extracted.ArrayConsumer T N) :
    Konst.ArrayConsumer.Take T → Res (Option T × Extracted.ArrayConsumer T N)
  | .none => .ok (none, self)
  | .some v c => .ok (some v, ArrayConsumer.ofModel N c)
  | .ub => .ub

/-- model `finish … .assertEmpty` (`none` = ub, `panicked` = the assert fired) as the `Res ()` of the
    extracted `assert_is_empty` -/
def finalRes {T : Type} : Option (Konst.ArrayConsumer.Final T) → Res Unit
  | none => .ub
  | some f => if f.panicked then .panic else .ok ()

theorem ArrayConsumer.wf_fields {T : Type} {N : Nat} {c : Extracted.ArrayConsumer T N} {rem : List T}
    (h : Konst.ArrayConsumer.Wf (ArrayConsumer.toModel c) rem) :
    c.array.length = N ∧ c.taken_front + c.taken_back + rem.length = N := by
  obtain ⟨pre, post, hs, hp, hq, hn⟩ := h
  simp only [ArrayConsumer.toModel] at hs hp hq hn
  refine ⟨?_, by omega⟩
  rw [hs]; simp; omega

theorem ArrayConsumer_new_eq {T : Type} (N : Nat) (xs : List T) :
    Extracted.ArrayConsumer.new N xs = .ok (ArrayConsumer.ofModel N (Konst.ArrayConsumer.new xs)) := rfl

/-- `array : [T; N]`: `hlen` is the type of the argument -/
theorem ArrayConsumer_new_wf {T : Type} (N : Nat) (xs : List T) (hlen : xs.length = N) :
    ∃ c : Extracted.ArrayConsumer T N, Extracted.ArrayConsumer.new N xs = .ok c
      ∧ ArrayConsumer.toModel c = Konst.ArrayConsumer.new xs
      ∧ Konst.ArrayConsumer.Wf (ArrayConsumer.toModel c) xs := by
  subst hlen
  exact ⟨_, rfl, rfl, Konst.ArrayConsumer.wf_new xs⟩

example : Extracted.ArrayConsumer.new 2 [7, 9] = .ok ⟨[some 7, some 9], 0, 0⟩ := by
  rw [ArrayConsumer_new_eq]; rfl

theorem ArrayConsumer_empty_eq {T : Type} (N : Nat) :
    (Extracted.ArrayConsumer.empty N : Res (Extracted.ArrayConsumer T N))
      = .ok (ArrayConsumer.ofModel N (Konst.ArrayConsumer.empty N)) := rfl

theorem ArrayConsumer_empty_wf {T : Type} (N : Nat) :
    ∃ c : Extracted.ArrayConsumer T N, Extracted.ArrayConsumer.empty N = .ok c
      ∧ ArrayConsumer.toModel c = Konst.ArrayConsumer.empty N
      ∧ Konst.ArrayConsumer.Wf (ArrayConsumer.toModel c) [] :=
  ⟨_, rfl, rfl, Konst.ArrayConsumer.wf_empty N⟩

example : (Extracted.ArrayConsumer.empty 2 : Res (Extracted.ArrayConsumer Nat 2)) = .ok ⟨[none, none], 2, 0⟩ := by
  rw [ArrayConsumer_empty_eq]; rfl

/-- `slice_len`, unconditionally: the checked `N - taken_front - taken_back` panics exactly when
    `taken_front + taken_back > N` (where the model's truncated subtraction gives 0) and is the model's value
    otherwise -/
theorem ArrayConsumer_slice_len_res {T : Type} (N : Nat) (c : Extracted.ArrayConsumer T N) :
    Extracted.ArrayConsumer.slice_len N c
      = if c.taken_front + c.taken_back ≤ N then .ok (Konst.ArrayConsumer.sliceLen (ArrayConsumer.toModel c))
        else .panic := by
  unfold Extracted.ArrayConsumer.slice_len Konst.ArrayConsumer.sliceLen ArrayConsumer.toModel
  by_cases h1 : c.taken_front ≤ N
  · by_cases h2 : c.taken_back ≤ N - c.taken_front
    · have : c.taken_front + c.taken_back ≤ N := by omega
      simp [Rs.usub, h1, h2, this]
    · have : ¬ c.taken_front + c.taken_back ≤ N := by omega
      simp [Rs.usub, h1, h2, this]
  · have : ¬ c.taken_front + c.taken_back ≤ N := by omega
    simp [Rs.usub, h1, this]

theorem ArrayConsumer_slice_len_eq {T : Type} (N : Nat) (c : Extracted.ArrayConsumer T N)
    (hle : c.taken_front + c.taken_back ≤ N) :
    Extracted.ArrayConsumer.slice_len N c = .ok (Konst.ArrayConsumer.sliceLen (ArrayConsumer.toModel c)) := by
  rw [ArrayConsumer_slice_len_res]; simp [hle]

theorem ArrayConsumer_slice_len_wf {T : Type} (N : Nat) (c : Extracted.ArrayConsumer T N) (rem : List T)
    (h : Konst.ArrayConsumer.Wf (ArrayConsumer.toModel c) rem) :
    Extracted.ArrayConsumer.slice_len N c = .ok rem.length := by
  obtain ⟨hl, hs⟩ := ArrayConsumer.wf_fields h
  rw [ArrayConsumer_slice_len_eq N c (by omega), Konst.ArrayConsumer.wf_sliceLen h]

example : Extracted.ArrayConsumer.slice_len 3 (⟨[some 1, some 2, some 3], 1, 1⟩ : Extracted.ArrayConsumer Nat 3)
    = .ok 1 := by
  rw [ArrayConsumer_slice_len_res]; rfl
example : Extracted.ArrayConsumer.slice_len 3 (⟨[some 1, some 2, some 3], 2, 2⟩ : Extracted.ArrayConsumer Nat 3)
    = .panic := by
  rw [ArrayConsumer_slice_len_res]; rfl

/-- `is_empty`, unconditionally (same arithmetic as `slice_len`) -/
theorem ArrayConsumer_is_empty_res {T : Type} (N : Nat) (c : Extracted.ArrayConsumer T N) :
    Extracted.ArrayConsumer.is_empty N c
      = if c.taken_front + c.taken_back ≤ N then .ok (Konst.ArrayConsumer.isEmpty (ArrayConsumer.toModel c))
        else .panic := by
  unfold Extracted.ArrayConsumer.is_empty Konst.ArrayConsumer.isEmpty Konst.ArrayConsumer.sliceLen
    ArrayConsumer.toModel
  by_cases h1 : c.taken_front ≤ N
  · by_cases h2 : c.taken_back ≤ N - c.taken_front
    · have : c.taken_front + c.taken_back ≤ N := by omega
      simp [Rs.usub, h1, h2, this, arr_decide_eq_beq]
    · have : ¬ c.taken_front + c.taken_back ≤ N := by omega
      simp [Rs.usub, h1, h2, this]
  · have : ¬ c.taken_front + c.taken_back ≤ N := by omega
    simp [Rs.usub, h1, this]

theorem ArrayConsumer_is_empty_eq {T : Type} (N : Nat) (c : Extracted.ArrayConsumer T N)
    (hle : c.taken_front + c.taken_back ≤ N) :
    Extracted.ArrayConsumer.is_empty N c = .ok (Konst.ArrayConsumer.isEmpty (ArrayConsumer.toModel c)) := by
  rw [ArrayConsumer_is_empty_res]; simp [hle]

theorem ArrayConsumer_is_empty_wf {T : Type} (N : Nat) (c : Extracted.ArrayConsumer T N) (rem : List T)
    (h : Konst.ArrayConsumer.Wf (ArrayConsumer.toModel c) rem) :
    Extracted.ArrayConsumer.is_empty N c = .ok rem.isEmpty := by
  obtain ⟨hl, hs⟩ := ArrayConsumer.wf_fields h
  rw [ArrayConsumer_is_empty_eq N c (by omega)]
  simp only [Konst.ArrayConsumer.isEmpty, Konst.ArrayConsumer.wf_sliceLen h]
  cases rem <;> simp

example : Extracted.ArrayConsumer.is_empty 3 (⟨[some 1, some 2, some 3], 2, 1⟩ : Extracted.ArrayConsumer Nat 3)
    = .ok true := by
  rw [ArrayConsumer_is_empty_res]; rfl

/-- The generated `Res` has no ledger: what unwinding drops after the assert's panic is the model's
    `finish … .assertEmpty`, see `_eq`. -/
theorem ArrayConsumer_assert_is_empty_res {T : Type} (N : Nat) (c : Extracted.ArrayConsumer T N)
    (hle : c.taken_front + c.taken_back ≤ N) :
    Extracted.ArrayConsumer.assert_is_empty N c
      = if Konst.ArrayConsumer.isEmpty (ArrayConsumer.toModel c) = true then .ok () else .panic := by
  unfold Extracted.ArrayConsumer.assert_is_empty
  rw [ArrayConsumer_is_empty_eq N c hle]
  by_cases h : Konst.ArrayConsumer.isEmpty (ArrayConsumer.toModel c) = true <;> simp [h]

theorem ArrayConsumer_assert_is_empty_eq {T : Type} (N : Nat) (c : Extracted.ArrayConsumer T N) (rem : List T)
    (h : Konst.ArrayConsumer.Wf (ArrayConsumer.toModel c) rem) :
    Extracted.ArrayConsumer.assert_is_empty N c
        = finalRes (Konst.ArrayConsumer.finish (ArrayConsumer.toModel c) .assertEmpty)
      ∧ Konst.ArrayConsumer.finish (ArrayConsumer.toModel c) .assertEmpty
          = some (Konst.Spec.ArrayStd.dqFinish rem .assertEmpty)
      ∧ (rem = [] → Extracted.ArrayConsumer.assert_is_empty N c = .ok ()) := by
  obtain ⟨hl, hs⟩ := ArrayConsumer.wf_fields h
  have hr := ArrayConsumer_assert_is_empty_res N c (by omega)
  have hf := Konst.Histories.cons_finish h .assertEmpty
  have he : Konst.ArrayConsumer.isEmpty (ArrayConsumer.toModel c) = rem.isEmpty := by
    simp only [Konst.ArrayConsumer.isEmpty, Konst.ArrayConsumer.wf_sliceLen h]
    cases rem <;> simp
  rw [he] at hr
  refine ⟨?_, hf, ?_⟩
  · rw [hr, hf]
    cases rem <;> simp [finalRes, Konst.Spec.ArrayStd.dqFinish]
  · intro hnil; rw [hr, hnil]; rfl

/-- the by-design panic: `assert!(self.is_empty())` on a consumer that still owns elements; the model's
    `finish` reports `panicked = true` and the owned elements as dropped by unwinding -/
theorem ArrayConsumer_assert_is_empty_panic {T : Type} (N : Nat) (c : Extracted.ArrayConsumer T N)
    (x : T) (rem : List T) (h : Konst.ArrayConsumer.Wf (ArrayConsumer.toModel c) (x :: rem)) :
    Extracted.ArrayConsumer.assert_is_empty N c = .panic
      ∧ Konst.ArrayConsumer.finish (ArrayConsumer.toModel c) .assertEmpty = some ⟨true, x :: rem, []⟩ := by
  obtain ⟨h1, h2, _⟩ := ArrayConsumer_assert_is_empty_eq N c (x :: rem) h
  rw [h1, h2]
  simp [finalRes, Konst.Spec.ArrayStd.dqFinish]

example : Extracted.ArrayConsumer.assert_is_empty 2 (⟨[some 1, some 2], 1, 1⟩ : Extracted.ArrayConsumer Nat 2)
    = .ok () := by
  rw [ArrayConsumer_assert_is_empty_res _ _ (by decide)]; rfl
example : Extracted.ArrayConsumer.assert_is_empty 2 (⟨[some 1, some 2], 1, 0⟩ : Extracted.ArrayConsumer Nat 2)
    = .panic := by
  rw [ArrayConsumer_assert_is_empty_res _ _ (by decide)]; rfl

theorem ArrayConsumer_as_slice_res {T : Type} (N : Nat) (c : Extracted.ArrayConsumer T N)
    (hlen : c.array.length = N) (hle : c.taken_front + c.taken_back ≤ N) :
    Extracted.ArrayConsumer.as_slice N c = optUb (Konst.ArrayConsumer.asSlice (ArrayConsumer.toModel c)) := by
  unfold Extracted.ArrayConsumer.as_slice Konst.ArrayConsumer.asSlice
  rw [ArrayConsumer_slice_len_eq N c hle]
  unfold Konst.ArrayConsumer.sliceLen ArrayConsumer.toModel
  have hb : c.taken_front + (N - c.taken_front - c.taken_back) ≤ c.array.length := by omega
  simp only [Ctl.call_ok, Ctl.bind_eq, Ctl.bind_val, Rs.rawPartsInit, readInit_eq_filterMap]
  by_cases h : ((c.array.drop c.taken_front).take (N - c.taken_front - c.taken_back)).all Option.isSome = true <;>
    simp [h, hb, optUb]

theorem ArrayConsumer_as_slice_eq {T : Type} (N : Nat) (c : Extracted.ArrayConsumer T N) (rem : List T)
    (h : Konst.ArrayConsumer.Wf (ArrayConsumer.toModel c) rem) :
    Extracted.ArrayConsumer.as_slice N c = .ok rem
      ∧ Konst.ArrayConsumer.asSlice (ArrayConsumer.toModel c) = some rem := by
  obtain ⟨hl, hs⟩ := ArrayConsumer.wf_fields h
  rw [ArrayConsumer_as_slice_res N c hl (by omega), Konst.ArrayConsumer.wf_asSlice h]
  exact ⟨rfl, rfl⟩

example : Extracted.ArrayConsumer.as_slice 4 (⟨[none, some 2, some 3, none], 1, 1⟩ : Extracted.ArrayConsumer Nat 4)
    = .ok [2, 3] := by
  rw [ArrayConsumer_as_slice_res _ _ (by decide) (by decide)]; rfl
example : Extracted.ArrayConsumer.as_slice 4 (⟨[none, some 2, none, none], 1, 1⟩ : Extracted.ArrayConsumer Nat 4)
    = .ub := by
  rw [ArrayConsumer_as_slice_res _ _ (by decide) (by decide)]; rfl

/-- `ub` is the slot `array[taken_front]` never written (the model's `Take.ub`).  The index is in bounds
    (`array.length = N`, non-empty), `taken_front + 1 ≤ N < 2^64`. -/
theorem ArrayConsumer_next_res {T : Type} (N : Nat) (c : Extracted.ArrayConsumer T N)
    (hN : N < 2 ^ 64) (hlen : c.array.length = N) (hle : c.taken_front + c.taken_back ≤ N) :
    Extracted.ArrayConsumer.next N c = takeRes N c (Konst.ArrayConsumer.next (ArrayConsumer.toModel c)) := by
  unfold Extracted.ArrayConsumer.next Konst.ArrayConsumer.next
  rw [ArrayConsumer_is_empty_eq N c hle]
  by_cases he : Konst.ArrayConsumer.isEmpty (ArrayConsumer.toModel c) = true
  · simp [he, takeRes]
  · have hne : N - c.taken_front - c.taken_back ≠ 0 := by
      simpa [Konst.ArrayConsumer.isEmpty, Konst.ArrayConsumer.sliceLen, ArrayConsumer.toModel] using he
    have hi : c.taken_front < c.array.length := by omega
    have h2 : c.taken_front + 1 < 2 ^ 64 := by omega
    have hg : c.array[c.taken_front]? = some c.array[c.taken_front] := List.getElem?_eq_getElem hi
    simp only [he, Ctl.call_ok, Ctl.bind_eq, Ctl.bind_val, Bool.false_eq_true, ↓reduceIte, Ctl.pure_eq,
      Rs.index]
    simp only [ArrayConsumer.toModel, hg]
    cases hx : c.array[c.taken_front] with
    | none => simp [Rs.assumeInitRead, takeRes]
    | some v => simp [Rs.assumeInitRead, Rs.uadd, h2, takeRes, ArrayConsumer.ofModel]

theorem ArrayConsumer_next_eq {T : Type} (N : Nat) (c : Extracted.ArrayConsumer T N) (x : T) (rem : List T)
    (hN : N < 2 ^ 64) (h : Konst.ArrayConsumer.Wf (ArrayConsumer.toModel c) (x :: rem)) :
    ∃ c' : Extracted.ArrayConsumer T N,
      Extracted.ArrayConsumer.next N c = .ok (some x, c')
        ∧ Konst.ArrayConsumer.next (ArrayConsumer.toModel c) = .some x (ArrayConsumer.toModel c')
        ∧ Konst.ArrayConsumer.Wf (ArrayConsumer.toModel c') rem := by
  obtain ⟨hl, hs⟩ := ArrayConsumer.wf_fields h
  obtain ⟨hnx, hw⟩ := Konst.ArrayConsumer.wf_next_cons h
  refine ⟨{ c with taken_front := c.taken_front + 1 }, ?_, hnx, hw⟩
  rw [ArrayConsumer_next_res N c hN hl (by omega), hnx]; rfl

theorem ArrayConsumer_next_nil {T : Type} (N : Nat) (c : Extracted.ArrayConsumer T N)
    (hN : N < 2 ^ 64) (h : Konst.ArrayConsumer.Wf (ArrayConsumer.toModel c) []) :
    Extracted.ArrayConsumer.next N c = .ok (none, c)
      ∧ Konst.ArrayConsumer.next (ArrayConsumer.toModel c) = .none := by
  obtain ⟨hl, hs⟩ := ArrayConsumer.wf_fields h
  have hnx := Konst.ArrayConsumer.wf_next_nil h
  rw [ArrayConsumer_next_res N c hN hl (by omega), hnx]
  exact ⟨rfl, rfl⟩

example : Extracted.ArrayConsumer.next 3 (⟨[some 1, some 2, some 3], 1, 0⟩ : Extracted.ArrayConsumer Nat 3)
    = .ok (some 2, ⟨[some 1, some 2, some 3], 2, 0⟩) := by
  rw [ArrayConsumer_next_res _ _ (by decide) (by decide) (by decide)]; rfl
example : Extracted.ArrayConsumer.next 3 (⟨[some 1, some 2, some 3], 2, 1⟩ : Extracted.ArrayConsumer Nat 3)
    = .ok (none, ⟨[some 1, some 2, some 3], 2, 1⟩) := by
  rw [ArrayConsumer_next_res _ _ (by decide) (by decide) (by decide)]; rfl
example : Extracted.ArrayConsumer.next 3 (⟨[some 1, none, some 3], 1, 0⟩ : Extracted.ArrayConsumer Nat 3)
    = .ub := by
  rw [ArrayConsumer_next_res _ _ (by decide) (by decide) (by decide)]; rfl

/-- `next_back`: as `next`, at index `N - taken_back - 1` (no underflow: non-empty gives `taken_back < N`) -/
theorem ArrayConsumer_next_back_res {T : Type} (N : Nat) (c : Extracted.ArrayConsumer T N)
    (hN : N < 2 ^ 64) (hlen : c.array.length = N) (hle : c.taken_front + c.taken_back ≤ N) :
    Extracted.ArrayConsumer.next_back N c = takeRes N c (Konst.ArrayConsumer.nextBack (ArrayConsumer.toModel c)) := by
  unfold Extracted.ArrayConsumer.next_back Konst.ArrayConsumer.nextBack
  rw [ArrayConsumer_is_empty_eq N c hle]
  by_cases he : Konst.ArrayConsumer.isEmpty (ArrayConsumer.toModel c) = true
  · simp [he, takeRes]
  · have hne : N - c.taken_front - c.taken_back ≠ 0 := by
      simpa [Konst.ArrayConsumer.isEmpty, Konst.ArrayConsumer.sliceLen, ArrayConsumer.toModel] using he
    have h0 : c.taken_back ≤ N := by omega
    have h1 : 1 ≤ N - c.taken_back := by omega
    have hi : N - c.taken_back - 1 < c.array.length := by omega
    have h2 : c.taken_back + 1 < 2 ^ 64 := by omega
    have hg : c.array[N - c.taken_back - 1]? = some c.array[N - c.taken_back - 1] :=
      List.getElem?_eq_getElem hi
    simp only [he, Ctl.call_ok, Ctl.bind_eq, Ctl.bind_val, Bool.false_eq_true, ↓reduceIte, Ctl.pure_eq,
      Rs.index, Rs.usub, h0, h1]
    simp only [ArrayConsumer.toModel, hg]
    cases hx : c.array[N - c.taken_back - 1] with
    | none => simp [Rs.assumeInitRead, takeRes]
    | some v => simp [Rs.assumeInitRead, Rs.uadd, h2, takeRes, ArrayConsumer.ofModel]

theorem ArrayConsumer_next_back_eq {T : Type} (N : Nat) (c : Extracted.ArrayConsumer T N) (x : T) (rem : List T)
    (hN : N < 2 ^ 64) (h : Konst.ArrayConsumer.Wf (ArrayConsumer.toModel c) (rem ++ [x])) :
    ∃ c' : Extracted.ArrayConsumer T N,
      Extracted.ArrayConsumer.next_back N c = .ok (some x, c')
        ∧ Konst.ArrayConsumer.nextBack (ArrayConsumer.toModel c) = .some x (ArrayConsumer.toModel c')
        ∧ Konst.ArrayConsumer.Wf (ArrayConsumer.toModel c') rem := by
  obtain ⟨hl, hs⟩ := ArrayConsumer.wf_fields h
  obtain ⟨hnx, hw⟩ := Konst.ArrayConsumer.wf_nextBack_snoc h
  refine ⟨{ c with taken_back := c.taken_back + 1 }, ?_, hnx, hw⟩
  rw [ArrayConsumer_next_back_res N c hN hl (by omega), hnx]; rfl

theorem ArrayConsumer_next_back_nil {T : Type} (N : Nat) (c : Extracted.ArrayConsumer T N)
    (hN : N < 2 ^ 64) (h : Konst.ArrayConsumer.Wf (ArrayConsumer.toModel c) []) :
    Extracted.ArrayConsumer.next_back N c = .ok (none, c)
      ∧ Konst.ArrayConsumer.nextBack (ArrayConsumer.toModel c) = .none := by
  obtain ⟨hl, hs⟩ := ArrayConsumer.wf_fields h
  have hnx := Konst.ArrayConsumer.wf_nextBack_nil h
  rw [ArrayConsumer_next_back_res N c hN hl (by omega), hnx]
  exact ⟨rfl, rfl⟩

example : Extracted.ArrayConsumer.next_back 3 (⟨[some 1, some 2, some 3], 1, 0⟩ : Extracted.ArrayConsumer Nat 3)
    = .ok (some 3, ⟨[some 1, some 2, some 3], 1, 1⟩) := by
  rw [ArrayConsumer_next_back_res _ _ (by decide) (by decide) (by decide)]; rfl
example : Extracted.ArrayConsumer.next_back 3 (⟨[some 1, some 2, none], 1, 0⟩ : Extracted.ArrayConsumer Nat 3)
    = .ub := by
  rw [ArrayConsumer_next_back_res _ _ (by decide) (by decide) (by decide)]; rfl

end Extracted.Equiv
