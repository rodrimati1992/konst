import KonstVerif.Extracted.Gen.Cmp3
import KonstVerif.Extracted.Equiv.Cmp2
import KonstVerif.Model.Cmp
import KonstVerif.Spec.Cmp
/-
  Extracted = Model, and = std, for group `Cmp3` (C16): `cmp_T` for `T = u16 u128 i16 i32 i64 isize` and
  `eq_option_T` / `cmp_option_T` for `T = u16 u32 u64 u128 usize i16 i32 i64 i128 isize`.

  The generated definitions are the texts `cmpScalarFn` / `eqOptionFn` / `cmpOptionFn` of `Equiv/Cmp2.lean` at the
  carriers `Nat` (every `uN`) and `Int` (every `iN`): the `*_fn` equations.  The theorems are proved once per
  carrier (`*_nat_*`, `*_int_*`) and instantiated.  `<f>_eq`: the model (`cmpInt`; `eqOption` over `eqPrim`,
  `cmpOption` over `cmpInt`; unsigned types through `Int.ofNat`).  `<f>_std`: std (`compare`, `stdEq`,
  `optCmp compare`).  No hypotheses: the functions are loop-free.
-/
namespace Extracted.Equiv
open Rs Konst Konst.Cmp Konst.Spec.Cmp

/-! ### every function of a carrier type at once

  `f` ranges over functions equal to the common text; the `*_fn` equations below supply the
  hypothesis for each generated definition. -/

theorem cmp_nat_eq {f : Nat → Nat → Res Ordering} (hf : f = cmpScalarFn (α := Nat)) (left right : Nat) :
    f left right = .ok (cmpInt (Int.ofNat left) (Int.ofNat right)) :=
  hf ▸ cmpScalarFn_eq Int.ofNat ofNat_inj ofNat_lt left right

theorem cmp_nat_std {f : Nat → Nat → Res Ordering} (hf : f = cmpScalarFn (α := Nat)) (left right : Nat) :
    f left right = .ok (compare left right) := by
  rw [hf, cmpScalarFn_val, compare_nat]

theorem cmp_int_eq {f : Int → Int → Res Ordering} (hf : f = cmpScalarFn (α := Int)) (left right : Int) :
    f left right = .ok (cmpInt left right) :=
  hf ▸ cmpScalarFn_eq id id_inj id_lt left right

theorem cmp_int_std {f : Int → Int → Res Ordering} (hf : f = cmpScalarFn (α := Int)) (left right : Int) :
    f left right = .ok (compare left right) := by
  rw [hf, cmpScalarFn_val, compare_int]

theorem eq_option_nat_eq {f : Option Nat → Option Nat → Res Bool} (hf : f = eqOptionFn (α := Nat))
    (left right : Option Nat) :
    ∃ b, eqOption (fun a b => some (eqPrim a b)) (left.map Int.ofNat) (right.map Int.ofNat) = some b ∧
      f left right = .ok b :=
  hf ▸ eqOptionFn_eq Int.ofNat ofNat_inj left right

theorem eq_option_int_eq {f : Option Int → Option Int → Res Bool} (hf : f = eqOptionFn (α := Int))
    (left right : Option Int) :
    ∃ b, eqOption (fun a b => some (eqPrim a b)) left right = some b ∧ f left right = .ok b := by
  have h := eqOptionFn_eq id id_inj left right
  simp only [Option.map_id_fun, id_eq] at h
  exact hf ▸ h

theorem eq_option_std {α : Type} [DecidableEq α] {f : Option α → Option α → Res Bool}
    (hf : f = eqOptionFn (α := α)) (left right : Option α) :
    f left right = .ok (stdEq left right) :=
  hf ▸ eqOptionFn_std left right

theorem cmp_option_nat_eq {f : Option Nat → Option Nat → Res Ordering} (hf : f = cmpOptionFn (α := Nat))
    (left right : Option Nat) :
    ∃ c, cmpOption (fun a b => some (cmpInt a b)) (left.map Int.ofNat) (right.map Int.ofNat) = some c ∧
      f left right = .ok c :=
  hf ▸ cmpOptionFn_eq Int.ofNat ofNat_inj ofNat_lt left right

theorem cmp_option_int_eq {f : Option Int → Option Int → Res Ordering} (hf : f = cmpOptionFn (α := Int))
    (left right : Option Int) :
    ∃ c, cmpOption (fun a b => some (cmpInt a b)) left right = some c ∧ f left right = .ok c := by
  have h := cmpOptionFn_eq id id_inj id_lt left right
  simp only [Option.map_id_fun, id_eq] at h
  exact hf ▸ h

theorem cmp_option_nat_std {f : Option Nat → Option Nat → Res Ordering} (hf : f = cmpOptionFn (α := Nat))
    (left right : Option Nat) : f left right = .ok (optCmp compare left right) := by
  rw [hf, cmpOptionFn_val]
  simp only [← compare_nat]

theorem cmp_option_int_std {f : Option Int → Option Int → Res Ordering} (hf : f = cmpOptionFn (α := Int))
    (left right : Option Int) : f left right = .ok (optCmp compare left right) := by
  rw [hf, cmpOptionFn_val]
  simp only [← compare_int]

/-! ### each generated definition is the common text

  `rfl` for the scalar functions; the `match` of every `Option` function is its own auxiliary
  matcher, so those are `rfl` after `cases` on the two arguments (as in `Equiv/Cmp2.lean`). -/

theorem cmp_u16_fn : Extracted.cmp_u16 = cmpScalarFn (α := Nat) := rfl
theorem cmp_u128_fn : Extracted.cmp_u128 = cmpScalarFn (α := Nat) := rfl
theorem cmp_i16_fn : Extracted.cmp_i16 = cmpScalarFn (α := Int) := rfl
theorem cmp_i32_fn : Extracted.cmp_i32 = cmpScalarFn (α := Int) := rfl
theorem cmp_i64_fn : Extracted.cmp_i64 = cmpScalarFn (α := Int) := rfl
theorem cmp_isize_fn : Extracted.cmp_isize = cmpScalarFn (α := Int) := rfl
theorem eq_option_u16_fn : Extracted.eq_option_u16 = eqOptionFn (α := Nat) := by
  funext l r; cases l <;> cases r <;> rfl
theorem cmp_option_u16_fn : Extracted.cmp_option_u16 = cmpOptionFn (α := Nat) := by
  funext l r; cases l <;> cases r <;> rfl
theorem eq_option_u32_fn : Extracted.eq_option_u32 = eqOptionFn (α := Nat) := by
  funext l r; cases l <;> cases r <;> rfl
theorem cmp_option_u32_fn : Extracted.cmp_option_u32 = cmpOptionFn (α := Nat) := by
  funext l r; cases l <;> cases r <;> rfl
theorem eq_option_u64_fn : Extracted.eq_option_u64 = eqOptionFn (α := Nat) := by
  funext l r; cases l <;> cases r <;> rfl
theorem cmp_option_u64_fn : Extracted.cmp_option_u64 = cmpOptionFn (α := Nat) := by
  funext l r; cases l <;> cases r <;> rfl
theorem eq_option_u128_fn : Extracted.eq_option_u128 = eqOptionFn (α := Nat) := by
  funext l r; cases l <;> cases r <;> rfl
theorem cmp_option_u128_fn : Extracted.cmp_option_u128 = cmpOptionFn (α := Nat) := by
  funext l r; cases l <;> cases r <;> rfl
theorem eq_option_usize_fn : Extracted.eq_option_usize = eqOptionFn (α := Nat) := by
  funext l r; cases l <;> cases r <;> rfl
theorem cmp_option_usize_fn : Extracted.cmp_option_usize = cmpOptionFn (α := Nat) := by
  funext l r; cases l <;> cases r <;> rfl
theorem eq_option_i16_fn : Extracted.eq_option_i16 = eqOptionFn (α := Int) := by
  funext l r; cases l <;> cases r <;> rfl
theorem cmp_option_i16_fn : Extracted.cmp_option_i16 = cmpOptionFn (α := Int) := by
  funext l r; cases l <;> cases r <;> rfl
theorem eq_option_i32_fn : Extracted.eq_option_i32 = eqOptionFn (α := Int) := by
  funext l r; cases l <;> cases r <;> rfl
theorem cmp_option_i32_fn : Extracted.cmp_option_i32 = cmpOptionFn (α := Int) := by
  funext l r; cases l <;> cases r <;> rfl
theorem eq_option_i64_fn : Extracted.eq_option_i64 = eqOptionFn (α := Int) := by
  funext l r; cases l <;> cases r <;> rfl
theorem cmp_option_i64_fn : Extracted.cmp_option_i64 = cmpOptionFn (α := Int) := by
  funext l r; cases l <;> cases r <;> rfl
theorem eq_option_i128_fn : Extracted.eq_option_i128 = eqOptionFn (α := Int) := by
  funext l r; cases l <;> cases r <;> rfl
theorem cmp_option_i128_fn : Extracted.cmp_option_i128 = cmpOptionFn (α := Int) := by
  funext l r; cases l <;> cases r <;> rfl
theorem eq_option_isize_fn : Extracted.eq_option_isize = eqOptionFn (α := Int) := by
  funext l r; cases l <;> cases r <;> rfl
theorem cmp_option_isize_fn : Extracted.cmp_option_isize = cmpOptionFn (α := Int) := by
  funext l r; cases l <;> cases r <;> rfl

/-! ### the equivalence theorems: scalars -/

theorem cmp_u16_eq (left right : Nat) :
    Extracted.cmp_u16 left right = .ok (cmpInt (Int.ofNat left) (Int.ofNat right)) :=
  cmp_nat_eq cmp_u16_fn left right

theorem cmp_u16_std (left right : Nat) : Extracted.cmp_u16 left right = .ok (compare left right) :=
  cmp_nat_std cmp_u16_fn left right

example : Extracted.cmp_u16 65535 0 = .ok .gt := by decide +kernel
example : Extracted.cmp_u16 3 65535 = .ok (cmpInt 3 65535) := cmp_u16_eq _ _
example : Extracted.cmp_u16 7 7 = .ok .eq := by decide +kernel

theorem cmp_u128_eq (left right : Nat) :
    Extracted.cmp_u128 left right = .ok (cmpInt (Int.ofNat left) (Int.ofNat right)) :=
  cmp_nat_eq cmp_u128_fn left right

theorem cmp_u128_std (left right : Nat) : Extracted.cmp_u128 left right = .ok (compare left right) :=
  cmp_nat_std cmp_u128_fn left right

example : Extracted.cmp_u128 340282366920938463463374607431768211455 0 = .ok .gt := by decide +kernel
example : Extracted.cmp_u128 3 340282366920938463463374607431768211455 = .ok (cmpInt 3 340282366920938463463374607431768211455) := cmp_u128_eq _ _
example : Extracted.cmp_u128 7 7 = .ok .eq := by decide +kernel

theorem cmp_i16_eq (left right : Int) :
    Extracted.cmp_i16 left right = .ok (cmpInt left right) :=
  cmp_int_eq cmp_i16_fn left right

theorem cmp_i16_std (left right : Int) : Extracted.cmp_i16 left right = .ok (compare left right) :=
  cmp_int_std cmp_i16_fn left right

example : Extracted.cmp_i16 (-32768) 32767 = .ok .lt := by decide +kernel
example : Extracted.cmp_i16 (-1) (-2) = .ok (cmpInt (-1) (-2)) := cmp_i16_eq _ _
example : Extracted.cmp_i16 (-5) (-5) = .ok .eq := by decide +kernel

theorem cmp_i32_eq (left right : Int) :
    Extracted.cmp_i32 left right = .ok (cmpInt left right) :=
  cmp_int_eq cmp_i32_fn left right

theorem cmp_i32_std (left right : Int) : Extracted.cmp_i32 left right = .ok (compare left right) :=
  cmp_int_std cmp_i32_fn left right

example : Extracted.cmp_i32 (-2147483648) 2147483647 = .ok .lt := by decide +kernel
example : Extracted.cmp_i32 (-1) (-2) = .ok (cmpInt (-1) (-2)) := cmp_i32_eq _ _
example : Extracted.cmp_i32 (-5) (-5) = .ok .eq := by decide +kernel

theorem cmp_i64_eq (left right : Int) :
    Extracted.cmp_i64 left right = .ok (cmpInt left right) :=
  cmp_int_eq cmp_i64_fn left right

theorem cmp_i64_std (left right : Int) : Extracted.cmp_i64 left right = .ok (compare left right) :=
  cmp_int_std cmp_i64_fn left right

example : Extracted.cmp_i64 (-9223372036854775808) 9223372036854775807 = .ok .lt := by decide +kernel
example : Extracted.cmp_i64 (-1) (-2) = .ok (cmpInt (-1) (-2)) := cmp_i64_eq _ _
example : Extracted.cmp_i64 (-5) (-5) = .ok .eq := by decide +kernel

theorem cmp_isize_eq (left right : Int) :
    Extracted.cmp_isize left right = .ok (cmpInt left right) :=
  cmp_int_eq cmp_isize_fn left right

theorem cmp_isize_std (left right : Int) : Extracted.cmp_isize left right = .ok (compare left right) :=
  cmp_int_std cmp_isize_fn left right

example : Extracted.cmp_isize (-9223372036854775808) 9223372036854775807 = .ok .lt := by decide +kernel
example : Extracted.cmp_isize (-1) (-2) = .ok (cmpInt (-1) (-2)) := cmp_isize_eq _ _
example : Extracted.cmp_isize (-5) (-5) = .ok .eq := by decide +kernel

/-! ### the equivalence theorems: `Option` of an integer -/

theorem eq_option_u16_eq (left right : Option Nat) :
    ∃ b, eqOption (fun a b => some (eqPrim a b)) (left.map Int.ofNat) (right.map Int.ofNat) = some b ∧
      Extracted.eq_option_u16 left right = .ok b :=
  eq_option_nat_eq eq_option_u16_fn left right

theorem eq_option_u16_std (left right : Option Nat) :
    Extracted.eq_option_u16 left right = .ok (stdEq left right) :=
  eq_option_std eq_option_u16_fn left right

theorem cmp_option_u16_eq (left right : Option Nat) :
    ∃ c, cmpOption (fun a b => some (cmpInt a b)) (left.map Int.ofNat) (right.map Int.ofNat) = some c ∧
      Extracted.cmp_option_u16 left right = .ok c :=
  cmp_option_nat_eq cmp_option_u16_fn left right

theorem cmp_option_u16_std (left right : Option Nat) :
    Extracted.cmp_option_u16 left right = .ok (optCmp compare left right) :=
  cmp_option_nat_std cmp_option_u16_fn left right

example : Extracted.eq_option_u16 (some 65535) (some 65535) = .ok true := by decide +kernel
example : Extracted.eq_option_u16 (some 3) none = .ok false := by decide +kernel
example : Extracted.cmp_option_u16 none (some 0) = .ok .lt := by decide +kernel
example : Extracted.cmp_option_u16 (some 9) (some 65535) = .ok .lt := by decide +kernel
example : ∃ c, cmpOption (fun a b => some (cmpInt a b)) (some 9) none = some c ∧
    Extracted.cmp_option_u16 (some 9) none = .ok c := cmp_option_u16_eq (some 9) none

theorem eq_option_u32_eq (left right : Option Nat) :
    ∃ b, eqOption (fun a b => some (eqPrim a b)) (left.map Int.ofNat) (right.map Int.ofNat) = some b ∧
      Extracted.eq_option_u32 left right = .ok b :=
  eq_option_nat_eq eq_option_u32_fn left right

theorem eq_option_u32_std (left right : Option Nat) :
    Extracted.eq_option_u32 left right = .ok (stdEq left right) :=
  eq_option_std eq_option_u32_fn left right

theorem cmp_option_u32_eq (left right : Option Nat) :
    ∃ c, cmpOption (fun a b => some (cmpInt a b)) (left.map Int.ofNat) (right.map Int.ofNat) = some c ∧
      Extracted.cmp_option_u32 left right = .ok c :=
  cmp_option_nat_eq cmp_option_u32_fn left right

theorem cmp_option_u32_std (left right : Option Nat) :
    Extracted.cmp_option_u32 left right = .ok (optCmp compare left right) :=
  cmp_option_nat_std cmp_option_u32_fn left right

example : Extracted.eq_option_u32 (some 4294967295) (some 4294967295) = .ok true := by decide +kernel
example : Extracted.eq_option_u32 (some 3) none = .ok false := by decide +kernel
example : Extracted.cmp_option_u32 none (some 0) = .ok .lt := by decide +kernel
example : Extracted.cmp_option_u32 (some 9) (some 4294967295) = .ok .lt := by decide +kernel
example : ∃ c, cmpOption (fun a b => some (cmpInt a b)) (some 9) none = some c ∧
    Extracted.cmp_option_u32 (some 9) none = .ok c := cmp_option_u32_eq (some 9) none

theorem eq_option_u64_eq (left right : Option Nat) :
    ∃ b, eqOption (fun a b => some (eqPrim a b)) (left.map Int.ofNat) (right.map Int.ofNat) = some b ∧
      Extracted.eq_option_u64 left right = .ok b :=
  eq_option_nat_eq eq_option_u64_fn left right

theorem eq_option_u64_std (left right : Option Nat) :
    Extracted.eq_option_u64 left right = .ok (stdEq left right) :=
  eq_option_std eq_option_u64_fn left right

theorem cmp_option_u64_eq (left right : Option Nat) :
    ∃ c, cmpOption (fun a b => some (cmpInt a b)) (left.map Int.ofNat) (right.map Int.ofNat) = some c ∧
      Extracted.cmp_option_u64 left right = .ok c :=
  cmp_option_nat_eq cmp_option_u64_fn left right

theorem cmp_option_u64_std (left right : Option Nat) :
    Extracted.cmp_option_u64 left right = .ok (optCmp compare left right) :=
  cmp_option_nat_std cmp_option_u64_fn left right

example : Extracted.eq_option_u64 (some 18446744073709551615) (some 18446744073709551615) = .ok true := by decide +kernel
example : Extracted.eq_option_u64 (some 3) none = .ok false := by decide +kernel
example : Extracted.cmp_option_u64 none (some 0) = .ok .lt := by decide +kernel
example : Extracted.cmp_option_u64 (some 9) (some 18446744073709551615) = .ok .lt := by decide +kernel
example : ∃ c, cmpOption (fun a b => some (cmpInt a b)) (some 9) none = some c ∧
    Extracted.cmp_option_u64 (some 9) none = .ok c := cmp_option_u64_eq (some 9) none

theorem eq_option_u128_eq (left right : Option Nat) :
    ∃ b, eqOption (fun a b => some (eqPrim a b)) (left.map Int.ofNat) (right.map Int.ofNat) = some b ∧
      Extracted.eq_option_u128 left right = .ok b :=
  eq_option_nat_eq eq_option_u128_fn left right

theorem eq_option_u128_std (left right : Option Nat) :
    Extracted.eq_option_u128 left right = .ok (stdEq left right) :=
  eq_option_std eq_option_u128_fn left right

theorem cmp_option_u128_eq (left right : Option Nat) :
    ∃ c, cmpOption (fun a b => some (cmpInt a b)) (left.map Int.ofNat) (right.map Int.ofNat) = some c ∧
      Extracted.cmp_option_u128 left right = .ok c :=
  cmp_option_nat_eq cmp_option_u128_fn left right

theorem cmp_option_u128_std (left right : Option Nat) :
    Extracted.cmp_option_u128 left right = .ok (optCmp compare left right) :=
  cmp_option_nat_std cmp_option_u128_fn left right

example : Extracted.eq_option_u128 (some 340282366920938463463374607431768211455) (some 340282366920938463463374607431768211455) = .ok true := by decide +kernel
example : Extracted.eq_option_u128 (some 3) none = .ok false := by decide +kernel
example : Extracted.cmp_option_u128 none (some 0) = .ok .lt := by decide +kernel
example : Extracted.cmp_option_u128 (some 9) (some 340282366920938463463374607431768211455) = .ok .lt := by decide +kernel
example : ∃ c, cmpOption (fun a b => some (cmpInt a b)) (some 9) none = some c ∧
    Extracted.cmp_option_u128 (some 9) none = .ok c := cmp_option_u128_eq (some 9) none

theorem eq_option_usize_eq (left right : Option Nat) :
    ∃ b, eqOption (fun a b => some (eqPrim a b)) (left.map Int.ofNat) (right.map Int.ofNat) = some b ∧
      Extracted.eq_option_usize left right = .ok b :=
  eq_option_nat_eq eq_option_usize_fn left right

theorem eq_option_usize_std (left right : Option Nat) :
    Extracted.eq_option_usize left right = .ok (stdEq left right) :=
  eq_option_std eq_option_usize_fn left right

theorem cmp_option_usize_eq (left right : Option Nat) :
    ∃ c, cmpOption (fun a b => some (cmpInt a b)) (left.map Int.ofNat) (right.map Int.ofNat) = some c ∧
      Extracted.cmp_option_usize left right = .ok c :=
  cmp_option_nat_eq cmp_option_usize_fn left right

theorem cmp_option_usize_std (left right : Option Nat) :
    Extracted.cmp_option_usize left right = .ok (optCmp compare left right) :=
  cmp_option_nat_std cmp_option_usize_fn left right

example : Extracted.eq_option_usize (some 18446744073709551615) (some 18446744073709551615) = .ok true := by decide +kernel
example : Extracted.eq_option_usize (some 3) none = .ok false := by decide +kernel
example : Extracted.cmp_option_usize none (some 0) = .ok .lt := by decide +kernel
example : Extracted.cmp_option_usize (some 9) (some 18446744073709551615) = .ok .lt := by decide +kernel
example : ∃ c, cmpOption (fun a b => some (cmpInt a b)) (some 9) none = some c ∧
    Extracted.cmp_option_usize (some 9) none = .ok c := cmp_option_usize_eq (some 9) none

theorem eq_option_i16_eq (left right : Option Int) :
    ∃ b, eqOption (fun a b => some (eqPrim a b)) left right = some b ∧
      Extracted.eq_option_i16 left right = .ok b :=
  eq_option_int_eq eq_option_i16_fn left right

theorem eq_option_i16_std (left right : Option Int) :
    Extracted.eq_option_i16 left right = .ok (stdEq left right) :=
  eq_option_std eq_option_i16_fn left right

theorem cmp_option_i16_eq (left right : Option Int) :
    ∃ c, cmpOption (fun a b => some (cmpInt a b)) left right = some c ∧
      Extracted.cmp_option_i16 left right = .ok c :=
  cmp_option_int_eq cmp_option_i16_fn left right

theorem cmp_option_i16_std (left right : Option Int) :
    Extracted.cmp_option_i16 left right = .ok (optCmp compare left right) :=
  cmp_option_int_std cmp_option_i16_fn left right

example : Extracted.eq_option_i16 (some (-1)) (some 1) = .ok false := by decide +kernel
example : Extracted.eq_option_i16 none none = .ok true := by decide +kernel
example : Extracted.cmp_option_i16 (some (-32768)) (some 32767) = .ok .lt := by decide +kernel
example : Extracted.cmp_option_i16 (some (-32768)) none = .ok .gt := by decide +kernel
example : ∃ c, cmpOption (fun a b => some (cmpInt a b)) (some (-3)) (some (-3)) = some c ∧
    Extracted.cmp_option_i16 (some (-3)) (some (-3)) = .ok c := cmp_option_i16_eq (some (-3)) (some (-3))

theorem eq_option_i32_eq (left right : Option Int) :
    ∃ b, eqOption (fun a b => some (eqPrim a b)) left right = some b ∧
      Extracted.eq_option_i32 left right = .ok b :=
  eq_option_int_eq eq_option_i32_fn left right

theorem eq_option_i32_std (left right : Option Int) :
    Extracted.eq_option_i32 left right = .ok (stdEq left right) :=
  eq_option_std eq_option_i32_fn left right

theorem cmp_option_i32_eq (left right : Option Int) :
    ∃ c, cmpOption (fun a b => some (cmpInt a b)) left right = some c ∧
      Extracted.cmp_option_i32 left right = .ok c :=
  cmp_option_int_eq cmp_option_i32_fn left right

theorem cmp_option_i32_std (left right : Option Int) :
    Extracted.cmp_option_i32 left right = .ok (optCmp compare left right) :=
  cmp_option_int_std cmp_option_i32_fn left right

example : Extracted.eq_option_i32 (some (-1)) (some 1) = .ok false := by decide +kernel
example : Extracted.eq_option_i32 none none = .ok true := by decide +kernel
example : Extracted.cmp_option_i32 (some (-2147483648)) (some 2147483647) = .ok .lt := by decide +kernel
example : Extracted.cmp_option_i32 (some (-2147483648)) none = .ok .gt := by decide +kernel
example : ∃ c, cmpOption (fun a b => some (cmpInt a b)) (some (-3)) (some (-3)) = some c ∧
    Extracted.cmp_option_i32 (some (-3)) (some (-3)) = .ok c := cmp_option_i32_eq (some (-3)) (some (-3))

theorem eq_option_i64_eq (left right : Option Int) :
    ∃ b, eqOption (fun a b => some (eqPrim a b)) left right = some b ∧
      Extracted.eq_option_i64 left right = .ok b :=
  eq_option_int_eq eq_option_i64_fn left right

theorem eq_option_i64_std (left right : Option Int) :
    Extracted.eq_option_i64 left right = .ok (stdEq left right) :=
  eq_option_std eq_option_i64_fn left right

theorem cmp_option_i64_eq (left right : Option Int) :
    ∃ c, cmpOption (fun a b => some (cmpInt a b)) left right = some c ∧
      Extracted.cmp_option_i64 left right = .ok c :=
  cmp_option_int_eq cmp_option_i64_fn left right

theorem cmp_option_i64_std (left right : Option Int) :
    Extracted.cmp_option_i64 left right = .ok (optCmp compare left right) :=
  cmp_option_int_std cmp_option_i64_fn left right

example : Extracted.eq_option_i64 (some (-1)) (some 1) = .ok false := by decide +kernel
example : Extracted.eq_option_i64 none none = .ok true := by decide +kernel
example : Extracted.cmp_option_i64 (some (-9223372036854775808)) (some 9223372036854775807) = .ok .lt := by decide +kernel
example : Extracted.cmp_option_i64 (some (-9223372036854775808)) none = .ok .gt := by decide +kernel
example : ∃ c, cmpOption (fun a b => some (cmpInt a b)) (some (-3)) (some (-3)) = some c ∧
    Extracted.cmp_option_i64 (some (-3)) (some (-3)) = .ok c := cmp_option_i64_eq (some (-3)) (some (-3))

theorem eq_option_i128_eq (left right : Option Int) :
    ∃ b, eqOption (fun a b => some (eqPrim a b)) left right = some b ∧
      Extracted.eq_option_i128 left right = .ok b :=
  eq_option_int_eq eq_option_i128_fn left right

theorem eq_option_i128_std (left right : Option Int) :
    Extracted.eq_option_i128 left right = .ok (stdEq left right) :=
  eq_option_std eq_option_i128_fn left right

theorem cmp_option_i128_eq (left right : Option Int) :
    ∃ c, cmpOption (fun a b => some (cmpInt a b)) left right = some c ∧
      Extracted.cmp_option_i128 left right = .ok c :=
  cmp_option_int_eq cmp_option_i128_fn left right

theorem cmp_option_i128_std (left right : Option Int) :
    Extracted.cmp_option_i128 left right = .ok (optCmp compare left right) :=
  cmp_option_int_std cmp_option_i128_fn left right

example : Extracted.eq_option_i128 (some (-1)) (some 1) = .ok false := by decide +kernel
example : Extracted.eq_option_i128 none none = .ok true := by decide +kernel
example : Extracted.cmp_option_i128 (some (-170141183460469231731687303715884105728)) (some 170141183460469231731687303715884105727) = .ok .lt := by decide +kernel
example : Extracted.cmp_option_i128 (some (-170141183460469231731687303715884105728)) none = .ok .gt := by decide +kernel
example : ∃ c, cmpOption (fun a b => some (cmpInt a b)) (some (-3)) (some (-3)) = some c ∧
    Extracted.cmp_option_i128 (some (-3)) (some (-3)) = .ok c := cmp_option_i128_eq (some (-3)) (some (-3))

theorem eq_option_isize_eq (left right : Option Int) :
    ∃ b, eqOption (fun a b => some (eqPrim a b)) left right = some b ∧
      Extracted.eq_option_isize left right = .ok b :=
  eq_option_int_eq eq_option_isize_fn left right

theorem eq_option_isize_std (left right : Option Int) :
    Extracted.eq_option_isize left right = .ok (stdEq left right) :=
  eq_option_std eq_option_isize_fn left right

theorem cmp_option_isize_eq (left right : Option Int) :
    ∃ c, cmpOption (fun a b => some (cmpInt a b)) left right = some c ∧
      Extracted.cmp_option_isize left right = .ok c :=
  cmp_option_int_eq cmp_option_isize_fn left right

theorem cmp_option_isize_std (left right : Option Int) :
    Extracted.cmp_option_isize left right = .ok (optCmp compare left right) :=
  cmp_option_int_std cmp_option_isize_fn left right

example : Extracted.eq_option_isize (some (-1)) (some 1) = .ok false := by decide +kernel
example : Extracted.eq_option_isize none none = .ok true := by decide +kernel
example : Extracted.cmp_option_isize (some (-9223372036854775808)) (some 9223372036854775807) = .ok .lt := by decide +kernel
example : Extracted.cmp_option_isize (some (-9223372036854775808)) none = .ok .gt := by decide +kernel
example : ∃ c, cmpOption (fun a b => some (cmpInt a b)) (some (-3)) (some (-3)) = some c ∧
    Extracted.cmp_option_isize (some (-3)) (some (-3)) = .ok c := cmp_option_isize_eq (some (-3)) (some (-3))

end Extracted.Equiv
