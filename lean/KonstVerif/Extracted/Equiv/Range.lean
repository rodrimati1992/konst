import KonstVerif.Extracted.Gen.Range
import KonstVerif.Extracted.Equiv.Chr
import KonstVerif.Lemmas.RangeStep
/-
  Extracted (from /repo) = Model, for seven of the thirteen arms of
  `konst_kernel::step_kk::increment` / `decrement` (C09): u8, i8, usize, i64, u128, i128, char
  (u16, u32, u64, i16, i32, isize: `Equiv/Range2.lean`).

  The generated `structure Extracted.StepRet T {finished_inclusive, finished_exclusive, overflowed, next}`
  and the model's `Konst.Range.StepRet α` are two copies of the same record; `ofModel f` / `toModel f`
  are the field-wise correspondences (`f` converts the `next` field).

  The model's `increment`/`decrement` return `Option (StepRet _)` (`none` = panic).  The theorems have
  the shape
      `∃ r, Model.f start end_ = some r ∧ Extracted.f start end_ = .ok (ofModel _ r)`
  i.e. the model does not panic and the generated definition returns exactly the model's record.

  * signed types: generated and model values are both `Int`, the conversion is `ofModel id`.
  * unsigned types: generated values are `Nat`, the model's are `Int`; the model is applied to the casts
    `(start : Int)`, `(end_ : Int)`, the conversion is `ofModel Int.toNat`, and a third conjunct
    `toModel Int.ofNat (ofModel Int.toNat r) = r` says that nothing is lost by `Int.toNat` (the model's `next`
    is nonnegative).
  * char: generated and model values are both `Nat` scalar values; `*_char_eq'` is the unconditional
    statement (`.panic` exactly when the model says `none`), `*_char_eq` shows `none` unreachable for
    scalar values.

  Hypotheses: only the operand that is stepped is assumed to be a value of the type (`start` for `increment`,
  `end_` for `decrement`; the unsigned `decrement` does not even use that, see `decrementU_eq`); the other
  operand is only compared, so no bound on it is needed.
-/
namespace Extracted.Equiv
-- for the concrete `example`s below (the generated record has no `deriving` clause)
deriving instance DecidableEq for Extracted.StepRet
open Rs Konst

def ofModel {α T : Type} (f : α → T) (r : Konst.Range.StepRet α) : Extracted.StepRet T :=
  { finished_inclusive := r.finishedInclusive, finished_exclusive := r.finishedExclusive,
    overflowed := r.overflowed, next := f r.next }

def toModel {T α : Type} (f : T → α) (r : Extracted.StepRet T) : Konst.Range.StepRet α :=
  { finishedInclusive := r.finished_inclusive, finishedExclusive := r.finished_exclusive,
    overflowed := r.overflowed, next := f r.next }

@[simp] theorem toModel_ofModel_id {α : Type} (r : Konst.Range.StepRet α) : toModel id (ofModel id r) = r := rfl

open Konst.Range

/-! ### the integer arms -/

/-- The text shared by the twelve integer arms: they differ only in the pair `p` they get from
    `overflowing_add(1)` / `overflowing_sub(1)` at their width and in the two comparisons they store.
    `Extracted.increment_u8 start end_` unfolds to `armText (decide (start > end_)) (decide (start ≥ end_))
    (Rs.uOverflowingAdd 8 start 1)`, and so on: the per-type theorems below are the four `*_eq` theorems at a
    width, and what makes that type-check is this definitional unfolding. -/
def armText {T : Type} (fi fe : Bool) (p : T × Bool) : Res (Extracted.StepRet T) := Ctl.run do
  let (next, overflowed) := p
  pure { finished_inclusive := fi, finished_exclusive := fe, overflowed := overflowed, next := next }

section
open Konst.Range.Lemmas

/-- the model's `overflowing_add(1)` between `0` and `uN::MAX` is Rust's at width `N` -/
theorem overflowingAdd1_nat (bits mx : Nat) (hm : 2 ^ bits = mx + 1) (a : Nat) (ha : a ≤ mx) :
    overflowingAdd1 0 mx a = (((Rs.uOverflowingAdd bits a 1).1 : Int), (Rs.uOverflowingAdd bits a 1).2) := by
  unfold Rs.uOverflowingAdd
  rw [hm]
  rcases Nat.lt_or_eq_of_le ha with h | rfl
  · rw [overflowingAdd1_lt (Int.ofNat_lt.mpr h), Nat.mod_eq_of_lt (Nat.succ_lt_succ h),
      decide_eq_false (Nat.not_le.mpr (Nat.succ_lt_succ h))]
    rfl
  · rw [overflowingAdd1_max, Nat.mod_self, decide_eq_true (Nat.le_refl _)]
    rfl

/-- likewise `overflowing_sub(1)`; `a` need not be a value of the type -/
theorem overflowingSub1_nat (bits mx : Nat) (hm : 2 ^ bits = mx + 1) (a : Nat) :
    overflowingSub1 0 mx a = (((Rs.uOverflowingSub bits a 1).1 : Int), (Rs.uOverflowingSub bits a 1).2) := by
  unfold Rs.uOverflowingSub
  rw [hm]
  cases a with
  | zero =>
    rw [if_neg (Nat.not_succ_le_zero 0), Nat.zero_add, Nat.add_sub_cancel]
    exact overflowingSub1_min 0 mx
  | succ a =>
    rw [if_pos (Nat.succ_le_succ (Nat.zero_le a)), overflowingSub1_gt (Int.natCast_succ_pos a), Nat.add_sub_cancel,
      Int.natCast_succ, Int.add_sub_cancel]

theorem imin_pow_eq (bits : Nat) (hb : 0 < bits) :
    Rs.imin bits = -(Rs.imax bits + 1) ∧ (2 : Int) ^ bits = 2 * (Rs.imax bits + 1) := by
  obtain ⟨b, rfl⟩ : ∃ b, bits = b + 1 := ⟨bits - 1, by omega⟩
  simp only [Rs.imin, Rs.imax, Nat.add_sub_cancel, Int.pow_succ]
  omega

/-- `wrapI` picks the representative of `x` modulo `2^N` that lies in the signed range -/
theorem wrapI_eq (bits : Nat) (hb : 0 < bits) (x r k : Int) (hx : x = r + k * 2 ^ bits)
    (h1 : Rs.imin bits ≤ r) (h2 : r ≤ Rs.imax bits) : Rs.wrapI bits x = r := by
  obtain ⟨hlo, hm⟩ := imin_pow_eq bits hb
  subst hx
  simp only [Rs.wrapI, Int.add_mul_emod_self_right]
  generalize (2 : Int) ^ bits = m at *
  by_cases hn : 0 ≤ r
  · rw [Int.emod_eq_of_lt hn (by omega), if_pos h2]
  · rw [← Int.add_emod_right, Int.emod_eq_of_lt (by omega) (by omega), if_neg (by omega)]
    omega

/-- the model's `overflowing_add(1)` between `iN::MIN` and `iN::MAX` is Rust's at width `N` -/
theorem overflowingAdd1_int (bits : Nat) (hb : 0 < bits) (a : Int) (h1 : Rs.imin bits ≤ a) (h2 : a ≤ Rs.imax bits) :
    overflowingAdd1 (Rs.imin bits) (Rs.imax bits) a = Rs.iOverflowingAdd bits a 1 := by
  obtain ⟨hlo, hm⟩ := imin_pow_eq bits hb
  unfold Rs.iOverflowingAdd Rs.inRange
  rcases Int.lt_or_eq_of_le h2 with h | rfl
  · have h3 : a + 1 ≤ Rs.imax bits := Int.add_one_le_of_lt h
    have h4 : Rs.imin bits ≤ a + 1 := Int.le_trans h1 (Int.le_add_one (Int.le_refl a))
    rw [overflowingAdd1_lt h, wrapI_eq bits hb _ (a + 1) 0 (by omega) h4 h3, decide_eq_true h3, decide_eq_true h4]
    rfl
  · rw [overflowingAdd1_max, wrapI_eq bits hb _ (Rs.imin bits) 1 (by omega) (Int.le_refl _) h1,
      decide_eq_false (Int.not_le.mpr (Int.lt_add_one_iff.mpr (Int.le_refl _))), Bool.and_false]
    rfl

theorem overflowingSub1_int (bits : Nat) (hb : 0 < bits) (a : Int) (h1 : Rs.imin bits ≤ a) (h2 : a ≤ Rs.imax bits) :
    overflowingSub1 (Rs.imin bits) (Rs.imax bits) a = Rs.iOverflowingSub bits a 1 := by
  obtain ⟨hlo, hm⟩ := imin_pow_eq bits hb
  unfold Rs.iOverflowingSub Rs.inRange
  rcases Int.lt_or_eq_of_le h1 with h | rfl
  · have h3 : Rs.imin bits ≤ a - 1 := Int.le_sub_one_of_lt h
    have h4 : a - 1 ≤ Rs.imax bits := Int.le_trans (Int.sub_le_self a (by decide)) h2
    rw [overflowingSub1_gt h, wrapI_eq bits hb _ (a - 1) 0 (by omega) h3 h4, decide_eq_true h3, decide_eq_true h4]
    rfl
  · rw [overflowingSub1_min, wrapI_eq bits hb _ (Rs.imax bits) (-1) (by omega) h2 (Int.le_refl _),
      decide_eq_false (Int.not_le.mpr (Int.sub_one_lt_iff.mpr (Int.le_refl _))), Bool.false_and]
    rfl

end

/-- `increment::<uN>` for every width: `mx` is `uN::MAX` spelled as a literal -/
theorem incrementU_eq (bits mx : Nat) (hm : 2 ^ bits = mx + 1) (start end_ : Nat) (hs : start ≤ mx) :
    ∃ r, intIncrement 0 mx start end_ = some r ∧
      armText (decide (start > end_)) (decide (start ≥ end_)) (Rs.uOverflowingAdd bits start 1) = .ok (ofModel Int.toNat r) ∧
      toModel Int.ofNat (ofModel Int.toNat r) = r := by
  exact ⟨_, by rw [intIncrement, overflowingAdd1_nat bits mx hm start hs], by simp [armText, ofModel],
    by simp [ofModel, toModel]⟩

/-- `decrement::<uN>` for every width; the bound on `end_` is not used (only `0` wraps) -/
theorem decrementU_eq (bits mx : Nat) (hm : 2 ^ bits = mx + 1) (start end_ : Nat) (_ : end_ ≤ mx) :
    ∃ r, intDecrement 0 mx start end_ = some r ∧
      armText (decide (end_ < start)) (decide (end_ ≤ start)) (Rs.uOverflowingSub bits end_ 1) = .ok (ofModel Int.toNat r) ∧
      toModel Int.ofNat (ofModel Int.toNat r) = r := by
  exact ⟨_, by rw [intDecrement, overflowingSub1_nat bits mx hm end_], by simp [armText, ofModel],
    by simp [ofModel, toModel]⟩

/-- `increment::<iN>` for every width: `lo`, `hi` are `iN::MIN`, `iN::MAX` spelled as literals -/
theorem incrementI_eq (bits : Nat) (hb : 0 < bits) (lo hi : Int) (hlo : Rs.imin bits = lo) (hhi : Rs.imax bits = hi)
    (start end_ : Int) (hs : lo ≤ start ∧ start ≤ hi) :
    ∃ r, intIncrement lo hi start end_ = some r ∧
      armText (decide (start > end_)) (decide (start ≥ end_)) (Rs.iOverflowingAdd bits start 1) = .ok (ofModel id r) := by
  subst hlo hhi
  exact ⟨_, by rw [intIncrement, overflowingAdd1_int bits hb start hs.1 hs.2], rfl⟩

theorem decrementI_eq (bits : Nat) (hb : 0 < bits) (lo hi : Int) (hlo : Rs.imin bits = lo) (hhi : Rs.imax bits = hi)
    (start end_ : Int) (he : lo ≤ end_ ∧ end_ ≤ hi) :
    ∃ r, intDecrement lo hi start end_ = some r ∧
      armText (decide (end_ < start)) (decide (end_ ≤ start)) (Rs.iOverflowingSub bits end_ 1) = .ok (ofModel id r) := by
  subst hlo hhi
  exact ⟨_, by rw [intDecrement, overflowingSub1_int bits hb end_ he.1 he.2], rfl⟩

/-! ### `u8` (`MIN = 0`, `MAX = 255`) -/
theorem increment_u8_eq (start end_ : Nat) (hs : start ≤ 255) :
    ∃ r, intIncrement 0 255 start end_ = some r ∧
      Extracted.increment_u8 start end_ = .ok (ofModel Int.toNat r) ∧
      toModel Int.ofNat (ofModel Int.toNat r) = r :=
  incrementU_eq 8 255 (by decide) start end_ hs

example : Extracted.increment_u8 5 7 = .ok ⟨false, false, false, 6⟩ := by decide +kernel
example : Extracted.increment_u8 255 0 = .ok ⟨true, true, true, 0⟩ := by decide +kernel
example : ∃ r, intIncrement 0 255 (255 : Nat) (3 : Nat) = some r ∧ Extracted.increment_u8 255 3 = .ok (ofModel Int.toNat r) ∧
    toModel Int.ofNat (ofModel Int.toNat r) = r :=
  increment_u8_eq _ _ (by decide)

theorem decrement_u8_eq (start end_ : Nat) (he : end_ ≤ 255) :
    ∃ r, intDecrement 0 255 start end_ = some r ∧
      Extracted.decrement_u8 start end_ = .ok (ofModel Int.toNat r) ∧
      toModel Int.ofNat (ofModel Int.toNat r) = r :=
  decrementU_eq 8 255 (by decide) start end_ he

example : Extracted.decrement_u8 5 7 = .ok ⟨false, false, false, 6⟩ := by decide +kernel
example : Extracted.decrement_u8 255 0 = .ok ⟨true, true, true, 255⟩ := by decide +kernel
example : ∃ r, intDecrement 0 255 (3 : Nat) (0 : Nat) = some r ∧ Extracted.decrement_u8 3 0 = .ok (ofModel Int.toNat r) ∧
    toModel Int.ofNat (ofModel Int.toNat r) = r :=
  decrement_u8_eq _ _ (by decide)

/-! ### `i8` (`MIN = -128`, `MAX = 127`) -/
theorem increment_i8_eq (start end_ : Int) (hs : -128 ≤ start ∧ start ≤ 127) :
    ∃ r, intIncrement (-128) 127 start end_ = some r ∧
      Extracted.increment_i8 start end_ = .ok (ofModel id r) :=
  incrementI_eq 8 (by decide) (-128) 127 rfl rfl start end_ hs

example : Extracted.increment_i8 5 7 = .ok ⟨false, false, false, 6⟩ := by decide +kernel
example : Extracted.increment_i8 127 (-128) = .ok ⟨true, true, true, -128⟩ := by decide +kernel
example : ∃ r, intIncrement (-128) 127 127 127 = some r ∧ Extracted.increment_i8 127 127 = .ok (ofModel id r) :=
  increment_i8_eq _ _ (by decide)

theorem decrement_i8_eq (start end_ : Int) (he : -128 ≤ end_ ∧ end_ ≤ 127) :
    ∃ r, intDecrement (-128) 127 start end_ = some r ∧
      Extracted.decrement_i8 start end_ = .ok (ofModel id r) :=
  decrementI_eq 8 (by decide) (-128) 127 rfl rfl start end_ he

example : Extracted.decrement_i8 5 7 = .ok ⟨false, false, false, 6⟩ := by decide +kernel
example : Extracted.decrement_i8 127 (-128) = .ok ⟨true, true, true, 127⟩ := by decide +kernel
example : ∃ r, intDecrement (-128) 127 (-128) (-128) = some r ∧ Extracted.decrement_i8 (-128) (-128) = .ok (ofModel id r) :=
  decrement_i8_eq _ _ (by decide)

/-! ### `usize` (`MIN = 0`, `MAX = 18446744073709551615`) -/
theorem increment_usize_eq (start end_ : Nat) (hs : start ≤ 18446744073709551615) :
    ∃ r, intIncrement 0 18446744073709551615 start end_ = some r ∧
      Extracted.increment_usize start end_ = .ok (ofModel Int.toNat r) ∧
      toModel Int.ofNat (ofModel Int.toNat r) = r :=
  incrementU_eq 64 18446744073709551615 (by decide) start end_ hs

example : Extracted.increment_usize 5 7 = .ok ⟨false, false, false, 6⟩ := by decide +kernel
example : Extracted.increment_usize 18446744073709551615 0 = .ok ⟨true, true, true, 0⟩ := by decide +kernel
example : ∃ r, intIncrement 0 18446744073709551615 (18446744073709551615 : Nat) (3 : Nat) = some r ∧ Extracted.increment_usize 18446744073709551615 3 = .ok (ofModel Int.toNat r) ∧
    toModel Int.ofNat (ofModel Int.toNat r) = r :=
  increment_usize_eq _ _ (by decide)

theorem decrement_usize_eq (start end_ : Nat) (he : end_ ≤ 18446744073709551615) :
    ∃ r, intDecrement 0 18446744073709551615 start end_ = some r ∧
      Extracted.decrement_usize start end_ = .ok (ofModel Int.toNat r) ∧
      toModel Int.ofNat (ofModel Int.toNat r) = r :=
  decrementU_eq 64 18446744073709551615 (by decide) start end_ he

example : Extracted.decrement_usize 5 7 = .ok ⟨false, false, false, 6⟩ := by decide +kernel
example : Extracted.decrement_usize 18446744073709551615 0 = .ok ⟨true, true, true, 18446744073709551615⟩ := by decide +kernel
example : ∃ r, intDecrement 0 18446744073709551615 (3 : Nat) (0 : Nat) = some r ∧ Extracted.decrement_usize 3 0 = .ok (ofModel Int.toNat r) ∧
    toModel Int.ofNat (ofModel Int.toNat r) = r :=
  decrement_usize_eq _ _ (by decide)

/-! ### `i64` (`MIN = -9223372036854775808`, `MAX = 9223372036854775807`) -/
theorem increment_i64_eq (start end_ : Int) (hs : -9223372036854775808 ≤ start ∧ start ≤ 9223372036854775807) :
    ∃ r, intIncrement (-9223372036854775808) 9223372036854775807 start end_ = some r ∧
      Extracted.increment_i64 start end_ = .ok (ofModel id r) :=
  incrementI_eq 64 (by decide) (-9223372036854775808) 9223372036854775807 rfl rfl start end_ hs

example : Extracted.increment_i64 5 7 = .ok ⟨false, false, false, 6⟩ := by decide +kernel
example : Extracted.increment_i64 9223372036854775807 (-9223372036854775808) = .ok ⟨true, true, true, -9223372036854775808⟩ := by decide +kernel
example : ∃ r, intIncrement (-9223372036854775808) 9223372036854775807 9223372036854775807 9223372036854775807 = some r ∧ Extracted.increment_i64 9223372036854775807 9223372036854775807 = .ok (ofModel id r) :=
  increment_i64_eq _ _ (by decide)

theorem decrement_i64_eq (start end_ : Int) (he : -9223372036854775808 ≤ end_ ∧ end_ ≤ 9223372036854775807) :
    ∃ r, intDecrement (-9223372036854775808) 9223372036854775807 start end_ = some r ∧
      Extracted.decrement_i64 start end_ = .ok (ofModel id r) :=
  decrementI_eq 64 (by decide) (-9223372036854775808) 9223372036854775807 rfl rfl start end_ he

example : Extracted.decrement_i64 5 7 = .ok ⟨false, false, false, 6⟩ := by decide +kernel
example : Extracted.decrement_i64 9223372036854775807 (-9223372036854775808) = .ok ⟨true, true, true, 9223372036854775807⟩ := by decide +kernel
example : ∃ r, intDecrement (-9223372036854775808) 9223372036854775807 (-9223372036854775808) (-9223372036854775808) = some r ∧ Extracted.decrement_i64 (-9223372036854775808) (-9223372036854775808) = .ok (ofModel id r) :=
  decrement_i64_eq _ _ (by decide)

/-! ### `u128` (`MIN = 0`, `MAX = 340282366920938463463374607431768211455`) -/
theorem increment_u128_eq (start end_ : Nat) (hs : start ≤ 340282366920938463463374607431768211455) :
    ∃ r, intIncrement 0 340282366920938463463374607431768211455 start end_ = some r ∧
      Extracted.increment_u128 start end_ = .ok (ofModel Int.toNat r) ∧
      toModel Int.ofNat (ofModel Int.toNat r) = r :=
  incrementU_eq 128 340282366920938463463374607431768211455 (by decide) start end_ hs

example : Extracted.increment_u128 5 7 = .ok ⟨false, false, false, 6⟩ := by decide +kernel
example : Extracted.increment_u128 340282366920938463463374607431768211455 0 = .ok ⟨true, true, true, 0⟩ := by decide +kernel
example : ∃ r, intIncrement 0 340282366920938463463374607431768211455 (340282366920938463463374607431768211455 : Nat) (3 : Nat) = some r ∧ Extracted.increment_u128 340282366920938463463374607431768211455 3 = .ok (ofModel Int.toNat r) ∧
    toModel Int.ofNat (ofModel Int.toNat r) = r :=
  increment_u128_eq _ _ (by decide)

theorem decrement_u128_eq (start end_ : Nat) (he : end_ ≤ 340282366920938463463374607431768211455) :
    ∃ r, intDecrement 0 340282366920938463463374607431768211455 start end_ = some r ∧
      Extracted.decrement_u128 start end_ = .ok (ofModel Int.toNat r) ∧
      toModel Int.ofNat (ofModel Int.toNat r) = r :=
  decrementU_eq 128 340282366920938463463374607431768211455 (by decide) start end_ he

example : Extracted.decrement_u128 5 7 = .ok ⟨false, false, false, 6⟩ := by decide +kernel
example : Extracted.decrement_u128 340282366920938463463374607431768211455 0 = .ok ⟨true, true, true, 340282366920938463463374607431768211455⟩ := by decide +kernel
example : ∃ r, intDecrement 0 340282366920938463463374607431768211455 (3 : Nat) (0 : Nat) = some r ∧ Extracted.decrement_u128 3 0 = .ok (ofModel Int.toNat r) ∧
    toModel Int.ofNat (ofModel Int.toNat r) = r :=
  decrement_u128_eq _ _ (by decide)

/-! ### `i128` (`MIN = -170141183460469231731687303715884105728`, `MAX = 170141183460469231731687303715884105727`) -/
theorem increment_i128_eq (start end_ : Int) (hs : -170141183460469231731687303715884105728 ≤ start ∧ start ≤ 170141183460469231731687303715884105727) :
    ∃ r, intIncrement (-170141183460469231731687303715884105728) 170141183460469231731687303715884105727 start end_ = some r ∧
      Extracted.increment_i128 start end_ = .ok (ofModel id r) :=
  incrementI_eq 128 (by decide) (-170141183460469231731687303715884105728) 170141183460469231731687303715884105727 rfl rfl start end_ hs

example : Extracted.increment_i128 5 7 = .ok ⟨false, false, false, 6⟩ := by decide +kernel
example : Extracted.increment_i128 170141183460469231731687303715884105727 (-170141183460469231731687303715884105728) = .ok ⟨true, true, true, -170141183460469231731687303715884105728⟩ := by decide +kernel
example : ∃ r, intIncrement (-170141183460469231731687303715884105728) 170141183460469231731687303715884105727 170141183460469231731687303715884105727 170141183460469231731687303715884105727 = some r ∧ Extracted.increment_i128 170141183460469231731687303715884105727 170141183460469231731687303715884105727 = .ok (ofModel id r) :=
  increment_i128_eq _ _ (by decide)

theorem decrement_i128_eq (start end_ : Int) (he : -170141183460469231731687303715884105728 ≤ end_ ∧ end_ ≤ 170141183460469231731687303715884105727) :
    ∃ r, intDecrement (-170141183460469231731687303715884105728) 170141183460469231731687303715884105727 start end_ = some r ∧
      Extracted.decrement_i128 start end_ = .ok (ofModel id r) :=
  decrementI_eq 128 (by decide) (-170141183460469231731687303715884105728) 170141183460469231731687303715884105727 rfl rfl start end_ he

example : Extracted.decrement_i128 5 7 = .ok ⟨false, false, false, 6⟩ := by decide +kernel
example : Extracted.decrement_i128 170141183460469231731687303715884105727 (-170141183460469231731687303715884105728) = .ok ⟨true, true, true, 170141183460469231731687303715884105727⟩ := by decide +kernel
example : ∃ r, intDecrement (-170141183460469231731687303715884105728) 170141183460469231731687303715884105727 (-170141183460469231731687303715884105728) (-170141183460469231731687303715884105728) = some r ∧ Extracted.decrement_i128 (-170141183460469231731687303715884105728) (-170141183460469231731687303715884105728) = .ok (ofModel id r) :=
  decrement_i128_eq _ _ (by decide)

/-! ### `char` -/

/-- the two model copies of `chr::from_u32` (`Konst.Chr.fromU32` with `||`/`&&`, `Konst.Range.fromU32` with `∨`/`∧`) agree -/
theorem chr_fromU32_eq_range (n : Nat) : Konst.Chr.fromU32 n = Konst.Range.fromU32 n := by
  simp [Konst.Chr.fromU32, Konst.Range.fromU32]

theorem from_u32_range (n : Nat) : Extracted.from_u32 n = .ok (Konst.Range.fromU32 n) := by
  rw [from_u32_eq, chr_fromU32_eq_range]

def resOfModel {α T : Type} (f : α → T) : Option (Konst.Range.StepRet α) → Res (Extracted.StepRet T)
  | some r => .ok (ofModel f r)
  | none => .panic

@[simp] theorem resOfModel_some {α T : Type} (f : α → T) (r : Konst.Range.StepRet α) :
    resOfModel f (some r) = .ok (ofModel f r) := rfl
@[simp] theorem resOfModel_none {α T : Type} (f : α → T) :
    resOfModel f (none : Option (Konst.Range.StepRet α)) = .panic := rfl

/-- `increment::<char>` for arbitrary `Nat` arguments (no hypothesis): `.ok` of the model's record when the model
    returns `some`, `.panic` exactly when the model says `none` (`opt_unwrap!` of `from_u32(start + 1) = None`, or,
    for `start + 1 ≥ 2^32` — not a `char` — the checked `num + 1`). -/
theorem increment_char_eq' (start end_ : Nat) :
    Extracted.increment_char start end_ = resOfModel id (charIncrement start end_) := by
  unfold Extracted.increment_char charIncrement
  by_cases h1 : start = 55295
  · subst h1; simp [from_u32_range, fromU32, ofModel]
  · by_cases h2 : start = 1114111
    · subst h2; simp [from_u32_range, fromU32, ofModel]
    · by_cases h3 : start + 1 < 2 ^ 32
      · simp only [id, h1, h2, decide_false, Bool.false_eq_true, ↓reduceIte, Rs.uadd, h3, Ctl.bind_eq, Ctl.bind_val,
          Ctl.pure_eq, from_u32_range, Ctl.call_ok]
        cases hf : fromU32 (start + 1) <;> simp [ofModel]
      · have hn : fromU32 (start + 1) = none := by
          unfold fromU32; rw [if_neg]; omega
        simp [h1, h2, Rs.uadd, h3, hn]

/-- `increment::<char>` for every `start : char` (a scalar value): the model's `none` is unreachable -/
theorem increment_char_eq (start end_ : Nat) (hs : start < 0xD800 ∨ (0xE000 ≤ start ∧ start ≤ 0x10FFFF)) :
    ∃ r, charIncrement start end_ = some r ∧ Extracted.increment_char start end_ = .ok (ofModel id r) := by
  have hr := Konst.Range.Lemmas.charIncrement_scalar start end_ hs
  exact ⟨_, hr, by rw [increment_char_eq', hr]; rfl⟩

example : Extracted.increment_char 0x41 0x5A = .ok ⟨false, false, false, 0x42⟩ := by decide +kernel
example : Extracted.increment_char 0xD7FF 0 = .ok ⟨true, true, false, 0xE000⟩ := by decide +kernel
example : Extracted.increment_char 0x10FFFF 0x10FFFF = .ok ⟨false, true, true, 0⟩ := by decide +kernel
example : Extracted.increment_char 0xD800 0 = .panic := by decide +kernel          -- not a `char`
example : charIncrement 0xD800 0 = none := by decide +kernel
example : ∃ r, charIncrement 0xD7FF 0xE000 = some r ∧ Extracted.increment_char 0xD7FF 0xE000 = .ok (ofModel id r) :=
  increment_char_eq _ _ (by decide)
example : ∃ r, charIncrement 0x10FFFF 0 = some r ∧ Extracted.increment_char 0x10FFFF 0 = .ok (ofModel id r) :=
  increment_char_eq _ _ (by decide)

/-- `decrement::<char>` for arbitrary `Nat` arguments (no hypothesis); `.panic` exactly when the model says `none`
    (`opt_unwrap!` of `from_u32(end - 1) = None`) -/
theorem decrement_char_eq' (start end_ : Nat) :
    Extracted.decrement_char start end_ = resOfModel id (charDecrement start end_) := by
  unfold Extracted.decrement_char charDecrement
  by_cases h1 : end_ = 0
  · subst h1; simp [from_u32_range, fromU32, ofModel]
  · by_cases h2 : end_ = 57344
    · subst h2; simp [from_u32_range, fromU32, ofModel]
    · have h3 : 1 ≤ end_ := by omega
      simp only [id, h1, h2, decide_false, Bool.false_eq_true, ↓reduceIte, Rs.usub, h3, Ctl.bind_eq, Ctl.bind_val,
        Ctl.pure_eq, from_u32_range, Ctl.call_ok]
      cases hf : fromU32 (end_ - 1) <;> simp [ofModel]

/-- `decrement::<char>` for every `end_ : char` (a scalar value): the model's `none` is unreachable -/
theorem decrement_char_eq (start end_ : Nat) (he : end_ < 0xD800 ∨ (0xE000 ≤ end_ ∧ end_ ≤ 0x10FFFF)) :
    ∃ r, charDecrement start end_ = some r ∧ Extracted.decrement_char start end_ = .ok (ofModel id r) := by
  have hr := Konst.Range.Lemmas.charDecrement_scalar start end_ he
  exact ⟨_, hr, by rw [decrement_char_eq', hr]; rfl⟩

example : Extracted.decrement_char 0x41 0x5A = .ok ⟨false, false, false, 0x59⟩ := by decide +kernel
example : Extracted.decrement_char 0 0xE000 = .ok ⟨false, false, false, 0xD7FF⟩ := by decide +kernel
example : Extracted.decrement_char 0 0 = .ok ⟨false, true, true, 0x10FFFF⟩ := by decide +kernel
example : Extracted.decrement_char 0 0xE001 = .ok ⟨false, false, false, 0xE000⟩ := by decide +kernel
example : Extracted.decrement_char 0 0xDC00 = .panic := by decide +kernel          -- not a `char`
example : charDecrement 0 0xDC00 = none := by decide +kernel
example : ∃ r, charDecrement 0x10FFFF 0xE000 = some r ∧ Extracted.decrement_char 0x10FFFF 0xE000 = .ok (ofModel id r) :=
  decrement_char_eq _ _ (by decide)
example : ∃ r, charDecrement 0x10FFFF 0 = some r ∧ Extracted.decrement_char 0x10FFFF 0 = .ok (ofModel id r) :=
  decrement_char_eq _ _ (by decide)

end Extracted.Equiv
