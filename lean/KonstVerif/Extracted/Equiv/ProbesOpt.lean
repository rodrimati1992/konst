import KonstVerif.Extracted.Gen.ProbesOpt
import KonstVerif.Model.OptRes
import KonstVerif.Spec.OptRes
/-
  Equivalence of the probe functions `Extracted.op_*`, `Extracted.rs_*`, `Extracted.tr_*`
  (rs2lean over the rustc-expanded call sites of konst's `option::*!`, `result::*!`, `try_!`, `try_opt!`
  in translator/probes/src/lib.rs) with the hand-written model `Konst.OptRes.*` (Model/OptRes.lean) the
  property theorems of C19 (Props/C19.lean) are about.

  For every probe `f` two theorems:
    * `f_eq`  : `Extracted.f args = .ok <value of the MODEL function instantiated with the same closure>`.
                The closure-taking model functions live in the call-counting monad `Ev`; the value is the
                first projection of `Ev.run` (the projections `Props/C19.lean` uses: `.run.1` value,
                `.run.2` number of closure calls).  The eager forms (`unwrap_or!`, `ok_or!`) take the
                already evaluated argument as the computation `pure d`.
    * `f_std` : the same right-hand side written with the std function (`Option.getD`, `Option.map`,
                `Option.bind`, `Option.orElse`, `Option.join`, `Option.filter`, `Except.toOption`,
                `Except.map`, `Except.mapError`, `Except.bind`, `>>=` for `?`; where Lean's core has no
                such function, the reference definition of `Spec/OptRes.lean`).
  `= .ok v` also says: no panic, no arithmetic overflow.  The only probe that can panic is
  `op_unwrap_or_else` (`|| d + 1` overflows `u32` iff it is evaluated, i.e. iff `o` is `None`, and
  `d = u32::MAX`): `op_unwrap_or_else_panic` / `op_unwrap_or_else_panic_iff` give the exact guard.
  No other probe needs a machine-range hypothesis: `x / 2`, `x % 2`, `x % 256` have a non-zero literal
  divisor, `e as u32` on a `u8` is the identity (translated as `id`), and `(x % 256) as u8`
  (`Rs.castUU 8`) is `x % 256 % 256 = x % 256` for every natural number.
-/
namespace Extracted.Equiv
open Rs Konst Konst.OptRes

/-! ## option:: -/

theorem op_unwrap_or_eq (o : Option Nat) (d : Nat) :
    Extracted.op_unwrap_or o d = .ok ((optUnwrapOr o (pure d)).run.1) := by
  cases o <;> rfl

theorem op_unwrap_or_std (o : Option Nat) (d : Nat) :
    Extracted.op_unwrap_or o d = .ok (o.getD d) := by
  cases o <;> rfl

example : Extracted.op_unwrap_or none 9 = .ok 9 := op_unwrap_or_std none 9
example : Extracted.op_unwrap_or (some 4) 9 = .ok 4 := op_unwrap_or_std (some 4) 9

/-- `option::unwrap_or_else!(o, || d + 1)`: the closure body is evaluated (in `u32`, overflow-checked)
    only in the `None` arm, so the bound on `d` is needed only there -/
theorem op_unwrap_or_else_eq (o : Option Nat) (d : Nat) (h : o = none → d + 1 < 2 ^ 32) :
    Extracted.op_unwrap_or_else o d = .ok ((optUnwrapOrElse o (fun _ => d + 1)).run.1) := by
  cases o with
  | some x => rfl
  | none =>
    unfold Extracted.op_unwrap_or_else Rs.uadd
    rw [if_pos (h rfl)]
    rfl

theorem op_unwrap_or_else_std (o : Option Nat) (d : Nat) (h : o = none → d + 1 < 2 ^ 32) :
    Extracted.op_unwrap_or_else o d = .ok (o.getD (d + 1)) := by
  rw [op_unwrap_or_else_eq o d h]
  cases o <;> rfl

theorem op_unwrap_or_else_panic (d : Nat) (h : 2 ^ 32 ≤ d + 1) :
    Extracted.op_unwrap_or_else none d = .panic := by
  unfold Extracted.op_unwrap_or_else Rs.uadd
  rw [if_neg (Nat.not_lt.2 h)]
  rfl

theorem op_unwrap_or_else_panic_iff (o : Option Nat) (d : Nat) :
    Extracted.op_unwrap_or_else o d = .panic ↔ (o = none ∧ 2 ^ 32 ≤ d + 1) := by
  cases o with
  | some x => exact ⟨nofun, nofun⟩
  | none =>
    refine ⟨fun hp => ⟨rfl, Nat.le_of_not_lt fun hd => ?_⟩, fun h => op_unwrap_or_else_panic d h.2⟩
    rw [op_unwrap_or_else_eq none d fun _ => hd] at hp
    cases hp

example : Extracted.op_unwrap_or_else none 41 = .ok 42 :=
  op_unwrap_or_else_std none 41 (by intro _; decide)
example : Extracted.op_unwrap_or_else (some 5) (2 ^ 32 - 1) = .ok 5 :=
  op_unwrap_or_else_std (some 5) (2 ^ 32 - 1) (by intro h; cases h)
example : Extracted.op_unwrap_or_else none (2 ^ 32 - 1) = .panic :=
  op_unwrap_or_else_panic (2 ^ 32 - 1) (by decide)

theorem op_ok_or_eq (o : Option Nat) (e : Nat) :
    Extracted.op_ok_or o e = .ok ((optOkOr o (pure e)).run.1) := by
  cases o <;> rfl

/-- Lean's core has no `Option.ok_or`; `Spec.OptRes.optOkOr` is `some x ↦ .ok x`, `none ↦ .error e` -/
theorem op_ok_or_std (o : Option Nat) (e : Nat) :
    Extracted.op_ok_or o e = .ok (Spec.OptRes.optOkOr o e) := by
  cases o <;> rfl

example : Extracted.op_ok_or none 3 = .ok (.error 3) := op_ok_or_std none 3
example : Extracted.op_ok_or (some 8) 3 = .ok (.ok 8) := op_ok_or_std (some 8) 3

/-- `option::ok_or_else!(o, || e)` -/
theorem op_ok_or_else_eq (o : Option Nat) (e : Nat) :
    Extracted.op_ok_or_else o e = .ok ((optOkOrElse o (fun _ => e)).run.1) := by
  cases o <;> rfl

theorem op_ok_or_else_std (o : Option Nat) (e : Nat) :
    Extracted.op_ok_or_else o e = .ok (Spec.OptRes.optOkOrElse o (fun _ => e)).1 := by
  cases o <;> rfl

example : Extracted.op_ok_or_else none 3 = .ok (.error 3) := op_ok_or_else_std none 3
example : Extracted.op_ok_or_else (some 8) 3 = .ok (.ok 8) := op_ok_or_else_std (some 8) 3

/-- `option::map!(o, |x| x / 2)` -/
theorem op_map_eq (o : Option Nat) :
    Extracted.op_map o = .ok ((optMap o (fun x => x / 2)).run.1) := by
  cases o <;> rfl

theorem op_map_std (o : Option Nat) :
    Extracted.op_map o = .ok (o.map (fun x => x / 2)) := by
  rw [op_map_eq]
  cases o <;> rfl

example : Extracted.op_map (some 7) = .ok (some 3) := op_map_std (some 7)
example : Extracted.op_map none = .ok none := op_map_std none

/-- `option::and_then!(o, |x| if x % 2 == 0 { Some(x / 2) } else { None })` -/
theorem op_and_then_eq (o : Option Nat) :
    Extracted.op_and_then o =
      .ok ((optAndThen o (fun x => if x % 2 = 0 then some (x / 2) else none)).run.1) := by
  cases o with
  | none => rfl
  | some x =>
    by_cases h : x % 2 = 0 <;>
      simp [Extracted.op_and_then, Rs.urem, Rs.udiv, optAndThen, Ev.call, Ev.run, h]

theorem op_and_then_std (o : Option Nat) :
    Extracted.op_and_then o = .ok (o.bind (fun x => if x % 2 = 0 then some (x / 2) else none)) := by
  rw [op_and_then_eq]
  cases o <;> rfl

example : Extracted.op_and_then (some 10) = .ok (some 5) := op_and_then_std (some 10)
example : Extracted.op_and_then (some 11) = .ok none := op_and_then_std (some 11)

/-- `option::or_else!(o, || Some(d))` -/
theorem op_or_else_eq (o : Option Nat) (d : Nat) :
    Extracted.op_or_else o d = .ok ((optOrElse o (fun _ => some d)).run.1) := by
  cases o <;> rfl

theorem op_or_else_std (o : Option Nat) (d : Nat) :
    Extracted.op_or_else o d = .ok (o.orElse (fun _ => some d)) := by
  cases o <;> rfl

example : Extracted.op_or_else none 6 = .ok (some 6) := op_or_else_std none 6
example : Extracted.op_or_else (some 1) 6 = .ok (some 1) := op_or_else_std (some 1) 6

/-- `option::flatten!(o)` (the model function is pure: no closure) -/
theorem op_flatten_eq (o : Option (Option Nat)) :
    Extracted.op_flatten o = .ok (optFlatten o) := by
  cases o <;> rfl

theorem op_flatten_std (o : Option (Option Nat)) :
    Extracted.op_flatten o = .ok o.join := by
  cases o <;> rfl

example : Extracted.op_flatten (some (some 2)) = .ok (some 2) := op_flatten_std (some (some 2))
example : Extracted.op_flatten (some none) = .ok none := op_flatten_std (some none)

/-- `option::filter!(o, |x| *x % 2 == 0)` -/
theorem op_filter_eq (o : Option Nat) :
    Extracted.op_filter o = .ok ((optFilter o (fun x => decide (x % 2 = 0))).run.1) := by
  cases o with
  | none => rfl
  | some x =>
    by_cases h : x % 2 = 0 <;>
      simp [Extracted.op_filter, Rs.urem, optFilter, Ev.call, Ev.run, bind, Ev.bind, pure, Ev.pure, h]

theorem op_filter_std (o : Option Nat) :
    Extracted.op_filter o = .ok (o.filter (fun x => decide (x % 2 = 0))) := by
  rw [op_filter_eq]
  cases o with
  | none => rfl
  | some x =>
    by_cases h : x % 2 = 0 <;>
      simp [optFilter, Ev.call, Ev.run, bind, Ev.bind, pure, Ev.pure, Option.filter, h]

example : Extracted.op_filter (some 10) = .ok (some 10) := op_filter_std (some 10)
example : Extracted.op_filter (some 11) = .ok none := op_filter_std (some 11)

/-! ## result:: -/

theorem rs_unwrap_or_eq (r : Except Nat Nat) (d : Nat) :
    Extracted.rs_unwrap_or r d = .ok ((resUnwrapOr r (pure d)).run.1) := by
  cases r <;> rfl

theorem rs_unwrap_or_std (r : Except Nat Nat) (d : Nat) :
    Extracted.rs_unwrap_or r d = .ok (r.toOption.getD d) := by
  cases r <;> rfl

example : Extracted.rs_unwrap_or (.error 1) 9 = .ok 9 := rs_unwrap_or_std (.error 1) 9
example : Extracted.rs_unwrap_or (.ok 4) 9 = .ok 4 := rs_unwrap_or_std (.ok 4) 9

/-- `result::unwrap_or_else!(r, |e| e as u32)`: `u8 as u32` is the identity on the value -/
theorem rs_unwrap_or_else_eq (r : Except Nat Nat) :
    Extracted.rs_unwrap_or_else r = .ok ((resUnwrapOrElse r (fun e => e)).run.1) := by
  cases r <;> rfl

theorem rs_unwrap_or_else_std (r : Except Nat Nat) :
    Extracted.rs_unwrap_or_else r = .ok (Spec.OptRes.resUnwrapOrElse r (fun e => e)).1 := by
  cases r <;> rfl

example : Extracted.rs_unwrap_or_else (.error 200) = .ok 200 := rs_unwrap_or_else_std (.error 200)
example : Extracted.rs_unwrap_or_else (.ok 70000) = .ok 70000 := rs_unwrap_or_else_std (.ok 70000)

theorem rs_ok_eq (r : Except Nat Nat) : Extracted.rs_ok r = .ok (resOk r) := by
  cases r <;> rfl

theorem rs_ok_std (r : Except Nat Nat) : Extracted.rs_ok r = .ok r.toOption := by
  cases r <;> rfl

example : Extracted.rs_ok (.ok 5) = .ok (some 5) := rs_ok_std (.ok 5)
example : Extracted.rs_ok (.error 5) = .ok none := rs_ok_std (.error 5)

theorem rs_err_eq (r : Except Nat Nat) : Extracted.rs_err r = .ok (resErr r) := by
  cases r <;> rfl

/-- Lean's core has no `Except.err`; `Spec.OptRes.resErr` is `.error e ↦ some e`, `.ok _ ↦ none` -/
theorem rs_err_std (r : Except Nat Nat) : Extracted.rs_err r = .ok (Spec.OptRes.resErr r) := by
  cases r <;> rfl

example : Extracted.rs_err (.ok 5) = .ok none := rs_err_std (.ok 5)
example : Extracted.rs_err (.error 5) = .ok (some 5) := rs_err_std (.error 5)

/-- `result::map!(r, |x| x / 2)` -/
theorem rs_map_eq (r : Except Nat Nat) :
    Extracted.rs_map r = .ok ((resMap r (fun x => x / 2)).run.1) := by
  cases r <;> rfl

theorem rs_map_std (r : Except Nat Nat) :
    Extracted.rs_map r = .ok (Except.map (fun x => x / 2) r) := by
  rw [rs_map_eq]
  cases r <;> rfl

example : Extracted.rs_map (.ok 9) = .ok (.ok 4) := rs_map_std (.ok 9)
example : Extracted.rs_map (.error 9) = .ok (.error 9) := rs_map_std (.error 9)

/-- `result::map_err!(r, |e| e as u32)` -/
theorem rs_map_err_eq (r : Except Nat Nat) :
    Extracted.rs_map_err r = .ok ((resMapErr r (fun e => e)).run.1) := by
  cases r <;> rfl

theorem rs_map_err_std (r : Except Nat Nat) :
    Extracted.rs_map_err r = .ok (Except.mapError (fun e => e) r) := by
  cases r <;> rfl

example : Extracted.rs_map_err (.error 255) = .ok (.error 255) := rs_map_err_std (.error 255)
example : Extracted.rs_map_err (.ok 1) = .ok (.ok 1) := rs_map_err_std (.ok 1)

/-- `result::and_then!(r, |x| if x % 2 == 0 { Ok(x / 2) } else { Err(7) })` -/
theorem rs_and_then_eq (r : Except Nat Nat) :
    Extracted.rs_and_then r =
      .ok ((resAndThen r (fun x => if x % 2 = 0 then .ok (x / 2) else .error 7)).run.1) := by
  cases r with
  | error e => rfl
  | ok x =>
    by_cases h : x % 2 = 0 <;>
      simp [Extracted.rs_and_then, Rs.urem, Rs.udiv, resAndThen, Ev.call, Ev.run, h]

theorem rs_and_then_std (r : Except Nat Nat) :
    Extracted.rs_and_then r =
      .ok (Except.bind r (fun x => if x % 2 = 0 then .ok (x / 2) else .error 7)) := by
  rw [rs_and_then_eq]
  cases r <;> rfl

example : Extracted.rs_and_then (.ok 10) = .ok (.ok 5) := rs_and_then_std (.ok 10)
example : Extracted.rs_and_then (.ok 11) = .ok (.error 7) := rs_and_then_std (.ok 11)
example : Extracted.rs_and_then (.error 3) = .ok (.error 3) := rs_and_then_std (.error 3)

/-- `result::or_else!(r, |e| if e == 0 { Ok(0) } else { Err(e as u32) })` -/
theorem rs_or_else_eq (r : Except Nat Nat) :
    Extracted.rs_or_else r =
      .ok ((resOrElse r (fun e => if e = 0 then .ok 0 else .error e)).run.1) := by
  cases r with
  | ok x => rfl
  | error e =>
    by_cases h : e = 0 <;>
      simp [Extracted.rs_or_else, resOrElse, Ev.call, Ev.run, h]

/-- `Result::or_else` may change the error type, which `Except.orElseLazy` cannot:
    `Spec.OptRes.resOrElse` is `.error e ↦ f e`, `.ok x ↦ .ok x` -/
theorem rs_or_else_std (r : Except Nat Nat) :
    Extracted.rs_or_else r =
      .ok (Spec.OptRes.resOrElse r (fun e => if e = 0 then .ok 0 else .error e)).1 := by
  rw [rs_or_else_eq]
  cases r <;> rfl

example : Extracted.rs_or_else (.error 0) = .ok (.ok 0) := rs_or_else_std (.error 0)
example : Extracted.rs_or_else (.error 4) = .ok (.error 4) := rs_or_else_std (.error 4)
example : Extracted.rs_or_else (.ok 4) = .ok (.ok 4) := rs_or_else_std (.ok 4)

/-- `result::unwrap_err_or_else!(r, |x| (x % 256) as u8)`: the truncating cast `as u8` of a value
    `< 256` is the identity, so the closure is `x ↦ x % 256` -/
theorem rs_unwrap_err_or_else_eq (r : Except Nat Nat) :
    Extracted.rs_unwrap_err_or_else r = .ok ((resUnwrapErrOrElse r (fun x => x % 256)).run.1) := by
  cases r with
  | error e => rfl
  | ok x =>
    simp [Extracted.rs_unwrap_err_or_else, Rs.urem, Rs.castUU, resUnwrapErrOrElse, Ev.call, Ev.run]

/-- std has no such method; `Spec.OptRes.resUnwrapErrOrElse` is the documented behaviour
    (`.error e ↦ e`, `.ok x ↦ f x`) -/
theorem rs_unwrap_err_or_else_std (r : Except Nat Nat) :
    Extracted.rs_unwrap_err_or_else r =
      .ok (Spec.OptRes.resUnwrapErrOrElse r (fun x => x % 256)).1 := by
  rw [rs_unwrap_err_or_else_eq]
  cases r <;> rfl

example : Extracted.rs_unwrap_err_or_else (.ok 1000) = .ok 232 := rs_unwrap_err_or_else_std (.ok 1000)
example : Extracted.rs_unwrap_err_or_else (.error 9) = .ok 9 := rs_unwrap_err_or_else_std (.error 9)

/-! ## try_! / try_opt!

  The model describes the MACRO (`try_ r : Flow …` = "`return Err(e)`, or go on with `x`"), not a whole
  function; the probe function is the macro followed by the rest of the body `Ok(x / 2)` /
  `Some(x / 2)`.  So the probes are related to `Flow.andThen` of the model with that continuation — the
  shape `Props/C19.lean` (`try_eq_question`, `tryOpt_eq_question`) states for every continuation. -/

/-- `let x = try_!(r); Ok(x / 2)` -/
theorem tr_try_eq (r : Except Nat Nat) :
    Extracted.tr_try r = .ok ((try_ r).andThen (fun x => (.ok (x / 2) : Except Nat Nat))) := by
  cases r <;> rfl

/-- `let x = r?; Ok(x / 2)` -/
theorem tr_try_std (r : Except Nat Nat) :
    Extracted.tr_try r = .ok (r >>= fun x => (.ok (x / 2) : Except Nat Nat)) := by
  rw [tr_try_eq]
  cases r <;> rfl

example : Extracted.tr_try (.ok 9) = .ok (.ok 4) := tr_try_std (.ok 9)
example : Extracted.tr_try (.error 9) = .ok (.error 9) := tr_try_std (.error 9)

/-- `let x = try_opt!(o); Some(x / 2)` -/
theorem tr_try_opt_eq (o : Option Nat) :
    Extracted.tr_try_opt o = .ok ((tryOpt o).andThen (fun x => some (x / 2))) := by
  cases o <;> rfl

/-- `let x = o?; Some(x / 2)` -/
theorem tr_try_opt_std (o : Option Nat) :
    Extracted.tr_try_opt o = .ok (o >>= fun x => some (x / 2)) := by
  rw [tr_try_opt_eq]
  cases o <;> rfl

example : Extracted.tr_try_opt (some 9) = .ok (some 4) := tr_try_opt_std (some 9)
example : Extracted.tr_try_opt none = .ok none := tr_try_opt_std none

end Extracted.Equiv
