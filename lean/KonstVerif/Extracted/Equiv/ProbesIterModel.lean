import KonstVerif.Extracted.Equiv.ProbesIter
import KonstVerif.Props.C10
/-
  Every probe of `Equiv/ProbesIter.lean` is related to the hand-written model of the emitted code,
  `Konst.Iter.konstEval chain consumer source` (Model/IterDsl.lean, the object of Props/C10.lean), on the chain
  the probe's macro invocation denotes, with naturals encoded as `Val.n`, inner slices as `toSeq`, and closures
  transported through `vn`/`unn`.

  Shape: `<fn>_model : ∃ r, Extracted.<fn> fuel args = .ok r ∧ konstEval <chain> <cons> <encoded source> = <enc r>`
  under the hypotheses of `<fn>_eq`; `it_take_rev_next_model` adds what std computes (F7), and
  `it_for_each_sum_model` goes through the log of the items that reach the body.  The model side is evaluated with
  `Props/C10.konst_eq_std_normalised` (the exact characterisation valid for every chain), then list algebra.
-/
namespace Extracted.Equiv
open Konst.Iter Konst.Iter.Spec Konst.Iter.Lemmas Konst.Props.C10

/-- a `u32`/`usize` item as a model value -/
def vn (x : Nat) : Val := .n (x : Int)
/-- inverse of `vn` (total) -/
def unn : Val → Nat
  | .n i => i.toNat
  | .pair _ _ => 0
/-- an inner slice as an iterable model value -/
def vseq (l : List Nat) : Val := toSeq (l.map vn)

@[simp] theorem unn_vn (x : Nat) : unn (vn x) = x := by simp [unn, vn]

theorem unseq_toSeq (l : List Val) : unseq (toSeq l) = l := by
  induction l with
  | nil => rfl
  | cons a r ih => simp [toSeq, unseq, ih]

@[simp] theorem unseq_vseq (l : List Nat) : unseq (vseq l) = l.map vn := unseq_toSeq _

theorem unn_comp_vn {α : Type} (p : Nat → α) : (fun v => p (unn v)) ∘ vn = p :=
  funext fun x => congrArg p (unn_vn x)

theorem filter_vn (p : Nat → Bool) (l : List Nat) :
    (l.map vn).filter (fun v => p (unn v)) = (l.filter p).map vn := by
  rw [List.filter_map, unn_comp_vn]

theorem map_vn (g : Nat → Nat) (l : List Nat) :
    (l.map vn).map (fun v => vn (g (unn v))) = (l.map g).map vn := by
  rw [List.map_map, List.map_map, unn_comp_vn (fun x => vn (g x))]
  rfl

theorem filterMap_vn (g : Nat → Option Nat) (l : List Nat) :
    (l.map vn).filterMap (fun v => (g (unn v)).map vn) = (l.filterMap g).map vn := by
  rw [List.filterMap_map, List.map_filterMap, unn_comp_vn (fun x => (g x).map vn)]

theorem foldl_vn (f : Nat → Nat → Nat) (l : List Nat) (acc : Nat) :
    (l.map vn).foldl (fun a b => vn (f (unn a) (unn b))) (vn acc) = vn (l.foldl f acc) := by
  induction l generalizing acc with
  | nil => rfl
  | cons x l ih => simp [ih]

theorem dropWhile_vn (p : Nat → Bool) (l : List Nat) :
    (l.map vn).dropWhile (fun v => p (unn v)) = (l.dropWhile p).map vn := by
  rw [List.dropWhile_map, unn_comp_vn]

theorem takeWhile_vn (p : Nat → Bool) (l : List Nat) :
    (l.map vn).takeWhile (fun v => p (unn v)) = (l.takeWhile p).map vn := by
  rw [List.takeWhile_map, unn_comp_vn]

theorem find_vn (p : Nat → Bool) (l : List Nat) :
    (l.map vn).find? (fun v => p (unn v)) = (l.find? p).map vn := by
  rw [List.find?_map, unn_comp_vn]

theorem findIdx_vn (p : Nat → Bool) (l : List Nat) :
    (l.map vn).findIdx? (fun v => p (unn v)) = l.findIdx? p := by
  rw [List.findIdx?_map, unn_comp_vn]

theorem all_vn (p : Nat → Bool) (l : List Nat) :
    (l.map vn).all (fun v => p (unn v)) = l.all p := by
  rw [List.all_map, unn_comp_vn]

theorem any_vn (p : Nat → Bool) (l : List Nat) :
    (l.map vn).any (fun v => p (unn v)) = l.any p := by
  rw [List.any_map, unn_comp_vn]

theorem flatMap_vseq (ls : List (List Nat)) :
    (ls.map vseq).flatMap unseq = ls.flatten.map vn := by
  induction ls with
  | nil => rfl
  | cons x ls ih => simp [List.flatMap_cons, ih]

theorem enumFrom_vn (i : Nat) (l : List Nat) :
    enumFrom i (l.map vn) = (l.zipIdx i).map (fun p => Val.pair (vn p.2) (vn p.1)) := by
  induction l generalizing i with
  | nil => rfl
  | cons x l ih => simp [enumFrom, List.zipIdx_cons, ih, vn]

theorem it_fold_filter_map_model (fuel : Nat) (xs : List Nat) (hf : xs.length + 1 ≤ fuel) :
    ∃ r, Extracted.it_fold_filter_map fuel xs = .ok r ∧
      konstEval [.copied, .filter (fun v => unn v % 2 == 0), .map (fun v => vn (unn v / 2))]
        (.fold (vn 0) (fun a b => vn (unn a ^^^ unn b))) (xs.map vn) = .val (vn r) := by
  refine ⟨_, it_fold_filter_map_eq fuel xs hf, ?_⟩
  rw [konst_eq_std_normalised]
  simp only [hasRev, Cons.isRev, Bool.or_false, walk, Bool.false_eq_true, ↓reduceIte, fwd, stdEval, applyAd,
    iterConsume, stdConsume]
  rw [filter_vn (fun x => x % 2 == 0), map_vn (· / 2), foldl_vn (· ^^^ ·)]

theorem it_take_next_model (fuel : Nat) (xs : List Nat) (n : Nat) (hf : 1 ≤ fuel) :
    ∃ r, Extracted.it_take_next fuel xs n = .ok r ∧
      konstEval [.copied, .take n] .next (xs.map vn) = .opt (r.map vn) := by
  refine ⟨_, it_take_next_eq fuel xs n hf, ?_⟩
  rw [konst_eq_std_normalised]
  simp [hasRev, Cons.isRev, walk, fwd, stdEval, applyAd, iterConsume, stdConsume, ← List.map_take]

theorem it_skip_count_model (fuel : Nat) (xs : List Nat) (n : Nat) (hf : xs.length + 1 ≤ fuel)
    (hb : (xs.drop n).length < 2 ^ 64) :
    ∃ r, Extracted.it_skip_count fuel xs n = .ok r ∧
      konstEval [.skip n] .count (xs.map vn) = .nat r := by
  refine ⟨_, it_skip_count_eq fuel xs n hf hb, ?_⟩
  rw [konst_eq_std_normalised]
  simp [hasRev, Cons.isRev, walk, fwd, stdEval, applyAd, iterConsume, stdConsume]

/-- F7: the model agrees with the code (the last element), std does not (`(xs.take 2).getLast?`) -/
theorem it_take_rev_next_model (fuel : Nat) (xs : List Nat) (hf : 1 ≤ fuel) :
    ∃ r, Extracted.it_take_rev_next fuel xs = .ok r ∧
      konstEval [.copied, .take 2, .rev] .next (xs.map vn) = .opt (r.map vn) ∧
      stdResult [.copied, .take 2, .rev] .next (xs.map vn) = .opt (((xs.take 2).getLast?).map vn) := by
  refine ⟨_, it_take_rev_next_eq fuel xs hf, ?_, ?_⟩
  · rw [konst_eq_std_normalised]
    simp [hasRev, Cons.isRev, walk, fwd, stdEval, applyAd, iterConsume, stdConsume, List.head?_take,
      List.getLast?_map]
  · simp [stdResult, stdEval, applyAd, stdConsume, ← List.map_take, List.getLast?_map]

theorem it_rev_find_model (fuel : Nat) (xs : List Nat) (k : Nat) (hf : xs.length + 1 ≤ fuel) :
    ∃ r, Extracted.it_rev_find fuel xs k = .ok r ∧
      konstEval [.copied, .rev] (.find (fun v => unn v == k)) (xs.map vn) = .opt (r.map vn) := by
  refine ⟨_, it_rev_find_eq fuel xs k hf, ?_⟩
  rw [konst_eq_std_normalised]
  simp only [hasRev, Cons.isRev, Bool.or_false, walk, ↓reduceIte, fwd, stdEval, applyAd, iterConsume,
    stdConsume, ← List.map_reverse]
  rw [find_vn (· == k)]

theorem it_position_model (fuel : Nat) (xs : List Nat) (k : Nat) (hf : xs.length + 1 ≤ fuel)
    (hb : xs.length < 2 ^ 64) :
    ∃ r, Extracted.it_position fuel xs k = .ok r ∧
      konstEval [.copied] (.position (fun v => unn v == k)) (xs.map vn) = .onat r := by
  refine ⟨_, it_position_eq fuel xs k hf hb, ?_⟩
  rw [konst_eq_std_normalised]
  simp only [hasRev, Cons.isRev, Bool.or_false, walk, Bool.false_eq_true, ↓reduceIte, fwd, stdEval, applyAd,
    iterConsume, stdConsume]
  rw [findIdx_vn (· == k)]

theorem it_rposition_model (fuel : Nat) (xs : List Nat) (k : Nat) (hf : xs.length + 1 ≤ fuel)
    (hb : xs.length < 2 ^ 64) :
    ∃ r, Extracted.it_rposition fuel xs k = .ok r ∧
      konstEval [.copied] (.rposition (fun v => unn v == k)) (xs.map vn) = .onat r := by
  refine ⟨_, it_rposition_eq fuel xs k hf hb, ?_⟩
  rw [konst_eq_std_normalised]
  simp only [hasRev, Cons.isRev, Bool.or_true, walk, ↓reduceIte, fwd, stdEval, applyAd, iterConsume,
    ← List.map_reverse]
  rw [findIdx_vn (· == k)]

theorem it_all_model (fuel : Nat) (xs : List Nat) (k : Nat) (hf : xs.length + 1 ≤ fuel) :
    ∃ r, Extracted.it_all fuel xs k = .ok r ∧
      konstEval [.copied] (.all (fun v => decide (unn v < k))) (xs.map vn) = .bool r := by
  refine ⟨_, it_all_eq fuel xs k hf, ?_⟩
  rw [konst_eq_std_normalised]
  simp only [hasRev, Cons.isRev, Bool.or_false, walk, Bool.false_eq_true, ↓reduceIte, fwd, stdEval, applyAd,
    iterConsume, stdConsume]
  rw [all_vn (fun x => decide (x < k))]

theorem it_any_model (fuel : Nat) (xs : List Nat) (k : Nat) (hf : xs.length + 1 ≤ fuel) :
    ∃ r, Extracted.it_any fuel xs k = .ok r ∧
      konstEval [.copied] (.any (fun v => unn v == k)) (xs.map vn) = .bool r := by
  refine ⟨_, it_any_eq fuel xs k hf, ?_⟩
  rw [konst_eq_std_normalised]
  simp only [hasRev, Cons.isRev, Bool.or_false, walk, Bool.false_eq_true, ↓reduceIte, fwd, stdEval, applyAd,
    iterConsume, stdConsume]
  rw [any_vn (· == k)]

theorem it_nth_model (fuel : Nat) (xs : List Nat) (n : Nat) (hf : xs.length + 1 ≤ fuel) :
    ∃ r, Extracted.it_nth fuel xs n = .ok r ∧
      konstEval [.copied] (.nth n) (xs.map vn) = .opt (r.map vn) := by
  refine ⟨_, it_nth_eq fuel xs n hf, ?_⟩
  rw [konst_eq_std_normalised]
  simp [hasRev, Cons.isRev, walk, fwd, stdEval, applyAd, iterConsume, stdConsume]

theorem it_take_while_skip_while_count_model (fuel : Nat) (xs : List Nat) (a b : Nat)
    (hf : xs.length + 1 ≤ fuel)
    (hb : ((xs.dropWhile (fun x => decide (x < a))).takeWhile (fun x => decide (x < b))).length
            < 2 ^ 64) :
    ∃ r, Extracted.it_take_while_skip_while_count fuel xs a b = .ok r ∧
      konstEval [.copied, .skipWhile (fun v => decide (unn v < a)), .takeWhile (fun v => decide (unn v < b))]
        .count (xs.map vn) = .nat r := by
  refine ⟨_, it_take_while_skip_while_count_eq fuel xs a b hf hb, ?_⟩
  rw [konst_eq_std_normalised]
  simp only [hasRev, Cons.isRev, Bool.or_false, walk, Bool.false_eq_true, ↓reduceIte, fwd, stdEval, applyAd,
    iterConsume, stdConsume]
  rw [dropWhile_vn (fun x => decide (x < a)), takeWhile_vn (fun x => decide (x < b)), List.length_map]

theorem it_enumerate_find_map_model (fuel : Nat) (xs : List Nat) (k : Nat) (hf : xs.length + 1 ≤ fuel)
    (hb : xs.length < 2 ^ 64) :
    ∃ r, Extracted.it_enumerate_find_map fuel xs k = .ok r ∧
      konstEval [.copied, .enumerate]
        (.findMap (fun v => match v with
          | .pair i x => if unn x == k then some i else none
          | _ => none)) (xs.map vn) = .opt (r.map vn) := by
  refine ⟨_, it_enumerate_find_map_eq fuel xs k hf hb, ?_⟩
  rw [konst_eq_std_normalised]
  simp only [hasRev, Cons.isRev, Bool.or_false, walk, Bool.false_eq_true, ↓reduceIte, fwd, stdEval, applyAd,
    iterConsume, stdConsume, enumFrom_vn]
  congr 1
  generalize xs.zipIdx = ps
  induction ps with
  | nil => rfl
  | cons p ps ih =>
    simp only [List.map_cons, List.findSome?_cons, unn_vn]
    by_cases h : (p.1 == k) = true
    · simp only [h, ↓reduceIte, Option.map_some]
    · simp only [h]; exact ih

theorem it_filter_map_rfold_model (fuel : Nat) (xs : List Nat) (hf : xs.length + 1 ≤ fuel) :
    ∃ r, Extracted.it_filter_map_rfold fuel xs = .ok r ∧
      konstEval
        [.copied, .filterMap (fun v => (if unn v % 3 == 0 then none else some (unn v % 7)).map vn)]
        (.rfold (vn 1) (fun a b => vn ((unn a * 3 + unn b) % 1000))) (xs.map vn) = .val (vn r) := by
  refine ⟨_, it_filter_map_rfold_eq fuel xs hf, ?_⟩
  rw [konst_eq_std_normalised]
  simp only [hasRev, Cons.isRev, Bool.or_true, walk, ↓reduceIte, fwd, stdEval, applyAd, iterConsume,
    ← List.map_reverse]
  rw [filterMap_vn (fun x => if x % 3 == 0 then none else some (x % 7)),
    foldl_vn (fun a b => (a * 3 + b) % 1000), List.filterMap_reverse, List.foldl_reverse]

theorem it_flat_map_count_model (fuel : Nat) (xss : List (List Nat)) (k : Nat)
    (hf : xss.length + 1 ≤ fuel) (hfi : ∀ xs ∈ xss, xs.length + 1 ≤ fuel)
    (hb : ((xss.flatMap id).filter (· == k)).length < 2 ^ 64) :
    ∃ r, Extracted.it_flat_map_count fuel xss k = .ok r ∧
      konstEval [.flatMap unseq, .copied, .filter (fun v => unn v == k)] .count (xss.map vseq)
        = .nat r := by
  refine ⟨_, it_flat_map_count_eq fuel xss k hf hfi hb, ?_⟩
  rw [konst_eq_std_normalised]
  simp only [hasRev, Cons.isRev, Bool.or_false, walk, Bool.false_eq_true, ↓reduceIte, fwd, stdEval, applyAd,
    iterConsume, stdConsume]
  rw [flatMap_vseq, filter_vn (· == k), List.length_map, List.flatMap_id]

theorem it_flatten_nth_model (fuel : Nat) (xss : List (List Nat)) (n : Nat)
    (hf : xss.length + 1 ≤ fuel) (hfi : ∀ xs ∈ xss, xs.length + 1 ≤ fuel) :
    ∃ r, Extracted.it_flatten_nth fuel xss n = .ok r ∧
      konstEval [.copied, .flatten, .copied] (.nth n) (xss.map vseq) = .opt (r.map vn) := by
  refine ⟨_, it_flatten_nth_eq fuel xss n hf hfi, ?_⟩
  rw [konst_eq_std_normalised]
  simp only [hasRev, Cons.isRev, Bool.or_false, walk, Bool.false_eq_true, ↓reduceIte, fwd, stdEval, applyAd,
    iterConsume, stdConsume]
  rw [flatMap_vseq, List.getElem?_map]

/-- `for_each!`: the model's value is the log of the items reaching the body; the probe's body folds them
    with `^` -/
theorem it_for_each_sum_model (fuel : Nat) (xs : List Nat) (hf : xs.length + 1 ≤ fuel) :
    ∃ log : List Nat, konstEval [.copied, .skip 1] .forEach (xs.map vn) = .items (log.map vn) ∧
      Extracted.it_for_each_sum fuel xs = .ok (log.foldl (· ^^^ ·) 0) := by
  refine ⟨xs.drop 1, ?_, it_for_each_sum_eq fuel xs hf⟩
  rw [konst_eq_std_normalised]
  simp [hasRev, Cons.isRev, walk, fwd, stdEval, applyAd, iterConsume, stdConsume]

example : konstEval [.copied, .take 2, .rev] .next ([7, 8, 9].map vn) = .opt (some (vn 9)) := by decide +kernel

end Extracted.Equiv
