import KonstVerif.Extracted.Gen.Rest
import KonstVerif.Extracted.Equiv.Split
import KonstVerif.Extracted.Equiv.ParserA
import KonstVerif.Extracted.Equiv.Str
import KonstVerif.Model.Split
import KonstVerif.Model.Parser
import KonstVerif.Model.OptRes
import KonstVerif.Model.Utf8
/-
  Extracted = Model for the remaining small public functions (group `Rest`, 18 functions):

    string::splitting      Split::rev, RSplit::rev, rsplit, Split::copy, RSplit::copy          (C06)
    option                 copied                                                               (C19)
    parsing::parse_errors  ParseError::offset, error_direction, kind, other_error               (C13)
    parsing                Parser::parse_direction, Parser::into_other_error                    (C13)
    konst_kernel::string   is_char_boundary                                                     (C03)
    konst_kernel::iter     repeat, Repeat::next, next_back, rev, copy                           (C10)

  Models and conversions.
    * split iterators: `Konst.Split.Iter.rev / rsplit / Iter.copy` (Model/Split.lean) through the
      conversion maps of Equiv/Split.lean (`splitToModel off` / `rsplitToModel off` put an extracted
      iterator at an arbitrary haystack offset, `splitOfModel` / `rsplitOfModel` forget offset and `fwd`).
      Since `…OfModel` forgets the `fwd` flag, each `rev` theorem comes with a `…_toModel` companion that
      says which of the two struct types the model's result is (`rev` flips `fwd`).
    * `option::copied`: `Konst.OptRes.optCopied` (a reference is its referent); `option_copied_std` restates
      it with the std meaning `Option.map id` (= the argument itself).
    * `ParseError` getters: `Konst.Parser.ParseError.offset / errorDirection` and the structure field
      `ParseError.kind` (the model has no separate `kind` getter: the field IS the std meaning) through
      `errorToModel` / `dirOfModel` / `kindOfModel` of Equiv/ParserA.lean.  `Parser::parse_direction`: the
      model's field `Parser.dir` (no getter definition in the model).
    * `other_error` / `into_other_error`: `Konst.Parser.Parser.intoOtherError` (= `ParseError.new p .other`).
      The model has no `extra_message`; `errorOfModel` fills it with `[]`, the code stores the argument, so
      the right-hand side is `{ errorOfModel … with extra_message := string }`.
      Same `hfit` hypothesis as `ParseError_new_eq` (checked `u32` addition, `as u32` cast).
    * `is_char_boundary`: `Konst.Utf8.isCharBoundary`; `hb` because the code casts the byte `as i8`.
    * `iter::repeat`: there is no model definition of `Repeat` (IterDsl models the macro pipeline, not this
      adaptor), so the theorems are stated against the obvious std meaning on the generated structure
      `Extracted.Repeat T = { _0 : T }`: `repeat v` is the state holding `v`, every `next` / `next_back`
      returns `some (v, same state)` (the endless iterator), `rev` and `copy`
      return the same state.  `Repeat.next_iterate` composes `next` along a run of any length `n`: `n` copies of `v`.
  All theorems except `other_error`, `into_other_error` (`hfit`) and `is_char_boundary` (`hb`) are
  hypothesis-free; none of the functions loops, so there is no fuel.
-/
namespace Extracted.Equiv
open Rs Konst

/-! ### `string::splitting`: `rev`, `rsplit`, `copy` -/

theorem Split.rev_eq (off : Nat) (s : Extracted.Split) :
    Extracted.Split.rev s = .ok (rsplitOfModel (Konst.Split.Iter.rev (splitToModel off s))) := by
  cases s; simp [Extracted.Split.rev, rsplitOfModel, splitToModel, Konst.Split.Iter.rev]

theorem Split.rev_toModel (off : Nat) (s : Extracted.Split) :
    Konst.Split.Iter.rev (splitToModel off s) = rsplitToModel off ⟨s.this_, s.state⟩ := rfl

theorem RSplit.rev_eq (off : Nat) (s : Extracted.RSplit) :
    Extracted.RSplit.rev s = .ok (splitOfModel (Konst.Split.Iter.rev (rsplitToModel off s))) := by
  cases s; simp [Extracted.RSplit.rev, splitOfModel, rsplitToModel, Konst.Split.Iter.rev]

theorem RSplit.rev_toModel (off : Nat) (s : Extracted.RSplit) :
    Konst.Split.Iter.rev (rsplitToModel off s) = splitToModel off ⟨s.this_, s.state⟩ := rfl

example : Extracted.Split.rev ⟨[97, 44, 98], .Normal [44]⟩ = .ok ⟨[97, 44, 98], .Normal [44]⟩ := by decide +kernel
example : Extracted.RSplit.rev ⟨[97], .Empty .Continue⟩ = .ok ⟨[97], .Empty .Continue⟩ := by decide +kernel

theorem rsplit_eq (this delim : List Nat) :
    Extracted.rsplit this delim = .ok (rsplitOfModel (Konst.Split.rsplit this delim)) := by
  unfold Extracted.rsplit Konst.Split.rsplit
  simp only [split_eq, Ctl.call_ok, Ctl.bind_eq, Ctl.bind_val]
  have h : splitToModel 0 (splitOfModel (Konst.Split.split this delim)) = Konst.Split.split this delim :=
    splitToModel_ofModel (Konst.Split.split this delim) rfl
  rw [Split.rev_eq 0, h]
  rfl

theorem rsplit_model_fwd (this delim : List Nat) : (Konst.Split.rsplit this delim).fwd = false := rfl

example : Extracted.rsplit [97, 44, 98] [44] = .ok ⟨[97, 44, 98], .Normal [44]⟩ := by decide +kernel
example : Extracted.rsplit [97, 44, 98] [] = .ok ⟨[97, 44, 98], .Empty .Start⟩ := by decide +kernel

theorem Split.copy_eq (off : Nat) (s : Extracted.Split) :
    Extracted.Split.copy s = .ok (splitOfModel (Konst.Split.Iter.copy (splitToModel off s))) := by
  cases s; simp [Extracted.Split.copy, Konst.Split.Iter.copy]

theorem RSplit.copy_eq (off : Nat) (s : Extracted.RSplit) :
    Extracted.RSplit.copy s = .ok (rsplitOfModel (Konst.Split.Iter.copy (rsplitToModel off s))) := by
  cases s; simp [Extracted.RSplit.copy, Konst.Split.Iter.copy]

example : Extracted.Split.copy ⟨[98], .Finished⟩ = .ok ⟨[98], .Finished⟩ := by decide +kernel
example : Extracted.RSplit.copy ⟨[98, 99], .Normal [44]⟩ = .ok ⟨[98, 99], .Normal [44]⟩ := by decide +kernel

theorem option_copied_eq {T : Type} (opt : Option T) :
    Extracted.option_copied opt = .ok (Konst.OptRes.optCopied opt) := by
  cases opt <;> rfl

theorem option_copied_std {T : Type} (opt : Option T) :
    Extracted.option_copied opt = .ok (opt.map id) := by
  cases opt <;> rfl

example : Extracted.option_copied (some 13) = .ok (some 13) := option_copied_std (some 13)
example : Extracted.option_copied (none : Option Nat) = .ok none := option_copied_std none

/-! ### `ParseError` / `Parser` getters -/

theorem ParseError.offset_eq (e : Extracted.ParseError) :
    Extracted.ParseError.offset e = .ok (Konst.Parser.ParseError.offset (errorToModel e)) := by
  obtain ⟨so, eo, d, k, m, l⟩ := e
  cases d <;> rfl

example : Extracted.ParseError.offset ⟨7, 10, .FromEnd, .Strip, [], ()⟩ = .ok 10 := by decide +kernel
example : Extracted.ParseError.offset ⟨7, 10, .FromBoth, .Strip, [], ()⟩ = .ok 7 := by decide +kernel

theorem ParseError.error_direction_eq (e : Extracted.ParseError) :
    Extracted.ParseError.error_direction e
      = .ok (dirOfModel (Konst.Parser.ParseError.errorDirection (errorToModel e))) := by
  simp [Extracted.ParseError.error_direction, Konst.Parser.ParseError.errorDirection, errorToModel]

theorem ParseError.fn_kind_eq (e : Extracted.ParseError) :
    Extracted.ParseError.fn_kind e = .ok (kindOfModel (errorToModel e).kind) := by
  simp [Extracted.ParseError.fn_kind, errorToModel]

theorem Parser.fn_parse_direction_eq (p : Extracted.Parser) :
    Extracted.Parser.fn_parse_direction p = .ok (dirOfModel (parserToModel p).dir) := by
  simp [Extracted.Parser.fn_parse_direction, parserToModel]

example : Extracted.ParseError.error_direction ⟨7, 10, .FromEnd, .Strip, [], ()⟩ = .ok .FromEnd := by
  rw [ParseError.error_direction_eq]; rfl
example : Extracted.ParseError.fn_kind ⟨7, 10, .FromEnd, .Strip, [], ()⟩ = .ok .Strip := by
  rw [ParseError.fn_kind_eq]; rfl
example : Extracted.Parser.fn_parse_direction ⟨.FromBoth, false, 9, [104, 105]⟩ = .ok .FromBoth := by
  rw [Parser.fn_parse_direction_eq]; rfl

/-- `ParseError::other_error` is `ParseError::new(parser, Other)` with the given `extra_message` instead of `&""` -/
theorem ParseError.other_error_eq (p : Extracted.Parser) (extra_message : List Nat)
    (hfit : p.start_offset + p.str.length < 2 ^ 32) :
    Extracted.ParseError.other_error p extra_message
      = .ok { errorOfModel (Konst.Parser.ParseError.new (parserToModel p) .other) with
              extra_message := extra_message } := by
  have h1 : p.str.length < 2 ^ 32 := by omega
  unfold Extracted.ParseError.other_error Konst.Parser.ParseError.new
  simp [Rs.uadd, castUU32_of_lt _ h1, hfit, errorOfModel, parserToModel, kindOfModel]

theorem Parser.into_other_error_eq (p : Extracted.Parser) (string : List Nat)
    (hfit : p.start_offset + p.str.length < 2 ^ 32) :
    Extracted.Parser.into_other_error p string
      = .ok { errorOfModel (Konst.Parser.Parser.intoOtherError (parserToModel p)) with
              extra_message := string } := by
  unfold Extracted.Parser.into_other_error Konst.Parser.Parser.intoOtherError
  simp [ParseError.other_error_eq p string hfit]

example : Extracted.Parser.into_other_error ⟨.FromEnd, true, 7, [1, 2, 3]⟩ [111, 104]
    = .ok ⟨7, 10, .FromEnd, .Other, [111, 104], ()⟩ := by decide +kernel

/-- outside `hfit` the checked `u32` addition panics, e.g. -/
example : Extracted.Parser.into_other_error ⟨.FromStart, false, 2 ^ 32 - 1, [1]⟩ [] = .panic := by decide +kernel

theorem is_char_boundary_eq (string : List Nat) (position : Nat) (hb : ∀ b ∈ string, b < 256) :
    Extracted.is_char_boundary string position = .ok (Utf8.isCharBoundary string position) := by
  unfold Extracted.is_char_boundary Utf8.isCharBoundary
  simp [is_char_boundary_bytes_eq string position hb]

example : Extracted.is_char_boundary [0xE2, 0x82, 0xAC, 0x41] 3 = .ok true := by decide +kernel
example : Extracted.is_char_boundary [0xE2, 0x82, 0xAC, 0x41] 1 = .ok false := by decide +kernel
example : Extracted.is_char_boundary [0x41] 5 = .ok false := by decide +kernel

/-! ### `konst_kernel::iter::repeat` (no model definition: stated on the generated structure) -/

theorem iter_repeat_eq {T : Type} (val : T) : Extracted.iter_repeat val = .ok ⟨val⟩ := rfl

theorem Repeat.next_eq {T : Type} (self : Extracted.Repeat T) :
    Extracted.Repeat.next self = .ok (some (self._0, self)) := rfl

theorem Repeat.next_back_eq {T : Type} (self : Extracted.Repeat T) :
    Extracted.Repeat.next_back self = .ok (some (self._0, self)) := rfl

theorem Repeat.rev_eq {T : Type} (self : Extracted.Repeat T) : Extracted.Repeat.rev self = .ok self := rfl

theorem Repeat.copy_eq {T : Type} (self : Extracted.Repeat T) : Extracted.Repeat.copy self = .ok self := rfl

/-- `run n it` collects the elements of `n` successive `next` calls, threading the returned state -/
def Repeat.run {T : Type} : Nat → Extracted.Repeat T → Res (List T × Extracted.Repeat T)
  | 0, it => .ok ([], it)
  | n + 1, it =>
    match Extracted.Repeat.next it with
    | .ok (some (x, it')) =>
      match Repeat.run n it' with
      | .ok (xs, it'') => .ok (x :: xs, it'')
      | r => r
    | .ok none => .ok ([], it)
    | .panic => .panic
    | .ub => .ub
    | .nofuel => .nofuel

theorem Repeat.next_iterate {T : Type} (n : Nat) (v : T) :
    Repeat.run n (⟨v⟩ : Extracted.Repeat T) = .ok (List.replicate n v, ⟨v⟩) := by
  induction n with
  | zero => rfl
  | succ n ih => simp [Repeat.run, Repeat.next_eq, ih, List.replicate_succ]

example : Extracted.iter_repeat 7 = .ok ⟨7⟩ := iter_repeat_eq 7
example : Extracted.Repeat.next ⟨7⟩ = .ok (some (7, ⟨7⟩)) := Repeat.next_eq ⟨7⟩
example : Extracted.Repeat.next_back ⟨7⟩ = .ok (some (7, ⟨7⟩)) := Repeat.next_back_eq ⟨7⟩
example : Extracted.Repeat.rev ⟨7⟩ = .ok ⟨7⟩ := Repeat.rev_eq ⟨7⟩
example : Extracted.Repeat.copy ⟨7⟩ = .ok ⟨7⟩ := Repeat.copy_eq ⟨7⟩
example : Repeat.run 3 (⟨7⟩ : Extracted.Repeat Nat) = .ok ([7, 7, 7], ⟨7⟩) := Repeat.next_iterate 3 7

end Extracted.Equiv
