import KonstVerif.Extracted.Gen.SliceIter
import KonstVerif.Extracted.Equiv.SliceFns
import KonstVerif.Model.SliceIter
/-
  Extracted = Model/SliceIter.lean (+ Model/Slice.lean for as_chunks/as_rchunks),
  group `SliceIter`: konst::slice::{as_chunks, as_rchunks}, some_if_nonempty, the constructors
  windows/chunks/rchunks/chunks_exact/rchunks_exact/array_chunks and `next`/`next_back`/`remainder` of the
  twelve iterator structs.

  Shape of the statements.  The model has an explicit panic outcome (`Step.panic`, `none` from a
  constructor / from `asChunks`); the extracted functions return `Res`.  For every function there are two
  theorems:

  * `<f>_res`: `Extracted.f args = optRes (…model…)` / `= stepRes … (…model…)`: the extracted function
    panics EXACTLY when the model says panic and otherwise returns exactly the model's value (through the
    conversion maps below).  Only machine bounds are assumed (where checked multiplication occurs).
  * `<f>_eq`: under the no-panic hypotheses (`size ≥ 1`, …) the conclusion is `= .ok (…)` together with
    the fact that the model does not panic.

  Conversion maps.  The model's iterator state is `It σ = ⟨fwd, fields⟩` (`fwd = true`: the forward struct,
  `fwd = false`: the `*Rev` struct) with `fields` a structure of element lists, exactly like the generated
  structures, so `X.toIt : Extracted.X T → It (SliceIter.X T)` and `X.ofIt` (forgets `fwd`, which a step
  never changes) are field-by-field copies.  No "original slice" parameter is needed: the model's states
  hold element lists, not views.  `as_chunks`/`as_rchunks` (model: views + count over the length) are
  related through `asChunksApply`/`asRchunksApply` (`View.apply` + the model's `retype`).

  `*Rev` structs.  `XRev::next` is the text of `X::next_back` and vice versa, but over a different
  (generated) structure type, so there is no term-level reduction without redoing the case analysis; the
  Rev theorems are proved by the same script as the forward twin and share its model-side block lemma
  (`X.nextBlock_ne_panic` / `X.nextBackBlock_ne_panic`).  In the model the Rev type is `fwd = false`, i.e.
  `It.next` runs `nextBackBlock`.

  Hypotheses used (nothing else): `l.length < 2^64` for the checked products `arrs_len * N` (as_chunks,
  array_chunks) and `(len - 1) / chunk_size * chunk_size` (Chunks::next_back, ChunksRev::next); for `_eq`
  additionally `size ≥ 1` (constructors, Windows::next_back, Chunks::next_back, RChunks::next_back and Rev
  twins), `slice ≠ Some(&[])` (Chunks::next_back) and `slice ≠ [] → chunk_size ≤ slice.len()`
  (the `len - chunk_size` blocks of ChunksExact/RChunksExact).
-/
namespace Extracted.Equiv
open Rs Konst Konst.Slice

/-! ### shared conversions -/

def optRes {α : Type} : Option α → Res α
  | some a => .ok a
  | none => .panic

def stepRes {ι σ τ : Type} (f : σ → τ) : SliceIter.Step ι σ → Res (Option (ι × τ))
  | .panic => .panic
  | .none => .ok none
  | .some x s => .ok (some (x, f s))

def stepOpt {ι σ τ : Type} (f : σ → τ) : SliceIter.Step ι σ → Option (ι × τ)
  | .some x s => some (x, f s)
  | _ => none

theorem stepRes_of_ne_panic {ι σ τ : Type} (f : σ → τ) (s : SliceIter.Step ι σ) (h : s ≠ .panic) :
    stepRes f s = .ok (stepOpt f s) := by
  cases s <;> simp_all [stepRes, stepOpt]

theorem ok_of_res {ι σ τ : Type} {r : Res (Option (ι × τ))} {f : σ → τ} {s : SliceIter.Step ι σ}
    (h : r = stepRes f s) (hp : s ≠ .panic) : r = .ok (stepOpt f s) ∧ s ≠ .panic :=
  ⟨by rw [h, stepRes_of_ne_panic f s hp], hp⟩

theorem stepRes_mapState {ι σ τ υ : Type} (g : σ → τ) (f : τ → υ)
    (s : SliceIter.Step ι σ) :
    stepRes f (s.mapState g) = stepRes (fun x => f (g x)) s := by
  cases s <;> rfl

theorem mapState_ne_panic {ι σ τ : Type} (g : σ → τ) (s : SliceIter.Step ι σ) :
    s.mapState g ≠ .panic ↔ s ≠ .panic := by
  cases s <;> simp [SliceIter.Step.mapState]

theorem usub_eq {ε : Type} (bits a b : Nat) :
    (Rs.usub bits a b : Ctl ε Nat) = Ctl.call (optRes (SliceIter.checkedSub a b)) := by
  unfold Rs.usub SliceIter.checkedSub
  split <;> rfl

theorem udiv_eq {ε : Type} (bits a b : Nat) :
    (Rs.udiv bits a b : Ctl ε Nat) = Ctl.call (optRes (SliceIter.checkedDiv a b)) := by
  unfold Rs.udiv SliceIter.checkedDiv
  split <;> rfl

theorem urem_eq {ε : Type} (bits a b : Nat) :
    (Rs.urem bits a b : Ctl ε Nat) = Ctl.call (optRes (SliceIter.checkedRem a b)) := by
  unfold Rs.urem SliceIter.checkedRem
  split <;> rfl

theorem umul_of_lt {ε : Type} {bits a b : Nat} (h : a * b < 2 ^ bits) :
    (Rs.umul bits a b : Ctl ε Nat) = .val (a * b) :=
  if_pos h

theorem checkedSub_le {a b c : Nat} (h : SliceIter.checkedSub a b = some c) : c ≤ a := by
  unfold SliceIter.checkedSub at h
  split at h
  · cases h
    exact Nat.sub_le a b
  · cases h

theorem checkedDiv_mul_le {a b q : Nat} (h : SliceIter.checkedDiv a b = some q) : q * b ≤ a := by
  unfold SliceIter.checkedDiv at h
  split at h
  · cases h
  · cases h
    exact Nat.div_mul_le_self a b

theorem splitAt_apply_length {T : Type} (l : List T) (at_ : Nat) (h : at_ ≤ l.length) :
    ((splitAt l.length at_).1.apply l).length = at_ ∧
      ((splitAt l.length at_).2.apply l).length = l.length - at_ := by
  simp only [splitAt, sliceUpTo, sliceUpToImpl, sliceFrom, sliceFromImpl, overflowingSub, h, if_true,
    Bool.false_eq_true, if_false, Option.getD_some, View.apply, List.length_take, List.length_drop,
    Nat.sub_zero, Nat.min_self, Nat.min_eq_left h, and_self]

/-- `chunksOf` (prelude, recursive) is the model's `retype` (positional) -/
theorem chunksOf_eq_retype {α : Type} (n k : Nat) (l : List α) :
    Rs.chunksOf n k l = SliceIter.retype n k l := by
  induction k generalizing l with
  | zero => simp [Rs.chunksOf, SliceIter.retype]
  | succ k ih =>
    simp only [Rs.chunksOf, ih, SliceIter.retype, List.range_succ_eq_map, List.map_cons, List.map_map,
      Nat.zero_mul, List.drop_zero]
    congr 1
    apply List.map_congr_left
    intro i _
    simp only [Function.comp, List.drop_drop]
    congr 2
    rw [Nat.succ_mul]; omega

theorem unsnoc_nil {α : Type} : Rs.unsnoc ([] : List α) = none := rfl

theorem unsnoc_of_ne_nil {α : Type} (l : List α) (h : l ≠ []) :
    Rs.unsnoc l = some (l.dropLast, l.getLast h) := by
  simp [Rs.unsnoc, List.getLast?_eq_some_getLast h]

/-- the value of `as_chunks` denoted by the model's (arrays view, count, remainder view) -/
def asChunksApply {T : Type} (N : Nat) (l : List T) (v : View × Nat × View) : List (List T) × List T :=
  (SliceIter.retype N v.2.1 (v.1.apply l), v.2.2.apply l)

/-- the value of `as_rchunks` denoted by the model's (remainder view, arrays view, count) -/
def asRchunksApply {T : Type} (N : Nat) (l : List T) (v : View × View × Nat) : List T × List (List T) :=
  (v.1.apply l, SliceIter.retype N v.2.2 (v.2.1.apply l))

theorem as_chunks_res {T : Type} (N : Nat) (l : List T) (hb : l.length < 2 ^ 64) :
    Extracted.as_chunks N l = optRes ((asChunks l.length N).map (asChunksApply N l)) := by
  unfold Extracted.as_chunks asChunks
  by_cases hN : N = 0
  · subst hN
    rfl
  · have hm : l.length / N * N ≤ l.length := Nat.div_mul_le_self _ _
    have hr : l.length / N * N ≤ ((splitAt l.length (l.length / N * N)).1.apply l).length :=
      Nat.le_of_eq (splitAt_apply_length l _ hm).1.symm
    simp only [ne_eq, hN, not_false_eq_true, decide_true, Bool.not_true, Bool.false_eq_true, if_false,
      udiv_eq, SliceIter.checkedDiv, optRes, Ctl.call_ok, Ctl.pure_eq, Ctl.bind_eq, Ctl.bind_val,
      umul_of_lt (Nat.lt_of_le_of_lt hm hb), split_at_eq, Rs.rawPartsArrays, hr, if_true,
      chunksOf_eq_retype, Ctl.run_val, Option.map_some, asChunksApply]

theorem as_chunks_eq {T : Type} (N : Nat) (l : List T) (hN : 1 ≤ N) (hb : l.length < 2 ^ 64) :
    ∃ v, asChunks l.length N = some v ∧ Extracted.as_chunks N l = .ok (asChunksApply N l v) := by
  rw [as_chunks_res N l hb]
  have : N ≠ 0 := by omega
  simp [asChunks, this, optRes]

theorem as_chunks_panic {T : Type} (l : List T) : Extracted.as_chunks 0 l = .panic := by
  simp [Extracted.as_chunks]

example : Extracted.as_chunks 2 [1, 2, 3, 4, 5] = .ok ([[1, 2], [3, 4]], [5]) := rfl

theorem as_rchunks_res {T : Type} (N : Nat) (l : List T) :
    Extracted.as_rchunks N l = optRes ((asRchunks l.length N).map (asRchunksApply N l)) := by
  unfold Extracted.as_rchunks asRchunks
  by_cases hN : N = 0
  · subst hN
    rfl
  · have hm : l.length % N ≤ l.length := Nat.mod_le _ _
    have hd : l.length - l.length % N = l.length / N * N :=
      Nat.sub_eq_of_eq_add (Nat.div_add_mod' _ _).symm
    have hr : l.length / N * N ≤ ((splitAt l.length (l.length % N)).2.apply l).length :=
      Nat.le_of_eq (hd.symm.trans (splitAt_apply_length l _ hm).2.symm)
    simp only [ne_eq, hN, not_false_eq_true, decide_true, Bool.not_true, Bool.false_eq_true, if_false,
      udiv_eq, urem_eq, SliceIter.checkedDiv, SliceIter.checkedRem, optRes, Ctl.call_ok, Ctl.pure_eq,
      Ctl.bind_eq, Ctl.bind_val, split_at_eq, Rs.rawPartsArrays, hr, if_true, chunksOf_eq_retype,
      Ctl.run_val, Option.map_some, asRchunksApply]

theorem as_rchunks_eq {T : Type} (N : Nat) (l : List T) (hN : 1 ≤ N) :
    ∃ v, asRchunks l.length N = some v ∧ Extracted.as_rchunks N l = .ok (asRchunksApply N l v) := by
  rw [as_rchunks_res N l]
  have : N ≠ 0 := by omega
  simp [asRchunks, this, optRes]

theorem as_rchunks_panic {T : Type} (l : List T) : Extracted.as_rchunks 0 l = .panic := by
  simp [Extracted.as_rchunks]

example : Extracted.as_rchunks 2 [1, 2, 3, 4, 5] = .ok ([1], [[2, 3], [4, 5]]) := rfl

theorem some_if_nonempty_eq {T : Type} (s : List T) :
    Extracted.some_if_nonempty s = .ok (SliceIter.someIfNonempty s) := by
  cases s <;> rfl

example : Extracted.some_if_nonempty [1, 2] = .ok (some [1, 2]) := rfl
example : Extracted.some_if_nonempty ([] : List Nat) = .ok none := rfl

/-! ### `Windows` / `WindowsRev` -/

def Windows.toModel {T : Type} (w : Extracted.Windows T) : SliceIter.Windows T := ⟨w.slice, w.size⟩
def Windows.ofModel {T : Type} (w : SliceIter.Windows T) : Extracted.Windows T := ⟨w.slice, w.size⟩
def Windows.toIt {T : Type} (w : Extracted.Windows T) : SliceIter.It (SliceIter.Windows T) :=
  ⟨true, Windows.toModel w⟩
def Windows.ofIt {T : Type} (it : SliceIter.It (SliceIter.Windows T)) : Extracted.Windows T :=
  Windows.ofModel it.fields
def WindowsRev.toModel {T : Type} (w : Extracted.WindowsRev T) : SliceIter.Windows T := ⟨w.slice, w.size⟩
def WindowsRev.ofModel {T : Type} (w : SliceIter.Windows T) : Extracted.WindowsRev T := ⟨w.slice, w.size⟩
def WindowsRev.toIt {T : Type} (w : Extracted.WindowsRev T) : SliceIter.It (SliceIter.Windows T) :=
  ⟨false, WindowsRev.toModel w⟩
def WindowsRev.ofIt {T : Type} (it : SliceIter.It (SliceIter.Windows T)) : Extracted.WindowsRev T :=
  WindowsRev.ofModel it.fields

theorem windows_res {T : Type} (l : List T) (size : Nat) :
    Extracted.windows l size = optRes ((SliceIter.windows l size).map Windows.ofIt) := by
  unfold Extracted.windows SliceIter.windows
  by_cases h : size = 0 <;> simp [h, optRes, Windows.ofIt, Windows.ofModel]

theorem windows_eq {T : Type} (l : List T) (size : Nat) (hs : 1 ≤ size) :
    ∃ w, Extracted.windows l size = .ok w ∧ SliceIter.windows l size = some (Windows.toIt w) := by
  have : size ≠ 0 := by omega
  simp [Extracted.windows, SliceIter.windows, this, Windows.toIt, Windows.toModel]

theorem windows_panic {T : Type} (l : List T) : Extracted.windows l 0 = .panic := by
  simp [Extracted.windows]

example : Extracted.windows [1, 2, 3] 2 = .ok ⟨[1, 2, 3], 2⟩ := rfl

theorem Windows_next_res {T : Type} (w : Extracted.Windows T) :
    Extracted.Windows.next w
      = stepRes Windows.ofIt (SliceIter.It.next SliceIter.Windows.blocks (Windows.toIt w)) := by
  rcases w with ⟨sl, n⟩
  simp only [Extracted.Windows.next, slice_up_to_eq, slice_from_eq, decide_eq_true_eq, SliceIter.It.next,
    SliceIter.Windows.blocks, SliceIter.Windows.nextBlock, Windows.toIt, Windows.toModel, if_true]
  split <;> rfl

theorem Windows.nextBlock_ne_panic {T : Type} (w : SliceIter.Windows T) :
    SliceIter.Windows.nextBlock w ≠ .panic := by
  unfold SliceIter.Windows.nextBlock; split <;> simp

theorem Windows.nextBackBlock_ne_panic {T : Type} (w : SliceIter.Windows T) (hs : 1 ≤ w.size) :
    SliceIter.Windows.nextBackBlock w ≠ .panic := by
  unfold SliceIter.Windows.nextBackBlock
  by_cases h : w.slice.length < w.size
  · simp [h]
  · have h1 : w.size ≤ w.slice.length := by omega
    have h2 : 1 ≤ w.slice.length := by omega
    simp [h, SliceIter.checkedSub, h1, h2]

theorem Windows_next_eq {T : Type} (w : Extracted.Windows T) :
    Extracted.Windows.next w
      = .ok (stepOpt Windows.ofIt (SliceIter.It.next SliceIter.Windows.blocks (Windows.toIt w)))
    ∧ SliceIter.It.next SliceIter.Windows.blocks (Windows.toIt w) ≠ .panic :=
  ok_of_res (Windows_next_res w) (by
    simp [SliceIter.It.next, Windows.toIt, SliceIter.Windows.blocks, mapState_ne_panic,
      Windows.nextBlock_ne_panic])

example : Extracted.Windows.next ⟨[1, 2, 3], 2⟩ = .ok (some ([1, 2], ⟨[2, 3], 2⟩)) := rfl
example : Extracted.Windows.next ⟨[1], 2⟩ = .ok none := rfl

/-- no machine bound needed: `len - size`, `len - 1` are the only arithmetic.  Panics (in code and model)
    exactly for `size = 0` on the empty slice (`0 - 1`). -/
theorem Windows_next_back_res {T : Type} (w : Extracted.Windows T) :
    Extracted.Windows.next_back w
      = stepRes Windows.ofIt (SliceIter.It.nextBack SliceIter.Windows.blocks (Windows.toIt w)) := by
  rcases w with ⟨sl, n⟩
  simp only [Extracted.Windows.next_back, usub_eq, slice_up_to_eq, slice_from_eq, decide_eq_true_eq,
    SliceIter.It.nextBack, SliceIter.Windows.blocks, SliceIter.Windows.nextBackBlock, Windows.toIt,
    Windows.toModel, if_true]
  split
  · rfl
  · cases SliceIter.checkedSub sl.length n with
    | none => rfl
    | some a => cases SliceIter.checkedSub sl.length 1 <;> rfl

theorem Windows_next_back_eq {T : Type} (w : Extracted.Windows T) (hs : 1 ≤ w.size) :
    Extracted.Windows.next_back w
      = .ok (stepOpt Windows.ofIt (SliceIter.It.nextBack SliceIter.Windows.blocks (Windows.toIt w)))
    ∧ SliceIter.It.nextBack SliceIter.Windows.blocks (Windows.toIt w) ≠ .panic :=
  ok_of_res (Windows_next_back_res w) (by
    simp only [SliceIter.It.nextBack, Windows.toIt, SliceIter.Windows.blocks, mapState_ne_panic, ↓reduceIte]
    exact Windows.nextBackBlock_ne_panic _ hs)

example : Extracted.Windows.next_back ⟨[1, 2, 3], 2⟩ = .ok (some ([2, 3], ⟨[1, 2], 2⟩)) := rfl
example : Extracted.Windows.next_back ⟨([] : List Nat), 0⟩ = .panic := rfl

theorem WindowsRev_next_res {T : Type} (w : Extracted.WindowsRev T) :
    Extracted.WindowsRev.next w
      = stepRes WindowsRev.ofIt (SliceIter.It.next SliceIter.Windows.blocks (WindowsRev.toIt w)) := by
  rcases w with ⟨sl, n⟩
  simp only [Extracted.WindowsRev.next, usub_eq, slice_up_to_eq, slice_from_eq, decide_eq_true_eq,
    SliceIter.It.next, SliceIter.Windows.blocks, SliceIter.Windows.nextBackBlock, WindowsRev.toIt,
    WindowsRev.toModel, Bool.false_eq_true, if_false]
  split
  · rfl
  · cases SliceIter.checkedSub sl.length n with
    | none => rfl
    | some a => cases SliceIter.checkedSub sl.length 1 <;> rfl

theorem WindowsRev_next_eq {T : Type} (w : Extracted.WindowsRev T) (hs : 1 ≤ w.size) :
    Extracted.WindowsRev.next w
      = .ok (stepOpt WindowsRev.ofIt (SliceIter.It.next SliceIter.Windows.blocks (WindowsRev.toIt w)))
    ∧ SliceIter.It.next SliceIter.Windows.blocks (WindowsRev.toIt w) ≠ .panic :=
  ok_of_res (WindowsRev_next_res w) (by
    simp only [SliceIter.It.next, WindowsRev.toIt, SliceIter.Windows.blocks, mapState_ne_panic]
    exact Windows.nextBackBlock_ne_panic _ hs)

example : Extracted.WindowsRev.next ⟨[1, 2, 3], 2⟩ = .ok (some ([2, 3], ⟨[1, 2], 2⟩)) := rfl

theorem WindowsRev_next_back_res {T : Type} (w : Extracted.WindowsRev T) :
    Extracted.WindowsRev.next_back w
      = stepRes WindowsRev.ofIt (SliceIter.It.nextBack SliceIter.Windows.blocks (WindowsRev.toIt w)) := by
  rcases w with ⟨sl, n⟩
  simp only [Extracted.WindowsRev.next_back, slice_up_to_eq, slice_from_eq, decide_eq_true_eq,
    SliceIter.It.nextBack, SliceIter.Windows.blocks, SliceIter.Windows.nextBlock, WindowsRev.toIt,
    WindowsRev.toModel, Bool.false_eq_true, if_false]
  split <;> rfl

theorem WindowsRev_next_back_eq {T : Type} (w : Extracted.WindowsRev T) :
    Extracted.WindowsRev.next_back w
      = .ok (stepOpt WindowsRev.ofIt
          (SliceIter.It.nextBack SliceIter.Windows.blocks (WindowsRev.toIt w)))
    ∧ SliceIter.It.nextBack SliceIter.Windows.blocks (WindowsRev.toIt w) ≠ .panic :=
  ok_of_res (WindowsRev_next_back_res w) (by
    simp [SliceIter.It.nextBack, WindowsRev.toIt, SliceIter.Windows.blocks, mapState_ne_panic,
      Windows.nextBlock_ne_panic])

example : Extracted.WindowsRev.next_back ⟨[1, 2, 3], 2⟩ = .ok (some ([1, 2], ⟨[2, 3], 2⟩)) := rfl

/-! ### `Chunks` / `ChunksRev` -/

def Chunks.toModel {T : Type} (c : Extracted.Chunks T) : SliceIter.Chunks T :=
  ⟨c.slice, c.chunk_size⟩
def Chunks.ofModel {T : Type} (c : SliceIter.Chunks T) : Extracted.Chunks T :=
  ⟨c.slice, c.chunkSize⟩
def Chunks.toIt {T : Type} (c : Extracted.Chunks T) :
    SliceIter.It (SliceIter.Chunks T) :=
  ⟨true, Chunks.toModel c⟩
def Chunks.ofIt {T : Type} (it : SliceIter.It (SliceIter.Chunks T)) :
    Extracted.Chunks T :=
  Chunks.ofModel it.fields

def ChunksRev.toModel {T : Type} (c : Extracted.ChunksRev T) : SliceIter.Chunks T :=
  ⟨c.slice, c.chunk_size⟩
def ChunksRev.ofModel {T : Type} (c : SliceIter.Chunks T) : Extracted.ChunksRev T :=
  ⟨c.slice, c.chunkSize⟩
def ChunksRev.toIt {T : Type} (c : Extracted.ChunksRev T) :
    SliceIter.It (SliceIter.Chunks T) :=
  ⟨false, ChunksRev.toModel c⟩
def ChunksRev.ofIt {T : Type} (it : SliceIter.It (SliceIter.Chunks T)) :
    Extracted.ChunksRev T :=
  ChunksRev.ofModel it.fields

theorem chunks_res {T : Type} (l : List T) (n : Nat) :
    Extracted.chunks l n = optRes ((SliceIter.chunks l n).map Chunks.ofIt) := by
  unfold Extracted.chunks SliceIter.chunks
  by_cases h : n = 0 <;> simp [h, optRes, Chunks.ofIt, Chunks.ofModel, some_if_nonempty_eq]

theorem chunks_eq {T : Type} (l : List T) (n : Nat) (hn : 1 ≤ n) :
    ∃ c, Extracted.chunks l n = .ok c ∧ SliceIter.chunks l n = some (Chunks.toIt c) := by
  have : n ≠ 0 := by omega
  simp [Extracted.chunks, SliceIter.chunks, this, Chunks.toIt, Chunks.toModel, some_if_nonempty_eq]

theorem chunks_panic {T : Type} (l : List T) : Extracted.chunks l 0 = .panic := by
  simp [Extracted.chunks]

example : Extracted.chunks [1, 2, 3] 2 = .ok ⟨some [1, 2, 3], 2⟩ := rfl
example : Extracted.chunks ([] : List Nat) 2 = .ok ⟨none, 2⟩ := rfl

theorem Chunks.nextBlock_ne_panic {T : Type} (c : SliceIter.Chunks T) :
    SliceIter.Chunks.nextBlock c ≠ .panic := by
  rcases c with ⟨_ | s, n⟩ <;> simp [SliceIter.Chunks.nextBlock, SliceIter.splitAtL]

theorem Chunks.nextBackBlock_ne_panic {T : Type} (c : SliceIter.Chunks T) (hs : 1 ≤ c.chunkSize)
    (hne : c.slice ≠ some []) : SliceIter.Chunks.nextBackBlock c ≠ .panic := by
  rcases c with ⟨_ | s, n⟩
  · simp [SliceIter.Chunks.nextBackBlock]
  · have h1 : 1 ≤ s.length := by
      cases s with
      | nil => simp at hne
      | cons => simp
    have hn : n ≠ 0 := by simp at hs; omega
    simp [SliceIter.Chunks.nextBackBlock, SliceIter.checkedSub, SliceIter.checkedDiv, h1, hn,
      SliceIter.splitAtL]

theorem Chunks_next_res {T : Type} (c : Extracted.Chunks T) :
    Extracted.Chunks.next c
      = stepRes Chunks.ofIt
          (SliceIter.It.next SliceIter.Chunks.blocks (Chunks.toIt c)) := by
  rcases c with ⟨_ | s, n⟩
  · rfl
  · simp only [Extracted.Chunks.next, split_at_eq, some_if_nonempty_eq]
    rfl

theorem Chunks_next_eq {T : Type} (c : Extracted.Chunks T) :
    Extracted.Chunks.next c
      = .ok (stepOpt Chunks.ofIt
          (SliceIter.It.next SliceIter.Chunks.blocks (Chunks.toIt c)))
    ∧ SliceIter.It.next SliceIter.Chunks.blocks (Chunks.toIt c) ≠ .panic :=
  ok_of_res (Chunks_next_res c) (by
    simp only [SliceIter.It.next, Chunks.toIt, SliceIter.Chunks.blocks, mapState_ne_panic,
      ↓reduceIte]
    exact Chunks.nextBlock_ne_panic _)

example : Extracted.Chunks.next ⟨some [1, 2, 3], 2⟩ = .ok (some ([1, 2], ⟨some [3], 2⟩)) := rfl
example : Extracted.Chunks.next ⟨some [1, 2], 2⟩ = .ok (some ([1, 2], ⟨none, 2⟩)) := rfl
example : Extracted.Chunks.next (⟨none, 2⟩ : Extracted.Chunks Nat) = .ok none := rfl

/-- the product `(len - 1) / chunk_size * chunk_size` is checked in the code: it is `≤ len - 1`, so `len < 2^64`
    (true of every Rust slice) excludes the overflow panic.  Code and model panic exactly for
    `chunk_size = 0` or `slice = Some(&[])` (which the constructors / steps never produce). -/
theorem Chunks_next_back_res {T : Type} (c : Extracted.Chunks T)
    (hb : ∀ s, c.slice = some s → s.length < 2 ^ 64) :
    Extracted.Chunks.next_back c
      = stepRes Chunks.ofIt
          (SliceIter.It.nextBack SliceIter.Chunks.blocks (Chunks.toIt c)) := by
  rcases c with ⟨_ | s, n⟩
  · rfl
  · simp only [Extracted.Chunks.next_back, usub_eq, udiv_eq, split_at_eq, some_if_nonempty_eq,
      SliceIter.It.nextBack, SliceIter.Chunks.blocks, SliceIter.Chunks.nextBackBlock, Chunks.toIt,
      Chunks.toModel, if_true]
    cases h1 : SliceIter.checkedSub s.length 1 with
    | none => rfl
    | some t =>
      simp only [optRes, Ctl.call_ok, Ctl.bind_eq, Ctl.bind_val, Option.bind_some]
      cases h2 : SliceIter.checkedDiv t n with
      | none => rfl
      | some q =>
        have hq : q * n < 2 ^ 64 :=
          Nat.lt_of_le_of_lt (Nat.le_trans (checkedDiv_mul_le h2) (checkedSub_le h1)) (hb s rfl)
        simp only [Ctl.call_ok, Ctl.bind_val, umul_of_lt hq]
        rfl

theorem Chunks_next_back_eq {T : Type} (c : Extracted.Chunks T)
    (hb : ∀ s, c.slice = some s → s.length < 2 ^ 64)
    (hs : 1 ≤ c.chunk_size)
    (hne : c.slice ≠ some []) :
    Extracted.Chunks.next_back c
      = .ok (stepOpt Chunks.ofIt
          (SliceIter.It.nextBack SliceIter.Chunks.blocks (Chunks.toIt c)))
    ∧ SliceIter.It.nextBack SliceIter.Chunks.blocks (Chunks.toIt c) ≠ .panic :=
  ok_of_res (Chunks_next_back_res c hb) (by
    simp only [SliceIter.It.nextBack, Chunks.toIt, SliceIter.Chunks.blocks, mapState_ne_panic,
      ↓reduceIte]
    exact Chunks.nextBackBlock_ne_panic _ hs hne)

example : Extracted.Chunks.next_back ⟨some [1, 2, 3], 2⟩ = .ok (some ([3], ⟨some [1, 2], 2⟩)) := rfl
example : Extracted.Chunks.next_back ⟨some [1, 2, 3], 0⟩ = .panic := rfl

theorem ChunksRev_next_res {T : Type} (c : Extracted.ChunksRev T)
    (hb : ∀ s, c.slice = some s → s.length < 2 ^ 64) :
    Extracted.ChunksRev.next c
      = stepRes ChunksRev.ofIt
          (SliceIter.It.next SliceIter.Chunks.blocks (ChunksRev.toIt c)) := by
  rcases c with ⟨_ | s, n⟩
  · rfl
  · simp only [Extracted.ChunksRev.next, usub_eq, udiv_eq, split_at_eq, some_if_nonempty_eq,
      SliceIter.It.next, SliceIter.Chunks.blocks, SliceIter.Chunks.nextBackBlock, ChunksRev.toIt,
      ChunksRev.toModel, Bool.false_eq_true, if_false]
    cases h1 : SliceIter.checkedSub s.length 1 with
    | none => rfl
    | some t =>
      simp only [optRes, Ctl.call_ok, Ctl.bind_eq, Ctl.bind_val, Option.bind_some]
      cases h2 : SliceIter.checkedDiv t n with
      | none => rfl
      | some q =>
        have hq : q * n < 2 ^ 64 :=
          Nat.lt_of_le_of_lt (Nat.le_trans (checkedDiv_mul_le h2) (checkedSub_le h1)) (hb s rfl)
        simp only [Ctl.call_ok, Ctl.bind_val, umul_of_lt hq]
        rfl

theorem ChunksRev_next_eq {T : Type} (c : Extracted.ChunksRev T)
    (hb : ∀ s, c.slice = some s → s.length < 2 ^ 64)
    (hs : 1 ≤ c.chunk_size)
    (hne : c.slice ≠ some []) :
    Extracted.ChunksRev.next c
      = .ok (stepOpt ChunksRev.ofIt
          (SliceIter.It.next SliceIter.Chunks.blocks (ChunksRev.toIt c)))
    ∧ SliceIter.It.next SliceIter.Chunks.blocks (ChunksRev.toIt c) ≠ .panic :=
  ok_of_res (ChunksRev_next_res c hb) (by
    simp only [SliceIter.It.next, ChunksRev.toIt, SliceIter.Chunks.blocks, mapState_ne_panic,
      Bool.false_eq_true, ↓reduceIte]
    exact Chunks.nextBackBlock_ne_panic _ hs hne)

example : Extracted.ChunksRev.next ⟨some [1, 2, 3], 2⟩ = .ok (some ([3], ⟨some [1, 2], 2⟩)) := rfl

theorem ChunksRev_next_back_res {T : Type} (c : Extracted.ChunksRev T) :
    Extracted.ChunksRev.next_back c
      = stepRes ChunksRev.ofIt
          (SliceIter.It.nextBack SliceIter.Chunks.blocks (ChunksRev.toIt c)) := by
  rcases c with ⟨_ | s, n⟩
  · rfl
  · simp only [Extracted.ChunksRev.next_back, split_at_eq, some_if_nonempty_eq]
    rfl

theorem ChunksRev_next_back_eq {T : Type} (c : Extracted.ChunksRev T) :
    Extracted.ChunksRev.next_back c
      = .ok (stepOpt ChunksRev.ofIt
          (SliceIter.It.nextBack SliceIter.Chunks.blocks (ChunksRev.toIt c)))
    ∧ SliceIter.It.nextBack SliceIter.Chunks.blocks (ChunksRev.toIt c) ≠ .panic :=
  ok_of_res (ChunksRev_next_back_res c) (by
    simp only [SliceIter.It.nextBack, ChunksRev.toIt, SliceIter.Chunks.blocks, mapState_ne_panic,
      Bool.false_eq_true, ↓reduceIte]
    exact Chunks.nextBlock_ne_panic _)

example : Extracted.ChunksRev.next_back ⟨some [1, 2, 3], 2⟩ = .ok (some ([1, 2], ⟨some [3], 2⟩)) :=
  rfl

/-! ### `RChunks` / `RChunksRev` -/

def RChunks.toModel {T : Type} (c : Extracted.RChunks T) : SliceIter.RChunks T :=
  ⟨c.slice, c.chunk_size⟩
def RChunks.ofModel {T : Type} (c : SliceIter.RChunks T) : Extracted.RChunks T :=
  ⟨c.slice, c.chunkSize⟩
def RChunks.toIt {T : Type} (c : Extracted.RChunks T) :
    SliceIter.It (SliceIter.RChunks T) :=
  ⟨true, RChunks.toModel c⟩
def RChunks.ofIt {T : Type} (it : SliceIter.It (SliceIter.RChunks T)) :
    Extracted.RChunks T :=
  RChunks.ofModel it.fields

def RChunksRev.toModel {T : Type} (c : Extracted.RChunksRev T) : SliceIter.RChunks T :=
  ⟨c.slice, c.chunk_size⟩
def RChunksRev.ofModel {T : Type} (c : SliceIter.RChunks T) : Extracted.RChunksRev T :=
  ⟨c.slice, c.chunkSize⟩
def RChunksRev.toIt {T : Type} (c : Extracted.RChunksRev T) :
    SliceIter.It (SliceIter.RChunks T) :=
  ⟨false, RChunksRev.toModel c⟩
def RChunksRev.ofIt {T : Type} (it : SliceIter.It (SliceIter.RChunks T)) :
    Extracted.RChunksRev T :=
  RChunksRev.ofModel it.fields

theorem rchunks_res {T : Type} (l : List T) (n : Nat) :
    Extracted.rchunks l n = optRes ((SliceIter.rchunks l n).map RChunks.ofIt) := by
  unfold Extracted.rchunks SliceIter.rchunks
  by_cases h : n = 0 <;> simp [h, optRes, RChunks.ofIt, RChunks.ofModel, some_if_nonempty_eq]

theorem rchunks_eq {T : Type} (l : List T) (n : Nat) (hn : 1 ≤ n) :
    ∃ c, Extracted.rchunks l n = .ok c ∧ SliceIter.rchunks l n = some (RChunks.toIt c) := by
  have : n ≠ 0 := by omega
  simp [Extracted.rchunks, SliceIter.rchunks, this, RChunks.toIt, RChunks.toModel, some_if_nonempty_eq]

theorem rchunks_panic {T : Type} (l : List T) : Extracted.rchunks l 0 = .panic := by
  simp [Extracted.rchunks]

example : Extracted.rchunks [1, 2, 3] 2 = .ok ⟨some [1, 2, 3], 2⟩ := rfl

theorem RChunks.nextBlock_ne_panic {T : Type} (c : SliceIter.RChunks T) :
    SliceIter.RChunks.nextBlock c ≠ .panic := by
  rcases c with ⟨_ | s, n⟩ <;> simp [SliceIter.RChunks.nextBlock, SliceIter.splitAtL]

theorem RChunks.nextBackBlock_ne_panic {T : Type} (c : SliceIter.RChunks T) (hs : 1 ≤ c.chunkSize) :
    SliceIter.RChunks.nextBackBlock c ≠ .panic := by
  rcases c with ⟨_ | s, n⟩
  · simp [SliceIter.RChunks.nextBackBlock]
  · have hn : n ≠ 0 := by simp at hs; omega
    simp [SliceIter.RChunks.nextBackBlock, SliceIter.checkedRem, hn, SliceIter.splitAtL]

/-- `saturating_sub` never panics; no bound needed -/
theorem RChunks_next_res {T : Type} (c : Extracted.RChunks T) :
    Extracted.RChunks.next c
      = stepRes RChunks.ofIt
          (SliceIter.It.next SliceIter.RChunks.blocks (RChunks.toIt c)) := by
  rcases c with ⟨_ | s, n⟩
  · rfl
  · simp only [Extracted.RChunks.next, split_at_eq, some_if_nonempty_eq, Rs.uSaturatingSub]
    rfl

theorem RChunks_next_eq {T : Type} (c : Extracted.RChunks T) :
    Extracted.RChunks.next c
      = .ok (stepOpt RChunks.ofIt
          (SliceIter.It.next SliceIter.RChunks.blocks (RChunks.toIt c)))
    ∧ SliceIter.It.next SliceIter.RChunks.blocks (RChunks.toIt c) ≠ .panic :=
  ok_of_res (RChunks_next_res c) (by
    simp only [SliceIter.It.next, RChunks.toIt, SliceIter.RChunks.blocks, mapState_ne_panic,
      ↓reduceIte]
    exact RChunks.nextBlock_ne_panic _)

example : Extracted.RChunks.next ⟨some [1, 2, 3], 2⟩ = .ok (some ([2, 3], ⟨some [1], 2⟩)) := rfl
example : Extracted.RChunks.next ⟨some [1], 2⟩ = .ok (some ([1], ⟨none, 2⟩)) := rfl

/-- code and model panic exactly for `chunk_size = 0` (`len % 0`) on a `Some` slice -/
theorem RChunks_next_back_res {T : Type} (c : Extracted.RChunks T) :
    Extracted.RChunks.next_back c
      = stepRes RChunks.ofIt
          (SliceIter.It.nextBack SliceIter.RChunks.blocks (RChunks.toIt c)) := by
  rcases c with ⟨_ | s, n⟩
  · rfl
  · simp only [Extracted.RChunks.next_back, urem_eq, split_at_eq, some_if_nonempty_eq, decide_eq_true_eq,
      SliceIter.It.nextBack, SliceIter.RChunks.blocks, SliceIter.RChunks.nextBackBlock,
      RChunks.toIt, RChunks.toModel, if_true]
    cases SliceIter.checkedRem s.length n with
    | none => rfl
    | some r =>
      simp only [optRes, Ctl.call_ok, Ctl.bind_eq, Ctl.bind_val, Ctl.pure_eq, Ctl.run_val, stepRes,
        SliceIter.Step.mapState, SliceIter.splitAtL, RChunks.ofIt, RChunks.ofModel]

theorem RChunks_next_back_eq {T : Type} (c : Extracted.RChunks T)
    (hs : 1 ≤ c.chunk_size) :
    Extracted.RChunks.next_back c
      = .ok (stepOpt RChunks.ofIt
          (SliceIter.It.nextBack SliceIter.RChunks.blocks (RChunks.toIt c)))
    ∧ SliceIter.It.nextBack SliceIter.RChunks.blocks (RChunks.toIt c) ≠ .panic :=
  ok_of_res (RChunks_next_back_res c) (by
    simp only [SliceIter.It.nextBack, RChunks.toIt, SliceIter.RChunks.blocks, mapState_ne_panic,
      ↓reduceIte]
    exact RChunks.nextBackBlock_ne_panic _ hs)

example : Extracted.RChunks.next_back ⟨some [1, 2, 3], 2⟩ = .ok (some ([1], ⟨some [2, 3], 2⟩)) :=
  rfl
example : Extracted.RChunks.next_back ⟨some [1, 2, 3, 4], 2⟩ = .ok (some ([1, 2], ⟨some [3, 4], 2⟩)) :=
  rfl
example : Extracted.RChunks.next_back ⟨some [1, 2, 3], 0⟩ = .panic := rfl

theorem RChunksRev_next_res {T : Type} (c : Extracted.RChunksRev T) :
    Extracted.RChunksRev.next c
      = stepRes RChunksRev.ofIt
          (SliceIter.It.next SliceIter.RChunks.blocks (RChunksRev.toIt c)) := by
  rcases c with ⟨_ | s, n⟩
  · rfl
  · simp only [Extracted.RChunksRev.next, urem_eq, split_at_eq, some_if_nonempty_eq, decide_eq_true_eq,
      SliceIter.It.next, SliceIter.RChunks.blocks, SliceIter.RChunks.nextBackBlock,
      RChunksRev.toIt, RChunksRev.toModel, Bool.false_eq_true, if_false]
    cases SliceIter.checkedRem s.length n with
    | none => rfl
    | some r =>
      simp only [optRes, Ctl.call_ok, Ctl.bind_eq, Ctl.bind_val, Ctl.pure_eq, Ctl.run_val, stepRes,
        SliceIter.Step.mapState, SliceIter.splitAtL, RChunksRev.ofIt, RChunksRev.ofModel]

theorem RChunksRev_next_eq {T : Type} (c : Extracted.RChunksRev T)
    (hs : 1 ≤ c.chunk_size) :
    Extracted.RChunksRev.next c
      = .ok (stepOpt RChunksRev.ofIt
          (SliceIter.It.next SliceIter.RChunks.blocks (RChunksRev.toIt c)))
    ∧ SliceIter.It.next SliceIter.RChunks.blocks (RChunksRev.toIt c) ≠ .panic :=
  ok_of_res (RChunksRev_next_res c) (by
    simp only [SliceIter.It.next, RChunksRev.toIt, SliceIter.RChunks.blocks, mapState_ne_panic,
      Bool.false_eq_true, ↓reduceIte]
    exact RChunks.nextBackBlock_ne_panic _ hs)

example : Extracted.RChunksRev.next ⟨some [1, 2, 3], 2⟩ = .ok (some ([1], ⟨some [2, 3], 2⟩)) := rfl

theorem RChunksRev_next_back_res {T : Type} (c : Extracted.RChunksRev T) :
    Extracted.RChunksRev.next_back c
      = stepRes RChunksRev.ofIt
          (SliceIter.It.nextBack SliceIter.RChunks.blocks (RChunksRev.toIt c)) := by
  rcases c with ⟨_ | s, n⟩
  · rfl
  · simp only [Extracted.RChunksRev.next_back, split_at_eq, some_if_nonempty_eq, Rs.uSaturatingSub]
    rfl

theorem RChunksRev_next_back_eq {T : Type} (c : Extracted.RChunksRev T) :
    Extracted.RChunksRev.next_back c
      = .ok (stepOpt RChunksRev.ofIt
          (SliceIter.It.nextBack SliceIter.RChunks.blocks (RChunksRev.toIt c)))
    ∧ SliceIter.It.nextBack SliceIter.RChunks.blocks (RChunksRev.toIt c) ≠ .panic :=
  ok_of_res (RChunksRev_next_back_res c) (by
    simp only [SliceIter.It.nextBack, RChunksRev.toIt, SliceIter.RChunks.blocks, mapState_ne_panic,
      Bool.false_eq_true, ↓reduceIte]
    exact RChunks.nextBlock_ne_panic _)

example : Extracted.RChunksRev.next_back ⟨some [1, 2, 3], 2⟩ = .ok (some ([2, 3], ⟨some [1], 2⟩)) :=
  rfl

/-! ### `ChunksExact` / `ChunksExactRev` -/

def ChunksExact.toModel {T : Type} (c : Extracted.ChunksExact T) : SliceIter.ChunksExact T :=
  ⟨c.slice, c.rem, c.chunk_size⟩
def ChunksExact.ofModel {T : Type} (c : SliceIter.ChunksExact T) : Extracted.ChunksExact T :=
  ⟨c.slice, c.rem, c.chunkSize⟩
def ChunksExact.toIt {T : Type} (c : Extracted.ChunksExact T) :
    SliceIter.It (SliceIter.ChunksExact T) :=
  ⟨true, ChunksExact.toModel c⟩
def ChunksExact.ofIt {T : Type} (it : SliceIter.It (SliceIter.ChunksExact T)) :
    Extracted.ChunksExact T :=
  ChunksExact.ofModel it.fields

def ChunksExactRev.toModel {T : Type} (c : Extracted.ChunksExactRev T) : SliceIter.ChunksExact T :=
  ⟨c.slice, c.rem, c.chunk_size⟩
def ChunksExactRev.ofModel {T : Type} (c : SliceIter.ChunksExact T) : Extracted.ChunksExactRev T :=
  ⟨c.slice, c.rem, c.chunkSize⟩
def ChunksExactRev.toIt {T : Type} (c : Extracted.ChunksExactRev T) :
    SliceIter.It (SliceIter.ChunksExact T) :=
  ⟨false, ChunksExactRev.toModel c⟩
def ChunksExactRev.ofIt {T : Type} (it : SliceIter.It (SliceIter.ChunksExact T)) :
    Extracted.ChunksExactRev T :=
  ChunksExactRev.ofModel it.fields

/-- no machine bound needed (`len % n ≤ len`, so `len - len % n` cannot panic) -/
theorem chunks_exact_res {T : Type} (l : List T) (n : Nat) :
    Extracted.chunks_exact l n = optRes ((SliceIter.chunksExact l n).map ChunksExact.ofIt) := by
  unfold Extracted.chunks_exact SliceIter.chunksExact
  have hm : l.length % n ≤ l.length := Nat.mod_le _ _
  by_cases h : n = 0 <;>
    simp [h, optRes, ChunksExact.ofIt, ChunksExact.ofModel, Rs.urem, Rs.usub, hm,
      SliceIter.checkedRem, SliceIter.checkedSub,
      split_at_eq,
      SliceIter.splitAtL, splitAt]

theorem chunks_exact_eq {T : Type} (l : List T) (n : Nat) (hn : 1 ≤ n) :
    ∃ c, Extracted.chunks_exact l n = .ok c
      ∧ SliceIter.chunksExact l n = some (ChunksExact.toIt c) := by
  have h : n ≠ 0 := by omega
  have hm : l.length % n ≤ l.length := Nat.mod_le _ _
  simp [Extracted.chunks_exact, SliceIter.chunksExact, h, ChunksExact.toIt, ChunksExact.toModel,
    Rs.urem, Rs.usub, hm,
      SliceIter.checkedRem, SliceIter.checkedSub, split_at_eq,
    SliceIter.splitAtL, splitAt]

theorem chunks_exact_panic {T : Type} (l : List T) : Extracted.chunks_exact l 0 = .panic := by
  simp [Extracted.chunks_exact]

example : Extracted.chunks_exact [1, 2, 3, 4, 5] 2 = .ok ⟨[1, 2, 3, 4], [5], 2⟩ := rfl

theorem ChunksExact.nextBlock_ne_panic {T : Type} (c : SliceIter.ChunksExact T) :
    SliceIter.ChunksExact.nextBlock c ≠ .panic := by
  unfold SliceIter.ChunksExact.nextBlock; split <;> simp [SliceIter.splitAtL]

theorem ChunksExact.nextBackBlock_ne_panic {T : Type} (c : SliceIter.ChunksExact T)
    (hk : c.slice ≠ [] → c.chunkSize ≤ c.slice.length) :
    SliceIter.ChunksExact.nextBackBlock c ≠ .panic := by
  unfold SliceIter.ChunksExact.nextBackBlock
  by_cases h : c.slice = []
  · simp [h]
  · simp [h, SliceIter.checkedSub, hk h, SliceIter.splitAtL]

theorem ChunksExact_next_res {T : Type} (c : Extracted.ChunksExact T) :
    Extracted.ChunksExact.next c
      = stepRes ChunksExact.ofIt
          (SliceIter.It.next SliceIter.ChunksExact.blocks (ChunksExact.toIt c)) := by
  rcases c with ⟨_ | ⟨x, xs⟩, r, n⟩
  · rfl
  · simp only [Extracted.ChunksExact.next, split_at_eq]
    rfl

theorem ChunksExact_next_eq {T : Type} (c : Extracted.ChunksExact T) :
    Extracted.ChunksExact.next c
      = .ok (stepOpt ChunksExact.ofIt
          (SliceIter.It.next SliceIter.ChunksExact.blocks (ChunksExact.toIt c)))
    ∧ SliceIter.It.next SliceIter.ChunksExact.blocks (ChunksExact.toIt c) ≠ .panic :=
  ok_of_res (ChunksExact_next_res c) (by
    simp only [SliceIter.It.next, ChunksExact.toIt, SliceIter.ChunksExact.blocks, mapState_ne_panic,
      ↓reduceIte]
    exact ChunksExact.nextBlock_ne_panic _)

example : Extracted.ChunksExact.next ⟨[1, 2, 3, 4], [5], 2⟩ = .ok (some ([1, 2], ⟨[3, 4], [5], 2⟩)) :=
  rfl
example : Extracted.ChunksExact.next ⟨[], [5], 2⟩ = .ok none := rfl

/-- `len - chunk_size` panics (in code and model) exactly when the non-empty `slice` is shorter than
    `chunk_size`; the constructor's invariant `chunk_size ∣ slice.len()` excludes that -/
theorem ChunksExact_next_back_res {T : Type} (c : Extracted.ChunksExact T) :
    Extracted.ChunksExact.next_back c
      = stepRes ChunksExact.ofIt
          (SliceIter.It.nextBack SliceIter.ChunksExact.blocks (ChunksExact.toIt c)) := by
  rcases c with ⟨_ | ⟨x, xs⟩, r, n⟩
  · rfl
  · simp only [Extracted.ChunksExact.next_back, usub_eq, split_at_eq, SliceIter.It.nextBack,
      SliceIter.ChunksExact.blocks, SliceIter.ChunksExact.nextBackBlock, ChunksExact.toIt,
      ChunksExact.toModel, if_true]
    cases SliceIter.checkedSub (x :: xs).length n <;> rfl

theorem ChunksExact_next_back_eq {T : Type} (c : Extracted.ChunksExact T)
    (hk : c.slice ≠ [] → c.chunk_size ≤ c.slice.length) :
    Extracted.ChunksExact.next_back c
      = .ok (stepOpt ChunksExact.ofIt
          (SliceIter.It.nextBack SliceIter.ChunksExact.blocks (ChunksExact.toIt c)))
    ∧ SliceIter.It.nextBack SliceIter.ChunksExact.blocks (ChunksExact.toIt c) ≠ .panic :=
  ok_of_res (ChunksExact_next_back_res c) (by
    simp only [SliceIter.It.nextBack, ChunksExact.toIt, SliceIter.ChunksExact.blocks, mapState_ne_panic,
      ↓reduceIte]
    exact ChunksExact.nextBackBlock_ne_panic _ hk)

example : Extracted.ChunksExact.next_back ⟨[1, 2, 3, 4], [5], 2⟩ = .ok (some ([3, 4], ⟨[1, 2], [5], 2⟩)) :=
  rfl
example : Extracted.ChunksExact.next_back ⟨[1], [5], 2⟩ = .panic := rfl

theorem ChunksExactRev_next_res {T : Type} (c : Extracted.ChunksExactRev T) :
    Extracted.ChunksExactRev.next c
      = stepRes ChunksExactRev.ofIt
          (SliceIter.It.next SliceIter.ChunksExact.blocks (ChunksExactRev.toIt c)) := by
  rcases c with ⟨_ | ⟨x, xs⟩, r, n⟩
  · rfl
  · simp only [Extracted.ChunksExactRev.next, usub_eq, split_at_eq, SliceIter.It.next,
      SliceIter.ChunksExact.blocks, SliceIter.ChunksExact.nextBackBlock, ChunksExactRev.toIt,
      ChunksExactRev.toModel, Bool.false_eq_true, if_false]
    cases SliceIter.checkedSub (x :: xs).length n <;> rfl

theorem ChunksExactRev_next_eq {T : Type} (c : Extracted.ChunksExactRev T)
    (hk : c.slice ≠ [] → c.chunk_size ≤ c.slice.length) :
    Extracted.ChunksExactRev.next c
      = .ok (stepOpt ChunksExactRev.ofIt
          (SliceIter.It.next SliceIter.ChunksExact.blocks (ChunksExactRev.toIt c)))
    ∧ SliceIter.It.next SliceIter.ChunksExact.blocks (ChunksExactRev.toIt c) ≠ .panic :=
  ok_of_res (ChunksExactRev_next_res c) (by
    simp only [SliceIter.It.next, ChunksExactRev.toIt, SliceIter.ChunksExact.blocks, mapState_ne_panic,
      Bool.false_eq_true, ↓reduceIte]
    exact ChunksExact.nextBackBlock_ne_panic _ hk)

example : Extracted.ChunksExactRev.next ⟨[1, 2, 3, 4], [5], 2⟩ = .ok (some ([3, 4], ⟨[1, 2], [5], 2⟩)) :=
  rfl

theorem ChunksExactRev_next_back_res {T : Type} (c : Extracted.ChunksExactRev T) :
    Extracted.ChunksExactRev.next_back c
      = stepRes ChunksExactRev.ofIt
          (SliceIter.It.nextBack SliceIter.ChunksExact.blocks (ChunksExactRev.toIt c)) := by
  rcases c with ⟨_ | ⟨x, xs⟩, r, n⟩
  · rfl
  · simp only [Extracted.ChunksExactRev.next_back, split_at_eq]
    rfl

theorem ChunksExactRev_next_back_eq {T : Type} (c : Extracted.ChunksExactRev T) :
    Extracted.ChunksExactRev.next_back c
      = .ok (stepOpt ChunksExactRev.ofIt
          (SliceIter.It.nextBack SliceIter.ChunksExact.blocks (ChunksExactRev.toIt c)))
    ∧ SliceIter.It.nextBack SliceIter.ChunksExact.blocks (ChunksExactRev.toIt c) ≠ .panic :=
  ok_of_res (ChunksExactRev_next_back_res c) (by
    simp only [SliceIter.It.nextBack, ChunksExactRev.toIt, SliceIter.ChunksExact.blocks, mapState_ne_panic,
      Bool.false_eq_true, ↓reduceIte]
    exact ChunksExact.nextBlock_ne_panic _)

example : Extracted.ChunksExactRev.next_back ⟨[1, 2, 3, 4], [5], 2⟩ = .ok (some ([1, 2], ⟨[3, 4], [5], 2⟩)) :=
  rfl

theorem ChunksExact_remainder_eq {T : Type} (c : Extracted.ChunksExact T) :
    Extracted.ChunksExact.remainder c
      = .ok (SliceIter.ChunksExact.remainder (ChunksExact.toIt c)) := rfl

theorem ChunksExactRev_remainder_eq {T : Type} (c : Extracted.ChunksExactRev T) :
    Extracted.ChunksExactRev.remainder c
      = .ok (SliceIter.ChunksExact.remainder (ChunksExactRev.toIt c)) := rfl

/-! ### `RChunksExact` / `RChunksExactRev` -/

def RChunksExact.toModel {T : Type} (c : Extracted.RChunksExact T) : SliceIter.RChunksExact T :=
  ⟨c.slice, c.rem, c.chunk_size⟩
def RChunksExact.ofModel {T : Type} (c : SliceIter.RChunksExact T) : Extracted.RChunksExact T :=
  ⟨c.slice, c.rem, c.chunkSize⟩
def RChunksExact.toIt {T : Type} (c : Extracted.RChunksExact T) :
    SliceIter.It (SliceIter.RChunksExact T) :=
  ⟨true, RChunksExact.toModel c⟩
def RChunksExact.ofIt {T : Type} (it : SliceIter.It (SliceIter.RChunksExact T)) :
    Extracted.RChunksExact T :=
  RChunksExact.ofModel it.fields

def RChunksExactRev.toModel {T : Type} (c : Extracted.RChunksExactRev T) : SliceIter.RChunksExact T :=
  ⟨c.slice, c.rem, c.chunk_size⟩
def RChunksExactRev.ofModel {T : Type} (c : SliceIter.RChunksExact T) : Extracted.RChunksExactRev T :=
  ⟨c.slice, c.rem, c.chunkSize⟩
def RChunksExactRev.toIt {T : Type} (c : Extracted.RChunksExactRev T) :
    SliceIter.It (SliceIter.RChunksExact T) :=
  ⟨false, RChunksExactRev.toModel c⟩
def RChunksExactRev.ofIt {T : Type} (it : SliceIter.It (SliceIter.RChunksExact T)) :
    Extracted.RChunksExactRev T :=
  RChunksExactRev.ofModel it.fields

theorem rchunks_exact_res {T : Type} (l : List T) (n : Nat) :
    Extracted.rchunks_exact l n = optRes ((SliceIter.rchunksExact l n).map RChunksExact.ofIt) := by
  unfold Extracted.rchunks_exact SliceIter.rchunksExact
  by_cases h : n = 0 <;>
    simp [h, optRes, RChunksExact.ofIt, RChunksExact.ofModel, Rs.urem, SliceIter.checkedRem,
      split_at_eq,
      SliceIter.splitAtL, splitAt]

theorem rchunks_exact_eq {T : Type} (l : List T) (n : Nat) (hn : 1 ≤ n) :
    ∃ c, Extracted.rchunks_exact l n = .ok c
      ∧ SliceIter.rchunksExact l n = some (RChunksExact.toIt c) := by
  have h : n ≠ 0 := by omega
  simp [Extracted.rchunks_exact, SliceIter.rchunksExact, h, RChunksExact.toIt, RChunksExact.toModel,
    Rs.urem, SliceIter.checkedRem, split_at_eq,
    SliceIter.splitAtL, splitAt]

theorem rchunks_exact_panic {T : Type} (l : List T) : Extracted.rchunks_exact l 0 = .panic := by
  simp [Extracted.rchunks_exact]

example : Extracted.rchunks_exact [1, 2, 3, 4, 5] 2 = .ok ⟨[2, 3, 4, 5], [1], 2⟩ := rfl

theorem RChunksExact.nextBackBlock_ne_panic {T : Type} (c : SliceIter.RChunksExact T) :
    SliceIter.RChunksExact.nextBackBlock c ≠ .panic := by
  unfold SliceIter.RChunksExact.nextBackBlock; split <;> simp [SliceIter.splitAtL]

theorem RChunksExact.nextBlock_ne_panic {T : Type} (c : SliceIter.RChunksExact T)
    (hk : c.slice ≠ [] → c.chunkSize ≤ c.slice.length) :
    SliceIter.RChunksExact.nextBlock c ≠ .panic := by
  unfold SliceIter.RChunksExact.nextBlock
  by_cases h : c.slice = []
  · simp [h]
  · simp [h, SliceIter.checkedSub, hk h, SliceIter.splitAtL]

/-- `len - chunk_size` panics (in code and model) exactly when the non-empty `slice` is shorter than
    `chunk_size`; the constructor's invariant `chunk_size ∣ slice.len()` excludes that -/
theorem RChunksExact_next_res {T : Type} (c : Extracted.RChunksExact T) :
    Extracted.RChunksExact.next c
      = stepRes RChunksExact.ofIt
          (SliceIter.It.next SliceIter.RChunksExact.blocks (RChunksExact.toIt c)) := by
  rcases c with ⟨_ | ⟨x, xs⟩, r, n⟩
  · rfl
  · simp only [Extracted.RChunksExact.next, usub_eq, split_at_eq, SliceIter.It.next,
      SliceIter.RChunksExact.blocks, SliceIter.RChunksExact.nextBlock, RChunksExact.toIt,
      RChunksExact.toModel, if_true]
    cases SliceIter.checkedSub (x :: xs).length n <;> rfl

theorem RChunksExact_next_eq {T : Type} (c : Extracted.RChunksExact T)
    (hk : c.slice ≠ [] → c.chunk_size ≤ c.slice.length) :
    Extracted.RChunksExact.next c
      = .ok (stepOpt RChunksExact.ofIt
          (SliceIter.It.next SliceIter.RChunksExact.blocks (RChunksExact.toIt c)))
    ∧ SliceIter.It.next SliceIter.RChunksExact.blocks (RChunksExact.toIt c) ≠ .panic :=
  ok_of_res (RChunksExact_next_res c) (by
    simp only [SliceIter.It.next, RChunksExact.toIt, SliceIter.RChunksExact.blocks, mapState_ne_panic,
      ↓reduceIte]
    exact RChunksExact.nextBlock_ne_panic _ hk)

example : Extracted.RChunksExact.next ⟨[2, 3, 4, 5], [1], 2⟩ = .ok (some ([4, 5], ⟨[2, 3], [1], 2⟩)) :=
  rfl

theorem RChunksExact_next_back_res {T : Type} (c : Extracted.RChunksExact T) :
    Extracted.RChunksExact.next_back c
      = stepRes RChunksExact.ofIt
          (SliceIter.It.nextBack SliceIter.RChunksExact.blocks (RChunksExact.toIt c)) := by
  rcases c with ⟨_ | ⟨x, xs⟩, r, n⟩
  · rfl
  · simp only [Extracted.RChunksExact.next_back, split_at_eq]
    rfl

theorem RChunksExact_next_back_eq {T : Type} (c : Extracted.RChunksExact T) :
    Extracted.RChunksExact.next_back c
      = .ok (stepOpt RChunksExact.ofIt
          (SliceIter.It.nextBack SliceIter.RChunksExact.blocks (RChunksExact.toIt c)))
    ∧ SliceIter.It.nextBack SliceIter.RChunksExact.blocks (RChunksExact.toIt c) ≠ .panic :=
  ok_of_res (RChunksExact_next_back_res c) (by
    simp only [SliceIter.It.nextBack, RChunksExact.toIt, SliceIter.RChunksExact.blocks, mapState_ne_panic,
      ↓reduceIte]
    exact RChunksExact.nextBackBlock_ne_panic _)

example : Extracted.RChunksExact.next_back ⟨[2, 3, 4, 5], [1], 2⟩ = .ok (some ([2, 3], ⟨[4, 5], [1], 2⟩)) :=
  rfl

theorem RChunksExactRev_next_res {T : Type} (c : Extracted.RChunksExactRev T) :
    Extracted.RChunksExactRev.next c
      = stepRes RChunksExactRev.ofIt
          (SliceIter.It.next SliceIter.RChunksExact.blocks (RChunksExactRev.toIt c)) := by
  rcases c with ⟨_ | ⟨x, xs⟩, r, n⟩
  · rfl
  · simp only [Extracted.RChunksExactRev.next, split_at_eq]
    rfl

theorem RChunksExactRev_next_eq {T : Type} (c : Extracted.RChunksExactRev T) :
    Extracted.RChunksExactRev.next c
      = .ok (stepOpt RChunksExactRev.ofIt
          (SliceIter.It.next SliceIter.RChunksExact.blocks (RChunksExactRev.toIt c)))
    ∧ SliceIter.It.next SliceIter.RChunksExact.blocks (RChunksExactRev.toIt c) ≠ .panic :=
  ok_of_res (RChunksExactRev_next_res c) (by
    simp only [SliceIter.It.next, RChunksExactRev.toIt, SliceIter.RChunksExact.blocks, mapState_ne_panic,
      Bool.false_eq_true, ↓reduceIte]
    exact RChunksExact.nextBackBlock_ne_panic _)

example : Extracted.RChunksExactRev.next ⟨[2, 3, 4, 5], [1], 2⟩ = .ok (some ([2, 3], ⟨[4, 5], [1], 2⟩)) :=
  rfl

theorem RChunksExactRev_next_back_res {T : Type} (c : Extracted.RChunksExactRev T) :
    Extracted.RChunksExactRev.next_back c
      = stepRes RChunksExactRev.ofIt
          (SliceIter.It.nextBack SliceIter.RChunksExact.blocks (RChunksExactRev.toIt c)) := by
  rcases c with ⟨_ | ⟨x, xs⟩, r, n⟩
  · rfl
  · simp only [Extracted.RChunksExactRev.next_back, usub_eq, split_at_eq, SliceIter.It.nextBack,
      SliceIter.RChunksExact.blocks, SliceIter.RChunksExact.nextBlock, RChunksExactRev.toIt,
      RChunksExactRev.toModel, Bool.false_eq_true, if_false]
    cases SliceIter.checkedSub (x :: xs).length n <;> rfl

theorem RChunksExactRev_next_back_eq {T : Type} (c : Extracted.RChunksExactRev T)
    (hk : c.slice ≠ [] → c.chunk_size ≤ c.slice.length) :
    Extracted.RChunksExactRev.next_back c
      = .ok (stepOpt RChunksExactRev.ofIt
          (SliceIter.It.nextBack SliceIter.RChunksExact.blocks (RChunksExactRev.toIt c)))
    ∧ SliceIter.It.nextBack SliceIter.RChunksExact.blocks (RChunksExactRev.toIt c) ≠ .panic :=
  ok_of_res (RChunksExactRev_next_back_res c) (by
    simp only [SliceIter.It.nextBack, RChunksExactRev.toIt, SliceIter.RChunksExact.blocks, mapState_ne_panic,
      Bool.false_eq_true, ↓reduceIte]
    exact RChunksExact.nextBlock_ne_panic _ hk)

example : Extracted.RChunksExactRev.next_back ⟨[2, 3, 4, 5], [1], 2⟩ = .ok (some ([4, 5], ⟨[2, 3], [1], 2⟩)) :=
  rfl

theorem RChunksExact_remainder_eq {T : Type} (c : Extracted.RChunksExact T) :
    Extracted.RChunksExact.remainder c
      = .ok (SliceIter.RChunksExact.remainder (RChunksExact.toIt c)) := rfl

theorem RChunksExactRev_remainder_eq {T : Type} (c : Extracted.RChunksExactRev T) :
    Extracted.RChunksExactRev.remainder c
      = .ok (SliceIter.RChunksExact.remainder (RChunksExactRev.toIt c)) := rfl

/-! ### `ArrayChunks` / `ArrayChunksRev`  (the const parameter `N` is a type index of the generated
    structures; the model's state does not carry it) -/

def ArrayChunks.toModel {T : Type} {N : Nat} (c : Extracted.ArrayChunks T N) : SliceIter.ArrayChunks T :=
  ⟨c.arrays, c.rem⟩
def ArrayChunks.ofModel {T : Type} (N : Nat) (c : SliceIter.ArrayChunks T) : Extracted.ArrayChunks T N :=
  ⟨c.arrays, c.rem⟩
def ArrayChunks.toIt {T : Type} {N : Nat} (c : Extracted.ArrayChunks T N) :
    SliceIter.It (SliceIter.ArrayChunks T) :=
  ⟨true, ArrayChunks.toModel c⟩
def ArrayChunks.ofIt {T : Type} (N : Nat) (it : SliceIter.It (SliceIter.ArrayChunks T)) :
    Extracted.ArrayChunks T N :=
  ArrayChunks.ofModel N it.fields

def ArrayChunksRev.toModel {T : Type} {N : Nat} (c : Extracted.ArrayChunksRev T N) : SliceIter.ArrayChunks T :=
  ⟨c.arrays, c.rem⟩
def ArrayChunksRev.ofModel {T : Type} (N : Nat) (c : SliceIter.ArrayChunks T) : Extracted.ArrayChunksRev T N :=
  ⟨c.arrays, c.rem⟩
def ArrayChunksRev.toIt {T : Type} {N : Nat} (c : Extracted.ArrayChunksRev T N) :
    SliceIter.It (SliceIter.ArrayChunks T) :=
  ⟨false, ArrayChunksRev.toModel c⟩
def ArrayChunksRev.ofIt {T : Type} (N : Nat) (it : SliceIter.It (SliceIter.ArrayChunks T)) :
    Extracted.ArrayChunksRev T N :=
  ArrayChunksRev.ofModel N it.fields

/-- `l.length < 2^64` for the checked product `arrs_len * N` inside `as_chunks` -/
theorem array_chunks_res {T : Type} (N : Nat) (l : List T) (hb : l.length < 2 ^ 64) :
    Extracted.array_chunks N l = optRes ((SliceIter.arrayChunks l N).map (ArrayChunks.ofIt N)) := by
  unfold Extracted.array_chunks SliceIter.arrayChunks
  rw [as_chunks_res N l hb]
  cases h : asChunks l.length N with
  | none => simp [optRes]
  | some v =>
    obtain ⟨a, k, r⟩ := v
    simp [optRes, asChunksApply, ArrayChunks.ofIt, ArrayChunks.ofModel]

theorem array_chunks_eq {T : Type} (N : Nat) (l : List T) (hN : 1 ≤ N) (hb : l.length < 2 ^ 64) :
    ∃ c, Extracted.array_chunks N l = .ok c ∧ SliceIter.arrayChunks l N = some (ArrayChunks.toIt c) := by
  rw [array_chunks_res N l hb]
  have h : N ≠ 0 := by omega
  simp [SliceIter.arrayChunks, asChunks, h, optRes, ArrayChunks.ofIt, ArrayChunks.ofModel,
    ArrayChunks.toIt, ArrayChunks.toModel]

theorem array_chunks_panic {T : Type} (l : List T) : Extracted.array_chunks 0 l = .panic := by
  simp [Extracted.array_chunks, as_chunks_panic]

example : Extracted.array_chunks 2 [1, 2, 3, 4, 5] = .ok ⟨[[1, 2], [3, 4]], [5]⟩ := rfl

theorem ArrayChunks.nextBlock_ne_panic {T : Type} (c : SliceIter.ArrayChunks T) :
    SliceIter.ArrayChunks.nextBlock c ≠ .panic := by
  unfold SliceIter.ArrayChunks.nextBlock; split <;> simp

theorem ArrayChunks.nextBackBlock_ne_panic {T : Type} (c : SliceIter.ArrayChunks T) :
    SliceIter.ArrayChunks.nextBackBlock c ≠ .panic := by
  unfold SliceIter.ArrayChunks.nextBackBlock; split <;> simp

theorem ArrayChunks_next_res {T : Type} {N : Nat} (c : Extracted.ArrayChunks T N) :
    Extracted.ArrayChunks.next N c
      = stepRes (ArrayChunks.ofIt N)
          (SliceIter.It.next SliceIter.ArrayChunks.blocks (ArrayChunks.toIt c)) := by
  unfold Extracted.ArrayChunks.next
  unfold ArrayChunks.toIt ArrayChunks.toModel ArrayChunks.ofIt ArrayChunks.ofModel
  simp only [SliceIter.It.next, SliceIter.ArrayChunks.blocks, SliceIter.ArrayChunks.nextBlock]
  rcases c with ⟨_ | ⟨x, xs⟩, r⟩ <;> simp [stepRes, SliceIter.Step.mapState]

theorem ArrayChunks_next_eq {T : Type} {N : Nat} (c : Extracted.ArrayChunks T N) :
    Extracted.ArrayChunks.next N c
      = .ok (stepOpt (ArrayChunks.ofIt N)
          (SliceIter.It.next SliceIter.ArrayChunks.blocks (ArrayChunks.toIt c)))
    ∧ SliceIter.It.next SliceIter.ArrayChunks.blocks (ArrayChunks.toIt c) ≠ .panic :=
  ok_of_res (ArrayChunks_next_res c) (by
    simp only [SliceIter.It.next, ArrayChunks.toIt, SliceIter.ArrayChunks.blocks, mapState_ne_panic,
      ↓reduceIte]
    exact ArrayChunks.nextBlock_ne_panic _)

example : Extracted.ArrayChunks.next 2 ⟨[[1, 2], [3, 4]], [5]⟩ = .ok (some ([1, 2], ⟨[[3, 4]], [5]⟩)) :=
  rfl

/-- the generated `| _, _ => Ctl.panic` arm (non-empty slice without a last element) is unreachable -/
theorem ArrayChunks_next_back_res {T : Type} {N : Nat} (c : Extracted.ArrayChunks T N) :
    Extracted.ArrayChunks.next_back N c
      = stepRes (ArrayChunks.ofIt N)
          (SliceIter.It.nextBack SliceIter.ArrayChunks.blocks (ArrayChunks.toIt c)) := by
  unfold Extracted.ArrayChunks.next_back
  unfold ArrayChunks.toIt ArrayChunks.toModel ArrayChunks.ofIt ArrayChunks.ofModel
  simp only [SliceIter.It.nextBack, SliceIter.ArrayChunks.blocks, SliceIter.ArrayChunks.nextBackBlock]
  by_cases h : c.arrays = []
  · simp [h, unsnoc_nil, stepRes, SliceIter.Step.mapState]
  · simp [h, unsnoc_of_ne_nil _ h, stepRes, SliceIter.Step.mapState]

theorem ArrayChunks_next_back_eq {T : Type} {N : Nat} (c : Extracted.ArrayChunks T N) :
    Extracted.ArrayChunks.next_back N c
      = .ok (stepOpt (ArrayChunks.ofIt N)
          (SliceIter.It.nextBack SliceIter.ArrayChunks.blocks (ArrayChunks.toIt c)))
    ∧ SliceIter.It.nextBack SliceIter.ArrayChunks.blocks (ArrayChunks.toIt c) ≠ .panic :=
  ok_of_res (ArrayChunks_next_back_res c) (by
    simp only [SliceIter.It.nextBack, ArrayChunks.toIt, SliceIter.ArrayChunks.blocks, mapState_ne_panic,
      ↓reduceIte]
    exact ArrayChunks.nextBackBlock_ne_panic _)

example : Extracted.ArrayChunks.next_back 2 ⟨[[1, 2], [3, 4]], [5]⟩ = .ok (some ([3, 4], ⟨[[1, 2]], [5]⟩)) :=
  rfl

theorem ArrayChunksRev_next_res {T : Type} {N : Nat} (c : Extracted.ArrayChunksRev T N) :
    Extracted.ArrayChunksRev.next N c
      = stepRes (ArrayChunksRev.ofIt N)
          (SliceIter.It.next SliceIter.ArrayChunks.blocks (ArrayChunksRev.toIt c)) := by
  unfold Extracted.ArrayChunksRev.next
  unfold ArrayChunksRev.toIt ArrayChunksRev.toModel ArrayChunksRev.ofIt ArrayChunksRev.ofModel
  simp only [SliceIter.It.next, SliceIter.ArrayChunks.blocks, SliceIter.ArrayChunks.nextBackBlock]
  by_cases h : c.arrays = []
  · simp [h, unsnoc_nil, stepRes, SliceIter.Step.mapState]
  · simp [h, unsnoc_of_ne_nil _ h, stepRes, SliceIter.Step.mapState]

theorem ArrayChunksRev_next_eq {T : Type} {N : Nat} (c : Extracted.ArrayChunksRev T N) :
    Extracted.ArrayChunksRev.next N c
      = .ok (stepOpt (ArrayChunksRev.ofIt N)
          (SliceIter.It.next SliceIter.ArrayChunks.blocks (ArrayChunksRev.toIt c)))
    ∧ SliceIter.It.next SliceIter.ArrayChunks.blocks (ArrayChunksRev.toIt c) ≠ .panic :=
  ok_of_res (ArrayChunksRev_next_res c) (by
    simp only [SliceIter.It.next, ArrayChunksRev.toIt, SliceIter.ArrayChunks.blocks, mapState_ne_panic,
      Bool.false_eq_true, ↓reduceIte]
    exact ArrayChunks.nextBackBlock_ne_panic _)

example : Extracted.ArrayChunksRev.next 2 ⟨[[1, 2], [3, 4]], [5]⟩ = .ok (some ([3, 4], ⟨[[1, 2]], [5]⟩)) :=
  rfl

theorem ArrayChunksRev_next_back_res {T : Type} {N : Nat} (c : Extracted.ArrayChunksRev T N) :
    Extracted.ArrayChunksRev.next_back N c
      = stepRes (ArrayChunksRev.ofIt N)
          (SliceIter.It.nextBack SliceIter.ArrayChunks.blocks (ArrayChunksRev.toIt c)) := by
  unfold Extracted.ArrayChunksRev.next_back
  unfold ArrayChunksRev.toIt ArrayChunksRev.toModel ArrayChunksRev.ofIt ArrayChunksRev.ofModel
  simp only [SliceIter.It.nextBack, SliceIter.ArrayChunks.blocks, SliceIter.ArrayChunks.nextBlock]
  rcases c with ⟨_ | ⟨x, xs⟩, r⟩ <;> simp [stepRes, SliceIter.Step.mapState]

theorem ArrayChunksRev_next_back_eq {T : Type} {N : Nat} (c : Extracted.ArrayChunksRev T N) :
    Extracted.ArrayChunksRev.next_back N c
      = .ok (stepOpt (ArrayChunksRev.ofIt N)
          (SliceIter.It.nextBack SliceIter.ArrayChunks.blocks (ArrayChunksRev.toIt c)))
    ∧ SliceIter.It.nextBack SliceIter.ArrayChunks.blocks (ArrayChunksRev.toIt c) ≠ .panic :=
  ok_of_res (ArrayChunksRev_next_back_res c) (by
    simp only [SliceIter.It.nextBack, ArrayChunksRev.toIt, SliceIter.ArrayChunks.blocks, mapState_ne_panic,
      Bool.false_eq_true, ↓reduceIte]
    exact ArrayChunks.nextBlock_ne_panic _)

example : Extracted.ArrayChunksRev.next_back 2 ⟨[[1, 2], [3, 4]], [5]⟩ = .ok (some ([1, 2], ⟨[[3, 4]], [5]⟩)) :=
  rfl

/-- `remainder` exists only on `ArrayChunks` (not on `ArrayChunksRev`), in the source and in the model -/
theorem ArrayChunks_remainder_eq {T : Type} {N : Nat} (c : Extracted.ArrayChunks T N) :
    Extracted.ArrayChunks.remainder N c = .ok (SliceIter.ArrayChunks.remainder (ArrayChunks.toIt c)) := rfl

end Extracted.Equiv
