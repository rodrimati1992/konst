import KonstVerif.Model.Bytes
import KonstVerif.Model.StrFns
import KonstVerif.Spec.Bytes
import KonstVerif.Lemmas.Bytes
/-
  C05 — Prefix/suffix tests, stripping and trimming agree with std.
  The loops in closed form: Lemmas/Bytes.lean.  Every theorem is for ALL byte lists
  `h` (input) and `p` (pattern bytes after normalisation), no bound on lengths.
-/
namespace Konst.Props.C05
open Konst Konst.Bytes Konst.Spec.Bytes Konst.Lemmas.Bytes
open Konst.Lemmas.Slice (comp_apply)

private theorem suffixView_spec {h r : List Nat} (hs : r <:+ h) :
    (suffixView h r).apply h = r ∧ (suffixView h r).InBounds h.length :=
  ⟨suffixView_apply hs, suffixView_inBounds hs⟩

private theorem prefixView_spec {h r : List Nat} (hp : r <+: h) :
    (prefixView r).apply h = r ∧ (prefixView r).InBounds h.length :=
  ⟨prefixView_apply hp, prefixView_inBounds hp⟩

/-- `strip_prefix` = std: `Some(h.drop |p|)` iff `p` is a prefix of `h`; the view is inside `h` -/
theorem stripPrefix_eq (h p : List Nat) :
    (stripPrefix h p).map (·.apply h) = stripPrefixSpec h p ∧
    (∀ v, stripPrefix h p = some v → v.InBounds h.length) := by
  unfold stripPrefix
  rw [stripPrefixL_eq]
  unfold stripPrefixSpec
  by_cases hp : p.isPrefixOf h = true
  · have hs : h.drop p.length <:+ h := List.drop_suffix _ _
    simp only [hp, if_true, Option.map_some, Option.some.injEq]
    exact ⟨suffixView_apply hs, by intro v hv; subst hv; exact suffixView_inBounds hs⟩
  · simp [hp]

/-- `strip_suffix` = std: `Some(h.take (|h| - |p|))` iff `p` is a suffix of `h` -/
theorem stripSuffix_eq (h p : List Nat) :
    (stripSuffix h p).map (·.apply h) = stripSuffixSpec h p ∧
    (∀ v, stripSuffix h p = some v → v.InBounds h.length) := by
  unfold stripSuffix
  rw [stripSuffixL_eq]
  unfold stripSuffixSpec
  by_cases hp : p.isSuffixOf h = true
  · have hs : h.take (h.length - p.length) <+: h := List.take_prefix _ _
    simp only [hp, if_true, Option.map_some, Option.some.injEq]
    exact ⟨prefixView_apply hs, by intro v hv; subst hv; exact prefixView_inBounds hs⟩
  · simp [hp]

theorem startsWith_iff (h p : List Nat) :
    startsWith h p = startsWithSpec h p ∧ (startsWith h p = true ↔ p <+: h) := by
  rw [startsWith_eq]
  exact ⟨rfl, List.isPrefixOf_iff_prefix⟩

theorem endsWith_iff (h p : List Nat) :
    endsWith h p = endsWithSpec h p ∧ (endsWith h p = true ↔ p <:+ h) := by
  rw [endsWith_eq]
  exact ⟨rfl, List.isSuffixOf_iff_suffix⟩

/-- `trim_start_matches` (two-level loop with `at_start` rollback) = `str::trim_start_matches` -/
theorem trimStartMatches_eq_spec (h p : List Nat) :
    (trimStartMatches h p).apply h = trimStartSpec p h ∧ (trimStartMatches h p).InBounds h.length := by
  rw [trimStartMatches, trimStartMatchesL_eq]
  exact suffixView_spec (trimStartSpec_suffix p _ h rfl)

/-- `trim_end_matches` = `str::trim_end_matches` (via the mirror lemmas) -/
theorem trimEndMatches_eq_spec (h p : List Nat) :
    (trimEndMatches h p).apply h = trimEndSpec p h ∧ (trimEndMatches h p).InBounds h.length := by
  rw [trimEndMatches, trimEndMatchesL_eq]
  exact prefixView_spec (trimEndSpec_prefix p _ h rfl)

/-- `trim_matches` = trim the start, then the end (konst's documented behaviour; equal to std's
    `trim_matches` for `char` patterns) -/
theorem trimMatches_eq_spec (h p : List Nat) :
    (trimMatches h p).apply h = trimMatchesSpec p h ∧ (trimMatches h p).InBounds h.length := by
  unfold trimMatches trimMatchesSpec
  simp only [trimStartMatchesL_eq, trimEndMatchesL_eq]
  have hs := trimStartSpec_suffix p _ h rfl
  have hp := trimEndSpec_prefix p _ (trimStartSpec p h) rfl
  have hlen := hp.length_le
  constructor
  · rw [comp_apply _ _ _ (by simp only [View.InBounds, suffixView, prefixView]; omega), suffixView_apply hs,
      prefixView_apply hp]
  · have := hs.length_le
    simp only [View.InBounds, View.comp, suffixView, prefixView]; omega

theorem trim_empty_needle (h : List Nat) :
    (trimStartMatches h []).apply h = h ∧ (trimEndMatches h []).apply h = h ∧
    (trimMatches h []).apply h = h := by
  have e1 : trimStartSpec [] h = h := by rw [trimStartSpec]; simp
  have e2 : trimEndSpec [] h = h := by rw [trimEndSpec]; simp
  refine ⟨?_, ?_, ?_⟩
  · rw [(trimStartMatches_eq_spec h []).1, e1]
  · rw [(trimEndMatches_eq_spec h []).1, e2]
  · rw [(trimMatches_eq_spec h []).1]; unfold trimMatchesSpec; rw [e1, e2]

/-- the specification really is "remove exactly the maximal run of whole repetitions":
    for a non-empty pattern the result is what is left after `k` copies of `p`, and does not start
    with `p` any more -/
theorem trimStartSpec_maximal (p : List Nat) (hp : p ≠ []) (h : List Nat) :
    ∃ k, h = (List.replicate k p).flatten ++ trimStartSpec p h ∧ ¬ p <+: trimStartSpec p h := by
  generalize hn : h.length = n
  induction n using Nat.strongRecOn generalizing h with
  | _ n ih =>
    rw [trimStartSpec]
    by_cases hc : p ≠ [] ∧ p.isPrefixOf h = true
    · simp only [hc, ne_eq, not_false_eq_true, and_self, dite_true]
      have hne : 0 < p.length := List.length_pos_iff.mpr hp
      have hpre := List.isPrefixOf_iff_prefix.mp hc.2
      have hle := hpre.length_le
      obtain ⟨k, hk, hmax⟩ := ih (h.drop p.length).length (by simp; omega) (h.drop p.length) rfl
      refine ⟨k + 1, ?_, hmax⟩
      rw [List.replicate_succ, List.flatten_cons, List.append_assoc, ← hk]
      obtain ⟨t, ht⟩ := hpre
      rw [← ht]; simp
    · simp only [hc, dite_false]
      refine ⟨0, by simp, ?_⟩
      intro hpre
      exact hc ⟨hp, List.isPrefixOf_iff_prefix.mpr hpre⟩

/-- the same for the end: the result is what is left before `k` copies of `p`, and does not end
    with `p` any more -/
theorem trimEndSpec_maximal (p : List Nat) (hp : p ≠ []) (h : List Nat) :
    ∃ k, h = trimEndSpec p h ++ (List.replicate k p).flatten ∧ ¬ p <:+ trimEndSpec p h := by
  generalize hn : h.length = n
  induction n using Nat.strongRecOn generalizing h with
  | _ n ih =>
    rw [trimEndSpec]
    by_cases hc : p ≠ [] ∧ p.isSuffixOf h = true
    · simp only [hc, ne_eq, not_false_eq_true, and_self, dite_true]
      have hne : 0 < p.length := List.length_pos_iff.mpr hp
      have hsuf := List.isSuffixOf_iff_suffix.mp hc.2
      have hle := hsuf.length_le
      obtain ⟨t, ht⟩ := hsuf
      have htake : h.take (h.length - p.length) = t := by
        rw [← ht]; simp
      rw [htake]
      obtain ⟨k, hk, hmax⟩ := ih t.length (by rw [← hn, ← ht]; simp; omega) t rfl
      refine ⟨k + 1, ?_, hmax⟩
      rw [List.replicate_succ', List.flatten_append, ← List.append_assoc, ← hk]
      simp [ht]
    · simp only [hc, dite_false]
      refine ⟨0, by simp, ?_⟩
      intro hsuf
      exact hc ⟨hp, List.isSuffixOf_iff_suffix.mpr hsuf⟩

/-- the whitespace set of `matches_space!` is std's `is_ascii_whitespace`:
    tab, line feed, form feed, carriage return, space — for every byte value -/
theorem matchesSpace_iff (b : Nat) :
    matchesSpace b = isAsciiWhitespace b ∧
    (matchesSpace b = true ↔ b = 9 ∨ b = 10 ∨ b = 12 ∨ b = 13 ∨ b = 32) := by
  refine ⟨matchesSpace_eq b, ?_⟩
  simp only [matchesSpace, Bool.or_eq_true, beq_iff_eq, or_assoc]

theorem bytesTrimStart_eq (h : List Nat) :
    (bytesTrimStart h).apply h = trimAsciiStartSpec h ∧ (bytesTrimStart h).InBounds h.length := by
  rw [bytesTrimStart, bytesTrimStartL_eq]
  exact suffixView_spec (List.dropWhile_suffix _)

theorem bytesTrimEnd_eq (h : List Nat) :
    (bytesTrimEnd h).apply h = trimAsciiEndSpec h ∧ (bytesTrimEnd h).InBounds h.length := by
  rw [bytesTrimEnd, bytesTrimEndL_eq]
  exact prefixView_spec (revDropWhile_prefix _ h)

/-- `bytes_trim` (end first, then start) = `trim_ascii` (start first, then end) -/
theorem bytesTrim_eq (h : List Nat) :
    (bytesTrim h).apply h = trimAsciiSpec h ∧ (bytesTrim h).InBounds h.length := by
  unfold bytesTrim
  simp only []
  have he : bytesTrimEndL h <+: h := by rw [bytesTrimEndL_eq]; exact revDropWhile_prefix _ h
  have hs : bytesTrimStartL (bytesTrimEndL h) <:+ bytesTrimEndL h := by
    rw [bytesTrimStartL_eq]; exact List.dropWhile_suffix _
  have h1 := he.length_le
  have h2 := hs.length_le
  constructor
  · rw [comp_apply _ _ _ (by simp only [View.InBounds, suffixView, prefixView]; omega), prefixView_apply he,
      suffixView_apply hs, Lemmas.Bytes.bytesTrim_eq]
  · simp only [View.InBounds, View.comp, suffixView, prefixView]; omega

/-- the str-level functions are the byte functions applied to `as_bytes()` -/
theorem str_wrappers (h p : List Nat) :
    StrFns.startsWith h p = startsWith h p ∧ StrFns.endsWith h p = endsWith h p ∧
    StrFns.stripPrefix h p = stripPrefix h p ∧ StrFns.stripSuffix h p = stripSuffix h p ∧
    StrFns.trimStartMatches h p = trimStartMatches h p ∧ StrFns.trimEndMatches h p = trimEndMatches h p ∧
    StrFns.trimMatches h p = trimMatches h p ∧
    StrFns.trim h = bytesTrim h ∧ StrFns.trimStart h = bytesTrimStart h ∧ StrFns.trimEnd h = bytesTrimEnd h :=
  ⟨rfl, rfl, rfl, rfl, rfl, rfl, rfl, rfl, rfl, rfl⟩

-- non-vacuity / sanity (kernel-evaluated)
example : (trimStartMatches [1, 2, 1, 2, 1, 3] [1, 2]).apply [1, 2, 1, 2, 1, 3] = [1, 3] := by decide +kernel
example : (trimEndMatches [3, 1, 2, 1, 2] [1, 2]).apply [3, 1, 2, 1, 2] = [3] := by decide +kernel
example : (trimMatches [1, 1, 1] [1, 1]) = ⟨2, 1⟩ := by decide            -- start first: "aaa" -> "a" at offset 2
example : stripPrefix [1, 2, 3] [1, 2] = some ⟨2, 1⟩ ∧ stripSuffix [1, 2, 3] [2, 3] = some ⟨0, 1⟩ := by decide +kernel
example : stripPrefix [1, 2] [1, 2, 3] = none ∧ startsWith [1, 2] [] = true := by decide +kernel
example : bytesTrim [32, 12, 120, 9, 13] = ⟨2, 1⟩ := by decide +kernel
example : matchesSpace 12 = true ∧ matchesSpace 11 = false := by decide      -- form feed yes, vertical tab no

end Konst.Props.C05
