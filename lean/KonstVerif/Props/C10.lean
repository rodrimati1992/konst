import KonstVerif.Lemmas.IterDsl
import KonstVerif.Lemmas.IterCalls
/-
  C10 — Iterator-DSL method chains evaluate like the same std Iterator chains.

  `konstEval c cons src` is the value of the code the macros EMIT for the chain `c` and consumer
  `cons` on the source items `src` (Model/IterDsl.lean); `stdResult` is the same method chain on std
  iterators as list functions (Spec/IterDsl.lean).  Every theorem quantifies over ALL chains (any
  length, any nesting of flat_map/flatten), all closures (arbitrary pure functions), all consumers,
  all finite sources.

  FULL STATEMENT (the property as given):
      ∀ c cons src, accepted c cons → konstEval c cons src = docResult c cons src
  It is FALSE of the model and of the code alike (finding F7): see `take_rev_differs`,
  `skip_rev_differs`, `zip_rev_differs`, `take_rfind_differs`.  What is proved instead:
    * `konst_eq_std_normalised`  — exact characterisation for EVERY chain;
    * `konst_forward_eq_std`     — the full statement on the fragment without reversing methods;
    * `konst_eq_std_commuting`, `konst_rconsumer_eq_std` — the full statement when only
      map/filter/filter_map/copied/flat_map/flatten precede the reversal;
    * `konst_enumerate_rev_doc`, `konst_rposition_doc` — the two documented exceptions.
  The commuting fragment, `konst_enumerate_rev_doc` and the closed forms of F7 (`konst_take_rev_char`,
  `konst_skip_rev_char`, `konst_zip_rev_char`) are cases of one lemma, `konst_commuting_rev`: adapters
  between a commuting prefix and the `rev()` act on the reversed stream.

  CLOSURE CALLS (which closure is evaluated on which argument, how often, in which order) are an output
  of the model as well: `konstEvalL c cons src : Res × Log` (`feedKL`: the literal loop nest with its
  call log and with the guard over the `take` counters at the top of every loop, `takeGuard`).
  FULL STATEMENT for the pair:
      ∀ c cons src, accepted c cons → konstEvalL c cons src = (docResult c cons src, calls of the std chain)
  Proved:
    * `calls_erase`                 — dropping log and guards gives the model of the values back, so every
                                      theorem above speaks about the first component of `konstEvalL`;
    * `konst_forward_calls`         — forward fragment, every chain, closure, consumer, source: the calls
                                      are exactly those of the std chain (`skip_while`'s predicate is
                                      never called again after it first answered `false`, `take_while`'s
                                      not after the stream ended, nothing before a `take` runs on an item
                                      that is not yielded, `filter`/`map`/`flat_map`/consumer closures
                                      exactly once per item that reaches them, in std's interleaving);
    * `konst_forward_calls_eq_std`  — the full statement for the pair (value, calls) on the forward fragment;
    * `hostile_forward_eq_std`      — closures that panic on a given call: same outcome (panic after
                                      the same calls, or the same value) as the std chain;
    * `konst_calls_normalised`      — with a reversing method (chains without `flatten`): the calls are
                                      those of the normalised forward chain on the reversed source.
  The model has the guard over the `take` counters at the top of every loop (`takeGuard`, mirrors commits
  9827f8a / 7ecb606): a `take` that has counted down ends the loop before the next item is pulled, so no
  closure of a method before it runs on an item that is not yielded (`map_take_calls`, `take0_calls`,
  `flat_map_take0_calls` evaluate the cases of findings F21, F22).
  The std side of chains WITH a reversing method is not specified in Lean (`stdCalls = none`); there
  the generated programs compare the real macros with the real std chains and with `konstEvalL`.
-/
namespace Konst.Props.C10
open Konst.Iter Konst.Iter.Spec Konst.Iter.Lemmas

/-- EXACT CHARACTERISATION, every chain, every consumer, every source: the emitted loop computes the
    consumer (in iteration order) of the std semantics of the normalised chain `fwd c d` — the chain
    with its reversal moved to the source (`d` = "some reversing method occurs") and the inner
    iterators / zip arguments that are walked backwards reversed. -/
theorem konst_eq_std_normalised (c : List Ad) (cons : Cons) (src : List Val) :
    konstEval c cons src =
      iterConsume cons (stdEval (fwd c (hasRev c || cons.isRev)) (walk (hasRev c || cons.isRev) src)) := by
  unfold konstEval
  simp only []
  rw [runLoop_dir, fwdSt_init, runLoop_fwd _ (fwd_noRev _ _) _ _ _ _ (wf_init _), stdEvalSt_init,
    consMany_iterConsume]

/-- FORWARD FRAGMENT (full property): no reversing method anywhere ⇒ konst = std. -/
theorem konst_forward_eq_std (c : List Ad) (cons : Cons) (src : List Val)
    (hc : hasRev c = false) (hk : cons.isRev = false) :
    konstEval c cons src = stdResult c cons src := by
  unfold konstEval stdResult
  simp only [hc, hk, Bool.or_false, walk, Bool.false_eq_true, if_false]
  rw [runLoop_fwd c (noRev_of_hasRev c hc) _ _ _ _ (wf_init _), stdEvalSt_init, consMany_iterConsume,
    iterConsume_nonrev cons hk]

/-- adapters that commute with reversal of the stream -/
def Commuting : List Ad → Prop
  | [] => True
  | .copied :: r => Commuting r
  | .map _ :: r => Commuting r
  | .filter _ :: r => Commuting r
  | .filterMap _ :: r => Commuting r
  | .flatMap _ :: r => Commuting r
  | .flatten :: r => Commuting r
  | _ => False

/-- a commuting prefix driven backwards yields the reverse of what std yields forwards -/
private theorem commuting_prefix : ∀ (pre : List Ad), Commuting pre → ∀ (rest : List Ad) (xs : List Val),
    stdEval (fwd (pre ++ rest) true) xs.reverse = stdEval (fwd rest true) (stdEval pre xs).reverse := by
  intro pre
  induction pre with
  | nil => intro _ rest xs; rfl
  | cons a r ih =>
    intro hc rest xs
    cases a with
    | copied =>
      have := ih (by simpa [Commuting] using hc) rest xs
      simpa [fwd, stdEval, applyAd] using this
    | map f =>
      have := ih (by simpa [Commuting] using hc) rest (xs.map f)
      simpa [fwd, stdEval, applyAd, List.map_reverse] using this
    | filter p =>
      have := ih (by simpa [Commuting] using hc) rest (xs.filter p)
      simpa [fwd, stdEval, applyAd, List.filter_reverse] using this
    | filterMap f =>
      have := ih (by simpa [Commuting] using hc) rest (xs.filterMap f)
      simpa [fwd, stdEval, applyAd, List.filterMap_reverse] using this
    | flatMap f =>
      have := ih (by simpa [Commuting] using hc) rest (xs.flatMap f)
      have hrev : xs.reverse.flatMap (fun x => (f x).reverse) = (xs.flatMap f).reverse := by
        rw [List.reverse_flatMap]; rfl
      simpa [fwd, stdEval, applyAd, walk, hrev] using this
    | flatten =>
      have := ih (by simpa [Commuting] using hc) rest (xs.flatMap unseq)
      have hrev : xs.reverse.flatMap (fun x => (unseq x).reverse) = (xs.flatMap unseq).reverse := by
        rw [List.reverse_flatMap]; rfl
      simpa [fwd, stdEval, applyAd, walk, hrev] using this
    | rev => simp [Commuting] at hc
    | enumerate => simp [Commuting] at hc
    | skip _ => simp [Commuting] at hc
    | skipWhile _ => simp [Commuting] at hc
    | take _ => simp [Commuting] at hc
    | takeWhile _ => simp [Commuting] at hc
    | zip _ => simp [Commuting] at hc

/-- THE REVERSAL IN CLOSED FORM: when only commuting adapters `pre` precede them, the adapters `mid`
    right before the `rev()` act on the REVERSED stream (`fwd mid true`: a zip argument is walked from
    its back), and `post` on what they yield.  The fragments and the characterisations of F7 below are
    the cases `mid = []`, `[enumerate]`, `[take k]`, `[skip k]`, `[zip other]`. -/
theorem konst_commuting_rev (pre mid post : List Ad) (cons : Cons) (src : List Val)
    (hc : Commuting pre) (hm : NoRev mid) (hp : NoRev post) (hk : cons.isRev = false) :
    konstEval (pre ++ (mid ++ .rev :: post)) cons src =
      stdConsume cons (stdEval post (stdEval (fwd mid true) (stdEval pre src).reverse)) := by
  have hr : hasRev (pre ++ (mid ++ .rev :: post)) = true := by
    rw [← List.append_assoc]; exact hasRev_append_rev _ post
  rw [konst_eq_std_normalised, hr]
  simp only [Bool.true_or, walk, if_true]
  rw [commuting_prefix pre hc, iterConsume_nonrev cons hk, fwd_append mid _ true hm, stdEval_append]
  simp only [fwd, stdEval, applyAd, Bool.not_true]
  rw [fwd_false_std post hp]

/-- COMMUTING FRAGMENT (full property): if only map / filter / filter_map / copied / flat_map /
    flatten precede the `rev()` (anything may follow it), konst = std. -/
theorem konst_eq_std_commuting (pre post : List Ad) (cons : Cons) (src : List Val)
    (hc : Commuting pre) (hp : NoRev post) (hk : cons.isRev = false) :
    konstEval (pre ++ .rev :: post) cons src = stdResult (pre ++ .rev :: post) cons src := by
  refine (konst_commuting_rev pre [] post cons src hc trivial hp hk).trans ?_
  rw [stdResult, stdEval_append]
  rfl

private theorem commuting_rev (c : List Ad) (hc : Commuting c) (xs : List Val) :
    stdEval (fwd c true) xs.reverse = (stdEval c xs).reverse := by
  have := commuting_prefix c hc [] xs
  simpa [fwd, stdEval] using this

private theorem commuting_noRev : ∀ c, Commuting c → hasRev c = false := by
  intro c; induction c with
  | nil => intro _; rfl
  | cons a r ih => intro h; cases a <;> simp [Commuting] at h <;> simp [hasRev, ih h]

/-- REVERSING CONSUMERS (full property for `rfind`, `rfold`): after a commuting chain they equal
    std's; `rposition` equals std's up to its documented convention (`konst_rposition_doc`). -/
theorem konst_rconsumer_eq_std (c : List Ad) (cons : Cons) (src : List Val)
    (hc : Commuting c) (hk : cons.isRev = true) :
    konstEval c cons src = docResult c cons src := by
  rw [konst_eq_std_normalised, commuting_noRev c hc, hk]
  simp only [Bool.or_true, walk, if_true]
  rw [commuting_rev c hc]
  unfold docResult
  cases cons <;> simp [Cons.isRev] at hk <;> rfl

/-- documented exception 1: `rposition` counts from the back — konst's result is std's mirrored -/
theorem konst_rposition_doc (c : List Ad) (p : Val → Bool) (src : List Val) (hc : Commuting c) :
    konstEval c (.rposition p) src = .onat (((stdEval c src).reverse).findIdx? p) ∧
    stdResult c (.rposition p) src =
      .onat ((((stdEval c src).reverse).findIdx? p).map fun i => (stdEval c src).length - 1 - i) := by
  refine ⟨?_, rfl⟩
  rw [konst_rconsumer_eq_std c _ src hc rfl]; rfl

/-- documented exception 2: `enumerate` numbers from 0 in ITERATION order — an `enumerate()` right
    before the `rev()` numbers the reversed stream, i.e. behaves as std's `rev().enumerate()` -/
theorem konst_enumerate_rev_doc (pre post : List Ad) (cons : Cons) (src : List Val)
    (hc : Commuting pre) (hp : NoRev post) (hk : cons.isRev = false) :
    konstEval (pre ++ .enumerate :: .rev :: post) cons src
      = stdResult (pre ++ .rev :: .enumerate :: post) cons src := by
  refine (konst_commuting_rev pre [.enumerate] post cons src hc trivial hp hk).trans ?_
  rw [stdResult, stdEval_append]
  rfl

/-- F7 in closed form, `take`: a `take(k)` right before the `rev()` takes from the REVERSED stream — konst
    computes what std computes for `rev().take(k)` (std's `take(k).rev()` would keep the first `k`) -/
theorem konst_take_rev_char (pre post : List Ad) (k : Nat) (cons : Cons) (src : List Val)
    (hc : Commuting pre) (hp : NoRev post) (hk : cons.isRev = false) :
    konstEval (pre ++ .take k :: .rev :: post) cons src
      = stdResult (pre ++ .rev :: .take k :: post) cons src := by
  refine (konst_commuting_rev pre [.take k] post cons src hc trivial hp hk).trans ?_
  rw [stdResult, stdEval_append]
  rfl

/-- F7 in closed form, `skip` -/
theorem konst_skip_rev_char (pre post : List Ad) (k : Nat) (cons : Cons) (src : List Val)
    (hc : Commuting pre) (hp : NoRev post) (hk : cons.isRev = false) :
    konstEval (pre ++ .skip k :: .rev :: post) cons src
      = stdResult (pre ++ .rev :: .skip k :: post) cons src := by
  refine (konst_commuting_rev pre [.skip k] post cons src hc trivial hp hk).trans ?_
  rw [stdResult, stdEval_append]
  rfl

/-- F7 in closed form, `zip`: the zipped iterator is walked from ITS back as well, pairing last with
    last without trimming the longer side — std's `rev().zip(other.rev())` -/
theorem konst_zip_rev_char (pre post : List Ad) (other : List Val) (cons : Cons) (src : List Val)
    (hc : Commuting pre) (hp : NoRev post) (hk : cons.isRev = false) :
    konstEval (pre ++ .zip other :: .rev :: post) cons src
      = stdResult (pre ++ .rev :: .zip other.reverse :: post) cons src := by
  refine (konst_commuting_rev pre [.zip other] post cons src hc trivial hp hk).trans ?_
  rw [stdResult, stdEval_append]
  rfl

/-- `collect_const!`: both const-evaluation passes run the same loop, so the `length == CAP` assert
    before `array_assume_init` never fires, and the array is exactly the items of the chain -/
theorem collectConst_eq (c : List Ad) (src : List Val) :
    ∃ l, collectConst c src = some l ∧ konstEval c .collect src = .items l ∧
      l = stdEval (fwd c (hasRev c)) (walk (hasRev c) src) := by
  have key : ∀ (l l0 : List Val), (consMany .collect ⟨.items l0, l0.length⟩ l).1
      = ⟨.items (l0 ++ l), (l0 ++ l).length⟩ := by
    intro l; induction l with
    | nil => intro l0; simp [consMany]
    | cons x xs ih =>
      intro l0
      simp only [consMany, consStep]
      have := ih (l0 ++ [x])
      simpa using this
  have hrun : runLoop c (hasRev c) .collect (initSt c) (consInit .collect) (walk (hasRev c) src)
      = ⟨.items (stdEval (fwd c (hasRev c)) (walk (hasRev c) src)),
         (stdEval (fwd c (hasRev c)) (walk (hasRev c) src)).length⟩ := by
    rw [runLoop_dir, fwdSt_init, runLoop_fwd _ (fwd_noRev _ _) _ _ _ _ (wf_init _), stdEvalSt_init]
    have := key (stdEval (fwd c (hasRev c)) (walk (hasRev c) src)) []
    simpa [consInit] using this
  refine ⟨_, ?_, ?_, rfl⟩
  · unfold collectConst
    simp only [hrun, and_self, if_true]
  · unfold konstEval
    simp only [Cons.isRev, Bool.or_false, hrun]

/-- the LITERAL shape of the emitted loop nest (`konstEvalK`: consumer code innermost, every
    `break 'label` leaves the whole nest at once — this is what the driver executes against the real
    macros) computes exactly what the items-then-consumer formulation `konstEval` computes; hence every
    theorem of this file holds verbatim of `konstEvalK` -/
theorem literal_loop_eq (c : List Ad) (cons : Cons) (src : List Val) :
    konstEvalK c cons src = konstEval c cons src := konstEvalK_eq c cons src

theorem literal_forward_eq_std (c : List Ad) (cons : Cons) (src : List Val)
    (hc : hasRev c = false) (hk : cons.isRev = false) :
    konstEvalK c cons src = stdResult c cons src := by
  rw [literal_loop_eq]; exact konst_forward_eq_std c cons src hc hk

theorem literal_eq_std_normalised (c : List Ad) (cons : Cons) (src : List Val) :
    konstEvalK c cons src =
      iterConsume cons (stdEval (fwd c (hasRev c || cons.isRev)) (walk (hasRev c || cons.isRev) src)) := by
  rw [literal_loop_eq]; exact konst_eq_std_normalised c cons src

/-! ### F7: outside the fragments the full statement is false — of the model exactly as of the code
    (kernel-evaluated witnesses; the same programs are replayed on the implementation) -/

private def n (i : Int) : Val := .n i
private def src5 : List Val := [n 1, n 2, n 3, n 4, n 5]

theorem take_rev_differs :
    konstEval [.take 2, .rev] .forEach src5 = .items [n 5, n 4] ∧
    stdResult [.take 2, .rev] .forEach src5 = .items [n 2, n 1] := by decide

theorem skip_rev_differs :
    konstEval [.skip 3, .rev] .forEach src5 = .items [n 2, n 1] ∧
    stdResult [.skip 3, .rev] .forEach src5 = .items [n 5, n 4] := by decide

theorem zip_rev_differs :
    konstEval [.zip [n 7, n 8], .rev] .forEach src5 = .items [.pair (n 5) (n 8), .pair (n 4) (n 7)] ∧
    stdResult [.zip [n 7, n 8], .rev] .forEach src5 = .items [.pair (n 2) (n 8), .pair (n 1) (n 7)] := by
  decide

theorem take_rfind_differs :
    konstEval [.take 2] (.rfind fun _ => true) src5 = .opt (some (n 5)) ∧
    stdResult [.take 2] (.rfind fun _ => true) src5 = .opt (some (n 2)) := by decide


/-! ### closure calls -/

theorem calls_erase (c : List Ad) (cons : Cons) (src : List Val) :
    (konstEvalL c cons src).1 = konstEvalK c cons src ∧ (konstEvalL c cons src).1 = konstEval c cons src :=
  ⟨konstEvalL_fst c cons src, by rw [konstEvalL_fst, konstEvalK_eq]⟩

private theorem konstEvalL_snd (c : List Ad) (cons : Cons) (src : List Val) :
    (konstEvalL c cons src).2 =
      (runLoopKL c (hasRev c || cons.isRev) cons (initSt c) (consInit cons) (walk (hasRev c || cons.isRev) src)).2 := by
  unfold konstEvalL
  simp only []

/-- FORWARD FRAGMENT, the calls: the calls the emitted code makes, in order, are the calls of the std chain. -/
theorem konst_forward_calls (c : List Ad) (cons : Cons) (src : List Val)
    (hc : hasRev c = false) (hk : cons.isRev = false) :
    stdCalls c cons src = some (konstEvalL c cons src).2 := by
  unfold stdCalls
  rw [anyRev_eq_hasRev, hc, hk, konstEvalL_snd]
  simp only [hc, hk, Bool.or_false, walk, Bool.false_eq_true, if_false]
  rw [runLoopKL_fwd c (noRev_of_hasRev c hc) cons src _ _ (wf_init c) (cwf_init cons),
    stdEvalStE_init, resid_init]

/-- FORWARD FRAGMENT, full statement for (value, calls): konst's value and closure calls are those
    of the std chain. -/
theorem konst_forward_calls_eq_std (c : List Ad) (cons : Cons) (src : List Val)
    (hc : hasRev c = false) (hk : cons.isRev = false) :
    ∃ l, stdCalls c cons src = some l ∧ konstEvalL c cons src = (stdResult c cons src, l) := by
  refine ⟨_, konst_forward_calls c cons src hc hk, ?_⟩
  have h : (konstEvalL c cons src).1 = stdResult c cons src := by
    rw [(calls_erase c cons src).2]; exact konst_forward_eq_std c cons src hc hk
  rw [← h]

/-- closures that panic on given calls: the invocation panics after the same calls as the std chain,
    or completes with the same value and calls -/
theorem hostile_forward_eq_std (c : List Ad) (cons : Cons) (src : List Val) (poison : Call → Bool)
    (hc : hasRev c = false) (hk : cons.isRev = false) :
    ∃ l, stdCalls c cons src = some l ∧
      hostile poison (konstEvalL c cons src) = hostile poison (stdResult c cons src, l) := by
  obtain ⟨l, h1, h2⟩ := konst_forward_calls_eq_std c cons src hc hk
  exact ⟨l, h1, by rw [h2]⟩

/-- EVERY chain without `flatten`, every consumer: the calls are those of the normalised forward chain
    `fwd c d` (same method positions) on the source in iteration order -/
theorem konst_calls_normalised (c : List Ad) (cons : Cons) (src : List Val) (hf : noFlatten c = true) :
    (konstEvalL c cons src).2 =
      consumeCalls c.length cons
        (stdEvalE 0 (fwd c (hasRev c || cons.isRev)) ((walk (hasRev c || cons.isRev) src).map .item)) := by
  rw [konstEvalL_snd, runLoopKL_dir c hf, fwdSt_init,
    runLoopKL_fwd _ (fwd_noRev _ _) cons _ _ _ (wf_init _) (cwf_init cons),
    stdEvalStE_init, resid_init, fwd_length]

/-! the cases of findings F21, F22 (a closure-taking method before a `take`, a `take(0)` after a
    `flat_map`; the guards of 9827f8a, 7ecb606) evaluated: nothing runs on an item that is not yielded -/

private def dbl : Val → Val := fun v => match v with | .n i => .n (i * 2) | w => w
private def lt3 : Val → Bool := fun v => match v with | .n i => decide (i < 3) | _ => false
private def twice : Val → List Val := fun v => [v, v]

theorem map_take_calls :
    konstEvalL [.map dbl, .take 1] .forEach [n 1, n 2, n 3] = (.items [n 2], [(0, n 1), (2, n 2)]) ∧
    stdCalls [.map dbl, .take 1] .forEach [n 1, n 2, n 3] = some [(0, n 1), (2, n 2)] := by decide

theorem take0_calls :
    (konstEvalL [.filter lt3, .take 0] .count [n 1, n 2]).2 = [] ∧
    stdCalls [.filter lt3, .take 0] .count [n 1, n 2] = some [] := by decide

theorem flat_map_take0_calls :
    (konstEvalL [.map dbl, .flatMap twice, .take 0] .count [n 1, n 2]).2 = [] ∧
    (konstEvalL [.flatMap twice, .take 3] .count [n 1, n 2, n 3]).2 = [(0, n 1), (0, n 2)] ∧
    stdCalls [.flatMap twice, .take 3] .count [n 1, n 2, n 3] = some [(0, n 1), (0, n 2)] := by decide

-- non-vacuity: `skip_while` stops calling its predicate after the first `false` (1, 2 pass, 5 fails,
-- 0 and 1 are never tested); `take_while` stops the whole loop
example : konstEvalL [.skipWhile lt3] .forEach [n 1, n 2, n 5, n 0, n 1]
    = (.items [n 5, n 0, n 1], [(0, n 1), (0, n 2), (0, n 5), (1, n 5), (1, n 0), (1, n 1)]) := by decide +kernel
example : konstEvalL [.takeWhile lt3, .map dbl] .count [n 1, n 5, n 0] = (.nat 1, [(0, n 1), (1, n 1), (0, n 5)]) := by
  decide +kernel
example : hostile (· == (0, n 0)) (konstEvalL [.skipWhile lt3] .forEach [n 1, n 5, n 0]) =
    .inr (.items [n 5, n 0], [(0, n 1), (0, n 5), (1, n 5), (1, n 0)]) := by decide +kernel
example : hostile (· == (0, n 5)) (konstEvalL [.skipWhile lt3] .forEach [n 1, n 5, n 0]) =
    .inl [(0, n 1), (0, n 5)] := by decide +kernel

-- non-vacuity: the fragments are inhabited by non-trivial chains, and the theorems compute
example : Commuting [.copied, .map id, .flatMap fun v => [v, v]] := by simp [Commuting]
example : konstEval [.skip 1, .take 2, .map fun v => .pair v v] .count src5 = .nat 2 := by decide +kernel
example : konstEval [.flatMap fun v => [v, v], .rev, .take 3] .forEach src5
    = stdResult [.flatMap fun v => [v, v], .rev, .take 3] .forEach src5 := by decide +kernel
example : collectConst [.map id, .rev, .skip 1] src5 = some [n 4, n 3, n 2, n 1] := by decide +kernel

end Konst.Props.C10
