import KonstVerif.Lemmas.ArrayEval
import KonstVerif.Lemmas.ArrayHistories
/-
  C11 — Array-building macros return fully initialised arrays equal to std's.
  Helper lemmas: Lemmas/ArrayBuilder, ArrayConsumer, ArrayMacros, ArrayEval, ArrayHistories.
  Closures are arbitrary functions `call number → argument → Outcome`; no bound on lengths or histories.
  `fuel` only bounds the number of loop iterations of the by-reference loop (its `continue` can retry the
  same index forever); every theorem states how much fuel suffices or holds for every fuel.
-/
namespace Konst.Props.C11
open Konst Konst.ArrayMacros Konst.Spec.ArrayStd Konst.Histories
variable {α β : Type}

/-! ### `array::map!` / `array::from_fn!` (by reference, `__array_map`) -/

/-- well-behaved closure ⇒ `map!` = `<[T; N]>::map` -/
theorem arrayMap_value (xs : List α) (f : α → β) (c : Nat → α → Outcome β) (fuel : Nat)
    (hf : xs.length < fuel) (hc : ∀ i a, xs[i]? = some a → c i a = .value (f a)) :
    arrayMap fuel xs c = .array (stdMap f xs) := by
  rw [arrayMap, ArrayEval.mapLoop_values _ _ f c (fun i a _ => hc i a) (fun j hj => by simp [hj]) fuel hf,
    ArrayEval.fetched_getElem?_map]
  rfl

/-- ANY closure (stateful, with any control flow): `assume_init` is never reached with an unwritten
    slot, and a returned array has length `N` with every element a value the closure returned for the
    input at that index -/
theorem arrayMap_init (xs : List α) (c : Nat → α → Outcome β) (fuel : Nat) :
    arrayMap fuel xs c ≠ .ub ∧
    ∀ l : List β, arrayMap fuel xs c = .array l →
      l.length = xs.length ∧ ∀ (j : Nat) (v : β), l[j]? = some v → ∃ t a, xs[j]? = some a ∧ c t a = .value v := by
  have := mapLoop_sound xs.length (fun i => xs[i]?) c fuel 0 [] (Nat.zero_le _)
  simp only [outOf_nil, List.length_nil, Nat.zero_add, List.nil_append] at this
  refine ⟨this.1, fun l hl => ?_⟩
  obtain ⟨h1, vs, rfl, h3⟩ := this.2 l hl
  exact ⟨h1, h3⟩

/-- first early exit at index `k` (whatever the call number): never an array — `break` trips the
    post-loop assert, `continue` retries index `k` forever, `return` leaves the caller, panic panics -/
theorem arrayMap_hostile (xs : List α) (c : Nat → α → Outcome β) (k : Nat) (o : Outcome β) (fuel : Nat)
    (hk : k < xs.length)
    (hpre : ∀ i, i < k → ∀ t a, xs[i]? = some a → ∃ v, c t a = .value v)
    (hat : ∀ t a, xs[k]? = some a → c t a = o) (ho : ∀ v, o ≠ .value v) :
    arrayMap fuel xs c = (if k < fuel then hostileRes o else .diverge) ∧
      ∀ l, arrayMap fuel xs c ≠ .array l := by
  have h := mapLoop_hostile xs.length (fun i => xs[i]?) c k o hk
    (fun i hi => ⟨xs[i], by simp [hi]⟩) hpre hat ho fuel 0 0 (List.replicate xs.length none) (by omega)
  rw [Nat.sub_zero] at h
  exact ⟨h, fun l hl => hostileRes_ne_array ho _ l (h.symm.trans hl)⟩

/-- well-behaved closure ⇒ `from_fn!` = `core::array::from_fn` -/
theorem arrayFromFn_value (n : Nat) (f : Nat → β) (c : Nat → Nat → Outcome β) (fuel : Nat)
    (hf : n < fuel) (hc : ∀ i, i < n → c i i = .value (f i)) :
    arrayFromFn fuel n c = .array (stdFromFn n f) := by
  rw [arrayFromFn, ArrayEval.mapLoop_values n _ f c (fun i a hi ha => by cases ha; exact hc i hi)
    (fun _ _ => rfl) fuel hf]
  simp [ArrayEval.fetched, stdFromFn, List.range_eq_range']

theorem arrayFromFn_init (n : Nat) (c : Nat → Nat → Outcome β) (fuel : Nat) :
    arrayFromFn fuel n c ≠ .ub ∧
    ∀ l : List β, arrayFromFn fuel n c = .array l →
      l.length = n ∧ ∀ (j : Nat) (v : β), l[j]? = some v → ∃ t, c t j = .value v := by
  have := mapLoop_sound n (fun i => some i) c fuel 0 [] (Nat.zero_le _)
  simp only [outOf_nil, List.length_nil, Nat.zero_add, List.nil_append] at this
  refine ⟨this.1, fun l hl => ?_⟩
  obtain ⟨h1, vs, rfl, h3⟩ := this.2 l hl
  refine ⟨h1, fun j v hv => ?_⟩
  obtain ⟨t, a, ha, hc⟩ := h3 j v hv
  cases ha
  exact ⟨t, hc⟩

theorem arrayFromFn_hostile (n : Nat) (c : Nat → Nat → Outcome β) (k : Nat) (o : Outcome β) (fuel : Nat)
    (hk : k < n) (hpre : ∀ i, i < k → ∀ t, ∃ v, c t i = .value v)
    (hat : ∀ t, c t k = o) (ho : ∀ v, o ≠ .value v) :
    arrayFromFn fuel n c = (if k < fuel then hostileRes o else .diverge) ∧
      ∀ l, arrayFromFn fuel n c ≠ .array l := by
  have h := mapLoop_hostile n (fun i => some i) c k o hk (fun i _ => ⟨i, rfl⟩)
    (by intro i hi t a ha; cases ha; exact hpre i hi t)
    (by intro t a ha; cases ha; exact hat t) ho fuel 0 0 (List.replicate n none) (by omega)
  rw [Nat.sub_zero] at h
  exact ⟨h, fun l hl => hostileRes_ne_array ho _ l (h.symm.trans hl)⟩

/-! ### `array::map_!` / `array::from_fn_!` (by value: `ArrayConsumer` + `ArrayBuilder`) -/

/-- well-behaved closure ⇒ `map_!` = `<[T; N]>::map` (the ledger half is C15 `map_by_value_ledger`) -/
theorem mapByVal_value (xs : List α) (f : α → β) (c : Nat → α → Outcome β) (fuel : Nat)
    (hf : xs.length < fuel) (hc : ∀ i a, xs[i]? = some a → c i a = .value (f a)) :
    (arrayMapByVal fuel xs c).res = .array (stdMap f xs) := by
  rw [arrayMapByVal_map xs f c fuel hf hc]
  rfl

/-- ANY closure: never UB, never a non-terminating loop; a returned array has length `N` and its
    `j`-th element is the value of the `j`-th call, made on the `j`-th input -/
theorem mapByVal_init (xs : List α) (c : Nat → α → Outcome β) (fuel : Nat) (hf : xs.length < fuel) :
    (arrayMapByVal fuel xs c).res ≠ .ub ∧ (arrayMapByVal fuel xs c).res ≠ .diverge ∧
    ∀ l : List β, (arrayMapByVal fuel xs c).res = .array l →
      l.length = xs.length ∧ ∀ (j : Nat) (a : α) (v : β), xs[j]? = some a → l[j]? = some v → c j a = .value v := by
  rw [arrayMapByVal_eq_ref xs c fuel hf]
  obtain ⟨h1, h2, _, _⟩ := byValRef_ledger c xs.length xs 0 [] []
  refine ⟨h1, h2, fun l hl => ?_⟩
  obtain ⟨vs, rfl, _, g7, g8⟩ := byValRef_array c xs.length xs 0 [] [] l (by simp) hl
  exact ⟨g7, fun j a v hj hv => by simpa using g8 j a v hj hv⟩

/-- any early exit at any reached index ⇒ `map_!` does not return an array (it panics in
    `ArrayBuilder::build` or while unwinding, or the caller returns) -/
theorem mapByVal_hostile (xs : List α) (c : Nat → α → Outcome β) (fuel : Nat) (hf : xs.length < fuel)
    (j : Nat) (a : α) (hj : xs[j]? = some a) (hbad : ∀ v, c j a ≠ .value v) :
    ∀ l, (arrayMapByVal fuel xs c).res ≠ .array l := by
  intro l hl
  obtain ⟨hlen, hv⟩ := (mapByVal_init xs c fuel hf).2.2 l hl
  have hjl : j < l.length := by rw [hlen]; exact (List.getElem?_eq_some_iff.mp hj).1
  exact hbad l[j] (hv j a l[j] hj (by simp [hjl]))

theorem fromFnByVal_value (n : Nat) (f : Nat → β) (c : Nat → Nat → Outcome β) (fuel : Nat)
    (hf : n < fuel) (hc : ∀ i, i < n → c i i = .value (f i)) :
    (arrayFromFnByVal fuel n c).res = .array (stdFromFn n f) := by
  unfold arrayFromFnByVal
  rw [arrayMapByVal_values (List.replicate n ()) ((List.range n).map f) _ fuel (by simpa using hf) (by simp)]
  · rfl
  · intro j a v hj hv
    have hjn : j < n := by simpa using (List.getElem?_eq_some_iff.mp hj).1
    rw [List.getElem?_map, List.getElem?_range hjn] at hv
    cases hv
    exact hc j hjn

theorem fromFnByVal_init (n : Nat) (c : Nat → Nat → Outcome β) (fuel : Nat) (hf : n < fuel) :
    (arrayFromFnByVal fuel n c).res ≠ .ub ∧ (arrayFromFnByVal fuel n c).res ≠ .diverge ∧
    ∀ l : List β, (arrayFromFnByVal fuel n c).res = .array l →
      l.length = n ∧ ∀ (j : Nat) (v : β), l[j]? = some v → c j j = .value v := by
  obtain ⟨h1, h2, h3⟩ := mapByVal_init (List.replicate n ()) (fun t _ => c t t) fuel (by simpa using hf)
  refine ⟨h1, h2, fun l hl => ?_⟩
  obtain ⟨g1, g2⟩ := h3 l hl
  simp only [List.length_replicate] at g1
  refine ⟨g1, fun j v hv => ?_⟩
  have hjn : j < n := by rw [← g1]; exact (List.getElem?_eq_some_iff.mp hv).1
  exact g2 j () v (by simp [hjn]) hv

theorem fromFnByVal_hostile (n : Nat) (c : Nat → Nat → Outcome β) (fuel : Nat) (hf : n < fuel)
    (j : Nat) (hj : j < n) (hbad : ∀ v, c j j ≠ .value v) :
    ∀ l, (arrayFromFnByVal fuel n c).res ≠ .array l := by
  intro l hl
  obtain ⟨hlen, hv⟩ := (fromFnByVal_init n c fuel hf).2.2 l hl
  have hjl : j < l.length := hlen ▸ hj
  exact hbad l[j] (hv j l[j] (List.getElem?_eq_getElem hjl))

/-! ### `iter::collect_const!` -/

/-- the array is exactly what the item loop yields (both passes see the same items): length pass and
    fill pass agree, `assert!(length == CAP)` holds, every slot is written -/
theorem collectConst_eq (src : List (Outcome β)) (l : List β) (h : yielded src = .ok l) :
    collectConst src = .array l := by
  have hc : ccCount src = .ok l.length := by
    simp [ccCount, ccLoop_count, h, Except.map]
  have hb := ccLoop_build_ok l.length src [] l h (by simp)
  simp only [outOf_nil, List.length_nil, Nat.zero_add, List.nil_append] at hb
  simp [collectConst, collectConst2, hc, ccBuild, hb, outOf, ArrayBuilder.readInit_map_some]

/-- well-behaved chain: `collect_const!` = collecting the same items -/
theorem collectConst_values (xs : List β) : collectConst (xs.map Outcome.value) = .array xs := by
  apply collectConst_eq
  induction xs with
  | nil => rfl
  | cons x r ih => simp [yielded, ih, Except.map]

/-- a panic or a `return` in the chain: no array (the constant does not compile) -/
theorem collectConst_abort (src : List (Outcome β)) (e : CCStop) (h : yielded src = .error e) :
    collectConst src = (match e with | .panic => .constPanic | .typeError => .typeError) := by
  have hc : ccCount src = .error e := by simp [ccCount, ccLoop_count, h, Except.map]
  cases e <;> simp [collectConst, collectConst2, hc]

/-- even if the two evaluations produced DIFFERENT item streams, the `length == CAP` assert (and the
    bounds check of `array[length]`) rule out an unwritten slot: an array result has exactly the items
    of the fill pass and the length the first pass computed -/
theorem collectConst_len_eq_fill (src1 src2 : List (Outcome β)) :
    collectConst2 src1 src2 ≠ .ub ∧
    ∀ l, collectConst2 src1 src2 = .array l →
      yielded src2 = .ok l ∧ ccCount src1 = .ok l.length := by
  unfold collectConst2
  cases hc : ccCount src1 with
  | error e => cases e <;> simp
  | ok cap =>
    simp only [ccBuild]
    cases hb : ccLoop .buildArray src2 (List.replicate cap none) 0 with
    | error e => cases e <;> simp
    | ok p =>
      obtain ⟨arr', len'⟩ := p
      have hb' : ccLoop .buildArray src2 (outOf cap []) ([] : List β).length = .ok (arr', len') := by
        simpa [outOf_nil] using hb
      obtain ⟨l, h1, h2, h3, h4⟩ := ccLoop_build_inv cap src2 [] arr' len' (by simp) hb'
      simp only [List.length_nil, Nat.zero_add, List.nil_append] at h2 h3
      by_cases heq : len' = cap
      · have hl : l.length = cap := by omega
        subst h2
        simp only [heq, beq_self_eq_true, if_true]
        have : outOf cap l = l.map some := by simp [outOf, hl]
        rw [this, ArrayBuilder.readInit_map_some]
        refine ⟨by simp, ?_⟩
        intro l' hl'
        cases hl'
        exact ⟨h1, by rw [hl]⟩
      · have : (len' == cap) = false := by simp [heq]
        simp [this]

/-! ### `ArrayBuilder` -/

/-- every history of pushes / clones from `ArrayBuilder::new()`: the builder refines the bounded vector
    (same per-operation results, in particular a push panics iff `N` values are already in), it holds
    `inited ≤ N` values, `as_slice` is the accepted pushes, and `build` returns exactly them iff there
    are `N`, else panics — never an unwritten slot -/
theorem builder_history (fresh : Nat → α → α) (n : Nat) (ops : List (ArrayBuilder.Op α)) :
    let r := ArrayBuilder.run fresh (ArrayBuilder.new n, 0) ops
    let s := bvRun fresh n ([], 0) ops
    r.2 = s.2 ∧ r.1.2 = s.1.2 ∧ r.1.1.inited = s.1.1.length ∧ r.1.1.inited ≤ n ∧
    ArrayBuilder.asSlice r.1.1 = some s.1.1 ∧ ArrayBuilder.isFull r.1.1 = decide (s.1.1.length = n) ∧
    ArrayBuilder.build r.1.1 = (match bvBuild n s.1.1 with | some l => .array l | none => .panic) ∧
    ArrayBuilder.dropped r.1.1 = some s.1.1 := by
  intro r s
  obtain ⟨h1, h2, h3, h4⟩ := bld_run fresh ops (ArrayBuilder.new n) [] 0 (ArrayBuilder.wf_new n)
  have hn : (ArrayBuilder.new n : ArrayBuilder.Builder α).n = n := rfl
  rw [hn] at h1 h2 h3 h4
  refine ⟨h4, h3, h1.2.1, ?_, ArrayBuilder.wf_asSlice h1, ?_, ?_, ArrayBuilder.wf_dropped h1⟩
  · have := h1.1; rw [h2] at this; rw [h1.2.1]; exact this
  · rw [ArrayBuilder.wf_isFull h1, h2]
  · rw [ArrayBuilder.wf_build h1, h2]
    simp only [bvBuild]
    split <;> rfl

/-- `target.clone_from(&source)` between two builders reached by ANY two histories (same `N`; the target
    may hold more, fewer or as many elements as the source, either may be empty or full): the call
    succeeds, drops exactly the old elements of the target (once each, in order) and leaves the target
    holding exactly the numbered clones of the source's elements — `len`, `is_full`, `as_slice`, `build`
    and `Drop` of the target are those of a clone of the source; nothing of the old target survives and
    no unwritten slot is read.  The source is not touched (it is only read). -/
theorem builder_clone_from (fresh cl : Nat → α → α) (n : Nat) (opsT opsS : List (ArrayBuilder.Op α)) :
    let t := (ArrayBuilder.run fresh (ArrayBuilder.new n, 0) opsT).1.1
    let s := (ArrayBuilder.run fresh (ArrayBuilder.new n, 0) opsS).1.1
    let tacc := (bvRun fresh n ([], 0) opsT).1.1
    let sacc := (bvRun fresh n ([], 0) opsS).1.1
    let copy := ArrayBuilder.mapFrom cl 0 sacc
    ∃ c, ArrayBuilder.cloneFrom cl t s = some (c, tacc) ∧
      ArrayBuilder.len c = sacc.length ∧ ArrayBuilder.isFull c = decide (sacc.length = n) ∧
      ArrayBuilder.asSlice c = some copy ∧ ArrayBuilder.dropped c = some copy ∧
      ArrayBuilder.build c = (if sacc.length = n then .array copy else .panic) := by
  intro t s tacc sacc copy
  obtain ⟨ht, htn, _, _⟩ := bld_run fresh opsT (ArrayBuilder.new n) [] 0 (ArrayBuilder.wf_new n)
  obtain ⟨hs, hsn, _, _⟩ := bld_run fresh opsS (ArrayBuilder.new n) [] 0 (ArrayBuilder.wf_new n)
  have hn : (ArrayBuilder.new n : ArrayBuilder.Builder α).n = n := rfl
  rw [hn] at ht hs htn hsn
  obtain ⟨c, hc, hw, hcn⟩ := ArrayBuilder.wf_cloneFrom cl ht hs
  refine ⟨c, hc, ?_, ?_, ArrayBuilder.wf_asSlice hw, ArrayBuilder.wf_dropped hw, ?_⟩
  · simpa [ArrayBuilder.len] using hw.2.1
  · rw [ArrayBuilder.wf_isFull hw, hcn, hsn]; simp [sacc]
  · rw [ArrayBuilder.wf_build hw, hcn, hsn]; simp [copy, sacc]

/-- with clones that preserve values, what the builder holds is the first `N` of the values pushed into
    it in push order (`pushes`: a `clone_from` from a second builder restarts with the values pushed
    into that builder); `build` returns them iff at least `N` values were pushed -/
theorem builder_build_eq_pushes (n : Nat) (ops : List (ArrayBuilder.Op α)) :
    ArrayBuilder.build (ArrayBuilder.run (fun _ x => x) (ArrayBuilder.new n, 0) ops).1.1 =
      if n ≤ (pushes ops).length then .array ((pushes ops).take n) else .panic := by
  have h := (builder_history (fun _ (x : α) => x) n ops).2.2.2.2.2.2.1
  unfold pushes
  rw [h, bvRun_values n ops [] 0 (by simp)]
  simp only [bvBuild, List.length_take]
  by_cases hle : n ≤ (pushesFrom [] ops).length
  · simp [hle, Nat.min_eq_left hle]
  · have : min n (pushesFrom [] ops).length ≠ n := by omega
    simp [hle, this]

/-! ### non-vacuity -/

example : arrayMap 10 [1, 2, 3] (fun _ a => .value (a + 10)) = .array [11, 12, 13] := by decide +kernel
example : arrayMap 10 [1, 2, 3] (fun _ a => if a = 2 then .brk else .value a) = Res.panic := by decide +kernel
example : arrayMap 50 [1, 2, 3] (fun _ a => if a = 2 then .cont else .value a) = Res.diverge := by decide +kernel
/-- `continue` the first time only: index 1 is retried and the array is complete -/
example : arrayMap 10 [1, 2, 3] (fun t a => if t = 1 then .cont else .value a) = .array [1, 2, 3] := by decide +kernel
example : (arrayMapByVal 10 [1, 2, 3] (fun _ a => if a = 2 then .brk else .value a)).res = Res.panic := by decide +kernel
example : (arrayMapByVal 10 [1, 2, 3] (fun _ a => if a = 2 then .brk else .value a)).leakedIn = [3] := by decide +kernel
/-- the `ub` outcome is a real state of the model: it is what the post-loop assert prevents -/
example : assumeInit [some 1, none] = (Res.ub : Res Nat) := by decide +kernel
/-- `clone_from` into a LONGER target: nothing of the old tail survives (a clone_from that only overwrote
    the common prefix would leave `[100, 2, 3]` here and `build` would return it) -/
example : (ArrayBuilder.run (fun k (_ : Nat) => 100 + k) (ArrayBuilder.new 3, 0)
    [.push 1, .push 2, .push 3, .cloneFrom [7]]).2.getLast? = some (.clonedFrom [] [1, 2, 3] [7]) := by decide +kernel
example : ArrayBuilder.asSlice (ArrayBuilder.run (fun k (_ : Nat) => 100 + k) (ArrayBuilder.new 3, 0)
    [.push 1, .push 2, .push 3, .cloneFrom [7]]).1.1 = some [104] := by decide +kernel
example : ArrayBuilder.build (ArrayBuilder.run (fun k (_ : Nat) => 100 + k) (ArrayBuilder.new 3, 0)
    [.push 1, .push 2, .push 3, .cloneFrom [7]]).1.1 = .panic := by decide +kernel
example : ArrayBuilder.build (ArrayBuilder.run (fun k (_ : Nat) => 100 + k) (ArrayBuilder.new 2, 0)
    [.push 1, .cloneInto [7, 8, 9]]).1.1 = .panic := by decide +kernel
example : pushes [.push 1, .push 2, .cloneFrom [7], .push (3 : Nat), .cloneInto [9]] = [7, 3] := by decide +kernel
example : collectConst [.value 1, .cont, .value 3, .brk, .value 5] = CCRes.array [1, 3] := by decide +kernel
example : collectConst2 [.value 1, .value 2] [.value (1 : Nat)] = CCRes.constPanic := by decide +kernel
example : collectConst2 [.value 1] [.value (1 : Nat), .value 2] = CCRes.constPanic := by decide +kernel

end Konst.Props.C11
