import KonstVerif.Lemmas.LitDecode
import KonstVerif.Model.ParserMethod
import KonstVerif.Model.ParserMethodUse
import KonstVerif.Spec.ParserMethod
import KonstVerif.Lemmas.Utf8
/-
  C18 — `parser_method!` behaves like the equivalent chain of Parser method calls, and the bytes it
  matches for a literal are the bytes rustc gives that literal.

  Part (i): the literal decoder of konst_proc_macros (Model/LitDecode) = the Rust Reference's
  meaning of the literal (Spec/LitDecode), for every well-formed literal body / raw literal /
  `concat!` of them.
  Part (ii): the expanded matching code (Model/ParserMethod) = the property's description
  (Spec/ParserMethod) for every list of alternatives and every remainder.
  Part (iii): what the expansion does with the caller's PLACE expression, branch bodies and scope
  (Model/ParserMethodUse): for a place without side effects exactly what a method call on the place does;
  a place with side effects is evaluated four times (F18a, known finding).  The model mirrors the macro at
  /repo's HEAD: the find forms run their search loop before the `match` that holds the bodies (5e6c5eb) and
  bind only `__konst_pm_*` identifiers (ff38c77); the expansion before those two commits (F18b, F18c) is
  Legacy/ParserMethodUse.lean, see notes/C18.md.
-/
namespace Konst.Props.C18
open Konst.Lit Konst.Lit.Spec Konst.Lit.Lemmas Konst.PM Konst.PM.Spec Konst.PM.Use

/-! ### part (i): literals -/

private theorem segs_le_render : ∀ (segs : List (List Char × Esc)) (tail : List Char),
    segs.length ≤ (renderSegs segs tail).length := by
  intro segs
  induction segs with
  | nil => intro tail; simp
  | cons s r ih =>
    intro tail
    obtain ⟨t, e⟩ := s
    have := ih tail
    simp only [renderSegs, List.length_append, List.length_cons]
    omega

/-- every well-formed string literal (plain characters and every escape kind: `\n \r \t \\ \0 \' \"`,
    `\xNN`, `\u{…}` with underscores, line continuations) is decoded to the string rustc assigns -/
theorem decode_eq_reference (b : Body) (h : b.WF) : parseString b.render = .ok b.meaning := by
  unfold parseString Body.render
  have hlast : ('"' :: renderSegs b.segs b.tail ++ ['"']).getLast? = some '"' := by
    rw [List.getLast?_eq_some_iff]; exact ⟨'"' :: renderSegs b.segs b.tail, rfl⟩
  simp only [hlast, ne_eq, not_true_eq_false, if_false]
  have hcons : ('"' :: renderSegs b.segs b.tail ++ ['"']) = '"' :: (renderSegs b.segs b.tail ++ ['"']) := rfl
  rw [hcons]
  have hdl : (renderSegs b.segs b.tail ++ ['"']).dropLast = renderSegs b.segs b.tail := by simp
  obtain ⟨y, ys, hy⟩ : ∃ y ys, renderSegs b.segs b.tail ++ ['"'] = y :: ys := by
    cases hX : renderSegs b.segs b.tail ++ ['"'] with
    | nil => simp at hX
    | cons y ys => exact ⟨y, ys, rfl⟩
  rw [hy]
  dsimp only
  rw [← hy, hdl]
  have := unescape_segs b.segs b.tail [] ((renderSegs b.segs b.tail ++ ['"']).length + 1) h (by
    have := segs_le_render b.segs b.tail
    simp only [List.length_append, List.length_cons, List.length_nil]; omega)
  simpa [Body.meaning] using this

/-- raw string literals with any number of hashes decode to their content verbatim -/
theorem decode_raw_eq (k : Nat) (content : List Char) :
    parseRawString (renderRaw k content) = .ok content := by
  have hH : ∀ c ∈ List.replicate k '#', decide (c = '#') = true := fun c hc => by
    rw [List.eq_of_mem_replicate hc]; rfl
  -- `I`: the text behind the `r`.  `h1`, `h2`: the leading hashes and the opening quote behind them
  generalize hI : List.replicate k '#' ++ '"' :: (content ++ '"' :: List.replicate k '#') = I
  have h1 : I.takeWhile (· = '#') = List.replicate k '#' := by
    rw [← hI]; exact (takeWhile_run _ _ '"' _ hH rfl).1
  have h2 : I.drop k = '"' :: (content ++ '"' :: List.replicate k '#') := by
    rw [← hI]; exact List.drop_left' List.length_replicate
  -- `h3`, `h4`: read backwards, the same `k` hashes: `end_quote = I.len - 1 - k`
  have h3 : I.reverse.takeWhile (· = '#') = List.replicate k '#' := by
    rw [← hI, show (List.replicate k '#' ++ '"' :: (content ++ '"' :: List.replicate k '#')).reverse =
      List.replicate k '#' ++ '"' :: (content.reverse ++ '"' :: List.replicate k '#') by
        simp only [List.reverse_append, List.reverse_cons, List.reverse_replicate, List.append_assoc,
          List.cons_append, List.nil_append]]
    exact (takeWhile_run _ _ '"' _ hH rfl).1
  have h4 : I.length = k + 1 + content.length + 1 + k := by
    rw [← hI]; simp only [List.length_append, List.length_cons, List.length_replicate]; omega
  -- `h5`, `h6`: the closing quote sits there, and the slice between the quotes is the content
  have h5 : I[k + 1 + content.length]? = some '"' := by
    rw [← hI, List.getElem?_append_right (by rw [List.length_replicate]; omega), List.length_replicate,
      show k + 1 + content.length - k = content.length + 1 by omega, List.getElem?_cons_succ,
      List.getElem?_append_right (Nat.le_refl _), Nat.sub_self]
    rfl
  have h6 : (I.take (k + 1 + content.length)).drop (k + 1) = content := by
    rw [List.drop_take, show k + 1 + content.length - (k + 1) = content.length by omega, ← List.drop_drop, h2]
    exact List.take_left' rfl
  unfold parseRawString renderRaw
  simp only [List.drop_one, List.tail_cons, hI, h1, List.length_replicate, h2, h3, h4, ne_eq, not_true_eq_false,
    if_false, show ¬ (k ≥ k + 1 + content.length + 1 + k) by omega,
    show k + 1 + content.length + 1 + k - 1 - k = k + 1 + content.length by omega, h5,
    show k + 1 ≤ k + 1 + content.length by omega, if_true, h6]

/-- `concat!(l1, l2, …)` matches the concatenation of the literals' strings -/
theorem decode_concat (bs : List Body) (h : ∀ b ∈ bs, b.WF) :
    parseConcat (bs.map Body.render) = .ok (bs.flatMap Body.meaning) := by
  induction bs with
  | nil => rfl
  | cons b r ih =>
    have hb := decode_eq_reference b (h b (by simp))
    have hr := ih (fun x hx => h x (by simp [hx]))
    have hlit : parseLiteral b.render = parseString b.render := by
      simp [parseLiteral, Body.render]
    simp only [List.map_cons, parseConcat, hlit, hb, hr, List.flatMap_cons]

/-! ### part (ii): the expanded matching code -/

/-- Both slice patterns have the shape "if the literal passes `test`, the bytes with the literal `cut` off":
    a `match` over such patterns runs the FIRST listed alternative that passes the test. -/
theorem firstArm_eq (test : List Nat → List Nat → Bool) (cut : List Nat → Nat → List Nat) (arms : Arms)
    (bytes : List Nat) :
    firstArm (fun lit b => if test lit b then some (cut b lit.length) else none) arms bytes =
      (arms.find? fun a => test a.2 bytes).map fun a => (a.1, cut bytes a.2.length) := by
  induction arms with
  | nil => rfl
  | cons a r ih =>
    rw [firstArm, List.find?_cons]
    cases test a.2 bytes with
    | true => rfl
    | false => exact ih

theorem firstArm_start (arms : Arms) (bytes : List Nat) :
    firstArm matchStart arms bytes = stripPrefixSpec arms bytes :=
  firstArm_eq List.isPrefixOf (fun b n => b.drop n) arms bytes

theorem firstArm_end (arms : Arms) (bytes : List Nat) :
    firstArm matchEnd arms bytes = stripSuffixSpec arms bytes :=
  firstArm_eq List.isSuffixOf (fun b n => b.take (b.length - n)) arms bytes

private theorem findFrom_shift (arms : Arms) (b : Nat) (bytes : List Nat) (ps : List Nat) :
    findFrom arms (b :: bytes) (ps.map (· + 1)) = findFrom arms bytes ps := by
  induction ps with
  | nil => rfl
  | cons p ps ih =>
    simp only [List.map_cons, findFrom, List.drop_succ_cons]
    cases firstPrefix arms (bytes.drop p) with
    | none => simpa using ih
    | some a =>
      simp only [Option.some.injEq, Prod.mk.injEq, true_and]
      have : p + 1 + a.2.length = (p + a.2.length) + 1 := by omega
      rw [this, List.drop_succ_cons]

/-- find_skip form: the earliest position at which any alternative matches, and there the first
    listed alternative; the remainder starts right after that match -/
theorem findLoop_eq_spec (arms : Arms) (bytes : List Nat) :
    findLoop arms bytes = findSkipSpec arms bytes := by
  induction bytes with
  | nil =>
    simp only [findLoop, findSkipSpec, List.length_nil, Nat.zero_add, List.range_one, findFrom,
      List.drop_nil, firstArm_start, stripPrefixSpec]
    cases firstPrefix arms [] <;> simp
  | cons b bytes ih =>
    simp only [findLoop, findSkipSpec, List.length_cons]
    rw [List.range_succ_eq_map]
    simp only [findFrom, List.drop_zero, firstArm_start, stripPrefixSpec, Nat.zero_add]
    cases h : firstPrefix arms (b :: bytes) with
    | some a => simp
    | none =>
      simp only [Option.map_none]
      rw [ih, findSkipSpec]
      have := findFrom_shift arms b bytes (List.range (bytes.length + 1))
      simpa [Function.comp_def] using this.symm

/-- rfind_skip form: the latest position (scanning ends len, len-1, …, 0) at which any alternative
    matches as a suffix, and there the first listed alternative; the remainder ends right before it -/
theorem rfindLoop_eq_spec (arms : Arms) (bytes : List Nat) :
    rfindLoop arms bytes.length bytes = rfindSkipSpec arms bytes := by
  have key : ∀ (e : Nat), e ≤ bytes.length →
      rfindLoop arms e (bytes.take e) = rfindFrom arms bytes (List.range (e + 1)).reverse := by
    intro e
    induction e with
    | zero =>
      intro _
      have hr : (List.range (0 + 1)).reverse = [0] := by decide
      rw [hr]
      simp only [List.take_zero, rfindLoop, firstArm_end, stripSuffixSpec, rfindFrom]
      cases firstSuffix arms [] <;> simp
    | succ e ih =>
      intro he
      have hlen : (bytes.take (e + 1)).length = e + 1 := by simp; omega
      have hne : bytes.take (e + 1) ≠ [] := by
        intro h; rw [h] at hlen; simp at hlen
      rw [List.range_succ, List.reverse_append]
      simp only [List.reverse_cons, List.reverse_nil, List.nil_append, List.singleton_append, rfindFrom]
      rw [rfindLoop, firstArm_end, stripSuffixSpec]
      cases h : firstSuffix arms (bytes.take (e + 1)) with
      | some a =>
        simp only [Option.map_some, hlen, List.take_take]
        congr 2
        rw [Nat.min_eq_left (Nat.sub_le _ _)]
      | none =>
        simp only [Option.map_none, hne, if_false]
        have hd : (bytes.take (e + 1)).dropLast = bytes.take e := by
          rw [List.dropLast_eq_take, hlen, List.take_take]; simp
        rw [hd]
        exact ih (by omega)
  have := key bytes.length (Nat.le_refl _)
  rw [List.take_length] at this
  exact this

/-- The `while let` of the trim forms, for either end: given the unfolding equation of the specification
    (`hspec`), that a passing literal is no longer than the bytes (`hlen`) and that `cut` removes exactly its
    length (`hcut`), the loop computes the specification. -/
theorem trimLoop_eq (test : List Nat → List Nat → Bool) (cut : List Nat → Nat → List Nat) (arms : Arms)
    (spec : List Nat → List Nat)
    (hspec : ∀ bytes, spec bytes = match arms.find? fun a => test a.2 bytes with
      | none => bytes
      | some a => if a.2.length = 0 ∨ bytes.length < a.2.length then bytes else spec (cut bytes a.2.length))
    (hlen : ∀ lit bytes, test lit bytes = true → lit.length ≤ bytes.length)
    (hcut : ∀ bytes n, (cut bytes n).length = bytes.length - n) :
    ∀ (fuel : Nat) (bytes : List Nat), bytes.length < fuel →
      trimLoop (fun lit b => if test lit b then some (cut b lit.length) else none) arms fuel bytes = spec bytes := by
  intro fuel
  induction fuel with
  | zero => intro bytes h; exact absurd h (Nat.not_lt_zero _)
  | succ f ih =>
    intro bytes hf
    rw [trimLoop, firstArm_eq, hspec]
    cases h : arms.find? fun a => test a.2 bytes with
    | none => rfl
    | some a =>
      have hl := hlen a.2 bytes (List.find?_some (p := fun a : Nat × List Nat => test a.2 bytes) h)
      dsimp only [Option.map_some]
      rw [hcut]
      by_cases h0 : a.2.length = 0
      · rw [if_pos (by rw [h0]; rfl), if_pos (Or.inl h0)]
      · have hn : 0 < a.2.length := Nat.pos_of_ne_zero h0
        have hlt : bytes.length - a.2.length < bytes.length := Nat.sub_lt (Nat.lt_of_lt_of_le hn hl) hn
        rw [if_neg (Nat.ne_of_lt hlt), if_neg fun h => h.elim h0 (Nat.not_lt.mpr hl)]
        exact ih _ (by rw [hcut]; exact Nat.lt_of_lt_of_le hlt (Nat.le_of_lt_succ hf))

/-- trim_start_matches form: repeatedly remove the first listed alternative that is a prefix, until
    none is, or the one that matches is the empty literal -/
theorem trimStart_eq_spec (arms : Arms) : ∀ (fuel : Nat) (bytes : List Nat), bytes.length < fuel →
    trimLoop matchStart arms fuel bytes = trimStartSpec arms bytes :=
  trimLoop_eq List.isPrefixOf (fun b n => b.drop n) arms (trimStartSpec arms)
    (fun bytes => by rw [trimStartSpec]; rfl)
    (fun _ _ h => (List.isPrefixOf_iff_prefix.mp h).length_le) (fun _ _ => List.length_drop)

theorem trimEnd_eq_spec (arms : Arms) : ∀ (fuel : Nat) (bytes : List Nat), bytes.length < fuel →
    trimLoop matchEnd arms fuel bytes = trimEndSpec arms bytes :=
  trimLoop_eq List.isSuffixOf (fun b n => b.take (b.length - n)) arms (trimEndSpec arms)
    (fun bytes => by rw [trimEndSpec]; rfl)
    (fun _ _ h => (List.isSuffixOf_iff_suffix.mp h).length_le)
    (fun b n => by rw [List.length_take, Nat.min_eq_left (Nat.sub_le _ _)])

/-- the whole trim forms: the bytes handed to `Parser::skip` / `skip_back` are the spec's remainder -/
theorem trim_form_eq_repeat (arms : Arms) (p : PState) :
    trimStartMatches arms p = setStart p (trimStartSpec arms p.rem) ∧
    trimEndMatches arms p = setEnd p (trimEndSpec arms p.rem) := by
  unfold trimStartMatches trimEndMatches
  rw [trimStart_eq_spec arms _ _ (Nat.lt_succ_self _), trimEnd_eq_spec arms _ _ (Nat.lt_succ_self _)]
  exact ⟨rfl, rfl⟩

/-- the find forms run a search loop that contains no caller code and then a plain `match` on the bytes it
    stopped at (the macro as of 5e6c5eb); that is the same computation as the single fused loop `findLoop` /
    `rfindLoop` the theorems above speak about -/
theorem search_then_match (arms : Arms) :
    (∀ bytes, firstArm matchStart arms (searchLoop arms bytes) = findLoop arms bytes) ∧
    (∀ fuel bytes, firstArm matchEnd arms (rsearchLoop arms fuel bytes) = rfindLoop arms fuel bytes) := by
  constructor
  · intro bytes
    induction bytes with
    | nil => rfl
    | cons b br ih =>
      simp only [searchLoop, findLoop]
      cases h : firstArm matchStart arms (b :: br) with
      | some r => simp only [h]
      | none => simpa using ih
  · intro fuel
    induction fuel with
    | zero =>
      intro bytes
      unfold rsearchLoop rfindLoop
      cases h : firstArm matchEnd arms bytes with
      | some r => simp only [h]
      | none => simp only [h]
    | succ f ih =>
      intro bytes
      unfold rsearchLoop rfindLoop
      cases h : firstArm matchEnd arms bytes with
      | some r => simp only [h]
      | none =>
        simp only
        split
        · simp only [h]
        · exact ih _

/-- the find forms: `find_skip` stops at the earliest position, `rfind_skip` at the latest end position, at which
    some alternative matches, and runs the first listed alternative matching there -/
theorem find_form_earliest_then_first_listed (arms : Arms) (p : PState) :
    findSkip arms p = (match findSkipSpec arms p.rem with
                       | some (i, rem) => (some i, setStart p rem)
                       | none => (none, p)) ∧
    rfindSkip arms p = (match rfindSkipSpec arms p.rem with
                        | some (i, rem) => (some i, setEnd p rem)
                        | none => (none, p)) := by
  unfold findSkip rfindSkip
  rw [(search_then_match arms).1, (search_then_match arms).2, findLoop_eq_spec, rfindLoop_eq_spec]
  exact ⟨rfl, rfl⟩

/-- `Parser::skip(n)` / `skip_back(n)` at a char boundary within the remainder consume exactly
    `n` bytes: start offset + n (resp. end offset − n), remainder cut there, no rounding -/
theorem skip_exact (p : PState) (n : Nat) (hn : n ≤ p.rem.length)
    (hb : Konst.Utf8.isCharBoundaryBytes p.rem n = true) :
    skip p n = ⟨p.start + n, p.rem.drop n⟩ := by
  unfold skip
  have : ¬ n > p.rem.length := by omega
  simp only [this, if_false]
  rw [skip.up]
  simp [hb]

theorem skipBack_exact (p : PState) (n : Nat) (hn : n ≤ p.rem.length)
    (hb : Konst.Utf8.isCharBoundaryBytes p.rem (p.rem.length - n) = true) :
    skipBack p n = ⟨p.start, p.rem.take (p.rem.length - n)⟩ := by
  unfold skipBack
  cases hm : p.rem.length - n with
  | zero => simp [skipBack.down]
  | succ m => rw [hm] at hb; simp [skipBack.down, hb]

/-- `set` with a suffix of the remainder that starts on a char boundary: `Parser::skip` does not round -/
theorem setStart_drop (p : PState) (k : Nat) (hk : k ≤ p.rem.length)
    (hb : Konst.Utf8.isCharBoundaryBytes p.rem k = true) :
    setStart p (p.rem.drop k) = ⟨p.start + k, p.rem.drop k⟩ := by
  unfold setStart
  rw [List.length_drop, Nat.sub_sub_self hk]
  exact skip_exact p k hk hb

/-- the strip forms choose the branch the specification chooses, and run the default (parser untouched) when it
    chooses none -/
theorem strip_form_eq (arms : Arms) (p : PState) :
    (stripPrefix arms p).1 = (stripPrefixSpec arms p.rem).map (·.1) ∧
    (stripSuffix arms p).1 = (stripSuffixSpec arms p.rem).map (·.1) ∧
    (stripPrefixSpec arms p.rem = none → stripPrefix arms p = (none, p)) ∧
    (stripSuffixSpec arms p.rem = none → stripSuffix arms p = (none, p)) := by
  unfold stripPrefix stripSuffix
  rw [firstArm_start, firstArm_end]
  refine ⟨?_, ?_, ?_, ?_⟩
  · cases stripPrefixSpec arms p.rem with
    | none => rfl
    | some a => rfl
  · cases stripSuffixSpec arms p.rem with
    | none => rfl
    | some a => rfl
  · intro h; simp [h]
  · intro h; simp [h]

/-- when nothing matches, the default branch runs and the parser is unchanged (`find_skip` and the two strip
    forms; for `rfind_skip` this is the `none` case of `find_form_earliest_then_first_listed`) -/
theorem default_leaves_parser_unchanged (arms : Arms) (p : PState) :
    (findSkipSpec arms p.rem = none → findSkip arms p = (none, p)) ∧
    (stripPrefixSpec arms p.rem = none → stripPrefix arms p = (none, p)) ∧
    (stripSuffixSpec arms p.rem = none → stripSuffix arms p = (none, p)) := by
  refine ⟨?_, (strip_form_eq arms p).2.2.1, (strip_form_eq arms p).2.2.2⟩
  intro h
  unfold findSkip
  rw [(search_then_match arms).1, findLoop_eq_spec, h]

/-! ### literals are valid UTF-8, so the `Parser::skip` of the start forms never rounds -/

open Konst.Spec.Utf8 in
/-- a (non-empty) valid literal matched byte-wise at offset `i` of a valid remainder starts and ends
    on char boundaries of the remainder; an empty literal at offset 0 or at the end trivially so -/
theorem cut_on_boundary (cs ls : List Nat) (hcs : ∀ c ∈ cs, isScalar c = true) (i : Nat)
    (hm : encs ls <+: (encs cs).drop i) (hne : ls ≠ [] ∨ i = 0 ∨ i = (encs cs).length) :
    Konst.Utf8.isCharBoundaryBytes (encs cs) i = true ∧
    Konst.Utf8.isCharBoundaryBytes (encs cs) (i + (encs ls).length) = true := by
  have hb := Konst.Lemmas.Utf8.boundary_iff cs hcs
  by_cases hl : ls = []
  · subst hl
    have h0 : IsBoundary cs i := by
      rcases hne with h | rfl | rfl
      · exact absurd rfl h
      · exact Konst.Lemmas.Utf8.boundary_zero cs
      · exact Konst.Lemmas.Utf8.boundary_len cs
    exact ⟨(hb i).mpr h0, (hb i).mpr h0⟩
  · obtain ⟨h1, h2⟩ := Konst.Lemmas.Utf8.match_on_boundaries cs ls hl i hm
    exact ⟨(hb i).mpr h1, (hb _).mpr h2⟩

open Konst.Spec.Utf8 in
/-- strip_prefix form on valid input: the parser advances by exactly the matched literal
    (start offset + |literal|, end offset unchanged, remainder = the rest) -/
theorem strip_prefix_exact (arms : Arms) (p : PState) (cs : List Nat)
    (hcs : ∀ c ∈ cs, isScalar c = true) (hp : p.rem = encs cs)
    (harms : ∀ a ∈ arms, ∃ ls, a.2 = encs ls) :
    stripPrefix arms p =
      match firstPrefix arms p.rem with
      | some a => (some a.1, ⟨p.start + a.2.length, p.rem.drop a.2.length⟩)
      | none => (none, p) := by
  unfold stripPrefix
  rw [firstArm_start, stripPrefixSpec]
  cases h : firstPrefix arms p.rem with
  | none => rfl
  | some a =>
    simp only [Option.map_some]
    have hmem := List.mem_of_find?_eq_some h
    have hpre : a.2 <+: p.rem := by
      have := List.find?_some h
      simpa [List.isPrefixOf_iff_prefix] using this
    obtain ⟨ls, hls⟩ := harms a hmem
    have hlen : a.2.length ≤ p.rem.length := hpre.length_le
    have hbd := cut_on_boundary cs ls hcs 0 (by rw [List.drop_zero, ← hp, ← hls]; exact hpre) (Or.inr (Or.inl rfl))
    rw [setStart_drop p a.2.length hlen (by rw [hp, hls]; simpa using hbd.2)]

/-- where the find form stops: the spec's result together with the position and the alternative chosen;
    no alternative matches at any position tried before it -/
private theorem findFrom_witness (arms : Arms) (bytes : List Nat) : ∀ (ps : List Nat) (i : Nat) (rem : List Nat),
    findFrom arms bytes ps = some (i, rem) →
    ∃ pre pos post a, ps = pre ++ pos :: post ∧ (∀ q ∈ pre, firstPrefix arms (bytes.drop q) = none) ∧
      firstPrefix arms (bytes.drop pos) = some a ∧ i = a.1 ∧ rem = bytes.drop (pos + a.2.length) := by
  intro ps
  induction ps with
  | nil => intro i rem h; simp [findFrom] at h
  | cons p0 ps ih =>
    intro i rem h
    simp only [findFrom] at h
    cases hf : firstPrefix arms (bytes.drop p0) with
    | some a =>
      rw [hf] at h
      simp only [Option.some.injEq, Prod.mk.injEq] at h
      exact ⟨[], p0, ps, a, rfl, by simp, hf, h.1.symm, h.2.symm⟩
    | none =>
      rw [hf] at h
      obtain ⟨pre, pos, post, a, hps, hnone, hfp, hi, hrem⟩ := ih i rem h
      refine ⟨p0 :: pre, pos, post, a, by rw [hps]; rfl, ?_, hfp, hi, hrem⟩
      intro q hq
      rcases List.mem_cons.mp hq with rfl | hq'
      · exact hf
      · exact hnone q hq'

open Konst.Spec.Utf8 in
/-- find_skip form on valid input (valid remainder, valid literals, the EMPTY literal included): the
    parser is advanced to exactly the end of the chosen match — start offset + (position + |literal|),
    end offset unchanged, no rounding by `Parser::skip` -/
theorem find_skip_exact (arms : Arms) (p : PState) (cs : List Nat)
    (hcs : ∀ c ∈ cs, isScalar c = true) (hp : p.rem = encs cs)
    (harms : ∀ a ∈ arms, ∃ ls, a.2 = encs ls) :
    findSkip arms p =
      match findSkipSpec arms p.rem with
      | some (i, rem) => (some i, ⟨p.start + (p.rem.length - rem.length), rem⟩)
      | none => (none, p) := by
  unfold findSkip
  rw [(search_then_match arms).1, findLoop_eq_spec]
  cases h : findSkipSpec arms p.rem with
  | none => rfl
  | some r =>
    obtain ⟨i, rem⟩ := r
    dsimp only
    unfold findSkipSpec at h
    obtain ⟨pre, pos, post, a, hps, hnone, hfp, _, hrem⟩ := findFrom_witness arms p.rem _ i rem h
    have hmem : pos ∈ List.range (p.rem.length + 1) := by rw [hps]; simp
    have hpos : pos ≤ p.rem.length := by
      have := List.mem_range.mp hmem; omega
    have hmemA := List.mem_of_find?_eq_some hfp
    have hpre : a.2 <+: p.rem.drop pos := by
      have := List.find?_some hfp
      simpa [List.isPrefixOf_iff_prefix] using this
    obtain ⟨ls, hls⟩ := harms a hmemA
    have hlen : pos + a.2.length ≤ p.rem.length := by
      have := hpre.length_le; simp only [List.length_drop] at this; omega
    -- an empty literal can only have been chosen at position 0
    have hzero : ls ≠ [] ∨ pos = 0 ∨ pos = (encs cs).length := by
      by_cases hl : ls = []
      · right; left
        have ha0 : a.2 = [] := by rw [hls, hl]; rfl
        have h0 : firstPrefix arms (p.rem.drop 0) ≠ none := by
          intro hn
          have := List.find?_eq_none.mp hn a hmemA
          simp [ha0] at this
        -- the list of positions tried starts with 0
        rw [List.range_succ_eq_map] at hps
        cases pre with
        | nil =>
          simp only [List.nil_append, List.cons.injEq] at hps
          exact hps.1.symm
        | cons q pre' =>
          simp only [List.cons_append, List.cons.injEq] at hps
          have := hnone q (by simp)
          rw [← hps.1] at this
          exact absurd this h0
      · exact Or.inl hl
    have hbd := cut_on_boundary cs ls hcs pos (by rw [← hp, ← hls]; exact hpre) hzero
    rw [hrem, setStart_drop p _ hlen (by rw [hp, hls]; exact hbd.2), List.length_drop, Nat.sub_sub_self hlen]

open Konst.Spec.Utf8 in
/-- the trim_start_matches form removes WHOLE CHARACTERS only: on a valid remainder with valid literals the
    spec's result is the encoding of a suffix of the remainder's chars -/
private theorem trimStartSpec_cut (arms : Arms) (harms : ∀ a ∈ arms, ∃ ls, a.2 = encs ls) :
    ∀ (n : Nat) (cs : List Nat), (encs cs).length = n → ∃ k, trimStartSpec arms (encs cs) = encs (cs.drop k) := by
  intro n
  induction n using Nat.strongRecOn with
  | _ n ih =>
    intro cs hn
    rw [trimStartSpec]
    cases h : firstPrefix arms (encs cs) with
    | none => exact ⟨0, by simp⟩
    | some a =>
      dsimp only
      by_cases hc : a.2.length = 0 ∨ (encs cs).length < a.2.length
      · rw [dif_pos hc]; exact ⟨0, by simp⟩
      · rw [dif_neg hc]
        have hmem := List.mem_of_find?_eq_some h
        have hpre : a.2 <+: encs cs := by
          have := List.find?_some h
          simpa [List.isPrefixOf_iff_prefix] using this
        obtain ⟨ls, hls⟩ := harms a hmem
        have hlne : ls ≠ [] := by
          intro e; rw [hls, e] at hc; exact hc (Or.inl rfl)
        have hb := Konst.Lemmas.Utf8.match_on_boundaries cs ls hlne 0 (by rw [List.drop_zero, ← hls]; exact hpre)
        obtain ⟨k1, _, _, hdrop⟩ := Konst.Lemmas.Utf8.boundary_split cs _ hb.2
        rw [Nat.zero_add, ← hls] at hdrop
        rw [hdrop]
        have hlt : (encs (cs.drop k1)).length < n := by
          rw [← hdrop, List.length_drop]; omega
        obtain ⟨k2, hk2⟩ := ih _ hlt (cs.drop k1) rfl
        exact ⟨k1 + k2, by rw [hk2, List.drop_drop]⟩

open Konst.Spec.Utf8 in
/-- trim_start_matches form on valid input: the parser is advanced by exactly the bytes removed (start
    offset + removed, end offset unchanged), `Parser::skip` never rounds -/
theorem trim_start_exact (arms : Arms) (p : PState) (cs : List Nat)
    (hcs : ∀ c ∈ cs, isScalar c = true) (hp : p.rem = encs cs)
    (harms : ∀ a ∈ arms, ∃ ls, a.2 = encs ls) :
    trimStartMatches arms p =
      ⟨p.start + (p.rem.length - (trimStartSpec arms p.rem).length), trimStartSpec arms p.rem⟩ := by
  rw [(trim_form_eq_repeat arms p).1]
  obtain ⟨k, hk⟩ := trimStartSpec_cut arms harms _ cs rfl
  have hsplit := Konst.Lemmas.Utf8.encs_take_append_drop cs k
  have hdrop : trimStartSpec arms p.rem = p.rem.drop (encs (cs.take k)).length := by
    rw [hp, hk]
    conv => rhs; rw [← hsplit]
    exact (List.drop_left' rfl).symm
  have hle : (encs (cs.take k)).length ≤ p.rem.length := by
    rw [hp, ← hsplit, List.length_append]
    exact Nat.le_add_right _ _
  have hbnd : Konst.Utf8.isCharBoundaryBytes p.rem (encs (cs.take k)).length = true := by
    rw [hp]
    exact (Konst.Lemmas.Utf8.boundary_iff cs hcs _).mpr ⟨k, rfl⟩
  rw [hdrop, setStart_drop p _ hle hbnd, List.length_drop, Nat.sub_sub_self hle]

/-! ### part (iii): the place expression, the branch bodies, the caller's scope -/

theorem matchStart_len {lit bytes rem : List Nat} (h : matchStart lit bytes = some rem) :
    rem.length ≤ bytes.length := by
  unfold matchStart at h
  split at h
  · cases h; simp only [List.length_drop]; omega
  · cases h

theorem matchEnd_len {lit bytes rem : List Nat} (h : matchEnd lit bytes = some rem) :
    rem.length ≤ bytes.length := by
  unfold matchEnd at h
  split at h
  · cases h; simp only [List.length_take]; omega
  · cases h

theorem firstArm_len (m : List Nat → List Nat → Option (List Nat))
    (hm : ∀ lit bytes rem, m lit bytes = some rem → rem.length ≤ bytes.length) :
    ∀ (arms : Arms) (bytes : List Nat) (i : Nat) (rem : List Nat),
      firstArm m arms bytes = some (i, rem) → rem.length ≤ bytes.length := by
  intro arms
  induction arms with
  | nil => intro bytes i rem h; simp [firstArm] at h
  | cons a r ih =>
    intro bytes i rem h
    obtain ⟨j, lit⟩ := a
    simp only [firstArm] at h
    cases hml : m lit bytes with
    | none => rw [hml] at h; exact ih bytes i rem h
    | some x =>
      rw [hml] at h
      simp only [Option.some.injEq, Prod.mk.injEq] at h
      rw [← h.2]; exact hm lit bytes x hml

private theorem findLoop_len (arms : Arms) : ∀ (bytes : List Nat) (i : Nat) (rem : List Nat),
    findLoop arms bytes = some (i, rem) → rem.length ≤ bytes.length := by
  intro bytes
  induction bytes with
  | nil => intro i rem h; exact firstArm_len _ (fun _ _ _ => matchStart_len) arms [] i rem (by simpa [findLoop] using h)
  | cons b br ih =>
    intro i rem h
    simp only [findLoop] at h
    cases hf : firstArm matchStart arms (b :: br) with
    | some x =>
      rw [hf] at h
      simp only [Option.some.injEq] at h
      subst h
      exact firstArm_len _ (fun _ _ _ => matchStart_len) arms (b :: br) i rem hf
    | none =>
      rw [hf] at h
      have := ih i rem h
      simp only [List.length_cons]; omega

private theorem rfindLoop_len (arms : Arms) : ∀ (fuel : Nat) (bytes : List Nat) (i : Nat) (rem : List Nat),
    rfindLoop arms fuel bytes = some (i, rem) → rem.length ≤ bytes.length := by
  intro fuel
  induction fuel with
  | zero =>
    intro bytes i rem h
    unfold rfindLoop at h
    cases hf : firstArm matchEnd arms bytes with
    | some x =>
      rw [hf] at h; simp only [Option.some.injEq] at h; subst h
      exact firstArm_len _ (fun _ _ _ => matchEnd_len) arms bytes i rem hf
    | none => rw [hf] at h; cases h
  | succ f ih =>
    intro bytes i rem h
    unfold rfindLoop at h
    cases hf : firstArm matchEnd arms bytes with
    | some x =>
      rw [hf] at h; simp only [Option.some.injEq] at h; subst h
      exact firstArm_len _ (fun _ _ _ => matchEnd_len) arms bytes i rem hf
    | none =>
      rw [hf] at h
      simp only at h
      split at h
      · cases h
      · have := ih _ i rem h
        simp only [List.length_dropLast] at this; omega

theorem trimLoop_len (m : List Nat → List Nat → Option (List Nat))
    (hm : ∀ lit bytes rem, m lit bytes = some rem → rem.length ≤ bytes.length) (arms : Arms) :
    ∀ (fuel : Nat) (bytes : List Nat), (trimLoop m arms fuel bytes).length ≤ bytes.length := by
  intro fuel
  induction fuel with
  | zero => intro bytes; simp [trimLoop]
  | succ f ih =>
    intro bytes
    simp only [trimLoop]
    cases hf : firstArm m arms bytes with
    | none => simp
    | some x =>
      obtain ⟨i, rem⟩ := x
      simp only
      have hl := firstArm_len m hm arms bytes i rem hf
      split
      · simp
      · exact Nat.le_trans (ih rem) hl

/-- whatever the form, the `rem` handed to `set` is no longer than the bytes `get` returned: with a place that
    designates one parser the `usize` subtraction in `set` cannot overflow -/
theorem matchPart_len (f : Form) (arms : Arms) (bytes : List Nat) (b : Nat) (rem : List Nat)
    (h : matchPart f arms bytes = some (b, rem)) : rem.length ≤ bytes.length := by
  cases f with
  | stripPrefix => exact firstArm_len _ (fun _ _ _ => matchStart_len) arms bytes b rem h
  | stripSuffix => exact firstArm_len _ (fun _ _ _ => matchEnd_len) arms bytes b rem h
  | findSkip => exact findLoop_len arms bytes b rem (by rw [← (search_then_match arms).1]; exact h)
  | rfindSkip => exact rfindLoop_len arms _ bytes b rem (by rw [← (search_then_match arms).2]; exact h)
  | trimStart =>
    simp only [matchPart, Option.some.injEq, Prod.mk.injEq] at h
    rw [← h.2]; exact trimLoop_len _ (fun _ _ _ => matchStart_len) arms _ bytes
  | trimEnd =>
    simp only [matchPart, Option.some.injEq, Prod.mk.injEq] at h
    rw [← h.2]; exact trimLoop_len _ (fun _ _ _ => matchEnd_len) arms _ bytes

/-- `Use.run` (get / match / set spelled out) is the expansion model the theorems of part (ii) are about -/
theorem run_eq_forms (arms : Arms) (p : PState) :
    run .stripPrefix arms p = stripPrefix arms p ∧ run .stripSuffix arms p = stripSuffix arms p ∧
    run .findSkip arms p = findSkip arms p ∧ run .rfindSkip arms p = rfindSkip arms p ∧
    run .trimStart arms p = (some 0, trimStartMatches arms p) ∧
    run .trimEnd arms p = (some 0, trimEndMatches arms p) := by
  have key : ∀ f, run f arms p = match matchPart f arms p.rem with
      | none => (none, p)
      | some (b, rem) => (some b, if f.fromEnd then setEnd p rem else setStart p rem) := by
    intro f
    unfold run
    cases h : matchPart f arms p.rem with
    | none => rfl
    | some x =>
      have hl := matchPart_len f arms p.rem x.1 x.2 h
      simp only [setFrom, Nat.not_lt.mpr hl, if_false, Option.getD_some, setEnd, setStart]
  refine ⟨?_, ?_, ?_, ?_, (key _).trans rfl, (key _).trans rfl⟩
  · rw [key, stripPrefix, matchPart]
    cases firstArm matchStart arms p.rem <;> rfl
  · rw [key, stripSuffix, matchPart]
    cases firstArm matchEnd arms p.rem <;> rfl
  · rw [key, findSkip, matchPart]
    cases firstArm matchStart arms (searchLoop arms p.rem) <;> rfl
  · rw [key, rfindSkip, matchPart]
    cases firstArm matchEnd arms (rsearchLoop arms p.rem.length p.rem) <;> rfl

/-- A place expression WITHOUT side effects (every evaluation designates parser `i`): the expansion reads and
    writes only that parser, never panics, and leaves the parsers exactly as a method call on the place evaluated
    once would (`placeOnce`) — only the number of evaluations differs (4 instead of 1 when a branch matches). -/
theorem placeRun_of_pure_place (f : Form) (arms : Arms) (ps : List PState) (st : List Nat) (i : Nat)
    (hst : ∀ k, idxAt st k = i) :
    placeRun f arms ps st =
      (match run f arms (ps.getD i default) with
       | (none, _) => .done none 1 ps
       | (some b, q) => .done (some b) 4 (ps.set i q)) ∧
    (∀ b n qs, placeRun f arms ps st = .done b n qs →
      placeOnce (run f arms) ps st = .done b 1 qs ∨ (b = none ∧ qs = ps)) := by
  have h1 : placeRun f arms ps st =
      (match run f arms (ps.getD i default) with
       | (none, _) => .done none 1 ps
       | (some b, q) => .done (some b) 4 (ps.set i q)) := by
    unfold placeRun run
    simp only [hst]
    cases h : matchPart f arms (ps.getD i default).rem with
    | none => rfl
    | some x =>
      obtain ⟨b, rem⟩ := x
      have hl := matchPart_len f arms _ b rem h
      have : ¬ (ps.getD i default).rem.length < rem.length := by omega
      simp only [setFrom, this, if_false, Option.getD_some]
  refine ⟨h1, ?_⟩
  intro b n qs hd
  rw [h1] at hd
  unfold placeOnce
  simp only [hst]
  cases hr : run f arms (ps.getD i default) with
  | mk b' q =>
    rw [hr] at hd
    cases b' with
    | none =>
      simp only [FxOut.done.injEq] at hd
      right; exact ⟨hd.1.symm, hd.2.2.symm⟩
    | some c =>
      simp only [FxOut.done.injEq] at hd
      left; simp only [FxOut.done.injEq, true_and]; exact ⟨hd.1, hd.2.2⟩

/-- As found (kernel-checked witness): with `ps[next()]` as the place — successive evaluations designate parsers
    0, 1, 2, 3 holding "abab", "bcd", "cdefgh", "zzzzzzzz" — `strip_prefix; "a" => ..` matches on parser 0 but
    advances none of the parsers read: it overwrites parser 3 with parser 1 skipped by |parser 2| − |rem| bytes.
    A method call on the place evaluates it once and advances parser 0. -/
theorem placeRun_ne_placeOnce :
    let arms : Arms := [(0, [97])]
    let ps : List PState := [⟨0, [97, 98, 97, 98]⟩, ⟨10, [98, 99, 100]⟩, ⟨20, [99, 100, 101, 102, 103, 104]⟩,
                             ⟨30, [122, 122, 122, 122, 122, 122, 122, 122]⟩]
    placeRun .stripPrefix arms ps [0, 1, 2, 3]
        = .done (some 0) 4 [⟨0, [97, 98, 97, 98]⟩, ⟨10, [98, 99, 100]⟩, ⟨20, [99, 100, 101, 102, 103, 104]⟩, ⟨13, []⟩] ∧
    placeOnce (run .stripPrefix arms) ps [0, 1, 2, 3]
        = .done (some 0) 1 [⟨1, [98, 97, 98]⟩, ⟨10, [98, 99, 100]⟩, ⟨20, [99, 100, 101, 102, 103, 104]⟩,
                             ⟨30, [122, 122, 122, 122, 122, 122, 122, 122]⟩] ∧
    -- and it can panic: |parser 2| < |rem|
    placeRun .stripPrefix arms [⟨0, [97, 98, 99]⟩, ⟨10, [97]⟩, ⟨20, [97]⟩] [0, 1, 2] = .panic 3 := by
  decide

/-- no form pastes a branch body inside a loop of its own: control flow written in a body reaches the caller's
    loops, as in the hand-written chain (the expansion before 5e6c5eb: Legacy.PMUse.bodies_in_hidden_loop_iff) -/
theorem bodies_never_in_hidden_loop (f : Form) : bodiesInHiddenLoop f = false := by
  cases f <;> rfl

/-- the expansion binds `__konst_pm_*` identifiers only (ff38c77): a caller constant / static / unit struct called
    `bytes`, `rem` or `brem` is tolerated by every form (before that commit: Legacy.PMUse.legacy_rejects_now_accepted) -/
theorem plain_names_tolerated (f : Form) (kind : String) :
    callerItemRejects f kind "bytes" = false ∧ callerItemRejects f kind "rem" = false ∧
    callerItemRejects f kind "brem" = false := by
  cases f <;> simp [callerItemRejects, itemRejects, binders]

theorem callerItemRejects_iff (f : Form) (kind name : String) :
    callerItemRejects f kind name = true ↔
      (kind = "const" ∨ kind = "static" ∨ kind = "unit") ∧ name ∈ binders f := by
  simp [callerItemRejects, itemRejects, or_assoc]

private def lit (s : String) : List Nat := s.toUTF8.toList.map (·.toNat)
example : parseString ['"', 'a', '\\', 'n', '\\', 'x', '4', '1', '\\', 'u', '{', '1', '_', 'F', '6', '0', '0', '}',
    '\\', '\n', ' ', ' ', 'b', '"'] = .ok ['a', '\n', 'A', '😀', 'b'] := by rfl
example : parseRawString ['r', '#', '"', 'a', '"', 'b', '"', '#'] = .ok ['a', '"', 'b'] := by rfl
example : findLoop [(0, [98, 99]), (1, [98])] [97, 98, 99, 100] = some (0, [100]) := by decide +kernel
example : findSkipSpec [(0, [98, 99]), (1, [98])] [97, 98, 99, 100] = some (0, [100]) := by decide +kernel

end Konst.Props.C18
