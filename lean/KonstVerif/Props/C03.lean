import KonstVerif.Model.Utf8
import KonstVerif.Spec.Str
import KonstVerif.Lemmas.Utf8
import KonstVerif.Lemmas.StrValid
import KonstVerif.Props.C02
/-
  C03 — String slicing agrees with std str indexing, including char-boundary rules.
  Throughout: `cs` is any list of scalar values (the chars of the
  string), the string's bytes are `encs cs` — i.e. every valid `&str`; indices are arbitrary `Nat`s.
  Results are compared as the bytes the returned view denotes (`View.apply`); `views_good` adds
  that every returned view lies inside the argument, on its character boundaries, and denotes
  valid UTF-8 (`result_valid`, C01 `slicing_good`).
-/
namespace Konst.Props.C03
open Konst Konst.Utf8 Konst.Spec.Utf8 Konst.Spec.Str Konst.Lemmas.Utf8
open Konst.Lemmas.StrValid Konst.Lemmas.Slice

private theorem std_iff (cs : List Nat) (i : Nat) :
    stdIsCharBoundary cs i = true ↔ IsBoundary cs i := by
  simp [stdIsCharBoundary, mem_boundaries_iff]

/-- the boundary predicate, Prop form: for every valid string and EVERY index (beyond the length
    included) `is_char_boundary` holds exactly at the prefix sums of the character lengths -/
theorem isCharBoundary_iff (cs : List Nat) (hs : ∀ c ∈ cs, isScalar c = true) (i : Nat) :
    isCharBoundary (encs cs) i = true ↔ IsBoundary cs i :=
  boundary_iff cs hs i

/-- the boundary predicate equals `str::is_char_boundary` -/
theorem isCharBoundary_eq_std (cs : List Nat) (hs : ∀ c ∈ cs, isScalar c = true) (i : Nat) :
    isCharBoundary (encs cs) i = stdIsCharBoundary cs i := by
  rw [Bool.eq_iff_iff, isCharBoundary_iff cs hs, std_iff]

private theorem bnd (cs : List Nat) (hs : ∀ c ∈ cs, isScalar c = true) (i : Nat) :
    isCharBoundaryBytes (encs cs) i = stdIsCharBoundary cs i := isCharBoundary_eq_std cs hs i

private theorem std_le (cs : List Nat) (i : Nat) (h : stdIsCharBoundary cs i = true) :
    i ≤ (encs cs).length := boundary_le cs i ((std_iff cs i).mp h)

private theorem std_len (cs : List Nat) : stdIsCharBoundary cs (encs cs).length = true :=
  (std_iff cs _).mpr (boundary_len cs)

private theorem forg (cs : List Nat) (hs : ∀ c ∈ cs, isScalar c = true) (i : Nat) :
    isCharBoundaryForgiving (encs cs) i = (decide (i ≥ (encs cs).length) || stdIsCharBoundary cs i) := by
  rw [forgiving_eq, bnd cs hs]

private theorem forg_clamp (cs : List Nat) (hs : ∀ c ∈ cs, isScalar c = true) (i : Nat) :
    isCharBoundaryForgiving (encs cs) i = stdIsCharBoundary cs (clamp cs i) := by
  rw [forg cs hs, clamp]
  by_cases h : i ≥ (encs cs).length
  · rw [Nat.min_eq_right h, std_len]; simp [h]
  · rw [Nat.min_eq_left (by omega)]; simp [h]

/-- `get_from` = `str.get(a..)` -/
theorem getFrom_eq_std (cs : List Nat) (hs : ∀ c ∈ cs, isScalar c = true) (a : Nat) :
    (getFrom (encs cs) a).map (·.apply (encs cs)) = stdGetFrom cs a := by
  have h2 := C02.getFrom_eq_std (encs cs) a
  unfold getFrom
  rw [bnd cs hs]
  unfold Spec.Str.stdGetFrom
  by_cases hb : stdIsCharBoundary cs a = true
  · have hle := std_le cs a hb
    cases hg : Slice.getFrom (encs cs).length a with
    | none => rw [hg] at h2; simp [Spec.stdGetFrom, hle] at h2
    | some x =>
      rw [hg] at h2
      simp only [Spec.stdGetFrom, hle, if_true, Option.map_some, Option.some.injEq] at h2
      simp [hb, h2]
  · cases hg : Slice.getFrom (encs cs).length a <;> simp [hb]

/-- `get_up_to` = `str.get(..b)` -/
theorem getUpTo_eq_std (cs : List Nat) (hs : ∀ c ∈ cs, isScalar c = true) (b : Nat) :
    (getUpTo (encs cs) b).map (·.apply (encs cs)) = stdGetUpTo cs b := by
  have h2 := C02.getUpTo_eq_std (encs cs) b
  unfold getUpTo
  rw [bnd cs hs]
  unfold Spec.Str.stdGetUpTo
  by_cases hb : stdIsCharBoundary cs b = true
  · have hle := std_le cs b hb
    cases hg : Slice.getUpTo (encs cs).length b with
    | none => rw [hg] at h2; simp [Spec.stdGetUpTo, hle] at h2
    | some x =>
      rw [hg] at h2
      simp only [Spec.stdGetUpTo, hle, if_true, Option.map_some, Option.some.injEq] at h2
      simp [hb, h2]
  · cases hg : Slice.getUpTo (encs cs).length b <;> simp [hb]

/-- `get_range` = `str.get(a..b)`, `a > b` and out-of-range indices included -/
theorem getRange_eq_std (cs : List Nat) (hs : ∀ c ∈ cs, isScalar c = true) (a b : Nat) :
    (getRange (encs cs) a b).map (·.apply (encs cs)) = stdGetRange cs a b := by
  have h2 := C02.getRange_eq_std (encs cs) a b
  unfold getRange
  rw [bnd cs hs, bnd cs hs]
  unfold Spec.Str.stdGetRange
  by_cases hb : stdIsCharBoundary cs a = true ∧ stdIsCharBoundary cs b = true
  · have hle := std_le cs b hb.2
    by_cases hab : a ≤ b
    · cases hg : Slice.getRange (encs cs).length a b with
      | none => rw [hg] at h2; simp [Spec.stdGetRange, hle, hab] at h2
      | some x =>
        rw [hg] at h2
        simp only [Spec.stdGetRange, hle, hab, and_self, if_true, Option.map_some,
          Option.some.injEq] at h2
        simp [hb, hab, h2]
    · cases hg : Slice.getRange (encs cs).length a b with
      | none => simp [hab]
      | some x => rw [hg] at h2; simp [Spec.stdGetRange, hab] at h2
  · have hb' : ¬ (a ≤ b ∧ stdIsCharBoundary cs a = true ∧ stdIsCharBoundary cs b = true) :=
      fun h => hb h.2
    have hb2 : (stdIsCharBoundary cs a && stdIsCharBoundary cs b) = false := by
      rw [Bool.and_eq_false_iff]
      by_cases h1 : stdIsCharBoundary cs a = true
      · right; simpa using fun h => hb ⟨h1, h⟩
      · left; simpa using h1
    cases hg : Slice.getRange (encs cs).length a b <;> simp [hb', hb2]

/-- `str_from` = `&s[min(a, len)..]`, the `ok`/`panic` outcome included -/
theorem strFrom_eq_clamped_std (cs : List Nat) (hs : ∀ c ∈ cs, isScalar c = true) (a : Nat) :
    (strFrom (encs cs) a).toOption.map (·.apply (encs cs)) = clampedFrom cs a := by
  unfold strFrom clampedFrom Spec.Str.stdGetFrom
  rw [forg_clamp cs hs]
  by_cases hb : stdIsCharBoundary cs (clamp cs a) = true
  · simp only [hb, if_true, Except.toOption, Option.map_some, C02.sliceFrom_eq_std_or_clamp,
      Spec.stdGetFrom]
    unfold clamp
    by_cases h : a ≤ (encs cs).length
    · simp [h, Nat.min_eq_left h]
    · simp [h, Nat.min_eq_right (Nat.le_of_not_le h)]
  · simp [hb, Except.toOption]

/-- `str_up_to` = `&s[..min(b, len)]` -/
theorem strUpTo_eq_clamped_std (cs : List Nat) (hs : ∀ c ∈ cs, isScalar c = true) (b : Nat) :
    (strUpTo (encs cs) b).toOption.map (·.apply (encs cs)) = clampedUpTo cs b := by
  unfold strUpTo clampedUpTo Spec.Str.stdGetUpTo
  rw [forg_clamp cs hs]
  by_cases hb : stdIsCharBoundary cs (clamp cs b) = true
  · simp only [hb, if_true, Except.toOption, Option.map_some, C02.sliceUpTo_eq_std_or_clamp,
      Spec.stdGetUpTo]
    unfold clamp
    by_cases h : b ≤ (encs cs).length
    · simp [h, Nat.min_eq_left h]
    · simp [h, Nat.min_eq_right (Nat.le_of_not_le h)]
  · simp [hb, Except.toOption]

/-- `str_range` = `&s[min(a,len)..min(b,len)]`, the empty string when the clamped start exceeds
    the clamped end, panic iff a clamped index is not a boundary -/
theorem strRange_eq_clamped_std (cs : List Nat) (hs : ∀ c ∈ cs, isScalar c = true) (a b : Nat) :
    (strRange (encs cs) a b).toOption.map (·.apply (encs cs)) = clampedRange cs a b := by
  unfold strRange clampedRange
  simp only []
  rw [forg_clamp cs hs, forg_clamp cs hs]
  by_cases ha : stdIsCharBoundary cs (clamp cs a) = true
  · by_cases hb : stdIsCharBoundary cs (clamp cs b) = true
    · simp only [ha, hb, Bool.and_self, if_true, and_self, Except.toOption, Option.map_some,
        (C02.sliceRange_eq_std_or_clamp (encs cs) a b).1]
      unfold Spec.Str.stdGetRange clamp
      by_cases hab : min a (encs cs).length ≤ min b (encs cs).length
      · simp only [hab, if_true, true_and]
        have ha' : stdIsCharBoundary cs (min a (encs cs).length) = true := ha
        have hb' : stdIsCharBoundary cs (min b (encs cs).length) = true := hb
        simp only [ha', hb', and_self, if_true, Option.some.injEq]
        rw [List.drop_take]
        by_cases h1 : a ≤ (encs cs).length
        · by_cases h2 : b ≤ (encs cs).length
          · simp [Nat.min_eq_left h1, Nat.min_eq_left h2]
          · have h2' : (encs cs).length ≤ b := by omega
            rw [Nat.min_eq_left h1, Nat.min_eq_right h2']
            rw [List.take_of_length_le (by rw [List.length_drop]; omega),
              List.take_of_length_le (by rw [List.length_drop]; omega)]
        · have h1' : (encs cs).length ≤ a := by omega
          rw [List.drop_eq_nil_of_le h1', Nat.min_eq_right h1']
          simp
      · simp only [hab, if_false, Option.some.injEq]
        have : b ≤ a := by
          rcases Nat.le_total a b with h | h
          · exfalso; apply hab
            exact (Nat.le_min).mpr ⟨Nat.le_trans (Nat.min_le_left _ _) h, Nat.min_le_right _ _⟩
          · exact h
        rw [List.drop_eq_nil_of_le (by simp; omega)]
    · simp [ha, hb, Except.toOption]
  · simp [ha, Except.toOption]

/-- `split_at` = `s.split_at(min(i, len))` -/
theorem splitAt_eq_clamped_std (cs : List Nat) (hs : ∀ c ∈ cs, isScalar c = true) (i : Nat) :
    (splitAt (encs cs) i).toOption.map (fun p => (p.1.apply (encs cs), p.2.apply (encs cs)))
      = clampedSplitAt cs i := by
  have h1 := strUpTo_eq_clamped_std cs hs i
  have h2 := strFrom_eq_clamped_std cs hs i
  unfold clampedUpTo Spec.Str.stdGetUpTo at h1
  unfold clampedFrom Spec.Str.stdGetFrom at h2
  unfold splitAt clampedSplitAt Spec.Str.stdSplitAt
  by_cases hb : stdIsCharBoundary cs (clamp cs i) = true
  · simp only [hb, if_true] at h1 h2 ⊢
    cases hu : strUpTo (encs cs) i with
    | error p => rw [hu] at h1; simp [Except.toOption] at h1
    | ok u =>
      cases hf : strFrom (encs cs) i with
      | error p => rw [hf] at h2; simp [Except.toOption] at h2
      | ok f =>
        rw [hu] at h1; rw [hf] at h2
        simp only [Except.toOption, Option.map_some, Option.some.injEq] at h1 h2
        simp [bind, Except.bind, pure, Except.pure, Except.toOption, h1, h2]
  · simp only [hb, Bool.false_eq_true, if_false] at h1 h2 ⊢
    cases hu : strUpTo (encs cs) i with
    | error p => simp [bind, Except.bind, Except.toOption]
    | ok u => rw [hu] at h1; simp [Except.toOption] at h1

private theorem forg_false_iff (cs : List Nat) (hs : ∀ c ∈ cs, isScalar c = true) (i : Nat) :
    isCharBoundaryForgiving (encs cs) i = false ↔ i < (encs cs).length ∧ ¬ IsBoundary cs i := by
  rw [← Bool.not_eq_true, forgiving_iff cs hs, not_or, Nat.not_le]

/-- the clamping functions panic exactly when an in-range index falls inside a character
    (is not a prefix sum of character lengths); indices at or beyond the length never panic -/
theorem strFrom_panics_iff (cs : List Nat) (hs : ∀ c ∈ cs, isScalar c = true) (a : Nat) :
    (∃ p, strFrom (encs cs) a = .error p) ↔ a < (encs cs).length ∧ ¬ IsBoundary cs a := by
  rw [← forg_false_iff cs hs]
  unfold strFrom
  cases isCharBoundaryForgiving (encs cs) a <;> simp

theorem strUpTo_panics_iff (cs : List Nat) (hs : ∀ c ∈ cs, isScalar c = true) (b : Nat) :
    (∃ p, strUpTo (encs cs) b = .error p) ↔ b < (encs cs).length ∧ ¬ IsBoundary cs b := by
  rw [← forg_false_iff cs hs]
  unfold strUpTo
  cases isCharBoundaryForgiving (encs cs) b <;> simp

theorem strRange_panics_iff (cs : List Nat) (hs : ∀ c ∈ cs, isScalar c = true) (a b : Nat) :
    (∃ p, strRange (encs cs) a b = .error p) ↔
      (a < (encs cs).length ∧ ¬ IsBoundary cs a) ∨ (b < (encs cs).length ∧ ¬ IsBoundary cs b) := by
  rw [← forg_false_iff cs hs, ← forg_false_iff cs hs]
  unfold strRange
  cases isCharBoundaryForgiving (encs cs) a <;> cases isCharBoundaryForgiving (encs cs) b <;> simp

theorem splitAt_panics_iff (cs : List Nat) (hs : ∀ c ∈ cs, isScalar c = true) (i : Nat) :
    (∃ p, splitAt (encs cs) i = .error p) ↔ i < (encs cs).length ∧ ¬ IsBoundary cs i := by
  rw [← strFrom_panics_iff cs hs i]
  have hu := strUpTo_panics_iff cs hs i
  have hf := strFrom_panics_iff cs hs i
  unfold splitAt
  cases h1 : strUpTo (encs cs) i with
  | error p =>
    have : ∃ q, strFrom (encs cs) i = .error q := hf.mpr (hu.mp ⟨p, h1⟩)
    simp [bind, Except.bind, this]
  | ok u =>
    cases h2 : strFrom (encs cs) i with
    | error q => simp [bind, Except.bind]
    | ok f => simp [bind, Except.bind, pure, Except.pure]

/-! ### every returned view is a good `&str` -/

private theorem forgiving_cases (cs : List Nat) (hs : ∀ c ∈ cs, isScalar c = true) (i : Nat)
    (h : Utf8.isCharBoundaryForgiving (encs cs) i = true) :
    (encs cs).length < i ∨ IsBoundary cs i := by
  rcases (forgiving_iff cs hs i).mp h with h | h
  · rcases Nat.lt_or_ge (encs cs).length i with h' | h'
    · exact Or.inl h'
    · have : i = (encs cs).length := by omega
      exact Or.inr (this ▸ boundary_len cs)
  · exact Or.inr h

private theorem strict_boundary (cs : List Nat) (hs : ∀ c ∈ cs, isScalar c = true) (i : Nat)
    (h : Utf8.isCharBoundaryBytes (encs cs) i = true) : IsBoundary cs i :=
  (Lemmas.Utf8.boundary_iff cs hs i).mp h

theorem sliceFrom_onB (cs : List Nat) (a : Nat) (h : (encs cs).length < a ∨ IsBoundary cs a) :
    OnBoundaries cs (Slice.sliceFrom (encs cs).length a) := by
  rcases h with h | h
  · rw [sliceFrom_of_gt h]; exact onB_empty cs
  · rw [sliceFrom_of_le (boundary_le cs a h)]; exact onB_suffix cs a h

theorem sliceUpTo_onB (cs : List Nat) (b : Nat) (h : (encs cs).length < b ∨ IsBoundary cs b) :
    OnBoundaries cs (Slice.sliceUpTo (encs cs).length b) := by
  rcases h with h | h
  · rw [sliceUpTo_of_gt h]; exact onB_whole cs
  · rw [sliceUpTo_of_le (boundary_le cs b h)]; exact onB_prefix cs b h

private theorem sliceRange_onB (cs : List Nat) (a b : Nat)
    (ha : (encs cs).length < a ∨ IsBoundary cs a) (hb : (encs cs).length < b ∨ IsBoundary cs b) :
    OnBoundaries cs (Slice.sliceRange (encs cs).length a b) := by
  unfold Slice.sliceRange
  simp only []
  have he : ∃ e, Slice.sliceUpTo (encs cs).length b = ⟨0, e⟩ ∧ IsBoundary cs e := by
    rcases hb with hb | hb
    · exact ⟨_, sliceUpTo_of_gt hb, boundary_len cs⟩
    · exact ⟨_, sliceUpTo_of_le (boundary_le cs b hb), hb⟩
  obtain ⟨e, hu, hbe⟩ := he
  have hle := boundary_le cs e hbe
  rw [hu]
  dsimp only
  by_cases hae : a ≤ e
  · rw [sliceFrom_of_le hae]
    have hba : IsBoundary cs a := by
      rcases ha with ha | ha
      · omega
      · exact ha
    refine ⟨by simpa [View.comp] using hba, ?_⟩
    show IsBoundary cs (0 + a + (e - a))
    have : 0 + a + (e - a) = e := by omega
    rw [this]; exact hbe
  · rw [sliceFrom_of_gt (by omega)]
    exact ⟨by simpa [View.comp] using boundary_zero cs, by simpa [View.comp] using boundary_zero cs⟩

/-- whenever one of the slicing functions returns (instead of panicking / `None`), the view lies
    inside the argument, both its ends are character boundaries of the argument, and it denotes
    valid UTF-8 — for every valid string and every pair of indices -/
theorem views_good (cs : List Nat) (hs : ∀ c ∈ cs, isScalar c = true) (a b : Nat) :
    (∀ v, Utf8.strFrom (encs cs) a = .ok v → GoodStr cs v) ∧
    (∀ v, Utf8.strUpTo (encs cs) b = .ok v → GoodStr cs v) ∧
    (∀ v, Utf8.strRange (encs cs) a b = .ok v → GoodStr cs v) ∧
    (∀ v, Utf8.getFrom (encs cs) a = some v → GoodStr cs v) ∧
    (∀ v, Utf8.getUpTo (encs cs) b = some v → GoodStr cs v) ∧
    (∀ v, Utf8.getRange (encs cs) a b = some v → GoodStr cs v) ∧
    (∀ u v, Utf8.splitAt (encs cs) a = .ok (u, v) → GoodStr cs u ∧ GoodStr cs v) := by
  have kFrom : ∀ i v, Utf8.strFrom (encs cs) i = .ok v → GoodStr cs v := by
    intro i v hv
    unfold Utf8.strFrom at hv
    split at hv
    · injection hv with hv; subst hv
      exact goodStr_of_boundaries cs hs _ (sliceFrom_onB cs i (forgiving_cases cs hs i (by assumption)))
    · cases hv
  have kUpTo : ∀ i v, Utf8.strUpTo (encs cs) i = .ok v → GoodStr cs v := by
    intro i v hv
    unfold Utf8.strUpTo at hv
    split at hv
    · injection hv with hv; subst hv
      exact goodStr_of_boundaries cs hs _ (sliceUpTo_onB cs i (forgiving_cases cs hs i (by assumption)))
    · cases hv
  refine ⟨kFrom a, kUpTo b, ?_, ?_, ?_, ?_, ?_⟩
  · intro v hv
    unfold Utf8.strRange at hv
    simp only [] at hv
    by_cases h1 : Utf8.isCharBoundaryForgiving (encs cs) a = true
    · by_cases h2 : Utf8.isCharBoundaryForgiving (encs cs) b = true
      · simp only [h1, h2, Bool.and_self, if_true, Except.ok.injEq] at hv; subst hv
        exact goodStr_of_boundaries cs hs _
          (sliceRange_onB cs a b (forgiving_cases cs hs a h1) (forgiving_cases cs hs b h2))
      · simp [h1, h2] at hv
    · simp [h1] at hv
  · intro v hv
    unfold Utf8.getFrom Slice.getFrom at hv
    rw [sliceFromImpl_eq] at hv
    split at hv
    · cases hv
    · split at hv
      · cases hv
        rename_i x hb heq
        split at heq
        · cases heq
          exact goodStr_of_boundaries cs hs _ (onB_suffix cs a (strict_boundary cs hs a hb))
        · cases heq
      · cases hv
  · intro v hv
    unfold Utf8.getUpTo Slice.getUpTo at hv
    rw [sliceUpToImpl_eq] at hv
    split at hv
    · cases hv
    · split at hv
      · cases hv
        rename_i x hb heq
        split at heq
        · cases heq
          exact goodStr_of_boundaries cs hs _ (onB_prefix cs b (strict_boundary cs hs b hb))
        · cases heq
      · cases hv
  · intro v hv
    unfold Utf8.getRange at hv
    rw [getRange_eq] at hv
    split at hv
    · cases hv
    · split at hv
      · cases hv
        rename_i x hb heq
        obtain ⟨h1, h2⟩ := Bool.and_eq_true_iff.mp hb
        split at heq
        · cases heq
          rename_i hab
          refine goodStr_of_boundaries cs hs _ ⟨strict_boundary cs hs a h1, ?_⟩
          show IsBoundary cs (a + (b - a))
          rw [Nat.add_sub_cancel' hab.1]
          exact strict_boundary cs hs b h2
        · cases heq
      · cases hv
  · intro u v hv
    unfold Utf8.splitAt at hv
    cases hX : Utf8.strUpTo (encs cs) a with
    | error e => simp [hX, bind, Except.bind] at hv
    | ok u' =>
      cases hY : Utf8.strFrom (encs cs) a with
      | error e => simp [hX, hY, bind, Except.bind] at hv
      | ok v' =>
        simp only [hX, hY, bind, Except.bind, pure, Except.pure, Except.ok.injEq, Prod.mk.injEq] at hv
        obtain ⟨rfl, rfl⟩ := hv
        exact ⟨kUpTo a _ hX, kFrom a _ hY⟩

/-- every sub-string any of the functions returns lies inside the argument and is valid UTF-8
    (this is what makes the `from_utf8_unchecked` in `__from_u8_subslice_of_str` sound; feeds C01) -/
theorem result_valid (cs : List Nat) (hs : ∀ c ∈ cs, isScalar c = true) (a b : Nat) :
    (∀ v, getFrom (encs cs) a = some v → v.InBounds (encs cs).length ∧ Valid (v.apply (encs cs))) ∧
    (∀ v, getUpTo (encs cs) b = some v → v.InBounds (encs cs).length ∧ Valid (v.apply (encs cs))) ∧
    (∀ v, getRange (encs cs) a b = some v → v.InBounds (encs cs).length ∧ Valid (v.apply (encs cs))) ∧
    (∀ v, strFrom (encs cs) a = .ok v → v.InBounds (encs cs).length ∧ Valid (v.apply (encs cs))) ∧
    (∀ v, strUpTo (encs cs) b = .ok v → v.InBounds (encs cs).length ∧ Valid (v.apply (encs cs))) ∧
    (∀ v, strRange (encs cs) a b = .ok v → v.InBounds (encs cs).length ∧ Valid (v.apply (encs cs))) ∧
    (∀ u v, splitAt (encs cs) a = .ok (u, v) →
      u.InBounds (encs cs).length ∧ Valid (u.apply (encs cs)) ∧
      v.InBounds (encs cs).length ∧ Valid (v.apply (encs cs))) := by
  obtain ⟨hF, hU, hR, gF, gU, gR, hS⟩ := views_good cs hs a b
  refine ⟨fun v h => ⟨(gF v h).1, (gF v h).2.2⟩, fun v h => ⟨(gU v h).1, (gU v h).2.2⟩,
    fun v h => ⟨(gR v h).1, (gR v h).2.2⟩, fun v h => ⟨(hF v h).1, (hF v h).2.2⟩,
    fun v h => ⟨(hU v h).1, (hU v h).2.2⟩, fun v h => ⟨(hR v h).1, (hR v h).2.2⟩, ?_⟩
  intro u v h
  exact ⟨(hS u v h).1.1, (hS u v h).1.2.2, (hS u v h).2.1, (hS u v h).2.2.2⟩

/-! non-vacuity: the hypotheses are satisfiable, and each outcome occurs ("añ€😀" = 61 c3b1 e282ac f09f9880) -/

example : ∀ c ∈ [0x61, 0xF1, 0x20AC, 0x1F600], isScalar c = true := by decide +kernel
example : encs [0x61, 0xF1, 0x20AC, 0x1F600] = [0x61, 0xC3, 0xB1, 0xE2, 0x82, 0xAC, 0xF0, 0x9F, 0x98, 0x80] := by
  decide +kernel
example : isCharBoundary (encs [0x61, 0xF1, 0x20AC, 0x1F600]) 3 = true := by decide +kernel
example : isCharBoundary (encs [0x61, 0xF1, 0x20AC, 0x1F600]) 4 = false := by decide +kernel
example : isCharBoundary (encs [0x61, 0xF1, 0x20AC, 0x1F600]) 11 = false := by decide +kernel
example : getRange (encs [0x61, 0xF1, 0x20AC, 0x1F600]) 1 6 = some ⟨1, 5⟩ := by decide +kernel
example : getRange (encs [0x61, 0xF1, 0x20AC, 0x1F600]) 1 5 = none := by decide +kernel
example : strRange (encs [0x61, 0xF1, 0x20AC, 0x1F600]) 6 3 = .ok ⟨0, 0⟩ := by rfl
example : strRange (encs [0x61, 0xF1, 0x20AC, 0x1F600]) 3 100 = .ok ⟨3, 7⟩ := by rfl
example : strRange (encs [0x61, 0xF1, 0x20AC, 0x1F600]) 7 3 = .error ⟨"start", 7⟩ := by rfl
example : strFrom (encs [0x61, 0xF1, 0x20AC, 0x1F600]) 2 = .error ⟨"start", 2⟩ := by rfl
example : splitAt (encs [0x61, 0xF1, 0x20AC, 0x1F600]) 12 = .ok (⟨0, 10⟩, ⟨0, 0⟩) := by rfl

end Konst.Props.C03
