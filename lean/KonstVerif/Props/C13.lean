import KonstVerif.Model.Parser
import KonstVerif.Spec.ParserInv
import KonstVerif.Lemmas.Parser
import KonstVerif.Lemmas.ParserPM
/-
  C13 — Parser positions always describe where its remainder sits in the original string.
  Property theorems only (helper lemmas: Lemmas/Parser.lean).

  Setting: the original `&str` has chars `cs` (all scalar values), bytes `encs cs`; the parser was
  created by `Parser::new` (base 0) or `Parser::with_start_offset(_, base)`; pattern arguments are
  `&str`/`char`, i.e. valid UTF-8 byte strings (`Valid`); histories are arbitrary `List Op`
  (every method, every argument, any length); a failing step leaves the caller with the parser it
  called the method on.  `Inv cs base p` (Spec/ParserInv.lean): `base ≤ start_offset`, the remainder
  is the original sliced at `[start_offset - base, end_offset - base)`, both are char boundaries.
  Offsets are `u32` in the code and naturals in the model: `offsets_fit_u32` shows that under
  `base + original.len() < 2^32` no offset the model computes leaves `u32`.
-/
namespace Konst.Props.C13
open Konst Konst.Parser Konst.Spec.Utf8 Konst.Spec.ParserInv Konst.Lemmas.Parser Konst.Lemmas.Utf8

def PatternsValid (ops : List Op) : Prop := ∀ op ∈ ops, ∀ m, op.pattern = some m → Valid m

theorem inv_new (cs : List Nat) : Inv cs 0 (Parser.new (encs cs)) :=
  ⟨Nat.le_refl _, by simp [Parser.new], boundary_zero cs, by simpa [Parser.new] using boundary_len cs⟩

theorem inv_with_start_offset (cs : List Nat) (base : Nat) :
    Inv cs base (withStartOffset (encs cs) base) :=
  ⟨Nat.le_refl _, by simp [withStartOffset], by simpa [withStartOffset] using boundary_zero cs,
   by simpa [withStartOffset] using boundary_len cs⟩

theorem inv_step (cs : List Nat) (hs : ∀ c ∈ cs, isScalar c = true) (base : Nat) (p : Parser) (op : Op)
    (hinv : Inv cs base p) (hpat : ∀ m, op.pattern = some m → Valid m)
    (p' : Parser) (v : Value) (hstep : step op p = .ok p' v) : Inv cs base p' := by
  have hg := step_good op p (inv_valid hs hinv) hpat
  rw [hstep] at hg
  exact inv_cut hs hinv hg.1

/-- no operation panics on a parser that satisfies the invariant (the `non_char_boundary_panic` of
    `str_from`/`str_up_to`/`split_at` and the `pos -= 1` underflow of `skip_back` are unreachable) -/
theorem step_no_panic (cs : List Nat) (hs : ∀ c ∈ cs, isScalar c = true) (base : Nat) (p : Parser) (op : Op)
    (hinv : Inv cs base p) (hpat : ∀ m, op.pattern = some m → Valid m) : step op p ≠ .panic := by
  intro hstep
  have hg := step_good op p (inv_valid hs hinv) hpat
  rw [hstep] at hg
  exact hg

/-- the remainder never grows (so the `usize` subtraction `copy.str.len() - self.str.len()` of
    `try_parsing!`/`parsing!` is exact) and the recorded direction is the operation's -/
theorem step_shrinks (cs : List Nat) (hs : ∀ c ∈ cs, isScalar c = true) (base : Nat) (p : Parser) (op : Op)
    (hinv : Inv cs base p) (hpat : ∀ m, op.pattern = some m → Valid m)
    (p' : Parser) (v : Value) (hstep : step op p = .ok p' v) :
    p'.str.length ≤ p.str.length ∧ p.startOffset ≤ p'.startOffset ∧ p'.endOffset ≤ p.endOffset ∧
      p'.dir = op.direction := by
  have hg := step_good op p (inv_valid hs hinv) hpat
  rw [hstep] at hg
  have hb := cut_bounds hg.1
  exact ⟨hb.1, hb.2.1, hb.2.2, hg.2⟩

/-- histories: from `Parser::new` / `with_start_offset`, after ANY list of operations (failing
    steps included) there was no panic and the parser held satisfies the invariant.  Since the
    statement is for every history, it covers every prefix: every reachable parser satisfies `Inv`. -/
theorem inv_history (cs : List Nat) (hs : ∀ c ∈ cs, isScalar c = true) (base : Nat) (ops : List Op)
    (hpat : PatternsValid ops) :
    ∃ q, final (withStartOffset (encs cs) base) ops = some q ∧ Inv cs base q := by
  suffices H : ∀ (ops : List Op) (p : Parser), PatternsValid ops → Inv cs base p →
      ∃ q, final p ops = some q ∧ Inv cs base q from
    H ops _ hpat (inv_with_start_offset cs base)
  intro ops
  induction ops with
  | nil => intro p _ hinv; exact ⟨p, rfl, hinv⟩
  | cons op ops ih =>
    intro p hpat hinv
    have hop : ∀ m, op.pattern = some m → Valid m := hpat op List.mem_cons_self
    have hrest : PatternsValid ops := fun o ho => hpat o (List.mem_cons_of_mem _ ho)
    unfold final
    cases hstep : step op p with
    | ok p' v => exact ih p' hrest (inv_step cs hs base p op hinv hop p' v hstep)
    | err e => exact ih p hrest hinv
    | panic => exact absurd hstep (step_no_panic cs hs base p op hinv hop)

theorem inv_history_new (cs : List Nat) (hs : ∀ c ∈ cs, isScalar c = true) (ops : List Op)
    (hpat : PatternsValid ops) :
    ∃ q, final (Parser.new (encs cs)) ops = some q ∧ Inv cs 0 q :=
  inv_history cs hs 0 ops hpat

theorem trace_no_panic (cs : List Nat) (hs : ∀ c ∈ cs, isScalar c = true) (base : Nat) (ops : List Op)
    (hpat : PatternsValid ops) : Res.panic ∉ trace (withStartOffset (encs cs) base) ops := by
  suffices H : ∀ (ops : List Op) (p : Parser), PatternsValid ops → Inv cs base p → Res.panic ∉ trace p ops from
    H ops _ hpat (inv_with_start_offset cs base)
  intro ops
  induction ops with
  | nil => intro p _ _; simp [trace]
  | cons op ops ih =>
    intro p hpat hinv
    have hop : ∀ m, op.pattern = some m → Valid m := hpat op List.mem_cons_self
    have hrest : PatternsValid ops := fun o ho => hpat o (List.mem_cons_of_mem _ ho)
    unfold trace
    cases hstep : step op p with
    | ok p' v =>
      simp only [Res.next, List.mem_cons, reduceCtorEq, false_or]
      exact ih p' hrest (inv_step cs hs base p op hinv hop p' v hstep)
    | err e =>
      simp only [Res.next, List.mem_cons, reduceCtorEq, false_or]
      exact ih p hrest hinv
    | panic => exact absurd hstep (step_no_panic cs hs base p op hinv hop)

/-- a failing operation reports the offsets of the parser it was called on, the direction of the
    operation, and `offset()` is the START offset for operations working from the start, the END
    offset for operations working from the end; the two-sided trims never fail -/
theorem error_offset_dir (cs : List Nat) (hs : ∀ c ∈ cs, isScalar c = true) (base : Nat) (p : Parser) (op : Op)
    (hinv : Inv cs base p) (hpat : ∀ m, op.pattern = some m → Valid m)
    (e : ParseError) (hstep : step op p = .err e) :
    e.startOffset = p.startOffset ∧ e.endOffset = p.endOffset ∧ e.errorDirection = op.direction ∧
    (op.direction = .fromStart → e.offset = p.startOffset) ∧
    (op.direction = .fromEnd → e.offset = p.endOffset) ∧
    op.direction ≠ .fromBoth := by
  have hg := step_good op p (inv_valid hs hinv) hpat
  rw [hstep] at hg
  obtain ⟨h1, h2, h3⟩ := hg
  refine ⟨h1, h2, h3, ?_, ?_, ?_⟩
  · intro hd; unfold ParseError.offset; rw [h3, hd]; exact h1
  · intro hd; unfold ParseError.offset; rw [h3, hd]; exact h2
  · intro hd
    cases op with
    | trim => cases hstep
    | trimMatches n => cases hstep
    | _ => cases hd

/-- the reported error position lies inside the original: `offset() - base` is a char boundary of
    the original string, namely the start resp. end of the unparsed remainder -/
theorem error_offset_in_original (cs : List Nat) (hs : ∀ c ∈ cs, isScalar c = true) (base : Nat) (p : Parser)
    (op : Op) (hinv : Inv cs base p) (hpat : ∀ m, op.pattern = some m → Valid m)
    (e : ParseError) (hstep : step op p = .err e) :
    base ≤ e.offset ∧ IsBoundary cs (e.offset - base) := by
  obtain ⟨_, _, _, hS, hE, hB⟩ := error_offset_dir cs hs base p op hinv hpat e hstep
  cases hd : op.direction with
  | fromStart => rw [hS hd]; exact ⟨hinv.base_le, hinv.lo⟩
  | fromEnd =>
    rw [hE hd, show p.endOffset - base = p.startOffset - base + p.str.length from Nat.sub_add_comm hinv.base_le]
    exact ⟨Nat.le_trans hinv.base_le (Nat.le_add_right _ _), hinv.hi⟩
  | fromBoth => exact absurd hd hB

/-- `Parser::into_error`/`into_other_error` (no operation involved): the error carries the
    parser's offsets and the direction stored by the LAST operation -/
theorem into_error_offset (p : Parser) (kind : ErrorKind) :
    (p.intoError kind).offset = (if p.dir = .fromEnd then p.endOffset else p.startOffset) ∧
    (p.intoError kind).errorDirection = p.dir ∧ p.intoOtherError = p.intoError .other := by
  refine ⟨?_, rfl, rfl⟩
  unfold Parser.intoError ParseError.new ParseError.offset Parser.endOffset
  cases p.dir <;> simp

/-- under the explicit hypothesis `base + original.len() < 2^32` every offset of a parser that
    satisfies the invariant fits `u32` (the code's `start_offset: u32`, `as u32` casts and `+=` never
    wrap, so the `Nat` model and the `u32` code agree) -/
theorem offsets_fit_u32 (cs : List Nat) (base : Nat) (p : Parser) (hinv : Inv cs base p)
    (hfit : base + (encs cs).length < 2 ^ 32) :
    p.startOffset < 2 ^ 32 ∧ p.endOffset < 2 ^ 32 ∧ p.endOffset ≤ base + (encs cs).length := by
  have h1 := boundary_le cs _ hinv.hi
  have h2 := hinv.base_le
  unfold Parser.endOffset
  omega

/-- the small `skip`/`skip_back` model that C18 (`parser_method!`, Model/ParserMethod.lean) uses agrees
    with `Parser::skip` / `Parser::skip_back` of this model: same new start offset, same remainder -/
theorem skip_agrees_parser_method (p : Parser) (n : Nat) (hv : Valid p.str) :
    (∃ p', skip p n = .ok p' .unit ∧ PM.skip ⟨p.startOffset, p.str⟩ n = ⟨p'.startOffset, p'.str⟩) ∧
    (∃ p', skipBack p n = .ok p' .unit ∧ PM.skipBack ⟨p.startOffset, p.str⟩ n = ⟨p'.startOffset, p'.str⟩) :=
  ⟨Lemmas.ParserPM.skip_agrees p n, Lemmas.ParserPM.skipBack_agrees p n hv⟩

/-! ### non-vacuity -/

/-- the hypotheses are satisfiable: "ñ a" with base 7 after `split(' ')` then `strip_suffix('a')` -/
example : final (withStartOffset (encs [0xF1, 32, 97]) 7) [.split [32], .stripSuffix [97]] =
    some ⟨.fromEnd, false, 10, []⟩ := by decide +kernel

example : (∀ c ∈ [0xF1, 32, 97], isScalar c = true) := by decide +kernel
example : PatternsValid [.split [32], .stripSuffix [97]] := by
  intro op hop m hm
  simp only [List.mem_cons, List.mem_nil_iff, or_false] at hop
  rcases hop with rfl | rfl <;> simp only [Op.pattern, Option.some.injEq] at hm <;> subst hm
  · exact valid_ascii 32 (by decide)
  · exact valid_ascii 97 (by decide)

/-- an error from the END of a parser with a non-zero base: offset = base + end -/
example : step (.stripSuffix [98]) (withStartOffset (encs [0xF1, 32, 97]) 7) =
    .err ⟨7, 11, .fromEnd, .strip⟩ ∧ (ParseError.mk 7 11 .fromEnd .strip).offset = 11 := by decide +kernel

end Konst.Props.C13
