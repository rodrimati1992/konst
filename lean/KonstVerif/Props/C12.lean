import KonstVerif.Model.ParseInt
import KonstVerif.Spec.ParseInt
import KonstVerif.Lemmas.ParseInt
/-
  C12 — Integer/bool parsing accepts std's language and returns the same value.

  Property theorems only.  An integer type is `(signed, bits)`; every theorem about integers holds for
  every `bits ≥ 4` and both signednesses, hence for u8 … u128, usize, i8 … i128, isize at once, and
  for every byte list (no bound on its length).  `bits ≥ 4` is needed because the code casts a digit
  `0..=9` into the unsigned twin type (`as $uns`), which is only lossless when `10 ≤ 2^bits`
  (`bits_bound_needed` below is the kernel-checked counterexample for 3 bits); Rust has no narrower
  integer type than 8 bits.
-/
namespace Konst.Props.C12
open Konst.ParseInt Konst.Spec.ParseInt Konst.Lemmas.ParseInt

/-! ### the overflow flags -/

/-- One loop iteration: `overflowed_mul | overflowed_add` is set exactly when the exact value
    `num*10 + digit` exceeds `2^bits - 1` (whatever `num` is). -/
theorem overflow_flags_iff (bits num b : Nat) (hb : 4 ≤ bits) (hd : isDigit b = true) :
    ((overflowingMul bits num 10).2 ||
      (overflowingAdd bits (overflowingMul bits num 10).1 (digitAs bits b)).2) = true
      ↔ 2 ^ bits - 1 < num * 10 + (b - 48) := by
  rw [step_flags bits num b hb hd, Nat.lt_iff_add_one_le, Nat.sub_add_cancel (Nat.two_pow_pos bits)]

/-- The whole accumulation (first digit + `while let` loop with wrap-around arithmetic): it throws
    exactly when the true value of the digit run exceeds `2^bits - 1`, and otherwise yields exactly
    that value and stops at the first non-digit. -/
theorem overflow_throws_iff (bits : Nat) (hb : 4 ≤ bits) (b : Nat) (rest : List Nat)
    (hd : isDigit b = true) :
    (accLoop bits rest (digitAs bits b) = none
      ↔ 2 ^ bits - 1 < decVal ((b :: rest).takeWhile isAsciiDigit)) ∧
    (∀ num left, accLoop bits rest (digitAs bits b) = some (num, left) →
      num = decVal ((b :: rest).takeWhile isAsciiDigit) ∧ left = (b :: rest).dropWhile isAsciiDigit) := by
  have hm := magPrefix_eq bits hb (b :: rest)
  have hda : isAsciiDigit b = true := by rw [← isDigit_eq]; exact hd
  have hne : List.takeWhile isAsciiDigit (b :: rest) ≠ [] := by simp [hda]
  simp only [magPrefix, firstDigit, hd, if_true] at hm
  have := Nat.two_pow_pos bits
  rw [hm]
  by_cases hfit : decVal (List.takeWhile isAsciiDigit (b :: rest)) < 2 ^ bits
  · rw [if_pos ⟨hne, hfit⟩]
    refine ⟨⟨fun h => by simp at h, fun h => by omega⟩, ?_⟩
    intro num left h
    simp only [Option.some.injEq, Prod.mk.injEq] at h
    exact ⟨h.1.symm, h.2.symm⟩
  · rw [if_neg (fun h => hfit h.2)]
    refine ⟨⟨fun _ => by omega, fun _ => rfl⟩, ?_⟩
    intro num left h; simp at h

/-! ### prefix parsing through the Parser -/

/-- The code block of `parse_integer!` = the documented prefix parse: optional '-' (signed only),
    longest run of ASCII digits, exact decimal value, `none` unless a digit is present and the value
    lies in the range of the type; the second component is the unconsumed rest. -/
theorem parse_body_eq_spec (signed : Bool) (bits : Nat) (hb : 4 ≤ bits) (s : List Nat) :
    parseIntegerBody signed bits s = prefixParseInt signed bits s :=
  parseIntegerBody_eq_spec signed bits hb s

theorem hasMinus_split (signed : Bool) (s : List Nat) :
    (hasMinus signed s = true ∧ signed = true ∧ s = 45 :: s.drop 1) ∨ hasMinus signed s = false := by
  unfold hasMinus
  cases signed with
  | false => exact .inr rfl
  | true =>
    cases s with
    | nil => exact .inr rfl
    | cons a t =>
      by_cases ha : a = 45
      · subst ha; exact .inl ⟨rfl, rfl, rfl⟩
      · exact .inr (by simp [ha])

/-- What the reference prefix parse returns really is a split of the input: `s = sign ++ digits ++ rest`
    with the sign allowed for the type, a non-empty all-digit run that is maximal (the rest does not
    start with a digit), and the value is what `str::parse` gives on the consumed piece. -/
theorem prefix_spec_shape (signed : Bool) (bits : Nat) (s : List Nat) (v : Int) (rest : List Nat)
    (h : prefixParseInt signed bits s = some (v, rest)) :
    ∃ sign digits, s = sign ++ digits ++ rest ∧ (sign = [] ∨ (signed = true ∧ sign = [45])) ∧
      digits ≠ [] ∧ digits.all isAsciiDigit = true ∧
      (∀ x, rest.head? = some x → isAsciiDigit x = false) ∧
      stdParseInt signed bits (sign ++ digits) = some v := by
  unfold prefixParseInt at h
  rcases hasMinus_split signed s with ⟨hm, hsg, hs⟩ | hm
  · simp only [hm, if_true, Option.ite_none_right_eq_some, Option.some.injEq, Prod.mk.injEq] at h
    obtain ⟨⟨hne, hr⟩, rfl, rfl⟩ := h
    refine ⟨[45], _, ?_, .inr ⟨hsg, rfl⟩, hne, List.all_takeWhile, fun x => head_dropWhile_not _ _ x, ?_⟩
    · rw [List.append_assoc, List.takeWhile_append_dropWhile]
      exact hs
    · have hm2 : hasMinus signed ([45] ++ List.takeWhile isAsciiDigit (s.drop 1)) = true := by
        rw [hsg]; rfl
      have hd1 : List.drop 1 ([45] ++ List.takeWhile isAsciiDigit (s.drop 1)) = List.takeWhile isAsciiDigit (s.drop 1) := rfl
      unfold stdParseInt
      simp only [hm2, if_true]
      rw [hd1, if_pos ⟨hne, List.all_takeWhile, hr⟩]
  · simp only [hm, Bool.false_eq_true, if_false, Option.ite_none_right_eq_some, Option.some.injEq, Prod.mk.injEq] at h
    obtain ⟨⟨hne, hr⟩, rfl, rfl⟩ := h
    refine ⟨[], _, ?_, .inl rfl, hne, List.all_takeWhile, fun x => head_dropWhile_not _ _ x, ?_⟩
    · rw [List.nil_append, List.takeWhile_append_dropWhile]
    · have hm2 : hasMinus signed (List.takeWhile isAsciiDigit s) = false := by
        cases hd : List.takeWhile isAsciiDigit s with
        | nil => exact absurd hd hne
        | cons a t =>
          have ha : isAsciiDigit a = true := by
            have := List.all_takeWhile (p := isAsciiDigit) (l := s)
            rw [hd, List.all_cons, Bool.and_eq_true] at this
            exact this.1
          have : a ≠ 45 := fun h45 => by subst h45; cases ha
          simp [hasMinus, this]
      unfold stdParseInt
      simp only [List.nil_append, hm2, Bool.false_eq_true, if_false]
      rw [if_pos ⟨hne, List.all_takeWhile, hr⟩]
/-- `Parser::parse_u8 … parse_isize` (and `StdParser::parse_with`, `parse_with!`, which delegate to
    them): on success the value and rest of the reference, the remainder is exactly the rest, the start
    offset advances by the number of consumed bytes; on failure the error describes the parser it was
    called on (nothing consumed). -/
theorem parse_prefix_eq_spec (signed : Bool) (bits : Nat) (hb : 4 ≤ bits) (p : MiniParser) :
    parserParseInt signed bits p =
      match prefixParseInt signed bits p.str with
      | some (v, rest) =>
        .ok (v, { dir := .fromStart, startOffset := p.startOffset + (p.str.length - rest.length), str := rest })
      | none =>
        .error { startOffset := p.startOffset, endOffset := p.startOffset + p.str.length,
                 dir := .fromStart, kind := .parseInteger } := by
  unfold parserParseInt
  rw [tryParsing_eq]
  unfold parseIntegerPrefix
  rw [parseIntegerBody_eq_spec signed bits hb]
  cases hs : prefixParseInt signed bits p.str with
  | none => rfl
  | some r =>
    obtain ⟨v, rest⟩ := r
    obtain ⟨sign, digits, hsplit, -⟩ := prefix_spec_shape signed bits p.str v rest hs
    have hdrop : List.drop (p.str.length - rest.length) p.str = rest := by
      have hl : p.str.length - rest.length = (sign ++ digits).length := by
        rw [hsplit]; simp only [List.length_append]; omega
      rw [hl]
      conv => lhs; rw [hsplit]
      exact List.drop_left
    simp only [Option.map_some, hdrop]

/-- `konst::primitive::parse_u8 … parse_isize` = `str::parse::<T>` on every string without a
    leading '+': same accepted language, same value. -/
theorem parse_whole_eq_spec (signed : Bool) (bits : Nat) (hb : 4 ≤ bits) (s : List Nat) :
    parseWhole signed bits s = stdParseInt signed bits s := by
  rw [← whole_of_prefix]
  unfold parseWhole
  rw [parse_prefix_eq_spec signed bits hb]
  simp only [MiniParser.new]
  cases prefixParseInt signed bits s with
  | none => rfl
  | some r => obtain ⟨v, rest⟩ := r; rfl

/-! ### failure consumes nothing -/

/-- A failed `Parser::parse_<int>` reports the position of the parser it was called on: the error's
    start and end offsets are those of the unchanged input (no byte, not even a '-', was consumed),
    the direction is `FromStart`, so `ParseError::offset()` is the original start offset.
    No hypothesis on `bits`. -/
theorem parse_fail_consumes_nothing (signed : Bool) (bits : Nat) (p : MiniParser) (e : MiniError)
    (h : parserParseInt signed bits p = .error e) :
    e.startOffset = p.startOffset ∧ e.endOffset = p.startOffset + p.str.length ∧
      e.dir = .fromStart ∧ e.offset = p.startOffset ∧ e.kind = .parseInteger :=
  tryParsing_error p _ _ e h

/-- … and it fails exactly when there is no digit after the optional sign, or the exact value of the
    digit run is outside the range of the type. -/
theorem parse_fails_iff (signed : Bool) (bits : Nat) (hb : 4 ≤ bits) (p : MiniParser) :
    (∃ e, parserParseInt signed bits p = .error e) ↔
      let neg := hasMinus signed p.str
      let digits := (if neg then p.str.drop 1 else p.str).takeWhile isAsciiDigit
      digits = [] ∨
        inRange signed bits (if neg then -(decVal digits : Int) else (decVal digits : Int)) = false := by
  rw [parse_prefix_eq_spec signed bits hb]
  unfold prefixParseInt
  simp only []
  generalize List.takeWhile isAsciiDigit (if hasMinus signed p.str = true then p.str.drop 1 else p.str) = digits
  generalize (if hasMinus signed p.str = true then -(decVal digits : Int) else (decVal digits : Int)) = v
  by_cases hne : digits = []
  · simp [hne]
  · cases hr : inRange signed bits v with
    | true => simp [hne]
    | false => simp [hne]

/-- Same for `Parser::parse_bool`. -/
theorem parseBool_fail_consumes_nothing (p : MiniParser) (e : MiniError)
    (h : parserParseBool p = .error e) :
    e.startOffset = p.startOffset ∧ e.endOffset = p.startOffset + p.str.length ∧
      e.dir = .fromStart ∧ e.offset = p.startOffset ∧ e.kind = .parseBool :=
  tryParsing_error p _ _ e h

/-! ### bool -/

/-- `Parser::parse_bool`: value and rest of the reference, offsets as for the integers -/
theorem parseBool_prefix_eq_spec (p : MiniParser) :
    parserParseBool p =
      match prefixParseBool p.str with
      | some (b, rest) =>
        .ok (b, { dir := .fromStart, startOffset := p.startOffset + (p.str.length - rest.length), str := rest })
      | none =>
        .error { startOffset := p.startOffset, endOffset := p.startOffset + p.str.length,
                 dir := .fromStart, kind := .parseBool } := by
  unfold parserParseBool
  rw [tryParsing_eq]
  rcases bool_cases p.str with ⟨t, ht⟩ | ⟨t, ht⟩ | ⟨h1, h2⟩
  · rw [ht, prefixParseBool_true]
    rfl
  · rw [ht, prefixParseBool_false]
    rfl
  · rw [parseBoolPrefix_none _ h1 h2, prefixParseBool_none _ h1 h2]

/-- `konst::primitive::parse_bool` = `str::parse::<bool>`: exactly "true" and "false". -/
theorem parseBool_eq (s : List Nat) : parseBoolWhole s = stdParseBool s := by
  unfold parseBoolWhole
  rw [parseBool_prefix_eq_spec]
  rcases bool_cases s with ⟨t, rfl⟩ | ⟨t, rfl⟩ | ⟨h1, h2⟩
  · cases t with
    | nil => rfl
    | cons a t => rfl
  · cases t with
    | nil => rfl
    | cons a t => rfl
  · have hn : prefixParseBool (MiniParser.new s).str = none := prefixParseBool_none s h1 h2
    rw [hn, stdParseBool, if_neg (show s ≠ trueBytes from h1 []), if_neg (show s ≠ falseBytes from h2 [])]

/-! ### non-vacuity, instances, and the necessity of `bits ≥ 4` -/

/-- u8: "255" parses, "256" (add overflow) and "260" (mul overflow) do not; i8: "-128" parses to MIN -/
example : parseWhole false 8 [50, 53, 53] = some 255 := by decide +kernel
example : parseWhole false 8 [50, 53, 54] = none := by decide +kernel
example : parseWhole false 8 [50, 54, 48] = none := by decide +kernel
example : parseWhole true 8 [45, 49, 50, 56] = some (-128) := by decide +kernel
example : parseWhole true 8 [45, 49, 50, 57] = none := by decide +kernel
example : parseWhole true 8 [49, 50, 56] = none := by decide +kernel
example : parseWhole true 8 [45, 48] = some 0 := by decide +kernel
example : parseWhole false 8 [45, 48] = none := by decide +kernel
example : parseWhole false 8 [43, 53] = none := by decide          -- "+5": konst rejects (out of scope)
/-- prefix: "-12a" for i16 gives -12, one byte left, start offset advanced by 3 -/
example : parserParseInt true 16 (MiniParser.new [45, 49, 50, 97] 7) =
    .ok (-12, { dir := .fromStart, startOffset := 10, str := [97] }) := by rfl
/-- failure after a consumed-looking '-': the error sits at the original start offset -/
example : parserParseInt true 16 { dir := .fromEnd, startOffset := 7, str := [45, 97] } =
    .error { startOffset := 7, endOffset := 9, dir := .fromStart, kind := .parseInteger } := by rfl
example : parseBoolWhole [116, 114, 117, 101] = some true := by decide +kernel
example : parseBoolWhole [116, 114, 117, 101, 32] = none := by decide +kernel
example : parserParseBool (MiniParser.new [102, 97, 108, 115, 101, 120]) =
    .ok (false, { dir := .fromStart, startOffset := 5, str := [120] }) := by rfl

/-- every Rust integer type is an instance of the theorems -/
example (signed : Bool) (bits : Nat) (h : bits ∈ [8, 16, 32, 64, 128]) (s : List Nat) :
    parseWhole signed bits s = stdParseInt signed bits s :=
  parse_whole_eq_spec signed bits (by simp at h; omega) s

/-- `bits ≥ 4` cannot be dropped: in a hypothetical 3-bit type the cast `9 as $uns` truncates to 1 -/
theorem bits_bound_needed : parseWhole false 3 [57] = some 1 ∧ stdParseInt false 3 [57] = none := by
  decide

end Konst.Props.C12
