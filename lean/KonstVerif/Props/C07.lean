import KonstVerif.Model.Chars
import KonstVerif.Spec.Chars
import KonstVerif.Lemmas.Chars
/-
  C07 — Char iteration and char <-> UTF-8 / u32 conversions agree with std.
  Property theorems only.  `cs` is any list of scalar values (the chars of the string), the
  string's bytes are `encs cs`; `h` is any front/back history (`Dir.f` = `next`, `Dir.b` =
  `next_back`); `Obs.item x` / `Obs.done` / `Obs.panic` are what a step shows.
-/
namespace Konst.Props.C07
open Konst Konst.Utf8 Konst.Chr Konst.Chars Konst.Hist Konst.Deque
open Konst.Spec.Utf8 Konst.Spec.Chars Konst.Lemmas.Utf8 Konst.Lemmas.Chars

/-- `encode_utf8` (shifts, masks, `|`, `as u8`) yields exactly the RFC 3629 bytes and length,
    for every `char` -/
theorem encodeUtf8_eq_enc (c : Nat) (hc : isScalar c = true) :
    (encodeUtf8 c).asBytes = enc c ∧ (encodeUtf8 c).len = clen c ∧ (encodeUtf8 c).encoded.length = 4 := by
  have hlt := isScalar_lt c hc
  refine ⟨Lemmas.Utf8.encodeUtf8_eq_enc c (by omega), ?_⟩
  -- the arms of `encode_utf8` test `≤ 0x7F` where `len_utf8` tests `< 0x80`, and so on
  unfold encodeUtf8 clen
  by_cases h1 : c ≤ 127
  · rw [if_pos h1, if_pos (Nat.lt_succ_of_le h1)]
    exact ⟨rfl, rfl⟩
  rw [if_neg h1, if_neg fun h => h1 (Nat.le_of_lt_succ h)]
  by_cases h2 : c ≤ 0x7FF
  · rw [if_pos h2, if_pos (Nat.lt_succ_of_le h2)]
    exact ⟨rfl, rfl⟩
  rw [if_neg h2, if_neg fun h => h2 (Nat.le_of_lt_succ h)]
  by_cases h3 : c ≤ 0xFFFF
  · rw [if_pos h3, if_pos (Nat.lt_succ_of_le h3)]
    exact ⟨rfl, rfl⟩
  · rw [if_neg h3, if_neg fun h => h3 (Nat.le_of_lt_succ h)]
    exact ⟨rfl, rfl⟩

/-- the hand-written decoder `string_to_usv` inverts the encoding, for every `char`
    (all four sequence lengths) -/
theorem stringToUsv_enc (c : Nat) (hc : isScalar c = true) : stringToUsv (enc c) = c :=
  Lemmas.Utf8.stringToUsv_enc c (by have := isScalar_lt c hc; omega)

/-- `from_u32` succeeds exactly for Unicode scalar values and returns that value -/
theorem fromU32_iff (n : Nat) :
    (fromU32 n = if isScalar n = true then some n else none) ∧
    ((fromU32 n).isSome = true ↔ isScalar n = true) ∧ (∀ c, fromU32 n = some c → c = n) := by
  have key : fromU32 n = if isScalar n = true then some n else none := by
    have e : decide (n ≤ 0x10FFFF) = decide (n < 0x110000) :=
      decide_eq_decide.mpr Nat.lt_succ_iff.symm
    unfold fromU32 isScalar
    rw [e]
  refine ⟨key, ?_, ?_⟩
  · rw [key]; by_cases h : isScalar n = true <;> simp [h]
  · intro c; rw [key]; by_cases h : isScalar n = true <;> simp [h]; exact fun e => e.symm

/-- `chars`: under EVERY interleaving of `next`/`next_back` the yielded chars are those of std's
    double-ended `str::chars` (front pops the first, back pops the last remaining char, `None`
    exactly when nothing is left, never a panic) -/
theorem chars_refines_deque (cs : List Nat) (hs : ∀ c ∈ cs, isScalar c = true) (h : List Dir) :
    ((chars (encs cs)).steps (encs cs) h).map (·.1) = (runDeque cs h).map Obs.ofOption := by
  have := items_refine (chars_refines (encs cs)) h _ (chars_inv_init cs hs)
  rwa [chars_abs_init cs hs] at this

/-- `char_indices`: every interleaving yields std's `(byte offset, char)` pairs -/
theorem charIndices_refines_deque (cs : List Nat) (hs : ∀ c ∈ cs, isScalar c = true) (h : List Dir) :
    ((charIndices (encs cs)).steps (encs cs) h).map (·.1) =
      (runDeque (indexed 0 cs) h).map Obs.ofOption := by
  have := items_refine (ci_refines (encs cs)) h _ (ci_inv_init cs hs)
  rwa [ci_abs_init cs hs] at this

/-- `.rev()` (`RChars`): the deque is the reversed one, as for `Rev<Chars>` -/
theorem rchars_refines_deque (cs : List Nat) (hs : ∀ c ∈ cs, isScalar c = true) (h : List Dir) :
    ((chars (encs cs)).rev.steps (encs cs) h).map (·.1) = (runDeque cs.reverse h).map Obs.ofOption := by
  have := items_refine (rchars_refines (encs cs)) h (chars (encs cs)).rev (chars_inv_init cs hs)
  have e : cabs (encs cs) (chars (encs cs)).rev.rev = cs := chars_abs_init cs hs
  simp only [e] at this
  exact this

theorem rcharIndices_refines_deque (cs : List Nat) (hs : ∀ c ∈ cs, isScalar c = true) (h : List Dir) :
    ((charIndices (encs cs)).rev.steps (encs cs) h).map (·.1) =
      (runDeque (indexed 0 cs).reverse h).map Obs.ofOption := by
  have := items_refine (rci_refines (encs cs)) h (charIndices (encs cs)).rev (ci_inv_init cs hs)
  have e : ciabs (encs cs) (charIndices (encs cs)).rev.rev = indexed 0 cs := ci_abs_init cs hs
  simp only [e] at this
  exact this

/-- `as_str` after every step of every history: the bytes are the encoding of exactly the items
    std's iterator has left, the view lies inside the string, and it starts at the byte offset of
    the first remaining character (`CharIndices`; the items carry the offsets) -/
theorem asStr_eq_remaining (cs : List Nat) (hs : ∀ c ∈ cs, isScalar c = true) (h : List Dir) :
    ((charIndices (encs cs)).steps (encs cs) h).map (fun p => (p.1, p.2.asStr.apply (encs cs))) =
      (dequeSteps (indexed 0 cs) h).map (fun p => (Obs.ofOption p.1, remainingBytes p.2)) ∧
    (∀ p ∈ (charIndices (encs cs)).steps (encs cs) h, p.2.asStr.InBounds (encs cs).length ∧
      ∀ o c r, ciabs (encs cs) p.2 = (o, c) :: r → p.2.asStr.off = o) := by
  have R := ci_refines (encs cs)
  have hi := ci_inv_init cs hs
  constructor
  · have e := steps_observe R (fun it => it.asStr.apply (encs cs)) remainingBytes ?_ h _ hi
    · rwa [ci_abs_init cs hs] at e
    · rintro it ⟨_, _, ds, hds, he⟩
      rw [ciabs_eq _ _ ds hds he, remainingBytes, indexed_snd]
      exact he
  · intro p hp
    obtain ⟨hib, ho, ds, hds, he⟩ := steps_inv R h _ hi p hp
    refine ⟨hib, ?_⟩
    intro o c r ha
    rw [ciabs_eq _ _ ds hds he] at ha
    cases ds with
    | nil => cases ha
    | cons d ds =>
      rw [indexed, List.cons.injEq, Prod.mk.injEq] at ha
      exact ho ▸ ha.1.1

/-- `Chars::as_str` after every step of every history: the encoding of the chars std has left -/
theorem chars_asStr_eq_remaining (cs : List Nat) (hs : ∀ c ∈ cs, isScalar c = true) (h : List Dir) :
    ((chars (encs cs)).steps (encs cs) h).map (fun p => (p.1, p.2.asStr.apply (encs cs))) =
      (dequeSteps cs h).map (fun p => (Obs.ofOption p.1, encs p.2)) := by
  have e := steps_observe (chars_refines (encs cs)) (fun it => it.asStr.apply (encs cs)) encs ?_ h _
    (chars_inv_init cs hs)
  · rwa [chars_abs_init cs hs] at e
  · rintro it ⟨_, ds, hds, he⟩
    rw [cabs_eq _ _ ds hds he]
    exact he

/-- the unchecked `u32 -> char` cast in `string_to_char` only ever sees scalar values: every item
    yielded under any history is one of the string's chars -/
theorem yielded_are_scalar (cs : List Nat) (hs : ∀ c ∈ cs, isScalar c = true) (h : List Dir) :
    ∀ p ∈ (chars (encs cs)).steps (encs cs) h, ∀ x, p.1 = Obs.item x → isScalar x = true := by
  intro p hp x hx
  have h1 := chars_refines_deque cs hs h
  have hm : Obs.item x ∈ ((chars (encs cs)).steps (encs cs) h).map (·.1) :=
    List.mem_map.mpr ⟨p, hp, hx⟩
  rw [h1] at hm
  obtain ⟨o, ho, he⟩ := List.mem_map.mp hm
  cases o with
  | none => cases he
  | some y =>
    simp only [Obs.ofOption, Obs.item.injEq] at he
    subst he
    exact hs y (mem_of_mem_runDeque h cs y ho)

/-! non-vacuity ("añ€😀" = 61 c3b1 e282ac f09f9880) -/

example : ∀ c ∈ [0x61, 0xF1, 0x20AC, 0x1F600], isScalar c = true := by decide +kernel
example : (encodeUtf8 0x20AC).asBytes = [0xE2, 0x82, 0xAC] := by decide +kernel
example : (encodeUtf8 0x1F600).asBytes = [0xF0, 0x9F, 0x98, 0x80] := by decide +kernel
example : stringToUsv [0xF0, 0x9F, 0x98, 0x80] = 0x1F600 := by decide +kernel
example : fromU32 0xD800 = none ∧ fromU32 0xDFFF = none ∧ fromU32 0x110000 = none ∧
    fromU32 0xD7FF = some 0xD7FF ∧ fromU32 0xE000 = some 0xE000 ∧ fromU32 0x10FFFF = some 0x10FFFF := by
  decide +kernel
example : runDeque [0x61, 0xF1, 0x20AC] [.b, .f, .f, .f] = [some 0x20AC, some 0x61, some 0xF1, none] := by
  decide +kernel
example : indexed 0 [0x61, 0xF1, 0x20AC, 0x1F600] = [(0, 0x61), (1, 0xF1), (3, 0x20AC), (6, 0x1F600)] := by
  decide +kernel

end Konst.Props.C07
