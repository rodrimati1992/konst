import KonstVerif.Model.Guards
/-
  C17 — misused macros are rejected at compile time.

  Layer (a): the decision logic of the token-level guards (Model/Guards.lean), for every method chain /
  branch list of any length.  Layer (b) (`destructure!`): verdict table + `paired_control`.
  That rustc rejects a program is not a Lean statement: the tie between these definitions and what
  rustc does with the macros of /repo is the generated-program correspondence (vlib/progs/c17.py).
-/
namespace Konst.Props.C17
open Konst.Guards

/-! ### the exact sets of names -/

private theorem lookupFirst_some_name {n : String} {e : FirstEntry} (h : lookupFirst n = some e) :
    e.name = n :=
  eq_of_beq (List.find?_some (p := fun e : FirstEntry => e.name == n) h)

/-- What the proofs below need of the name tables of Model/Guards.lean, by one evaluation of the tables:
    the names of the first list are pairwise different (each entry is the one its name finds); every
    adapter of `__call_iter_methods` has a pre-pass arm and no `return(..)` clause; every consumer of
    `__iter_eval` has a pre-pass arm and is not an adapter. -/
private theorem tables :
    (∀ e ∈ firstList, lookupFirst e.name = some e) ∧
    (∀ n ∈ arglessAdapters ++ argAdapters, known n = true ∧ returning n = false) ∧
    (∀ n ∈ arglessConsumers ++ argConsumers, known n = true ∧ isAdapter n = false) := by
  decide +kernel

/-- the 26 method names the iterator DSL has an arm for (first list then stateful list, source order) -/
def supportedNames : List String :=
  ["copied", "filter", "filter_map", "flat_map", "flatten", "map", "take_while", "rev", "rfind", "all", "any",
   "count", "find", "find_map", "rfold", "fold", "for_each", "nth", "next", "position", "rposition",
   "zip", "enumerate", "take", "skip", "skip_while"]

/-- a name is dispatched by `__cim_preprocess_methods` iff it is one of the 26 -/
theorem supported_names (n : String) : known n = true ↔ n ∈ supportedNames := by
  have names_eq : firstList.map (·.name) ++ statefulList = supportedNames := rfl
  rw [← names_eq]
  simp only [known, lookupFirst, Bool.or_eq_true, List.find?_isSome, List.contains_eq_mem,
    decide_eq_true_eq, List.mem_append, List.mem_map, beq_iff_eq]

/-- a flag of the first list holds of `n` iff `n` names one of the entries that carry it (the two lists of
    names below are this right-hand side, unfolded) -/
private theorem flag_iff (f : FirstEntry → Bool) (n : String) :
    (match lookupFirst n with | some e => f e | none => false) = true ↔
      n ∈ (firstList.filter f).map (·.name) := by
  simp only [List.mem_map, List.mem_filter]
  constructor
  · intro h
    split at h
    · next e he => exact ⟨e, ⟨List.mem_of_find?_eq_some he, h⟩, lookupFirst_some_name he⟩
    · cases h
  · rintro ⟨e, ⟨he, hf⟩, rfl⟩
    rw [tables.1 e he]
    exact hf

/-- exactly `rev`, `rfind`, `rfold`, `rposition` drive the source from the back -/
theorem reversing_names (n : String) :
    reversing n = true ↔ n ∈ ["rev", "rfind", "rfold", "rposition"] :=
  flag_iff (·.reversing) n

/-- exactly the twelve value-producing consumers carry a `return(..)` clause -/
theorem returning_names (n : String) :
    returning n = true ↔ n ∈ ["rfind", "all", "any", "count", "find", "find_map", "rfold", "fold", "nth",
      "next", "position", "rposition"] :=
  flag_iff (·.returns) n

/-! ### the pre-pass -/

def countRev (chain : List Tok) : Nat := (chain.filter (fun t => reversing t.name)).length

def countRet (chain : List Tok) : Nat := (chain.filter (fun t => returning t.name)).length

/-- the part of the chain the pre-pass walks: up to the first unsupported name -/
def knownPrefix (chain : List Tok) : List Tok := chain.takeWhile (fun t => known t.name)

theorem countRev_cons (t : Tok) (l : List Tok) :
    countRev (t :: l) = countRev l + if reversing t.name then 1 else 0 := by
  unfold countRev
  rw [List.filter_cons]
  split <;> rfl

theorem countRet_cons (t : Tok) (l : List Tok) :
    countRet (t :: l) = countRet l + if returning t.name then 1 else 0 := by
  unfold countRet
  rw [List.filter_cons]
  split <;> rfl

theorem countRet_append (l₁ l₂ : List Tok) : countRet (l₁ ++ l₂) = countRet l₁ + countRet l₂ := by
  simp only [countRet, List.filter_append, List.length_append]

theorem knownPrefix_cons (t : Tok) (l : List Tok) :
    knownPrefix (t :: l) = if known t.name then t :: knownPrefix l else [] :=
  List.takeWhile_cons ..

/-- One step of `__cim_preprocess_methods`, told by the three flags of the method name: the first-list arm
    and the stateful arm differ only in that a stateful name has neither flag. -/
theorem prepass_cons (h : Head) (t : Tok) (rest : List Tok) :
    prepass h (t :: rest) =
      if known t.name then
        (assertFirstRev h (reversing t.name) ++
            (prepass (if reversing t.name then Head.nextBack else h) rest).1,
          (prepass (if reversing t.name then Head.nextBack else h) rest).2.map
            fun p => (p.1, p.2 + if returning t.name then 1 else 0))
      else ([Reason.unknownMethod], none) := by
  rw [prepass, known, reversing, returning]
  cases lookupFirst t.name with
  | some e => rfl
  | none =>
    cases statefulList.contains t.name with
    | false => rfl
    | true => exact Prod.ext rfl Option.map_id'.symm

theorem mem_assertFirstRev {r : Reason} {h : Head} {b : Bool} (hr : r ∈ assertFirstRev h b) :
    r = Reason.twoRev := by
  unfold assertFirstRev at hr
  split at hr
  · exact List.mem_singleton.1 hr
  · cases hr

private def headBit : Head → Nat
  | Head.next => 0
  | Head.nextBack => 1

private theorem prepass_twoRev (h : Head) (chain : List Tok) :
    Reason.twoRev ∈ (prepass h chain).1 ↔ 2 ≤ headBit h + countRev (knownPrefix chain) := by
  induction chain generalizing h with
  | nil => cases h <;> decide
  | cons t rest ih =>
    rw [prepass_cons, knownPrefix_cons]
    cases known t.name with
    | false => cases h <;> simp [headBit, countRev]
    | true =>
      simp only [if_true, List.mem_append, ih, countRev_cons]
      cases h <;> cases reversing t.name <;> simp [assertFirstRev, headBit] <;> omega

private theorem prepass_unknown (h : Head) (chain : List Tok) :
    Reason.unknownMethod ∈ (prepass h chain).1 ↔ ∃ t ∈ chain, known t.name = false := by
  induction chain generalizing h with
  | nil => exact ⟨nofun, nofun⟩
  | cons t rest ih =>
    rw [prepass_cons]
    cases hk : known t.name with
    | false => exact ⟨fun _ => ⟨t, List.mem_cons_self .., hk⟩, fun _ => List.mem_singleton_self _⟩
    | true =>
      have : Reason.unknownMethod ∉ assertFirstRev h (reversing t.name) :=
        fun hm => nomatch mem_assertFirstRev hm
      simp only [if_true, List.mem_append, this, false_or, ih, List.mem_cons, exists_eq_or_imp, hk,
        Bool.true_eq_false]

theorem mem_prepass {r : Reason} {h : Head} {chain : List Tok} (hr : r ∈ (prepass h chain).1) :
    r = Reason.twoRev ∨ r = Reason.unknownMethod := by
  induction chain generalizing h with
  | nil => cases hr
  | cons t rest ih =>
    rw [prepass_cons] at hr
    split at hr
    · rcases List.mem_append.1 hr with h1 | h1
      · exact Or.inl (mem_assertFirstRev h1)
      · exact ih h1
    · exact Or.inr (List.mem_singleton.1 hr)

/-- The pre-pass reaches its "finished" arm iff every name is supported, and has then counted the
    `return(..)` clauses of the chain. -/
theorem prepass_snd (h : Head) (chain : List Tok) :
    (prepass h chain).2 =
      if chain.all (fun t => known t.name) then
        some (chain.foldl (fun h t => if reversing t.name then Head.nextBack else h) h, countRet chain)
      else none := by
  induction chain generalizing h with
  | nil => rfl
  | cons t rest ih =>
    rw [prepass_cons, List.all_cons, List.foldl_cons, countRet_cons]
    cases known t.name with
    | false => rfl
    | true =>
      simp only [if_true, Bool.true_and, ih]
      cases rest.all (fun t => known t.name) <;> rfl

/-! ### the method walk -/

theorem mem_hasArgsPass {r : Reason} {chain : List Tok} (h : r ∈ hasArgsPass chain) :
    r = Reason.noParens := by
  obtain ⟨_, _, rfl⟩ := List.mem_map.1 h
  rfl

theorem mem_errorOnArgs {r : Reason} {a : Args} :
    r ∈ errorOnArgs a ↔ a = Args.given ∧ r = Reason.argsGiven := by
  simp only [errorOnArgs, beq_iff_eq, List.mem_ite_nil_right, List.mem_singleton]

theorem mem_needsArgs {r : Reason} {a : Args} :
    r ∈ needsArgs a ↔ a ≠ Args.given ∧ r = Reason.other := by
  simp only [needsArgs, beq_iff_eq, List.mem_ite_nil_left, List.mem_singleton]

theorem mem_consume {r : Reason} {t : Tok} {rest : List Tok} (h : r ∈ consume t rest) :
    r = Reason.argsGiven ∨ r = Reason.other := by
  unfold consume at h
  split at h
  · exact Or.inr (List.mem_singleton.1 h)
  · split at h
    · exact Or.inl (mem_errorOnArgs.1 h).2
    · split at h
      · exact Or.inr (mem_needsArgs.1 h).2
      · exact Or.inr (List.mem_singleton.1 h)

def adapterPrefix (chain : List Tok) : List Tok := chain.takeWhile (fun t => isAdapter t.name)

def afterAdapters (chain : List Tok) : List Tok := chain.dropWhile (fun t => isAdapter t.name)

/-- what `__call_iter_methods` emits when it passes the adapter `t` -/
def adapterErrs (t : Tok) : List Reason :=
  if arglessAdapters.contains t.name then errorOnArgs t.args else needsArgs t.args

/-- what `__call_iter_methods` emits on what is left at the first non-adapter, where the walk ends -/
def walkEnd (m : Mode) : List Tok → List Reason
  | [] => []
  | t :: rest =>
    match m with
    | Mode.adapter => [if known t.name then Reason.notInMacro else Reason.other]
    | Mode.consumer => consume t rest

/-- The method walk: one step per adapter of the leading run of adapters, then the fallback arm. -/
theorem callMethods_eq (m : Mode) (chain : List Tok) :
    callMethods m chain =
      (adapterPrefix chain).flatMap adapterErrs ++ walkEnd m (afterAdapters chain) := by
  induction chain with
  | nil => rfl
  | cons t rest ih =>
    unfold callMethods
    rw [adapterPrefix, afterAdapters, List.takeWhile_cons, List.dropWhile_cons, isAdapter]
    cases h1 : arglessAdapters.contains t.name with
    | true =>
      simp only [if_true, Bool.true_or, List.flatMap_cons, adapterErrs, h1, List.append_assoc, ih,
        adapterPrefix, afterAdapters]
    | false =>
      cases argAdapters.contains t.name with
      | true =>
        simp only [if_true, Bool.false_eq_true, if_false, Bool.false_or, List.flatMap_cons, adapterErrs,
          h1, List.append_assoc, ih, adapterPrefix, afterAdapters]
      | false => cases m <;> rfl

theorem mem_callMethods {r : Reason} {m : Mode} {chain : List Tok} (h : r ∈ callMethods m chain) :
    r = Reason.argsGiven ∨ r = Reason.other ∨ r = Reason.notInMacro := by
  rw [callMethods_eq] at h
  rcases List.mem_append.1 h with h | h
  · obtain ⟨t, _, ht⟩ := List.mem_flatMap.1 h
    unfold adapterErrs at ht
    split at ht
    · exact Or.inl (mem_errorOnArgs.1 ht).2
    · exact Or.inr (Or.inl (mem_needsArgs.1 ht).2)
  · match m, afterAdapters chain, h with
    | .adapter, t :: _, h =>
      rw [walkEnd, List.mem_singleton] at h
      split at h
      · exact Or.inr (Or.inr h)
      · exact Or.inr (Or.inl h)
    | .consumer, t :: rest, h => exact (mem_consume h).imp_right Or.inl

theorem argsGiven_mem_adapterErrs (t : Tok) :
    Reason.argsGiven ∈ adapterErrs t ↔ t.name ∈ arglessAdapters ∧ t.args = Args.given := by
  rw [adapterErrs, ← List.contains_iff_mem (a := t.name)]
  cases arglessAdapters.contains t.name with
  | true => simp only [if_true, mem_errorOnArgs, and_true, true_and]
  | false => simp only [Bool.false_eq_true, if_false, mem_needsArgs, reduceCtorEq, and_false, false_and]

theorem argsGiven_mem_walkEnd (m : Mode) (l : List Tok) :
    Reason.argsGiven ∈ walkEnd m l ↔
      m = Mode.consumer ∧ ∃ t, l = [t] ∧ t.name ∈ arglessConsumers ∧ t.args = Args.given := by
  match m, l with
  | _, [] => simp [walkEnd]
  | .adapter, t :: rest =>
    rw [walkEnd]
    cases known t.name <;> simp
  | .consumer, t :: _ :: _ => simp [walkEnd, consume]
  | .consumer, [t] =>
    simp only [walkEnd, consume, List.isEmpty_nil, Bool.not_true, Bool.false_eq_true, if_false, true_and,
      List.cons.injEq, and_true, exists_eq_left', ← List.contains_iff_mem (a := t.name)]
    cases arglessConsumers.contains t.name with
    | true => simp only [if_true, mem_errorOnArgs, and_true, true_and]
    | false => cases argConsumers.contains t.name <;> simp [mem_needsArgs]

/-- where `__cim_error_on_args` can fire: an argument-less adapter before the first non-adapter, or — in
    `eval!` — an argument-less consumer that is the single remaining method -/
def ArgsOffence (m : Mode) (chain : List Tok) : Prop :=
  (∃ t ∈ adapterPrefix chain, t.name ∈ arglessAdapters ∧ t.args = Args.given) ∨
  (m = Mode.consumer ∧ ∃ t, afterAdapters chain = [t] ∧ t.name ∈ arglessConsumers ∧ t.args = Args.given)

theorem callMethods_args (m : Mode) (chain : List Tok) :
    Reason.argsGiven ∈ callMethods m chain ↔ ArgsOffence m chain := by
  simp only [callMethods_eq, List.mem_append, List.mem_flatMap, argsGiven_mem_adapterErrs,
    argsGiven_mem_walkEnd, ArgsOffence]

/-! ### iterator DSL guards -/

/-- `__process_iter_args`: the has-args pass, the pre-pass, and the method walk only after a pre-pass
    that found every name supported and at most one `return(..)` clause. -/
theorem dslReasons_eq (m : Mode) (chain : List Tok) :
    dslReasons m chain = hasArgsPass chain ++ (prepass Head.next chain).1 ++
      if chain.all (fun t => known t.name) then
        if countRet chain > 1 then [Reason.other] else callMethods m chain
      else [] := by
  rw [dslReasons]
  show _ ++ _ ++ (match (prepass Head.next chain).2 with | none => _ | some (_, nret) => _) = _
  rw [prepass_snd]
  cases chain.all (fun t => known t.name) <;> rfl

/-- the two guards of the pre-pass are emitted nowhere else -/
private theorem mem_dslReasons_iff_mem_prepass {r : Reason}
    (hr : r = Reason.twoRev ∨ r = Reason.unknownMethod) (m : Mode) (chain : List Tok) :
    r ∈ dslReasons m chain ↔ r ∈ (prepass Head.next chain).1 := by
  rw [dslReasons_eq, List.mem_append, List.mem_append]
  constructor
  · rintro ((h | h) | h)
    · rcases hr with rfl | rfl <;> cases mem_hasArgsPass h
    · exact h
    · split at h
      · split at h
        · rcases hr with rfl | rfl <;> cases List.mem_singleton.1 h
        · rcases hr with rfl | rfl <;> rcases mem_callMethods h with h | h | h <;> cases h
      · cases h
  · exact fun h => Or.inl (Or.inr h)

/-- the reversal guard fires iff the chain (up to the first unsupported name, where the
    pre-pass stops) contains at least two reversing methods — any chain length, any macro. -/
theorem rev_guard_iff (m : Mode) (chain : List Tok) :
    Reason.twoRev ∈ dslReasons m chain ↔ 2 ≤ countRev (knownPrefix chain) := by
  rw [mem_dslReasons_iff_mem_prepass (Or.inl rfl), prepass_twoRev, headBit, Nat.zero_add]

/-- for chains of supported methods only: rejected for reversal ⇔ ≥ 2 reversing methods -/
theorem rev_guard_iff_known (m : Mode) (chain : List Tok) (hk : ∀ t ∈ chain, known t.name = true) :
    Reason.twoRev ∈ dslReasons m chain ↔ 2 ≤ countRev chain := by
  have h := List.takeWhile_append_of_pos (l₂ := []) hk
  rw [List.append_nil] at h
  rw [rev_guard_iff, knownPrefix, h, List.takeWhile_nil, List.append_nil]

/-- "unsupported iterator method" is reported iff some method name is not one of
    the supported names -/
theorem unknown_method_iff (m : Mode) (chain : List Tok) :
    Reason.unknownMethod ∈ dslReasons m chain ↔ ∃ t ∈ chain, t.name ∉ supportedNames := by
  simp only [mem_dslReasons_iff_mem_prepass (Or.inr rfl), prepass_unknown, ← supported_names,
    Bool.not_eq_true]

/-- "`f` does not take arguments" is reported iff the pre-pass completes (all names
    supported, at most one `return(..)` method) and the method walk meets an argument-less method that was
    given arguments (`rev`, `enumerate`, `copied`, `flatten` among the adapters it passes; `count`, `next` as the
    final consumer of `eval!`). -/
theorem args_guard_iff (m : Mode) (chain : List Tok) :
    Reason.argsGiven ∈ dslReasons m chain ↔
      (∀ t ∈ chain, known t.name = true) ∧ countRet chain ≤ 1 ∧ ArgsOffence m chain := by
  rw [dslReasons_eq, List.mem_append, List.mem_append, ← callMethods_args, ← List.all_eq_true,
    ← Nat.not_lt]
  constructor
  · rintro ((h | h) | h)
    · cases mem_hasArgsPass h
    · rcases mem_prepass h with h | h <;> cases h
    · split at h
      · split at h
        · cases List.mem_singleton.1 h
        · exact ⟨‹_›, ‹_›, h⟩
      · cases h
  · rintro ⟨hk, hc, h⟩
    rw [if_pos hk, if_neg hc]
    exact Or.inr h

/-- the shape of a well-formed invocation: adapters, then — in `eval!` only — at most one consumer -/
def WellShaped (m : Mode) (chain : List Tok) : Prop :=
  ∃ ads tail, chain = ads ++ tail ∧ (∀ t ∈ ads, isAdapter t.name = true) ∧
    (tail = [] ∨ (m = Mode.consumer ∧ ∃ c, tail = [c] ∧ (c.name ∈ arglessConsumers ∨ c.name ∈ argConsumers)))

theorem isAdapter_iff {n : String} : isAdapter n = true ↔ n ∈ arglessAdapters ++ argAdapters := by
  simp only [isAdapter, Bool.or_eq_true, List.contains_iff_mem, List.mem_append]

theorem split_adapters {ads tail : List Tok} (hads : ∀ t ∈ ads, isAdapter t.name = true)
    (ht : ∀ t ∈ tail.head?, isAdapter t.name = false) :
    adapterPrefix (ads ++ tail) = ads ∧ afterAdapters (ads ++ tail) = tail := by
  rw [adapterPrefix, afterAdapters, List.takeWhile_append_of_pos hads, List.dropWhile_append_of_pos hads]
  cases tail with
  | nil => exact ⟨List.append_nil _, rfl⟩
  | cons c _ =>
    rw [List.takeWhile_cons, List.dropWhile_cons, ht c rfl]
    exact ⟨List.append_nil _, rfl⟩

/-- on well-formed invocations (adapters, then at most one final consumer in
    `eval!`) "does not take arguments" is reported iff one of `rev`, `enumerate`, `copied`, `flatten`, `count`,
    `next` was given arguments -/
theorem args_guard_iff_wellshaped (m : Mode) (chain : List Tok) (hw : WellShaped m chain) :
    Reason.argsGiven ∈ dslReasons m chain ↔
      ∃ t ∈ chain, (t.name ∈ arglessAdapters ∨ t.name ∈ arglessConsumers) ∧ t.args = Args.given := by
  obtain ⟨ads, tail, rfl, hads, htail⟩ := hw
  have hadk : ∀ t ∈ ads, known t.name = true ∧ returning t.name = false :=
    fun t ht => tables.2.1 _ (isAdapter_iff.1 (hads t ht))
  have htl : ∀ t ∈ tail,
      m = Mode.consumer ∧ tail = [t] ∧ known t.name = true ∧ isAdapter t.name = false := by
    rcases htail with rfl | ⟨hm, c, rfl, hc⟩
    · exact fun _ h => nomatch h
    · intro t ht
      cases List.mem_singleton.1 ht
      exact ⟨hm, rfl, tables.2.2 _ (List.mem_append.2 hc)⟩
  have hpre := split_adapters hads fun t ht => (htl t (List.mem_of_mem_head? ht)).2.2.2
  have hk : ∀ t ∈ ads ++ tail, known t.name = true := fun t ht =>
    (List.mem_append.1 ht).elim (fun h => (hadk t h).1) (fun h => (htl t h).2.2.1)
  have hret : countRet (ads ++ tail) ≤ 1 := by
    have h1 : countRet ads = 0 :=
      List.length_eq_zero_iff.2 (List.filter_eq_nil_iff.2 fun t ht => by simp [(hadk t ht).2])
    have h2 : countRet tail ≤ 1 := by
      refine Nat.le_trans (List.length_filter_le ..) ?_
      rcases htail with rfl | ⟨_, c, rfl, _⟩
      · exact Nat.zero_le 1
      · exact Nat.le_refl 1
    rw [countRet_append, h1, Nat.zero_add]
    exact h2
  rw [args_guard_iff, ArgsOffence, hpre.1, hpre.2]
  constructor
  · rintro ⟨_, _, ⟨t, ht, h1, h2⟩ | ⟨_, t, rfl, h1, h2⟩⟩
    · exact ⟨t, List.mem_append_left _ ht, Or.inl h1, h2⟩
    · exact ⟨t, List.mem_append_right _ (List.mem_singleton_self t), Or.inr h1, h2⟩
  · rintro ⟨t, ht, h1, h2⟩
    refine ⟨hk, hret, ?_⟩
    rcases List.mem_append.1 ht with ht | ht
    · refine Or.inl ⟨t, ht, h1.resolve_right fun h => ?_, h2⟩
      have := (tables.2.2 _ (List.mem_append_left _ h)).2
      rw [hads t ht] at this
      cases this
    · obtain ⟨hm, rfl, _, hna⟩ := htl t ht
      refine Or.inr ⟨hm, t, rfl, h1.resolve_left fun h => ?_, h2⟩
      rw [isAdapter_iff.2 (List.mem_append_left _ h)] at hna
      cases hna

/-! ### `parser_method!` -/

/-- A sole branch is accepted iff it is the default. -/
theorem normalise_singleton (b : Branch) :
    normalise [b] =
      if b.isDefault then ([], some [])
      else if b.comma || b.block then ([Reason.missingDefault, Reason.other], none)
      else ([Reason.other], none) := by
  simp only [normalise, arm2, List.isEmpty_nil, Bool.or_true, Bool.and_true, if_true,
    Option.map_none, List.singleton_append]

/-- A branch with branches after it: arm 2 takes it only if it is `_ => e,`; arms 3 and 4 recurse. -/
theorem normalise_cons {b : Branch} {rest : List Branch} (h : rest ≠ []) :
    normalise (b :: rest) =
      if b.isDefault && b.comma then ([Reason.afterDefault], some [])
      else if b.comma || b.block then ((normalise rest).1, (normalise rest).2.map (b :: ·))
      else ([Reason.other], none) := by
  have he : rest.isEmpty = false := by
    cases rest with
    | nil => exact absurd rfl h
    | cons _ _ => rfl
  simp only [normalise, arm2, he, Bool.or_false, Bool.false_eq_true, if_false, List.nil_append]

/-- when the normaliser accepts, the method macro receives exactly the branches before the default -/
theorem normalise_passes_prefix (pre : List Branch) (d : Branch) (hd : d.isDefault = true)
    (hpre : ∀ b ∈ pre, (b.comma || b.block) = true ∧ (b.isDefault && b.comma) = false) :
    normalise (pre ++ [d]) = ([], some pre) := by
  induction pre with
  | nil => rw [List.nil_append, normalise_singleton, if_pos hd]
  | cons a pre ih =>
    have ha := hpre a (List.mem_cons_self ..)
    rw [List.cons_append, normalise_cons (List.append_ne_nil_of_right_ne_nil _ (List.cons_ne_nil _ _)),
      ha.2, ha.1, ih fun x hx => hpre x (List.mem_cons_of_mem _ hx)]
    rfl

/-- the branch normaliser emits no error iff the branch list ends in a `_ => e`
    default, every earlier branch is followed by a comma or ends in a block, and no earlier branch is a
    comma-terminated `_ => e,` (that one would be taken as the default, with branches after it).
    The branches handed to the method macro are then exactly the ones before the default. -/
theorem default_branch_iff (bs : List Branch) :
    (normalise bs).1 = [] ↔
      ∃ pre d, bs = pre ++ [d] ∧ d.isDefault = true ∧
        ∀ b ∈ pre, (b.comma || b.block) = true ∧ (b.isDefault && b.comma) = false := by
  constructor
  · intro h
    induction bs with
    | nil => cases h
    | cons b rest ih =>
      cases rest with
      | nil =>
        rw [normalise_singleton] at h
        split at h
        · exact ⟨[], b, rfl, ‹_›, nofun⟩
        · split at h <;> cases h
      | cons c rest =>
        rw [normalise_cons (List.cons_ne_nil _ _)] at h
        split at h
        · cases h
        · split at h
          · obtain ⟨pre, d, hbs, hd, hpre⟩ := ih h
            refine ⟨b :: pre, d, congrArg (b :: ·) hbs, hd, List.forall_mem_cons.2 ⟨⟨‹_›, ?_⟩, hpre⟩⟩
            exact Bool.eq_false_iff.2 ‹_›
          · cases h
  · rintro ⟨pre, d, rfl, hd, hpre⟩
    rw [normalise_passes_prefix pre d hd hpre]

/-- the standard comma-separated syntax: every branch except possibly the last is followed by `,` -/
def commaSeparated : List Branch → Bool
  | [] => true
  | [_] => true
  | b :: rest => b.comma && commaSeparated rest

/-- for comma-separated branches: "expected no branches after the first `_ => e`
    branch" is reported iff a branch other than the last is `_ => e` -/
theorem after_default_iff (bs : List Branch) (hc : commaSeparated bs = true) :
    Reason.afterDefault ∈ (normalise bs).1 ↔ ∃ b ∈ bs.dropLast, b.isDefault = true := by
  induction bs with
  | nil => simp [normalise]
  | cons b rest ih =>
    cases rest with
    | nil =>
      rw [normalise_singleton]
      cases b.isDefault <;> cases (b.comma || b.block) <;> simp
    | cons c rest =>
      simp only [commaSeparated, Bool.and_eq_true] at hc
      rw [normalise_cons (List.cons_ne_nil _ _), hc.1, List.dropLast_cons_cons]
      simp only [List.mem_cons, exists_eq_or_imp, ← ih hc.2, Bool.and_true, Bool.true_or, if_true]
      cases b.isDefault <;> simp

/-- for comma-separated branches: "expected more branches, ending with a `_ => e`
    branch" is reported iff no branch is `_ => e` and the last branch is followed by a comma or is a block
    (a last branch `p => e` without either is refused by rustc's macro matcher instead). -/
theorem missing_default_iff (bs : List Branch) (hc : commaSeparated bs = true) :
    Reason.missingDefault ∈ (normalise bs).1 ↔
      (∀ b ∈ bs, b.isDefault = false) ∧ ∃ l, bs.getLast? = some l ∧ (l.comma || l.block) = true := by
  induction bs with
  | nil => simp [normalise]
  | cons b rest ih =>
    cases rest with
    | nil =>
      rw [normalise_singleton]
      simp only [List.mem_singleton, forall_eq, List.getLast?_singleton, Option.some.injEq, exists_eq_left']
      cases b.isDefault <;> cases (b.comma || b.block) <;> decide
    | cons c rest =>
      simp only [commaSeparated, Bool.and_eq_true] at hc
      rw [normalise_cons (List.cons_ne_nil _ _), hc.1, List.getLast?_cons_cons, List.forall_mem_cons,
        and_assoc, ← ih hc.2]
      cases b.isDefault <;> simp

/-- what the proc macro accepts as a pattern -/
theorem literal_kinds (p : Pat) :
    p.literal = true ↔ p ∈ [Pat.str, Pat.rawStr, Pat.concatLits, Pat.stringifyCall] := by
  cases p <;> decide

/-- for a match-like method whose branch list the normaliser accepts, the literal
    guard of the proc macro fires iff some pattern before the default is not a string literal /
    `concat!` / `stringify!` -/
theorem nonliteral_iff (m : PMethod) (hm : m.matchLike = true) (pre : List Branch) (d : Branch)
    (hd : d.isDefault = true)
    (hpre : ∀ b ∈ pre, (b.comma || b.block) = true ∧ (b.isDefault && b.comma) = false) :
    parserMethodReasons m (PBody.branches (pre ++ [d])) =
      if ∀ b ∈ pre, ∀ p ∈ b.pats, p.literal = true then [] else [Reason.nonLiteral] := by
  have hmu : (m == PMethod.unknown) = false := by
    cases m <;> first | rfl | cases hm
  simp only [parserMethodReasons, hmu, Bool.false_eq_true, if_false, normalise_passes_prefix pre d hd hpre,
    hm, if_true, List.nil_append, litErrs, List.all_flatMap, List.all_eq_true]

/-- patterns-only syntax (`trim_start_matches`, `trim_end_matches`): literal guard on every pattern -/
theorem nonliteral_iff_trim (m : PMethod) (hm : m = .trimStartMatches ∨ m = .trimEndMatches)
    (ps : List Pat) (hps : ps ≠ []) :
    parserMethodReasons m (PBody.pats ps) =
      if ∀ p ∈ ps, p.literal = true then [] else [Reason.nonLiteral] := by
  have he : ps.isEmpty = false := by cases ps <;> simp_all
  rcases hm with rfl | rfl <;>
    simp [parserMethodReasons, PMethod.matchLike, he, litErrs, List.all_eq_true]

/-! ### `destructure!` (layer b: verdict table) -/

/-- every invalid program of the family has a control — the same shape with the offending
    element removed — that the model accepts -/
theorem paired_control (s : DShape) (emptyPat : Bool) (d : Defect)
    (_ : destructureReasons s emptyPat (some d) ≠ []) : destructureReasons s emptyPat none = [] := rfl

/-- the table read the other way: the only defective programs `destructure!` lets through are an array
    with a `..` rest pattern (supported on purpose) and — because the empty-pattern arms expand to a bare
    `let` — a `Drop` type or a reference matched against an empty pattern -/
theorem accepted_defects (s : DShape) (emptyPat : Bool) (d : Defect) :
    destructureReasons s emptyPat (some d) = [] ↔
      (d = Defect.dotdot ∧ s = DShape.array) ∨
      (emptyPat = true ∧ (d = Defect.dropImpl ∨ d = Defect.refShared ∨ d = Defect.refMut)) := by
  cases d <;> simp [destructureReasons] <;> cases s <;> simp

/-! ### non-vacuity / sample evaluations -/

example : render (dslReasons .consumer [⟨"rev", .empty⟩, ⟨"map", .given⟩, ⟨"rev", .empty⟩]) = "reject:tworev" := by decide +kernel
example : render (dslReasons .consumer [⟨"rev", .empty⟩, ⟨"map", .given⟩, ⟨"rfold", .given⟩]) = "reject:tworev" := by decide +kernel
example : render (dslReasons .consumer [⟨"rev", .empty⟩, ⟨"map", .given⟩, ⟨"fold", .given⟩]) = "accept" := by decide +kernel
example : render (dslReasons .adapter [⟨"rev", .given⟩, ⟨"count", .empty⟩]) = "reject:args+notinmacro" := by decide +kernel
example : render (dslReasons .consumer [⟨"rev", .given⟩, ⟨"last", .empty⟩]) = "reject:unknown" := by decide +kernel
example : render (dslReasons .consumer [⟨"count", .empty⟩, ⟨"map", .given⟩]) = "reject" := by decide +kernel
example : WellShaped .consumer [⟨"map", .given⟩, ⟨"count", .given⟩] :=
  ⟨[⟨"map", .given⟩], [⟨"count", .given⟩], rfl, by decide +kernel, Or.inr ⟨rfl, _, rfl, Or.inl (.head _)⟩⟩
example : ArgsOffence .consumer [⟨"map", .given⟩, ⟨"count", .given⟩] :=
  Or.inr ⟨rfl, ⟨"count", .given⟩, by decide +kernel, .head _, rfl⟩
example : render (parserMethodReasons .stripPrefix (.branches [⟨[.str], false, true⟩])) = "reject:nodefault" := by decide +kernel
example : render (parserMethodReasons .stripPrefix (.branches [⟨[.str], false, true⟩, ⟨[.wild], false, false⟩])) = "accept" := by decide +kernel
example : render (parserMethodReasons .findSkip (.branches [⟨[.wild], false, true⟩, ⟨[.str], false, false⟩])) = "reject:afterdefault" := by decide +kernel
example : render (parserMethodReasons .findSkip (.branches [⟨[.str, .constIdent], false, true⟩, ⟨[.wild], false, false⟩])) = "reject:nonliteral" := by decide +kernel
example : commaSeparated [⟨[.str], false, true⟩, ⟨[.wild], false, false⟩] = true := by decide +kernel
example : ∃ s e d, destructureReasons s e (some d) ≠ [] := ⟨.braced, false, .dropImpl, by decide⟩

end Konst.Props.C17
