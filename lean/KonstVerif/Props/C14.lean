import KonstVerif.Model.Parser
import KonstVerif.Spec.ParserSplit
import KonstVerif.Lemmas.Parser
import KonstVerif.Lemmas.ParserSplit
import KonstVerif.Lemmas.ParserFn
/-
  C14 — Parser operations transform the remainder exactly like the free string functions; the
  split protocols.  Property theorems only (helper lemmas: Lemmas/Parser*.lean).

  `freeFn op s` (Model/Parser.lean) is the free function of `konst::string` (resp. the prefix parser)
  that `op`'s method delegates to, applied to the remainder `s`; what those functions compute is the
  subject of C04 / C05 / C12 (`Props/C04.lean`: find_skip, rfind_skip, split_once, rsplit_once =
  first / last occurrence; `Props/C05.lean`: strip_*, trim* = std; `Props/C12.lean`: prefix parsers).
  The protocols are stated against `Spec/ParserSplit.lean` (`splitSpec` = `str::split`, `rsplitSpec`
  = `str::rsplit`, for a non-empty delimiter).  `Valid` = is a `&str` (valid UTF-8).
-/
namespace Konst.Props.C14
open Konst Konst.Parser Konst.Spec.Utf8 Konst.Spec.ParserSplit
open Konst.Lemmas.Parser Konst.Lemmas.ParserSplit Konst.Lemmas.ParserFn

/-- every operation, every parser, every argument: after a successful step the remainder is what the
    corresponding free function computes from the previous remainder — or, for `split` / `rsplit` /
    `split_keep` only, the free function found nothing and the method handed out the rest once
    (remainder empty, flag set).  `skip`/`skip_back` have no free counterpart (`freeFn = none`). -/
theorem op_remainder_eq_fn (op : Op) (p p' : Parser) (v : Value) (h : step op p = .ok p' v)
    (fr : FnRes) (hfr : freeFn op p.str = some fr) :
    fr = .found p'.remainder ∨
    (fr = .notFound ∧ op.yieldsRest = true ∧ p'.remainder = [] ∧ p'.yieldedLastSplit = true) :=
  step_fn op p p' v h fr hfr

/-- when a method returns `Err`:
    * strip_prefix, strip_suffix, find_skip, rfind_skip, parse_<int>, parse_bool fail EXACTLY when
      the free function finds nothing;
    * split, rsplit, split_keep fail exactly when the last piece was already handed out;
    * split_terminator, rsplit_terminator fail exactly when the last piece was handed out, the
      remainder is empty, or `split_once`/`rsplit_once` finds no delimiter;
    * the trims and skips never fail.
    `hv`, `hpat` are the setting of C14 (`&str` remainder, `&str`/`char` patterns); this criterion holds
    without them: a remainder that is not a `&str` can make a method panic, not fail.
    The right-hand side is `Lemmas.ParserFn.Fails op p` written out. -/
theorem op_fails_iff_fn_none (op : Op) (p : Parser) (hv : Valid p.str)
    (hpat : ∀ m, op.pattern = some m → Valid m) :
    (∃ e, step op p = .err e) ↔
      (match op with
       | .stripPrefix _ | .stripSuffix _ | .findSkip _ | .rfindSkip _ | .parseInt _ _ | .parseBool =>
         freeFn op p.str = some .notFound
       | .split _ | .rsplit _ | .splitKeep _ => p.yieldedLastSplit = true
       | .splitTerminator _ | .rsplitTerminator _ =>
         p.yieldedLastSplit = true ∨ p.str = [] ∨ freeFn op p.str = some .notFound
       | _ => False) := by
  -- per constructor both matches reduce, and the goal is the first half of `Sound`
  cases op <;> exact (step_sound _ p).1

/-- a failing operation returns an error and NO new parser: the caller is left with the parser the
    method was called on (`Res.next`), and the error is built from that parser alone (its offsets,
    the operation's direction) -/
theorem fail_returns_no_parser (op : Op) (p : Parser) (hv : Valid p.str)
    (hpat : ∀ m, op.pattern = some m → Valid m) (e : ParseError) (h : step op p = .err e) :
    (step op p).next p = some p ∧ (∀ p' v, step op p ≠ .ok p' v) ∧
    e = ParseError.new { p with dir := op.direction } e.kind := by
  have hg := step_good op p hv hpat
  rw [h] at hg
  obtain ⟨h1, h2, h3⟩ := hg
  refine ⟨by rw [h]; rfl, ?_, ?_⟩
  · intro p' v hc; rw [h] at hc; cases hc
  · cases e
    simp only [ParseError.new] at h1 h2 h3 ⊢
    simp [h1, h2, h3]

/-! ### the split protocols (non-empty `&str`/`char` delimiter, any `&str` remainder, flag not set) -/

/-- repeating `split(d)` yields exactly the pieces of `str::split(d)`, then `SplitExhausted` -/
theorem split_protocol (d : List Nat) (hd : Valid d) (hne : d ≠ []) (p : Parser) (hv : Valid p.str)
    (hfl : p.yieldedLastSplit = false) :
    iterate (.split d) (p.str.length + 2) p = (splitSpec d p.str, some .splitExhausted) :=
  split_iterate d hd hne p.str.length p (Nat.le_refl _) hfl hv

/-- repeating `rsplit(d)` yields exactly the pieces of `str::rsplit(d)`, then `SplitExhausted` -/
theorem rsplit_protocol (d : List Nat) (hd : Valid d) (hne : d ≠ []) (p : Parser) (hv : Valid p.str)
    (hfl : p.yieldedLastSplit = false) :
    iterate (.rsplit d) (p.str.length + 2) p = (rsplitSpec d p.str, some .splitExhausted) :=
  rsplit_iterate d hd hne p.str.length p (Nat.le_refl _) hfl hv

/-- repeating `split_terminator(d)` yields each piece of `str::split(d)` that is FOLLOWED by a
    delimiter (all but the last), then fails (`SplitExhausted` or `DelimiterNotFound`) -/
theorem split_terminator_protocol (d : List Nat) (hd : Valid d) (hne : d ≠ []) (p : Parser)
    (hv : Valid p.str) (hfl : p.yieldedLastSplit = false) :
    ∃ k, iterate (.splitTerminator d) (p.str.length + 2) p = (terminated (splitSpec d p.str), some k) ∧
      (k = .splitExhausted ∨ k = .delimiterNotFound) :=
  splitTerminator_iterate d hd hne (p.str.length + 1) p (Nat.le_succ _) hfl hv

/-- repeating `rsplit_terminator(d)` yields each piece of `str::rsplit(d)` that is PRECEDED by a
    delimiter (all but the last), then fails -/
theorem rsplit_terminator_protocol (d : List Nat) (hd : Valid d) (hne : d ≠ []) (p : Parser)
    (hv : Valid p.str) (hfl : p.yieldedLastSplit = false) :
    ∃ k, iterate (.rsplitTerminator d) (p.str.length + 2) p = (terminated (rsplitSpec d p.str), some k) ∧
      (k = .splitExhausted ∨ k = .delimiterNotFound) :=
  rsplitTerminator_iterate d hd hne (p.str.length + 1) p (Nat.le_succ _) hfl hv

/-- what any operation between two splits does to the one-shot flag:
    (1) an operation outside the split family never changes it;
    (2) a split-family method sets it only together with an EMPTY remainder;
    (3) once set, all five split-family methods fail with `SplitExhausted` (from their own end);
    so between two splits other operations can only shrink the remainder the next split sees
    (flag clear), or act on an empty remainder (flag set) without ever re-arming the split. -/
theorem flag_interaction (op : Op) (p : Parser) :
    (op.isSplitFamily = false → ∀ p' v, step op p = .ok p' v → p'.yieldedLastSplit = p.yieldedLastSplit) ∧
    (op.isSplitFamily = true → ∀ p' v, step op p = .ok p' v → p'.yieldedLastSplit = true → p'.str = []) ∧
    (op.isSplitFamily = true → p.yieldedLastSplit = true →
      ∃ e, step op p = .err e ∧ e.kind = .splitExhausted ∧ e.dir = op.direction) :=
  ⟨fun hns p' v h => flag_unchanged op p p' v hns h,
   fun hsf p' v h hfl' => splitfam_flag_empty op p p' v hsf h hfl',
   fun hsf hfl => exhausted_fails op p hsf hfl⟩

/-- … over whole histories: in every parser reachable from `Parser::new`/`with_start_offset` on a
    `&str`, a set flag means the remainder is empty; and the flag is never cleared again -/
theorem flag_history (s : List Nat) (hv : Valid s) (base : Nat) (ops : List Op)
    (hpat : ∀ op ∈ ops, ∀ m, op.pattern = some m → Valid m) (q : Parser)
    (hq : final (withStartOffset s base) ops = some q) :
    Valid q.str ∧ (q.yieldedLastSplit = true → q.str = []) := by
  suffices H : ∀ (ops : List Op) (p : Parser), (∀ op ∈ ops, ∀ m, op.pattern = some m → Valid m) →
      Valid p.str → (p.yieldedLastSplit = true → p.str = []) → final p ops = some q →
      Valid q.str ∧ (q.yieldedLastSplit = true → q.str = []) from
    H ops _ hpat hv (by intro h; cases h) hq
  intro ops
  induction ops with
  | nil => intro p _ hpv hpf hfin; cases hfin; exact ⟨hpv, hpf⟩
  | cons op ops ih =>
    intro p hpat hpv hpf hfin
    have hop := hpat op List.mem_cons_self
    have hrest : ∀ o ∈ ops, ∀ m, o.pattern = some m → Valid m := fun o ho => hpat o (List.mem_cons_of_mem _ ho)
    unfold final at hfin
    have hg := step_good op p hpv hop
    cases hstep : step op p with
    | panic => rw [hstep] at hg; exact hg.elim
    | err e => rw [hstep] at hfin; exact ih p hrest hpv hpf hfin
    | ok p' v =>
      rw [hstep] at hfin hg
      refine ih p' hrest (valid_of_cut hpv hg.1) ?_ hfin
      intro hfl'
      cases hsf : op.isSplitFamily with
      | true => exact splitfam_flag_empty op p p' v hsf hstep hfl'
      | false =>
        have hp0 := hpf ((flag_unchanged op p p' v hsf hstep).symm.trans hfl')
        have hlen := (cut_bounds hg.1).1
        rw [hp0] at hlen
        exact List.eq_nil_of_length_eq_zero (Nat.le_zero.mp hlen)

/-! ### non-vacuity -/

/-- "a,ñ," split at ',' : pieces "a", "ñ", "" then SplitExhausted = `str::split` -/
example : iterate (.split [44]) 7 (Parser.new [97, 44, 0xC3, 0xB1, 44]) =
    ([[97], [0xC3, 0xB1], []], some .splitExhausted) ∧
    splitSpec [44] [97, 44, 0xC3, 0xB1, 44] = [[97], [0xC3, 0xB1], []] := by decide +kernel

/-- split_terminator on the same string: "a", "ñ", then SplitExhausted; on "a,ñ": "a" then DelimiterNotFound -/
example : iterate (.splitTerminator [44]) 7 (Parser.new [97, 44, 0xC3, 0xB1, 44]) =
    ([[97], [0xC3, 0xB1]], some .splitExhausted) ∧
    iterate (.splitTerminator [44]) 6 (Parser.new [97, 44, 0xC3, 0xB1]) =
    ([[97]], some .delimiterNotFound) := by decide +kernel

example : Valid [97, 44, 0xC3, 0xB1, 44] :=
  ⟨[97, 44, 0xF1, 44], by decide, by decide⟩

end Konst.Props.C14
