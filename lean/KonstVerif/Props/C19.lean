import KonstVerif.Model.OptRes
import KonstVerif.Spec.OptRes
import KonstVerif.Lemmas.OptRes
/-
  C19 — Option/Result, rebind and min/max macros equal their std / `?` counterparts.

  Property theorems only.  Every theorem quantifies over ALL values and ALL closure arguments
  (arbitrary total functions).  Statements about `Ev` computations are made for an arbitrary
  starting value `n` of the call counter: the macro returns the value std returns AND leaves the
  counter at `n + (number of calls std makes)`.
-/
namespace Konst.Props.C19
open Konst Konst.OptRes Konst.Lemmas.OptRes

variable {α β ε φ κ : Type}

/-! ## option:: -/

/-- `option::unwrap!` = `Option::unwrap`: panics exactly on `None` -/
theorem optUnwrap_eq_std (o : Option α) :
    optUnwrap o = match Spec.OptRes.optUnwrap o with | some x => .val x | none => .panic := by
  cases o <;> rfl

/-- eager form: whatever computation `v` yields the fallback, it is run exactly once (the counter
    ends where `v` leaves it) and the result is `Option::unwrap_or` of its value -/
theorem optUnwrapOr_eq_std (o : Option α) (v : Ev α) (n : Nat) :
    optUnwrapOr o v n = (Spec.OptRes.optUnwrapOr o (v n).1, (v n).2) := by
  cases o <;> rfl

/-- `option::unwrap_or_else!` (closure and function forms) = `Option::unwrap_or_else`, incl. calls -/
theorem optUnwrapOrElse_eq_std (o : Option α) (f : Unit → α) (n : Nat) :
    optUnwrapOrElse o f n =
      ((Spec.OptRes.optUnwrapOrElse o f).1, n + (Spec.OptRes.optUnwrapOrElse o f).2) := by
  cases o <;> rfl

theorem optOkOr_eq_std (o : Option α) (v : Ev ε) (n : Nat) :
    optOkOr o v n = (Spec.OptRes.optOkOr o (v n).1, (v n).2) := by
  cases o <;> rfl

theorem optOkOrElse_eq_std (o : Option α) (f : Unit → ε) (n : Nat) :
    optOkOrElse o f n = ((Spec.OptRes.optOkOrElse o f).1, n + (Spec.OptRes.optOkOrElse o f).2) := by
  cases o <;> rfl

theorem optMap_eq_std (o : Option α) (f : α → β) (n : Nat) :
    optMap o f n = ((Spec.OptRes.optMap o f).1, n + (Spec.OptRes.optMap o f).2) := by
  cases o <;> rfl

theorem optAndThen_eq_std (o : Option α) (f : α → Option β) (n : Nat) :
    optAndThen o f n = ((Spec.OptRes.optAndThen o f).1, n + (Spec.OptRes.optAndThen o f).2) := by
  cases o <;> rfl

theorem optOrElse_eq_std (o : Option α) (f : Unit → Option α) (n : Nat) :
    optOrElse o f n = ((Spec.OptRes.optOrElse o f).1, n + (Spec.OptRes.optOrElse o f).2) := by
  cases o <;> rfl

theorem optFlatten_eq_std (o : Option (Option α)) : optFlatten o = Spec.OptRes.optFlatten o := by
  cases o <;> rfl

theorem optFilter_eq_std (o : Option α) (p : α → Bool) (n : Nat) :
    optFilter o p n = ((Spec.OptRes.optFilter o p).1, n + (Spec.OptRes.optFilter o p).2) := by
  cases o with
  | none => rfl
  | some x =>
    simp only [optFilter, Spec.OptRes.optFilter, Option.filter]
    cases h : p x <;> simp [Ev.call, bind, Ev.bind, pure, Ev.pure, h, Spec.OptRes.b2n]

theorem optCopied_eq_std (o : Option α) : optCopied o = Spec.OptRes.optCopied o := by
  cases o <;> rfl

/-- the fallback of the lazy Option macros is evaluated exactly when the value is `None` (once),
    the mapper/predicate exactly when it is `Some` (once) -/
theorem opt_fallback_called_iff (o : Option α) (f : Unit → α) (g : Unit → ε) (h : Unit → Option α)
    (m : α → β) (b : α → Option β) (p : α → Bool) :
    ((optUnwrapOrElse o f).run.2 = if o.isNone then 1 else 0) ∧
    ((optOkOrElse o g).run.2 = if o.isNone then 1 else 0) ∧
    ((optOrElse o h).run.2 = if o.isNone then 1 else 0) ∧
    ((optMap o m).run.2 = if o.isSome then 1 else 0) ∧
    ((optAndThen o b).run.2 = if o.isSome then 1 else 0) ∧
    ((optFilter o p).run.2 = if o.isSome then 1 else 0) := by
  cases o with
  | none => exact ⟨rfl, rfl, rfl, rfl, rfl, rfl⟩
  | some x =>
    refine ⟨rfl, rfl, rfl, rfl, rfl, ?_⟩
    simp only [Ev.run, optFilter_eq_std]
    rfl

/-! ## result:: -/

theorem resUnwrapOr_eq_std (r : Except ε α) (v : Ev α) (n : Nat) :
    resUnwrapOr r v n = (Spec.OptRes.resUnwrapOr r (v n).1, (v n).2) := by
  cases r <;> rfl

theorem resUnwrapOrElse_eq_std (r : Except ε α) (f : ε → α) (n : Nat) :
    resUnwrapOrElse r f n =
      ((Spec.OptRes.resUnwrapOrElse r f).1, n + (Spec.OptRes.resUnwrapOrElse r f).2) := by
  cases r <;> rfl

/-- `unwrap_err_or_else!` has no std counterpart; it does what its documentation says -/
theorem resUnwrapErrOrElse_eq_doc (r : Except ε α) (f : α → ε) (n : Nat) :
    resUnwrapErrOrElse r f n =
      ((Spec.OptRes.resUnwrapErrOrElse r f).1, n + (Spec.OptRes.resUnwrapErrOrElse r f).2) := by
  cases r <;> rfl

theorem resOk_eq_std (r : Except ε α) : resOk r = Spec.OptRes.resOk r := by
  cases r <;> rfl

theorem resErr_eq_std (r : Except ε α) : resErr r = Spec.OptRes.resErr r := by
  cases r <;> rfl

theorem resMap_eq_std (r : Except ε α) (f : α → β) (n : Nat) :
    resMap r f n = ((Spec.OptRes.resMap r f).1, n + (Spec.OptRes.resMap r f).2) := by
  cases r <;> rfl

theorem resMapErr_eq_std (r : Except ε α) (f : ε → φ) (n : Nat) :
    resMapErr r f n = ((Spec.OptRes.resMapErr r f).1, n + (Spec.OptRes.resMapErr r f).2) := by
  cases r <;> rfl

theorem resAndThen_eq_std (r : Except ε α) (f : α → Except ε β) (n : Nat) :
    resAndThen r f n = ((Spec.OptRes.resAndThen r f).1, n + (Spec.OptRes.resAndThen r f).2) := by
  cases r <;> rfl

theorem resOrElse_eq_std (r : Except ε α) (f : ε → Except φ α) (n : Nat) :
    resOrElse r f n = ((Spec.OptRes.resOrElse r f).1, n + (Spec.OptRes.resOrElse r f).2) := by
  cases r <;> rfl

/-- the closure of the Result macros runs exactly when std runs it: on `Err` for
    `unwrap_or_else`/`map_err`/`or_else`, on `Ok` for `map`/`and_then`/`unwrap_err_or_else` -/
theorem res_fallback_called_iff (r : Except ε α) (f : ε → α) (g : ε → φ) (h : ε → Except φ α)
    (m : α → β) (b : α → Except ε β) (u : α → ε) :
    ((resUnwrapOrElse r f).run.2 = if Spec.OptRes.isErr r then 1 else 0) ∧
    ((resMapErr r g).run.2 = if Spec.OptRes.isErr r then 1 else 0) ∧
    ((resOrElse r h).run.2 = if Spec.OptRes.isErr r then 1 else 0) ∧
    ((resMap r m).run.2 = if Spec.OptRes.isOk r then 1 else 0) ∧
    ((resAndThen r b).run.2 = if Spec.OptRes.isOk r then 1 else 0) ∧
    ((resUnwrapErrOrElse r u).run.2 = if Spec.OptRes.isOk r then 1 else 0) := by
  cases r <;> exact ⟨rfl, rfl, rfl, rfl, rfl, rfl⟩

/-! ## try_! / try_opt! behave like `?` -/

/-- `let v = try_!(r); k v` = `let v = r?; k v`, for every rest-of-function `k` -/
theorem try_eq_question (r : Except ε α) (k : α → Except ε β) :
    (try_ r).andThen k = Spec.OptRes.questionRes r k := by
  cases r <;> rfl

/-- `try_!(r, map_err = |e| f e)` = `r.map_err(f)?`, incl. the number of calls of `f` -/
theorem tryMapErr_eq_question (r : Except ε α) (f : ε → φ) (k : α → Except φ β) (n : Nat) :
    (((tryMapErr (β := β) r f n).1).andThen k, (tryMapErr (β := β) r f n).2) =
      ((Spec.OptRes.questionMapErr r f k).1, n + (Spec.OptRes.questionMapErr r f k).2) := by
  cases r <;> rfl

/-- `try_opt!(o)` = `o?` -/
theorem tryOpt_eq_question (o : Option α) (k : α → Option β) :
    (tryOpt o).andThen k = Spec.OptRes.questionOpt o k := by
  cases o <;> rfl

/-! ## try_rebind! / rebind_if_ok!: the tuple walker -/

/-- arity 2..=6: the walker emits, for the `i`-th listed pattern, the assignment `lhs_i = tuple.i`
    (preceded by the type assertion of a typed place), in order, and nothing else -/
theorem rebind_walker_assigns_all (bare : Bool) (pats : List PatKind)
    (h2 : 2 ≤ pats.length) (h6 : pats.length ≤ 6) :
    preprocess ⟨bare, pats⟩ = some (expectedStmts 0 pats) := by
  match pats, h2 with
  | p :: q :: rem, _ =>
    show assignTuple (fieldsFrom 0 6) 0 (p :: q :: rem) = _
    rw [fieldsFrom_succ, assignTuple_cons_cons,
      assignTuple_fieldsFrom_succ (q :: rem) 0 5 (List.cons_ne_nil _ _) (Nat.le_of_succ_le_succ h6)]
    rfl

/-- a single pattern is assigned the whole payload (`lhs = tuple`, not `tuple.0`) -/
theorem rebind_walker_single (bare : Bool) (p : PatKind) :
    preprocess ⟨bare, [p]⟩ =
      some ((if p = .typedPlace then [Stmt.assertTy 0] else []) ++ [Stmt.assign ⟨0, p⟩ .whole]) := by
  rfl

/-- no pattern, or more than six: no macro arm matches (compile error) -/
theorem rebind_walker_rejects (bare : Bool) (pats : List PatKind)
    (h : pats = [] ∨ 6 < pats.length) : preprocess ⟨bare, pats⟩ = none := by
  cases h with
  | inl h => subst h; rfl
  | inr h => exact assignTuple_too_many pats fields0 0 h

/-- ORDER of the emitted statements: for 1 ≤ k ≤ 6 patterns the walker's assignments come in the
    order of the user's list — the statement for pattern 0 first, then pattern 1, … (type assertions
    of typed places aside).  With `rebind_walker_assigns_all` (statement `i` is `lhs_i = tuple.i`)
    this is "component 0 is assigned first, component k-1 last". -/
theorem rebind_walker_in_order (bare : Bool) (pats : List PatKind)
    (h1 : 1 ≤ pats.length) (h6 : pats.length ≤ 6) :
    (preprocess ⟨bare, pats⟩).map assignOrder = some (List.range pats.length) := by
  match pats, h1 with
  | [p], _ =>
    rw [rebind_walker_single]
    cases p <;> rfl
  | p :: q :: rem, _ =>
    have h2 : 2 ≤ (p :: q :: rem).length := Nat.succ_le_succ (Nat.succ_le_succ (Nat.zero_le _))
    rw [rebind_walker_assigns_all bare _ h2 h6, Option.map_some, assignOrder_expectedStmts,
      List.range_eq_range']

/-- what the hand-written destructuring `let (a0, ..) = payload; p0 = a0; …` (`Spec.OptRes.destructure`)
    writes: for arity `k` in 2..=6 the `i`-th target receives exactly the `i`-th component, for every
    `i < k`; a single target the whole payload -/
theorem rebind_assigns_all (pats : List PatKind) (vs : List Int)
    (h1 : 1 ≤ pats.length) (hlen : vs.length = pats.length) :
    (∀ p, pats = [p] →
      Spec.OptRes.destructure payloadVal Val.scalar (targets pats) vs = [(⟨0, p⟩, payloadVal vs)]) ∧
    (2 ≤ pats.length →
      Spec.OptRes.destructure payloadVal Val.scalar (targets pats) vs =
        (pats.zipIdx).map fun (p, i) => ((⟨i, p⟩ : Lhs), Val.scalar (vs.getD i 0))) := by
  constructor
  · rintro p rfl
    rfl
  · intro h2
    match pats, h2 with
    | p :: q :: rest, _ => exact destructure_targets vs p q rest hlen

/-- For 1 to 6 patterns and a payload with one component per pattern, the macro expands, the expansion
    type-checks, and running it performs the hand-written destructuring. -/
private theorem emitted_spec (u : UserPat) (annot : Bool)
    (h1 : 1 ≤ u.pats.length) (h6 : u.pats.length ≤ 6)
    (hty : PatKind.typedPlace ∉ u.pats ∨ annot = true) :
    ∃ st, emitted true u u.pats.length annot = some st ∧
      ∀ vs : List Int, vs.length = u.pats.length →
        exec vs st = some (Spec.OptRes.destructure payloadVal Val.scalar (targets u.pats) vs) := by
  obtain ⟨bare, pats⟩ := u
  match pats, h1 with
  | [p], _ =>
    refine ⟨(if p = .typedPlace then [Stmt.assertTy 0] else []) ++ [Stmt.assign ⟨0, p⟩ .whole], ?_,
      fun vs _ => exec_append_assert vs _ 0 _⟩
    rw [emitted, if_pos rfl, rebind_walker_single]
    refine if_pos ?_
    rw [List.all_append]
    split
    · next hp =>
      cases hty.resolve_left fun h => h (hp ▸ List.mem_singleton_self _)
      rfl
    · rfl
  | p :: q :: rem, h =>
    have h2 : 2 ≤ (p :: q :: rem).length := Nat.succ_le_succ (Nat.succ_le_succ (Nat.zero_le _))
    refine ⟨expectedStmts 0 (p :: q :: rem), ?_, fun vs hlen => ?_⟩
    · rw [emitted, if_pos rfl, rebind_walker_assigns_all bare _ h2 h6]
      exact if_pos (expectedStmts_ok _ annot _ 0 h2 (Nat.le_of_eq (Nat.zero_add _)) hty)
    · rw [exec_expectedStmts vs _ 0 (hlen ▸ h2) (Nat.le_of_eq ((Nat.zero_add _).trans hlen.symm)),
        destructure_targets vs p q rem hlen]

/-- `try_rebind!{(p0, .., p_{k-1}) = r}` with `k` = arity of the `Ok` payload (1..=6) does what
    `let (a0, .., a_{k-1}) = r?;` followed by `p_i = a_i` / `let p_i = a_i` / `let _ = a_i` does:
    `Err(e)` returns `Err(e)`; `Ok` assigns component `i` to the `i`-th listed target, for every `i`
    (a single target receives the whole payload) -/
theorem tryRebind_eq_question (u : UserPat) (annot : Bool) (r : Except Int (List Int))
    (h1 : 1 ≤ u.pats.length) (h6 : u.pats.length ≤ 6) (hm : tryRebindMatches u = true)
    (hty : PatKind.typedPlace ∉ u.pats ∨ annot = true)
    (hr : ∀ vs, r = .ok vs → vs.length = u.pats.length) :
    tryRebind u u.pats.length annot r =
      match r with
      | .error e => .ret e
      | .ok vs => .ok (Spec.OptRes.destructure payloadVal Val.scalar (targets u.pats) vs) := by
  obtain ⟨st, he, hex⟩ := emitted_spec u annot h1 h6 hty
  rw [tryRebind, hm, he]
  cases r with
  | error e => rfl
  | ok vs => simp only [hex vs (hr vs rfl)]

/-- `rebind_if_ok!{(p0, ..) = r => code}` does what `if let Ok((a0, ..)) = r { <assignments> code }`
    does: `Err` skips, `Ok` assigns every component to its listed target, then `code` runs -/
theorem rebindIfOk_eq_if_let (u : UserPat) (annot : Bool) (r : Except Int (List Int))
    (h1 : 1 ≤ u.pats.length) (h6 : u.pats.length ≤ 6) (hm : rebindIfOkMatches u = true)
    (hty : PatKind.typedPlace ∉ u.pats ∨ annot = true)
    (hr : ∀ vs, r = .ok vs → vs.length = u.pats.length) :
    rebindIfOk u u.pats.length annot r =
      match r with
      | .error _ => .skip
      | .ok vs => .ok (Spec.OptRes.destructure payloadVal Val.scalar (targets u.pats) vs) := by
  obtain ⟨st, he, hex⟩ := emitted_spec u annot h1 h6 hty
  rw [rebindIfOk, hm, he]
  cases r with
  | error e => rfl
  | ok vs => simp only [hex vs (hr vs rfl)]

/-- the same, observed on ANY store with ANY way of resolving place expressions (`write`): when the
    payload is `Ok`, running what `try_rebind!` / `rebind_if_ok!` emit leaves the store exactly as
    the hand-written sequence `p0 = t.0; p1 = t.1; …; p_{k-1} = t.{k-1};` (in this order) does —
    also when a place reads a variable another component assigns (`(i, arr[i])`), when the same
    place is listed several times (the LAST listed component stays), or when a `let` shadows -/
theorem rebind_store_in_order {σ : Type} (write : σ → Lhs → Val → σ) (s : σ)
    (u : UserPat) (annot : Bool) (vs : List Int)
    (h1 : 1 ≤ u.pats.length) (h6 : u.pats.length ≤ 6)
    (hty : PatKind.typedPlace ∉ u.pats ∨ annot = true) (hlen : vs.length = u.pats.length) :
    (tryRebindMatches u = true → ∃ ws, tryRebind u u.pats.length annot (.ok vs) = .ok ws ∧
      runWrites write s ws =
        Spec.OptRes.assignSeq write payloadVal Val.scalar s (targets u.pats) vs) ∧
    (rebindIfOkMatches u = true → ∃ ws, rebindIfOk u u.pats.length annot (.ok vs) = .ok ws ∧
      runWrites write s ws =
        Spec.OptRes.assignSeq write payloadVal Val.scalar s (targets u.pats) vs) := by
  constructor
  · intro hm
    have h := tryRebind_eq_question u annot (.ok vs) h1 h6 hm hty (by intro vs' e; cases e; exact hlen)
    exact ⟨_, h, runWrites_destructure write s (targets u.pats) vs⟩
  · intro hm
    have h := rebindIfOk_eq_if_let u annot (.ok vs) h1 h6 hm hty (by intro vs' e; cases e; exact hlen)
    exact ⟨_, h, runWrites_destructure write s (targets u.pats) vs⟩

/-! ## min!/max!, _by, _by_key -/

/-- `min!`/`min_by!` return what `std::cmp::min`/`min_by` return, for EVERY comparator (lawful or
    not), in particular the first argument on `Equal` -/
theorem minBy_eq_std (cmp : α → α → Ordering) (a b : α) : minBy cmp a b = Spec.OptRes.minBy cmp a b := by
  unfold minBy Spec.OptRes.minBy
  cases cmp a b <;> rfl

/-- `max!`/`max_by!` = `std::cmp::max`/`max_by` (second argument on `Equal`) -/
theorem maxBy_eq_std (cmp : α → α → Ordering) (a b : α) : maxBy cmp a b = Spec.OptRes.maxBy cmp a b := by
  unfold maxBy Spec.OptRes.maxBy
  cases cmp a b <;> rfl

/-- `min_by_key!` = `std::cmp::min_by_key`, for every key function and key comparator -/
theorem minByKey_eq_std (key : α → κ) (cmpK : κ → κ → Ordering) (a b : α) :
    minByKey key cmpK a b = Spec.OptRes.minByKey key cmpK a b := by
  simp only [minByKey, minmaxByKey, Spec.OptRes.minByKey, Spec.OptRes.minBy]
  cases h : cmpK (key a) (key b) <;> simp

/-- `max_by_key!` swaps its arguments and tests for `Less`; that is `std::cmp::max_by_key` when the
    key comparison is antisymmetric (`cmp x y = (cmp y x).swap`, which every `Ord`/`ConstCmp` key
    type satisfies) -/
theorem maxByKey_eq_std (key : α → κ) (cmpK : κ → κ → Ordering) [Std.OrientedCmp cmpK] (a b : α) :
    maxByKey key cmpK a b = Spec.OptRes.maxByKey key cmpK a b := by
  have h : cmpK (key b) (key a) = (cmpK (key a) (key b)).swap := Std.OrientedCmp.eq_swap
  simp only [maxByKey, minmaxByKey, Spec.OptRes.maxByKey, Spec.OptRes.maxBy, h]
  cases h' : cmpK (key a) (key b) <;> simp [Ordering.swap]

/-- ties: `min*` give back the first argument, `max*` the second -/
theorem minmax_ties (cmp : α → α → Ordering) (key : α → κ) (cmpK : κ → κ → Ordering)
    [Std.OrientedCmp cmpK] (a b : α) :
    (cmp a b = .eq → minBy cmp a b = a ∧ maxBy cmp a b = b) ∧
    (cmpK (key a) (key b) = .eq → minByKey key cmpK a b = a ∧ maxByKey key cmpK a b = b) := by
  constructor
  · intro h; simp [minBy, maxBy, h]
  · intro h
    have h' : cmpK (key b) (key a) = .eq := by
      rw [Std.OrientedCmp.eq_swap (cmp := cmpK), h]; rfl
    simp [minByKey, maxByKey, minmaxByKey, h, h']

/-! ## non-vacuity -/

-- the hypotheses of the rebind theorems are satisfiable (arity 3, a place, a `let`, a `_`)
example : tryRebind ⟨false, [.place, .letP, .wild]⟩ 3 false (.ok [10, 20, 30]) =
    .ok [(⟨0, .place⟩, .scalar 10), (⟨1, .letP⟩, .scalar 20), (⟨2, .wild⟩, .scalar 30)] := by decide +kernel
example : tryRebind ⟨false, [.place, .letP, .wild]⟩ 3 false (.error 5) = .ret 5 := by decide +kernel
example : rebindIfOk ⟨true, [.place]⟩ 4 false (.ok [1, 2, 3, 4]) = .ok [(⟨0, .place⟩, .tuple [1, 2, 3, 4])] := by
  decide +kernel
-- six components all arrive
example : (tryRebind ⟨false, [.place, .letP, .typedLet, .wild, .exprPlace, .place]⟩ 6 false
    (.ok [1, 2, 3, 4, 5, 6])) = .ok [(⟨0, .place⟩, .scalar 1), (⟨1, .letP⟩, .scalar 2),
      (⟨2, .typedLet⟩, .scalar 3), (⟨3, .wild⟩, .scalar 4), (⟨4, .exprPlace⟩, .scalar 5),
      (⟨5, .place⟩, .scalar 6)] := by decide +kernel
-- order matters: the same place listed twice keeps the LAST component (a store of one cell per
-- pattern kind would not see it; here the store is one cell and every place writes it)
example : (match tryRebind ⟨false, [.place, .place, .place]⟩ 3 false (.ok [1, 2, 3]) with
    | .ok ws => runWrites (fun (_ : Val) _ v => v) (.scalar 0) ws | _ => .scalar 0) = .scalar 3 := by decide +kernel
-- seven patterns do not expand; more patterns than components do not type-check
example : tryRebind ⟨false, List.replicate 7 .place⟩ 6 false (.ok [1, 2, 3, 4, 5, 6]) = .reject := by decide +kernel
example : rebindIfOk ⟨false, [.place, .place, .place]⟩ 2 false (.ok [1, 2]) = .reject := by decide +kernel
-- the key comparator of the driver is oriented
example : Std.OrientedCmp (compare : Int → Int → Ordering) := inferInstance
-- the fallback counter really counts: None calls once, Some not at all
example : (optUnwrapOrElse (none : Option Int) (fun _ => 7)).run = (7, 1) := by decide +kernel
example : (optUnwrapOrElse (some 3) (fun _ => 7)).run = (3, 0) := by decide +kernel
example : (optUnwrapOr (some 3) (Ev.call (fun _ => (7 : Int)) ())).run = (3, 1) := by decide +kernel
-- `maxByKey_eq_std` needs the orientation hypothesis: with an unlawful key comparison that always
-- answers `Less`, `max_by_key!` returns its first argument, `std::cmp::max_by_key` its second
example : maxByKey (fun x : Nat => x) (fun _ _ => Ordering.lt) 1 2 = 1 ∧
    Spec.OptRes.maxByKey (fun x : Nat => x) (fun _ _ => Ordering.lt) 1 2 = 2 := by decide +kernel

end Konst.Props.C19
