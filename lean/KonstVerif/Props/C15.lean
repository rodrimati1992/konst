import KonstVerif.Lemmas.ArrayMacros
import KonstVerif.Lemmas.ArrayHistories
import KonstVerif.Model.Destructure
import KonstVerif.Props.C11
/-
  C15 — By-value array and aggregate APIs move out every element exactly once.
  Elements are values of an arbitrary type; "exactly once, in order" is stated
  as list equalities between what was owned and what was handed out / dropped (a list equality gives
  multiplicity and order at once; with distinct ids it is the ledger the harness prints).
-/
namespace Konst.Props.C15
open Konst Konst.ArrayMacros Konst.Spec.ArrayStd Konst.Histories
open Konst.ArrayBuilder (mapFrom)
variable {α β : Type}

/-! ### `ArrayConsumer` -/

/-- every history (front/back takes, clones) from any well-formed consumer — `ArrayConsumer::new(xs)`,
    `ArrayConsumer::empty()`, or a clone — behaves exactly like the same history on a deque of the
    owned elements: same results, same drops at clone time, no read of an unwritten or already moved
    slot; the state stays well-formed and owns exactly what the deque holds -/
theorem consumer_refines_deque (fresh : Nat → α → α) (c : ArrayConsumer.Consumer α) (rem : List α) (k : Nat)
    (h : ArrayConsumer.Wf c rem) (ops : List ArrayConsumer.Op) (e : ArrayConsumer.End) :
    let r := ArrayConsumer.run fresh (c, k) ops
    let s := dqRun fresh (rem, k) ops
    r.2 = s.2 ∧ r.1.2 = s.1.2 ∧ ArrayConsumer.Wf r.1.1 s.1.1 ∧
    ArrayConsumer.asSlice r.1.1 = some s.1.1 ∧
    ArrayConsumer.finish r.1.1 e = some (dqFinish s.1.1 e) := by
  intro r s
  obtain ⟨h1, h2, h3⟩ := cons_run fresh ops c rem k h
  exact ⟨h3, h2, h1, ArrayConsumer.wf_asSlice h1, cons_finish h1 e⟩

/-- THE LEDGER LAW.  For every history of front/back takes on a consumer owning `rem`, however it ends:
    the elements handed out by `next` (in order), then the elements dropped or leaked at the end, then
    the elements handed out by `next_back` (reversed) are exactly `rem` — every element exactly once,
    in its original order, nothing twice.  Ending in `drop` (or a failing `assert_is_empty`) leaks
    nothing; ending in `forget` drops nothing and leaks exactly what was not yet taken — nothing after
    exhaustion; `assert_is_empty` succeeds iff everything was taken. -/
theorem consumer_ledger (fresh : Nat → α → α) (c : ArrayConsumer.Consumer α) (rem : List α) (k : Nat)
    (h : ArrayConsumer.Wf c rem) (ops : List ArrayConsumer.Op)
    (hops : ∀ op ∈ ops, op = .next ∨ op = .nextBack) (e : ArrayConsumer.End) :
    let r := ArrayConsumer.run fresh (c, k) ops
    ∃ fin, ArrayConsumer.finish r.1.1 e = some fin ∧
      fronts r.2 ++ (fin.dropped ++ fin.leaked) ++ (backs r.2).reverse = rem ∧
      (e = .drop → fin.leaked = [] ∧ fin.panicked = false ∧ ExactlyOnce rem (fronts r.2) fin.dropped (backs r.2)) ∧
      (e = .forget → fin.dropped = [] ∧ fin.panicked = false ∧
        ((fronts r.2).length + (backs r.2).length = rem.length → fin.leaked = [])) ∧
      (e = .assertEmpty → fin.leaked = [] ∧
        (fin.panicked = false ↔ (fronts r.2).length + (backs r.2).length = rem.length)) := by
  intro r
  obtain ⟨h1, h2, h3, _, h5⟩ := consumer_refines_deque fresh c rem k h ops e
  have hl := dq_ledger fresh ops hops rem k
  have hlen := congrArg List.length hl
  simp only [List.length_append, List.length_reverse] at hlen
  refine ⟨_, h5, ?_, ?_, ?_, ?_⟩
  · rw [h1]
    cases e with
    | drop => simpa [dqFinish] using hl
    | forget => simpa [dqFinish] using hl
    | assertEmpty =>
      cases hq : (dqRun fresh (rem, k) ops).1.1 with
      | nil => simpa [dqFinish, hq] using hl
      | cons x q => simpa [dqFinish, hq] using hl
  · intro he; subst he
    rw [h1]
    exact ⟨rfl, rfl, by simpa [ExactlyOnce, dqFinish] using hl⟩
  · intro he; subst he
    rw [h1]
    refine ⟨rfl, rfl, fun hx => ?_⟩
    simp only [dqFinish]
    exact List.eq_nil_of_length_eq_zero (by omega)
  · intro he; subst he
    rw [h1]
    cases hq : (dqRun fresh (rem, k) ops).1.1 with
    | nil =>
      rw [hq] at hlen
      simp [dqFinish]; simp at hlen; omega
    | cons x q =>
      rw [hq] at hlen
      simp [dqFinish]; simp at hlen; omega

/-- `Clone`: the clone owns fresh copies of exactly the remaining elements, in order (so the ledger law
    applies to it as to any consumer); the original is only read (the last conjunct repeats the hypothesis) -/
theorem consumer_clone_fresh (fresh : Nat → α → α) (c : ArrayConsumer.Consumer α) (rem : List α)
    (h : ArrayConsumer.Wf c rem) :
    ∃ c', ArrayConsumer.clone fresh c = some c' ∧ ArrayConsumer.Wf c' (mapFrom fresh 0 rem) ∧
      ArrayConsumer.Wf c rem := by
  obtain ⟨c', h1, h2, _⟩ := ArrayConsumer.wf_clone fresh h
  exact ⟨c', h1, h2, h⟩

/-! ### `Clone` with an element `Clone` that PANICS part-way -/

/-- the two models of `ArrayConsumer::clone` are one: with an element `Clone` that never panics the
    panic-aware loop is the plain loop -/
theorem consumer_cloneP_total (fresh : Nat → α → α) (c : ArrayConsumer.Consumer α) :
    ArrayConsumer.cloneP (fun i x => some (fresh i x)) c =
      (match ArrayConsumer.clone fresh c with | some c' => .done c' | none => .ub) :=
  cons_cloneP_total fresh c

/-- `ArrayConsumer::clone` when `T::clone` may panic (ANY element `Clone`, as a function call number →
    element → copy-or-panic), on any well-formed consumer owning `rem`:
    * if some call panics, unwinding drops EXACTLY the copies made before that call — each once, in
      order, nothing else (in particular no slot that was never written: the outcome is never `ub`);
    * otherwise the clone owns exactly the copies (and the ledger law applies to it);
    * the original is only borrowed (the last conjunct repeats the hypothesis) -/
theorem consumer_clone_panic_ledger (fresh : Nat → α → Option α) (c : ArrayConsumer.Consumer α)
    (rem : List α) (h : ArrayConsumer.Wf c rem) :
    let cp := clonesUntilPanic fresh 0 rem
    (∀ d, ArrayConsumer.cloneP fresh c = .panicked d ↔ (cp.2 = true ∧ d = cp.1)) ∧
    (cp.2 = false → ∃ c', ArrayConsumer.cloneP fresh c = .done c' ∧ ArrayConsumer.Wf c' cp.1) ∧
    (∀ c', ArrayConsumer.cloneP fresh c = .done c' → cp.2 = false) ∧
    ArrayConsumer.Wf c rem := by
  intro cp
  obtain ⟨g1, g2⟩ := cons_cloneP fresh h
  cases hp : cp.2 with
  | true =>
    have e := g1 hp
    refine ⟨fun d => ?_, by simp, fun c' hc' => ?_, h⟩
    · rw [e]; constructor
      · intro hd; cases hd; exact ⟨rfl, rfl⟩
      · rintro ⟨_, rfl⟩; rfl
    · rw [e] at hc'; cases hc'
  | false =>
    obtain ⟨c', hc', hw, _⟩ := g2 hp
    refine ⟨fun d => ?_, fun _ => ⟨c', hc', hw⟩, fun _ _ => rfl, h⟩
    rw [hc']; constructor
    · intro hd; cases hd
    · rintro ⟨hf, _⟩; cases hf

/-- the concrete case the harness exercises: `T::clone` panics on its `j`-th call.  With `j` inside the
    remaining slice the `j` copies already created are dropped exactly once and nothing else is; the
    step leaves the consumer as it was, so the rest of the history (covered by `consumer_refines_deque`,
    whose histories include such steps) sees an intact original -/
theorem consumer_clone_panic_at (fresh : Nat → α → α) (c : ArrayConsumer.Consumer α) (rem : List α)
    (k j : Nat) (h : ArrayConsumer.Wf c rem) :
    (j < rem.length →
      ArrayConsumer.cloneP (ArrayBuilder.panicAt fresh j) c = .panicked (mapFrom fresh 0 (rem.take j))) ∧
    (rem.length ≤ j → ∃ c', ArrayConsumer.cloneP (ArrayBuilder.panicAt fresh j) c = .done c' ∧
      ArrayConsumer.Wf c' (mapFrom fresh 0 rem)) ∧
    (ArrayConsumer.step fresh (c, k) (.clonePanic j)).1.1 = c ∧
    (ArrayConsumer.step fresh (c, k) (.clonePanic j)).2 =
      (if j < rem.length then .panicked (mapFrom (fun i => fresh (k + i)) 0 (rem.take j))
       else .cloned (mapFrom (fun i => fresh (k + i)) 0 rem)) := by
  obtain ⟨g1, g2⟩ := cons_cloneP (ArrayBuilder.panicAt fresh j) h
  rw [cup_panicAt] at g1 g2
  have hs := cons_step fresh k h (.clonePanic j)
  refine ⟨fun hj => ?_, fun hj => ?_, ?_, ?_⟩
  · simpa [refClonePanic, hj] using g1 (by simp [refClonePanic, hj])
  · have hn : ¬ j < rem.length := by omega
    obtain ⟨c', hc, hw, _⟩ := g2 (by simp [refClonePanic, hn])
    exact ⟨c', hc, by simpa [refClonePanic, hn] using hw⟩
  · obtain ⟨p1, p2⟩ := cons_cloneP (ArrayBuilder.panicAt (fun i => fresh (k + i)) j) h
    rw [cup_panicAt] at p1 p2
    by_cases hj : j < rem.length
    · have := p1 (by simp [refClonePanic, hj])
      simp [ArrayConsumer.step, this]
    · obtain ⟨c', hc, hw, _⟩ := p2 (by simp [refClonePanic, hj])
      simp [ArrayConsumer.step, hc, ArrayConsumer.wf_dropped hw]
  · rw [hs.2.2]
    by_cases hj : j < rem.length <;> simp [dqStep, refClonePanic, hj]

/-- the same for `ArrayBuilder::clone` (`for elem in self.as_slice() { this.push(elem.clone()) }`): for
    every history from `new()`, holding `acc`: a panicking `T::clone` drops exactly the copies pushed
    into the half-built clone so far; otherwise the clone holds exactly the copies; never `ub` -/
theorem builder_clone_panic_ledger (fresh : Nat → α → α) (cl : Nat → α → Option α) (n : Nat)
    (ops : List (ArrayBuilder.Op α)) :
    let b := (ArrayBuilder.run fresh (ArrayBuilder.new n, 0) ops).1.1
    let acc := (bvRun fresh n ([], 0) ops).1.1
    let cp := clonesUntilPanic cl 0 acc
    (cp.2 = true → ArrayBuilder.cloneP cl b = .panicked cp.1) ∧
    (cp.2 = false → ∃ c, ArrayBuilder.cloneP cl b = .done c ∧ ArrayBuilder.dropped c = some cp.1 ∧
      ArrayBuilder.asSlice c = some cp.1) ∧
    ArrayBuilder.dropped b = some acc := by
  intro b acc cp
  obtain ⟨h1, _, _, _⟩ := bld_run fresh ops (ArrayBuilder.new n) [] 0 (ArrayBuilder.wf_new n)
  have hn : (ArrayBuilder.new n : ArrayBuilder.Builder α).n = n := rfl
  rw [hn] at h1
  obtain ⟨g1, g2⟩ := bld_cloneP cl h1
  refine ⟨g1, fun hp => ?_, ArrayBuilder.wf_dropped h1⟩
  obtain ⟨c, hc, hw, _⟩ := g2 hp
  exact ⟨c, hc, ArrayBuilder.wf_dropped hw, ArrayBuilder.wf_asSlice hw⟩

/-! ### `ArrayBuilder` -/

/-- every history from `ArrayBuilder::new()`: at the end the builder owns exactly the accepted values
    `acc` (of the bounded-vector reference); `build` hands out exactly `acc` (iff full) or panics and
    drops exactly `acc`; `Drop` drops exactly `acc` — each owned element exactly once, in push order;
    the clone steps drop exactly the owned elements (resp. exactly the clones); a `clone_from` step
    between two builders (`Op.cloneFrom` / `Op.cloneInto`, observation `clonedFrom`) drops exactly the OLD
    elements of the target and afterwards exactly the source's (reference: `a = b.clone()`), and the
    builder continued with owns exactly the fresh clones of the source -/
theorem builder_ledger (fresh : Nat → α → α) (n : Nat) (ops : List (ArrayBuilder.Op α)) :
    let r := ArrayBuilder.run fresh (ArrayBuilder.new n, 0) ops
    let acc := (bvRun fresh n ([], 0) ops).1.1
    r.2 = (bvRun fresh n ([], 0) ops).2 ∧
    ArrayBuilder.dropped r.1.1 = some acc ∧
    (ArrayBuilder.build r.1.1 = .array acc ∧ acc.length = n ∨
      ArrayBuilder.build r.1.1 = .panic ∧ acc.length < n) := by
  intro r acc
  obtain ⟨h1, _, h3, h4, _, _, h7, h8⟩ := Konst.Props.C11.builder_history fresh n ops
  have hle : (bvRun fresh n ([], 0) ops).1.1.length ≤ n := by rw [← h3]; exact h4
  refine ⟨h1, h8, ?_⟩
  rw [h7]
  simp only [bvBuild]
  by_cases hf : (bvRun fresh n ([], 0) ops).1.1.length = n
  · left; exact ⟨by simp [hf, acc], hf⟩
  · right
    refine ⟨by simp [hf], ?_⟩
    show (bvRun fresh n ([], 0) ops).1.1.length < n
    omega

/-! ### by-value `map_!` -/

/-- well-behaved closure: each input element reaches the closure exactly once, in order (`calls = xs`);
    nothing is dropped or leaked by the expansion; the result holds each output exactly once, in order -/
theorem map_by_value_ledger (xs : List α) (f : α → β) (c : Nat → α → Outcome β) (fuel : Nat)
    (hf : xs.length < fuel) (hc : ∀ i a, xs[i]? = some a → c i a = .value (f a)) :
    arrayMapByVal fuel xs c = ⟨.array (xs.map f), xs, [], [], []⟩ :=
  arrayMapByVal_map xs f c fuel hf hc

/-- ANY closure (early exits included): every input element is handed to the closure, dropped with the
    consumer, or leaked — exactly once, in order; a leak happens only on the `break` path, which then
    panics in `build` (a path that does not run to completion); when no array is returned the outputs
    pushed so far are dropped; when an array is returned nothing was dropped or leaked -/
theorem map_by_value_ledger_hostile (xs : List α) (c : Nat → α → Outcome β) (fuel : Nat)
    (hf : xs.length < fuel) :
    let r := arrayMapByVal fuel xs c
    r.calls ++ r.droppedIn ++ r.leakedIn = xs ∧
    (r.leakedIn ≠ [] → r.res = .panic) ∧
    (∀ l, r.res = .array l → r.calls = xs ∧ r.droppedIn = [] ∧ r.leakedIn = [] ∧ r.droppedOut = []) := by
  intro r
  have hr : r = byValRef c xs.length 0 [] xs [] := arrayMapByVal_eq_ref xs c fuel hf
  obtain ⟨_, _, h3, h4⟩ := byValRef_ledger c xs.length xs 0 [] []
  rw [hr]
  refine ⟨h3, h4, fun l hl => ?_⟩
  obtain ⟨vs, _, _, g7, g8⟩ := byValRef_array c xs.length xs 0 [] [] l (Nat.le_of_eq (Nat.zero_add _)) hl
  rw [byValRef_value c _ xs vs 0 [] [] (Nat.zero_add _) g7 g8]
  exact ⟨rfl, rfl, rfl, rfl⟩

/-! ### `destructure!` (thin: the macro has no logic beyond its field list) -/

private theorem range_filterMap_getElem? (fields : List α) :
    (List.range fields.length).filterMap (fun i => fields[i]?) = fields := by
  induction fields with
  | nil => rfl
  | cons x r ih =>
    rw [List.length_cons, List.range_succ_eq_map, List.filterMap_cons]
    simp only [List.getElem?_cons_zero, List.filterMap_map]
    have : ((fun i => (x :: r)[i]?) ∘ Nat.succ) = fun i => r[i]? := by
      funext i; simp
    rw [this, ih]

/-- braced structs: once the guard pattern accepts the field list, the reads are a bijection onto the
    fields (a permutation: the user chooses the order); each field is either dropped immediately (`_`)
    or bound, never both, never neither -/
theorem destructure_reads_once_struct (fields : List α) (listed : List (Nat × Destructure.Pat))
    (reads : List (Destructure.Pat × α)) (h : Destructure.destructureStruct fields listed = some reads) :
    (reads.map (·.2)).Perm fields ∧
      (Destructure.immediate reads ++ Destructure.bound reads).Perm fields := by
  unfold Destructure.destructureStruct at h
  split at h
  · rename_i hg
    cases h
    have hperm : (listed.map (·.1)).Perm (List.range fields.length) := List.isPerm_iff.mp hg
    have h1 : ((Destructure.readsStruct fields listed).map (·.2)).Perm fields := by
      have : (Destructure.readsStruct fields listed).map (·.2) =
          (listed.map (·.1)).filterMap (fun i => fields[i]?) := by
        unfold Destructure.readsStruct
        rw [List.map_filterMap, List.filterMap_map]
        congr 1
        funext ip
        cases hi : fields[ip.1]? <;> simp [hi]
      rw [this]
      have := hperm.filterMap (fun i => fields[i]?)
      rwa [range_filterMap_getElem?] at this
    refine ⟨h1, ?_⟩
    unfold Destructure.immediate Destructure.bound
    rw [← List.map_append]
    exact ((List.filter_append_perm _ _).map _).trans h1
  · cases h

/-- tuples and tuple structs: the reads are the fields, each exactly once, in order -/
theorem destructure_reads_once_tuple (fields : List α) (pats : List Destructure.Pat)
    (reads : List (Destructure.Pat × α)) (h : Destructure.destructureTuple fields pats = some reads) :
    reads.map (·.2) = fields ∧ reads.map (·.1) = pats := by
  unfold Destructure.destructureTuple at h
  split at h
  · rename_i hg
    cases h
    simp only [Bool.and_eq_true, decide_eq_true_eq, beq_iff_eq] at hg
    exact ⟨List.map_snd_zip (by omega), List.map_fst_zip (by omega)⟩
  · cases h

private theorem readElems_spec (elems : List α) (pats : List Destructure.Pat) :
    ∀ i, (Destructure.readElems elems pats i).2 = i + pats.length ∧
      ((Destructure.readElems elems pats i).1.map (·.2)).flatten = (elems.drop i).take pats.length ∧
      (Destructure.readElems elems pats i).1.map (·.1) = pats := by
  induction pats with
  | nil => intro i; simp [Destructure.readElems]
  | cons p r ih =>
    intro i
    obtain ⟨h1, h2, h3⟩ := ih (i + 1)
    refine ⟨by simp [Destructure.readElems, h1]; omega, ?_, by simp [Destructure.readElems, h3]⟩
    simp only [Destructure.readElems, List.map_cons, List.flatten_cons, h2, List.length_cons]
    rw [Nat.add_comm r.length 1, List.take_add, List.drop_drop]

/-- arrays with prefix / rest / suffix: the reads, concatenated, are the elements — each exactly once,
    in order (the rest pattern takes exactly the middle `N - prefix - suffix` elements) -/
theorem destructure_reads_once_array (elems : List α) (p : Destructure.ArrayPat)
    (reads : List (Destructure.Pat × List α)) (h : Destructure.destructureArray elems p = some reads) :
    (reads.map (·.2)).flatten = elems := by
  unfold Destructure.destructureArray at h
  obtain ⟨a1, a2, _⟩ := readElems_spec elems p.pre 0
  cases hr : p.rest with
  | none =>
    simp only [hr] at h
    split at h
    · rename_i hg
      cases h
      obtain ⟨_, b2, _⟩ := readElems_spec elems p.suf (Destructure.readElems elems p.pre 0).2
      simp only [beq_iff_eq] at hg
      rw [List.map_append, List.flatten_append, a2, b2, a1]
      simp only [List.drop_zero, Nat.zero_add]
      rw [← List.take_add, hg, List.take_length]
    · cases h
  | some rp =>
    have a1' : (Destructure.readElems elems p.pre 0).2 = p.pre.length := by simpa using a1
    simp only [hr, a1'] at h
    split at h
    · rename_i hg
      cases h
      obtain ⟨_, b2, _⟩ := readElems_spec elems p.suf
        (p.pre.length + (elems.length - (p.pre.length + p.suf.length)))
      simp only [List.map_append, List.flatten_append, List.map_cons, List.map_nil, List.flatten_cons,
        List.flatten_nil, List.append_nil, a2, b2, List.drop_zero]
      rw [List.append_assoc, ← List.drop_drop, ← List.take_add, ← List.take_add]
      apply List.take_of_length_le
      omega
    · cases h

/-! ### non-vacuity -/

example : Destructure.destructureStruct [10, 11, 12] [(2, .bind), (0, .wild), (1, .bind)]
    = some [(.bind, 12), (.wild, 10), (.bind, 11)] := by decide +kernel
example : Destructure.destructureStruct [10, 11, 12] [(2, .bind), (0, .wild)] = none := by decide +kernel
example : Destructure.destructureArray [1, 2, 3, 4, 5] ⟨[.bind], some .wild, [.bind, .wild]⟩
    = some [(.bind, [1]), (.wild, [2, 3]), (.bind, [4]), (.wild, [5])] := by decide +kernel
example : ArrayConsumer.Wf (ArrayConsumer.new [1, 2, 3]) [1, 2, 3] := ArrayConsumer.wf_new _
example : (ArrayConsumer.run (fun k (_ : Nat) => k) (ArrayConsumer.new [0, 1, 2], 3)
    [.next, .nextBack, .clone, .next]).2.length = 4 := by decide +kernel
/-- `T::clone` panics on its second call while cloning a consumer that has given away its first element:
    the one copy made so far is dropped, nothing else -/
example : (match ArrayConsumer.cloneP (ArrayBuilder.panicAt (fun k (_ : Nat) => 100 + k) 1)
      { (ArrayConsumer.new [0, 1, 2, 3]) with takenFront := 1 } with
    | .panicked d => some d | _ => none) = some [100] := by decide +kernel
/-- `T::clone` never panics within the slice: the clone completes -/
example : (match ArrayConsumer.cloneP (ArrayBuilder.panicAt (fun k (_ : Nat) => 100 + k) 7)
      (ArrayConsumer.new [0, 1]) with
    | .done c => ArrayConsumer.asSlice c | _ => none) = some [100, 101] := by decide +kernel
/-- the state a clone with `taken_back` fixed BEFORE the loop would be dropped in after one write is a
    real state of the model, and dropping it reads unwritten slots (`none` = UB): this is what the
    per-element `taken_back -= 1` prevents -/
example : ArrayConsumer.dropped (⟨3, [some 100, none, none], 0, 0⟩ : ArrayConsumer.Consumer Nat) = none := by
  decide +kernel
example : clonesUntilPanic (ArrayBuilder.panicAt (fun k (x : Nat) => 10 * x + k) 2) 0 [1, 2, 3, 4]
    = ([10, 21], true) := by decide +kernel

end Konst.Props.C15
