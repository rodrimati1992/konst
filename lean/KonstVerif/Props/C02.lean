import KonstVerif.Model.Slice
import KonstVerif.Spec.Slice
import KonstVerif.Lemmas.Slice
/-
  C02 — Slice indexing and splitting functions agree with std slice indexing.
  For every list `s` (any element type: ZST and non-`Copy` included by parametricity) and every index;
  the closed forms of the model functions are in Lemmas/Slice.lean.
-/
namespace Konst.Props.C02
open Konst Konst.Slice Konst.Spec Konst.Lemmas.Slice

variable {α : Type}

/-- fallible open-ended getter = `slice.get(a..)` -/
theorem getFrom_eq_std (s : List α) (a : Nat) :
    (getFrom s.length a).map (·.apply s) = stdGetFrom s a := by
  unfold getFrom stdGetFrom
  rw [sliceFromImpl_eq]
  by_cases h : a ≤ s.length
  · rw [if_pos h, if_pos h, Option.map_some, ← sliceFrom_of_le h, sliceFrom_apply]
  · rw [if_neg h, if_neg h]; rfl

/-- `get_up_to` = `slice.get(..b)` -/
theorem getUpTo_eq_std (s : List α) (b : Nat) :
    (getUpTo s.length b).map (·.apply s) = stdGetUpTo s b := by
  unfold getUpTo stdGetUpTo
  rw [sliceUpToImpl_eq]
  by_cases h : b ≤ s.length
  · rw [if_pos h, if_pos h]; rfl
  · rw [if_neg h, if_neg h]; rfl

/-- `get_range` (composition `get_up_to` then `get_from`) = `slice.get(a..b)`, `a > b` included -/
theorem getRange_eq_std (s : List α) (a b : Nat) :
    (getRange s.length a b).map (·.apply s) = stdGetRange s a b := by
  rw [getRange_eq, stdGetRange]
  split <;> rfl

/-- single-element getter = `slice.get(i)` -/
theorem get_eq_std (s : List α) (i : Nat) :
    (Slice.get s.length i).map (·.apply s) = stdGet s i := by
  unfold Slice.get stdGet
  by_cases h : s.length > i
  · simp only [h, if_true, Option.map_some, View.apply]
    rw [List.getElem?_eq_getElem h]
    simp [List.take_one, List.head?_drop, List.getElem?_eq_getElem h]
  · simp [h]

/-- clamping `slice_from`: std's sub-slice when it exists, else the empty slice -/
theorem sliceFrom_eq_std_or_clamp (s : List α) (a : Nat) :
    (sliceFrom s.length a).apply s = (stdGetFrom s a).getD [] := by
  rw [sliceFrom_apply, stdGetFrom]
  by_cases h : a ≤ s.length
  · rw [if_pos h]; rfl
  · rw [if_neg h, List.drop_eq_nil_of_le (Nat.le_of_not_le h)]; rfl

/-- clamping `slice_up_to`: std's sub-slice when it exists, else the whole slice -/
theorem sliceUpTo_eq_std_or_clamp (s : List α) (b : Nat) :
    (sliceUpTo s.length b).apply s = (stdGetUpTo s b).getD s := by
  rw [sliceUpTo_apply, stdGetUpTo]
  by_cases h : b ≤ s.length
  · rw [if_pos h]; rfl
  · rw [if_neg h, List.take_of_length_le (Nat.le_of_not_le h)]; rfl

/-- clamping `slice_range`: always `(s.take b).drop a` (the documented clamp), which is std's
    `s[a..b]` whenever that exists -/
theorem sliceRange_eq_std_or_clamp (s : List α) (a b : Nat) :
    (sliceRange s.length a b).apply s = (s.take b).drop a ∧
    (∀ r, stdGetRange s a b = some r → (sliceRange s.length a b).apply s = r) := by
  have key : (sliceRange s.length a b).apply s = (s.take b).drop a := by
    -- `slice_from` of the result of `slice_up_to`, as views of views
    unfold sliceRange
    rw [comp_apply _ _ _ (sliceFrom_inBounds _ a), ← apply_length (sliceUpTo_inBounds s.length b),
      sliceFrom_apply, sliceUpTo_apply]
  refine ⟨key, ?_⟩
  intro r hr
  unfold stdGetRange at hr
  split at hr
  · cases hr
    rw [key, List.drop_take]
  · cases hr

/-- `split_at` = std's `split_at` when `at ≤ len`, otherwise `(slice, [])` (documented) -/
theorem splitAt_eq (s : List α) (at_ : Nat) :
    ((splitAt s.length at_).1.apply s, (splitAt s.length at_).2.apply s)
      = (stdSplitAt s at_).getD (s, []) := by
  unfold splitAt stdSplitAt
  simp only []
  rw [sliceUpTo_eq_std_or_clamp, sliceFrom_eq_std_or_clamp]
  unfold stdGetUpTo stdGetFrom
  by_cases h : at_ ≤ s.length <;> simp [h]

/-- `split_at_mut` (its own code path) addresses exactly the elements `split_at` does, and the two
    halves are disjoint, adjacent and cover the slice when `at ≤ len` -/
theorem splitAtMut_same (s : List α) (at_ : Nat) :
    (splitAtMut s.length at_).1.apply s = (splitAt s.length at_).1.apply s ∧
    (splitAtMut s.length at_).2.apply s = (splitAt s.length at_).2.apply s ∧
    (at_ ≤ s.length →
      (splitAtMut s.length at_).1 = ⟨0, at_⟩ ∧ (splitAtMut s.length at_).2 = ⟨at_, s.length - at_⟩) := by
  unfold splitAtMut
  by_cases h : at_ ≤ s.length
  · rw [if_neg (Nat.not_lt.mpr h), splitAt_of_le h]
    exact ⟨rfl, rfl, fun _ => ⟨rfl, rfl⟩⟩
  · have h' : s.length < at_ := Nat.lt_of_not_le h
    rw [if_pos h', splitAt, sliceUpTo_of_gt h', sliceFrom_of_gt h']
    exact ⟨rfl, rfl, fun h'' => absurd h'' h⟩

/-- every view any of the functions returns lies inside the argument slice (the guard that makes
    the `from_raw_parts` calls sound; feeds C01), for every length and every index -/
theorem views_in_bounds (len a b : Nat) :
    (∀ v, getFrom len a = some v → v.InBounds len) ∧
    (∀ v, getUpTo len b = some v → v.InBounds len) ∧
    (∀ v, getRange len a b = some v → v.InBounds len) ∧
    (∀ v, Slice.get len a = some v → v.InBounds len) ∧
    (sliceFrom len a).InBounds len ∧ (sliceUpTo len b).InBounds len ∧
    (sliceRange len a b).InBounds len ∧
    (splitAt len a).1.InBounds len ∧ (splitAt len a).2.InBounds len ∧
    (splitAtMut len a).1.InBounds len ∧ (splitAtMut len a).2.InBounds len := by
  refine ⟨fun _ h => sliceFromImpl_inBounds h, fun _ h => sliceUpToImpl_inBounds h, ?_, ?_,
    sliceFrom_inBounds len a, sliceUpTo_inBounds len b,
    comp_inBounds (sliceUpTo_inBounds len b) (sliceFrom_inBounds _ a),
    sliceUpTo_inBounds len a, sliceFrom_inBounds len a, ?_⟩
  · intro v h
    unfold getRange at h
    split at h
    · cases h
    · obtain ⟨w, hw, rfl⟩ := Option.map_eq_some_iff.mp h
      exact comp_inBounds (sliceUpToImpl_inBounds ‹_›) (sliceFromImpl_inBounds hw)
  · intro v h
    unfold Slice.get at h
    split at h
    · cases h; exact ‹len > a›
    · cases h
  · unfold splitAtMut View.InBounds
    split
    · exact ⟨Nat.le_of_eq (Nat.zero_add len), Nat.zero_le len⟩
    · dsimp only
      exact ⟨by omega, by omega⟩

/-- `first/last/split_first/split_last(_mut)` address the elements std's do -/
theorem first_last_eq (s : List α) :
    (first s.length).map (·.apply s) = s.head?.map (fun x => [x]) ∧
    (last s.length).map (·.apply s) = s.getLast?.map (fun x => [x]) ∧
    (splitFirst s.length).map (fun p => (p.1.apply s, p.2.apply s))
        = s.head?.map (fun x => ([x], s.tail)) ∧
    (splitLast s.length).map (fun p => (p.1.apply s, p.2.apply s))
        = s.getLast?.map (fun x => ([x], s.dropLast)) := by
  unfold first last splitFirst splitLast
  have hlast : ∀ (x : α) (r : List α), List.drop r.length (x :: r) = [(x :: r).getLast (by simp)] := by
    intro x r
    induction r generalizing x with
    | nil => simp
    | cons y r ih => simpa using ih y
  refine ⟨?_, ?_, ?_, ?_⟩
  · cases s with
    | nil => simp
    | cons x r => simp [View.apply]
  · cases s with
    | nil => simp
    | cons x r =>
      rw [List.getLast?_eq_some_getLast (by simp)]
      simp only [List.length_cons, Nat.add_one_ne_zero, if_false, Option.map_some, View.apply,
        Nat.add_sub_cancel, hlast]
      simp
  · cases s with
    | nil => simp
    | cons x r =>
      simp only [List.length_cons, Nat.add_one_ne_zero, if_false, Option.map_some, View.apply,
        Nat.add_sub_cancel, List.head?_cons, List.tail_cons]
      simp
  · cases s with
    | nil => simp
    | cons x r =>
      rw [List.getLast?_eq_some_getLast (by simp)]
      simp only [List.length_cons, Nat.add_one_ne_zero, if_false, Option.map_some, View.apply,
        Nat.add_sub_cancel, hlast]
      simp [List.dropLast_eq_take]

/-- slice → array conversion succeeds exactly when the lengths agree (as `<&[T;N]>::try_from`),
    and then views the whole slice in order -/
theorem tryIntoArray_iff (s : List α) (n : Nat) :
    ((tryIntoArray s.length n).isSome ↔ s.length = n) ∧
    (∀ v, tryIntoArray s.length n = some v → v.apply s = s) := by
  unfold tryIntoArray
  by_cases h : s.length = n
  · simp [h, View.apply]; subst h; simp
  · simp [h]

private theorem chunksExact_length (n : Nat) (hn : 0 < n) (l : List α) :
    (chunksExact n l).length = l.length / n := by
  generalize hk : l.length = k
  induction k using Nat.strongRecOn generalizing l with
  | _ k ih =>
    subst hk
    rw [chunksExact]
    by_cases h : n = 0 ∨ l.length < n
    · simp only [h, dite_true, List.length_nil]
      rcases h with h | h
      · omega
      · exact (Nat.div_eq_of_lt h).symm
    · simp only [h, dite_false, List.length_cons]
      have hge : n ≤ l.length := by omega
      rw [ih (l.length - n) (by omega) (l.drop n) (by simp)]
      have : l.length = (l.length - n) + n := by omega
      conv => rhs; rw [this, Nat.add_div_right _ hn]

private theorem suffix_apply (s : List α) {m : Nat} (h : m ≤ s.length) :
    (⟨m, s.length - m⟩ : View).apply s = s.drop m := by
  rw [← sliceFrom_of_le h, sliceFrom_apply]

/-- `as_chunks::<N>` (N ≥ 1): the part re-typed as `[[T;N]]` consists of exactly `len / N` arrays,
    which are std's chunks, and the remainder is std's remainder; `arrs_len * N + rem = len` -/
theorem asChunks_eq (s : List α) (n : Nat) (hn : 1 ≤ n) :
    ∃ a k r, asChunks s.length n = some (a, k, r) ∧
      chunksExact n (a.apply s) = (stdAsChunks n s).1 ∧
      k = (stdAsChunks n s).1.length ∧ a.len = k * n ∧
      r.apply s = (stdAsChunks n s).2 ∧ a.len + r.len = s.length ∧
      a.InBounds s.length ∧ r.InBounds s.length := by
  have hle : s.length / n * n ≤ s.length := Nat.div_mul_le_self _ _
  refine ⟨⟨0, s.length / n * n⟩, s.length / n, ⟨s.length / n * n, s.length - s.length / n * n⟩,
    ?_, rfl, ?_, rfl, suffix_apply s hle, Nat.add_sub_cancel' hle,
    Nat.le_trans (Nat.le_of_eq (Nat.zero_add _)) hle, Nat.le_of_eq (Nat.add_sub_cancel' hle)⟩
  · rw [asChunks, if_neg (Nat.ne_of_gt hn)]
    dsimp only
    rw [splitAt_of_le hle]
  · unfold stdAsChunks
    rw [chunksExact_length n hn, List.length_take, Nat.min_eq_left hle, Nat.mul_div_cancel _ hn]

theorem asRchunks_eq (s : List α) (n : Nat) (hn : 1 ≤ n) :
    ∃ r a k, asRchunks s.length n = some (r, a, k) ∧
      r.apply s = (stdAsRchunks n s).1 ∧
      chunksExact n (a.apply s) = (stdAsRchunks n s).2 ∧
      k = (stdAsRchunks n s).2.length ∧ a.len = k * n ∧ r.len + a.len = s.length ∧
      a.InBounds s.length ∧ r.InBounds s.length := by
  have hle : s.length % n ≤ s.length := Nat.mod_le _ _
  have hsub : s.length - s.length % n = s.length / n * n :=
    Nat.sub_eq_of_eq_add (Nat.div_add_mod' s.length n).symm
  refine ⟨⟨0, s.length % n⟩, ⟨s.length % n, s.length - s.length % n⟩, s.length / n,
    ?_, rfl, ?_, ?_, hsub, Nat.add_sub_cancel' hle,
    Nat.le_of_eq (Nat.add_sub_cancel' hle), Nat.le_trans (Nat.le_of_eq (Nat.zero_add _)) hle⟩
  · rw [asRchunks, if_neg (Nat.ne_of_gt hn)]
    dsimp only
    rw [splitAt_of_le hle]
  · rw [suffix_apply s hle]; rfl
  · unfold stdAsRchunks
    rw [chunksExact_length n hn, List.length_drop, hsub, Nat.mul_div_cancel _ hn]

/-- `as_chunks` / `as_rchunks` panic exactly for `N = 0` (as std's do) -/
theorem asChunks_panics_iff (len n : Nat) :
    (asChunks len n = none ↔ n = 0) ∧ (asRchunks len n = none ↔ n = 0) := by
  unfold asChunks asRchunks
  by_cases h : n = 0 <;> simp [h]

-- non-vacuity / sanity: concrete values of model and spec (kernel-evaluated)
example : (getRange 5 1 3).map (·.apply [10,11,12,13,14]) = some [11,12] := by decide +kernel
example : getRange 5 3 1 = none ∧ stdGetRange [10,11,12,13,14] 3 1 = none := by decide +kernel
example : getFrom 5 (2^64 - 1) = none := by decide +kernel
example : (sliceRange 5 4 9).apply [10,11,12,13,14] = [14] := by decide +kernel
example : asChunks 7 3 = some (⟨0, 6⟩, 2, ⟨6, 1⟩) := by decide +kernel

end Konst.Props.C02
