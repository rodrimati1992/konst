import KonstVerif.Lemmas.Range
/-
  C09 — range iteration yields exactly the values std's ranges yield.

  Model: `Konst.Range` (Model/Range.lean) — `increment`/`decrement` with their `StepRet` flags,
  `RangeIter(+Rev)`, `RangeInclusiveIter(+Rev)` with the `(MAX, MIN)` exhausted encoding,
  `RangeFromIter`, `forRange` (`for_range!`); the twelve integer types are `intStep MIN MAX`, `char` is `charStep`.
  Spec: `Konst.Spec.Range` (Spec/Range.lean) — the list of values between the bounds (scalar values
  for `char`), answered like a deque popped at either end, `None` forever once it is empty.

  Every theorem is for ALL bounds of the type (empty and inverted ranges included), ALL front/back
  histories (any length), both the forward iterator and its `.rev()`; the integer theorems for
  every `MIN`, `MAX` (so for all twelve widths at once).  `= some …` also says: no call panics
  (`opt_unwrap!` in the char stepper, `debug_assert!(!overflowed)` in `RangeIter::next_back`).
-/
namespace Konst.Props.C09
open Konst Konst.Range Konst.Spec.Range Konst.Range.Lemmas

/-- `into_iter!(a..b)` / `into_iter!(a..=b)`, or that followed by `.rev()` -/
def iterOf {α : Type} (rev : Bool) (a b : α) : Iter α :=
  if rev then (Iter.ofBounds a b).rev else Iter.ofBounds a b

theorem absIter_iterOf {α : Type} (L : Fields α → List α) (rev : Bool) (a b : α) :
    absIter L (iterOf rev a b) = if rev then (L ⟨a, b⟩).reverse else L ⟨a, b⟩ := by
  cases rev <;> rfl

theorem fields_iterOf {α : Type} (rev : Bool) (a b : α) : (iterOf rev a b).fields = ⟨a, b⟩ := by
  cases rev <;> rfl

/-- two blocks that pop the ends of `L`, wrapped by `iterator_shared!` and started on `a..b` or `(a..b).rev()`,
    answer every history like std's iterator over `L ⟨a, b⟩` -/
theorem history_iterOf {α : Type} {nb bb : Fields α → Outcome α (Fields α)} {L : Fields α → List α}
    {Inv : Fields α → Prop} (R : Refines nb bb L Inv) (rev : Bool) (a b : α) (hi : Inv ⟨a, b⟩) (h : List Dir) :
    run (mkNext nb bb) (mkNext bb nb) (iterOf rev a b) h = some (specRun rev (L ⟨a, b⟩) h) := by
  have := R.iter.history h (iterOf rev a b) (by rwa [invIter, fields_iterOf])
  rwa [absIter_iterOf] at this

theorem drain_iterOf {α : Type} {nb bb : Fields α → Outcome α (Fields α)} {L : Fields α → List α}
    {Inv : Fields α → Prop} (R : Refines nb bb L Inv) (rev : Bool) (a b : α) (hi : Inv ⟨a, b⟩) (fuel : Nat)
    (hf : (L ⟨a, b⟩).length < fuel) :
    drain (mkNext nb bb) fuel (iterOf rev a b) = some (if rev then (L ⟨a, b⟩).reverse else L ⟨a, b⟩) ∧
    drain (mkNext bb nb) fuel (iterOf rev a b) = some (if rev then L ⟨a, b⟩ else (L ⟨a, b⟩).reverse) := by
  have hi' : invIter Inv (iterOf rev a b) := by rwa [invIter, fields_iterOf]
  have h1 := R.iter.drain_eq fuel (iterOf rev a b) hi'
  have h2 := R.iter.swap.drain_eq fuel (iterOf rev a b) hi'
  rw [absIter_iterOf] at h1 h2
  cases rev
  · simp only [Bool.false_eq_true, if_false, List.length_reverse] at h1 h2 ⊢
    exact ⟨h1 hf, h2 hf⟩
  · simp only [if_true, List.length_reverse, List.reverse_reverse] at h1 h2 ⊢
    exact ⟨h1 hf, h2 hf⟩

/-! ## `a..b` and `a..=b` over the integer types -/

/-- For every integer type (any `MIN`, `MAX`), all bounds `a`, `b` of the type — also
    `a ≥ b` — and every history of `next`/`next_back` calls, `RangeIter` (`rev = false`) and `RangeIterRev`
    (`rev = true`) never panic and answer exactly like std's `a..b` / `(a..b).rev()`. -/
theorem range_history (MIN MAX : Int) (a b : Int)
    (ha : MIN ≤ a ∧ a ≤ MAX) (hb : MIN ≤ b ∧ b ≤ MAX) (rev : Bool) (h : List Dir) :
    runRange (intStep MIN MAX) (iterOf rev a b) h = some (specRun rev (rangeList a b) h) := by
  rw [runRange, RangeIter_next_eq_mkNext, RangeIter_nextBack_eq_mkNext]
  exact history_iterOf (int_range MIN MAX) rev a b ⟨ha.1, ha.2, hb.1, hb.2⟩ h

/-- The same for `a..=b`, for every `MIN < MAX`: this covers the steps that
    yield `MAX` (or `MIN` from the back) and switch to the `(MAX, MIN)` exhausted encoding. -/
theorem rangeInclusive_history (MIN MAX : Int) (hmm : MIN < MAX) (a b : Int)
    (ha : MIN ≤ a ∧ a ≤ MAX) (hb : MIN ≤ b ∧ b ≤ MAX) (rev : Bool) (h : List Dir) :
    runRangeInc (intStep MIN MAX) (iterOf rev a b) h = some (specRun rev (rangeIncList a b) h) := by
  rw [runRangeInc, RangeInclusiveIter_next_eq_mkNext, RangeInclusiveIter_nextBack_eq_mkNext]
  exact history_iterOf (int_rangeInc MIN MAX hmm) rev a b ⟨ha.1, ha.2, hb.1, hb.2⟩ h

/-! ## `char` ranges -/

/-- For all chars `a`, `b` (scalar values), every history: `'a'..'b'` yields the
    scalar values in between — ranges crossing the surrogate gap included — from either end. -/
theorem char_range_history (a b : Nat) (ha : isScalar a = true) (hb : isScalar b = true)
    (rev : Bool) (h : List Dir) :
    runRange charStep (iterOf rev a b) h = some (specRun rev (charRangeList a b) h) := by
  rw [runRange, RangeIter_next_eq_mkNext, RangeIter_nextBack_eq_mkNext]
  exact history_iterOf char_range rev a b ⟨ha, hb⟩ h

/-- The same for `'a'..='b'` (including `..=char::MAX` and `'\0'..=`). -/
theorem char_rangeInclusive_history (a b : Nat) (ha : isScalar a = true) (hb : isScalar b = true)
    (rev : Bool) (h : List Dir) :
    runRangeInc charStep (iterOf rev a b) h = some (specRun rev (charRangeIncList a b) h) := by
  rw [runRangeInc, RangeInclusiveIter_next_eq_mkNext, RangeInclusiveIter_nextBack_eq_mkNext]
  exact history_iterOf char_rangeInc rev a b ⟨ha, hb⟩ h

/-! ## `a..` -/

/-- `k` calls of `RangeFromIter::next` on `a..` yield `a, a+1, …, a+k-1` (no panic)
    as long as these stay below `MAX` (`a + k ≤ MAX`); the step at `MAX`, which std documents as overflow,
    is the subject of `rangeFrom_checked` below. -/
theorem rangeFrom_prefix (MIN MAX : Int) (a : Int) (k : Nat) (ha : MIN ≤ a) (hk : a + (k : Int) ≤ MAX) :
    runRangeFrom (intStep MIN MAX) a k = some (rangeFromList a k) :=
  int_rangeFrom MIN MAX k a ha hk

/-- The same for chars: the first `k` chars from `a` on, provided there are
    `k` chars in `a..char::MAX`. -/
theorem char_rangeFrom_prefix (a k : Nat) (ha : isScalar a = true)
    (hk : k ≤ (charRangeList a 0x10FFFF).length) :
    runRangeFrom charStep a k = some (charRangeFromList a k) :=
  char_rangeFrom k a ha hk

/-! ## `a..` up to and past the type's maximum (build profile with debug assertions / overflow checks)

Observations per step (`Tok`): an item, a panic, or the END of the iteration.  std's `RangeFrom` in this profile
(`rangeFromChecked`, `charRangeFromChecked`) yields the values below `MAX`, panics on the step that would have to
compute `MAX + 1`, and never ends. -/

/-- For every integer type and every start `a` of the type, ANY number `k` of `next` calls on
    `a..` observes exactly what std's `RangeFrom` does in the checked profile: `a, …, MAX-1`, then a panic — not
    only the prefix below MAX of `rangeFrom_prefix`. -/
theorem rangeFrom_checked (MIN MAX : Int) (a : Int) (k : Nat) (ha : a ≤ MAX) :
    pulls (RangeFromIter.next (intStep MIN MAX)) a k = Tok.ofRun (rangeFromChecked MAX a k) :=
  int_pulls MIN MAX k a ha

/-- The same for `char`: the chars from `a` on below `char::MAX`, then a panic. -/
theorem char_rangeFrom_checked (a k : Nat) (ha : isScalar a = true) :
    pulls (RangeFromIter.next charStep) a k = Tok.ofRun (charRangeFromChecked a k) :=
  char_pulls k a ha

/-- For every element type (any `Step`), whatever the consumer — `k` calls of `next`,
    `take(k)`/`zip`, `nth(n)`, `find(p)` — an iteration over `a..` never observes the end of the iteration. -/
theorem rangeFrom_never_ends {α : Type} (S : Step α) (a : α) (k : Nat) (p : α → Bool) :
    Tok.end_ ∉ pulls (RangeFromIter.next S) a k ∧ Tok.end_ ∉ takeLoop (RangeFromIter.next S) a k ∧
    Tok.end_ ∉ zipLoop (RangeFromIter.next S) a k ∧
    nthLoop (RangeFromIter.next S) a k ≠ Tok.end_ ∧ findLoop (RangeFromIter.next S) p a k ≠ Tok.end_ :=
  ⟨pulls_no_end _ (rf_next_ne_done S) k a, takeLoop_no_end _ (rf_next_ne_done S) k a,
   zipLoop_no_end _ (rf_next_ne_done S) k a,
   nthLoop_no_end _ (rf_next_ne_done S) k a, findLoop_no_end _ p (rf_next_ne_done S) k a⟩

/-- The loop of `for_each!` with a `break` after `k` items, the loop of `outer, zip(a..)` and — the countdown of
    `take` being tested at the top of the loop (`__cim_take_guard!`, commits 9827f8a, 7ecb606) — the loop of
    `a.., take(k)` observe exactly `k` calls of `next`: no item is pulled that the consumer does not get
    (any source iterator). -/
theorem rangeFrom_loops {α σ : Type} (next : σ → Outcome α σ) (s : σ) (k : Nat) :
    forEachBreak next s k = pulls next s k ∧ zipInLoop next s k = pulls next s k ∧
    takeLoop next s k = pulls next s k :=
  ⟨forEachBreak_eq_pulls next k s, zipInLoop_eq_pulls next k s, takeLoop_eq_pulls next k s⟩

/-- `a.., take(k)` observes exactly what std's `(a..).take(k)` does in the checked profile, for
    EVERY `k` — `k = MAX - a` included, where a `(k+1)`-th pull would be the step at MAX and panic. -/
theorem rangeFrom_take (MIN MAX : Int) (a : Int) (k : Nat) (ha : a ≤ MAX) :
    takeLoop (RangeFromIter.next (intStep MIN MAX)) a k = Tok.ofRun (rangeFromChecked MAX a k) :=
  int_takeLoop MIN MAX k a ha

/-- The boundary case spelled out: with `k = MAX - a` the loop observes the `k` values
    `a, …, MAX - 1` and nothing else — no panic, no `end` —, which is std's run
    (`rangeFromChecked MAX a k = (…, false)`): the step at MAX, which panics, is not taken. -/
theorem rangeFrom_take_at_max (MIN MAX : Int) (a : Int) (k : Nat) (ha : a ≤ MAX) (hk : k = (MAX - a).toNat) :
    takeLoop (RangeFromIter.next (intStep MIN MAX)) a k = (rangeFromList a k).map Tok.v ∧
    rangeFromChecked MAX a k = (rangeFromList a k, false) ∧
    pulls (RangeFromIter.next (intStep MIN MAX)) a (k + 1) = (rangeFromList a k).map Tok.v ++ [Tok.panic] := by
  refine ⟨int_takeLoop_at_max MIN MAX k a ha hk, by simp [rangeFromChecked, hk], ?_⟩
  rw [int_pulls MIN MAX (k + 1) a ha]
  simp [rangeFromChecked, Tok.ofRun, ← hk]

/-- The same for `char`: `a.., take(k)` = the first `k` chars from `a` on below `char::MAX`,
    then the panic only if fewer than `k` exist — std's `(a..).take(k)`, every `k`. -/
theorem char_rangeFrom_take (a k : Nat) (ha : isScalar a = true) :
    takeLoop (RangeFromIter.next charStep) a k = Tok.ofRun (charRangeFromChecked a k) :=
  char_takeLoop k a ha

/-- `a.., zip(other)` with `k` items in `other`: like std's `Zip`, `k + 1` items are pulled from
    `a..` — same observations for every `k`, the step at MAX included. -/
theorem rangeFrom_zip (MIN MAX : Int) (a : Int) (k : Nat) (ha : a ≤ MAX) :
    zipLoop (RangeFromIter.next (intStep MIN MAX)) a k = Tok.ofRun (zipOfRun (rangeFromChecked MAX a) k) :=
  int_zipLoop MIN MAX k a ha

/-- `zip` pulls its source before it asks the other side, `take` tests its countdown first: over any source `zip(m items)`
    observes what `take(m)` observes followed by the outcome of that one extra pull (nothing, or `panic`); over `a..`
    the two differ exactly at `k = MAX - a`, by the panic of the step at MAX — as std's `Zip` and `Take` do. -/
theorem rangeFrom_zip_vs_take :
    (∀ {α σ : Type} (next : σ → Outcome α σ) (s : σ) (m : Nat),
      ∃ t, zipLoop next s m = takeLoop next s m ++ t ∧ (t = [] ∨ t = [Tok.panic])) ∧
    (∀ (MIN MAX a : Int) (k : Nat), a ≤ MAX →
      zipLoop (RangeFromIter.next (intStep MIN MAX)) a k
        = takeLoop (RangeFromIter.next (intStep MIN MAX)) a k ++ (if k = (MAX - a).toNat then [Tok.panic] else [])) :=
  ⟨fun next s m => zipLoop_eq_takeLoop_append next m s,
   fun MIN MAX a k ha => int_zipLoop_vs_takeLoop MIN MAX k a ha⟩

/-- `eval!(a.., nth(n))` (and `next()` = `nth(0)`): the item `a + n` if it is below MAX,
    otherwise a panic — as std's `RangeFrom::nth`. -/
theorem rangeFrom_nth (MIN MAX : Int) (a : Int) (n : Nat) (ha : a ≤ MAX) :
    nthLoop (RangeFromIter.next (intStep MIN MAX)) a n = tokOfNth (nthOfRun (rangeFromChecked MAX a) n) :=
  int_nthLoop MIN MAX n a ha

/-- the driver's evaluation of `charRangeFromChecked` -/
theorem charRangeFromChecked_shortcut (a k : Nat) : charRangeFromCheckedFast a k = charRangeFromChecked a k :=
  charRangeFromCheckedFast_eq a k

/-! ## the loop of `for_each!` / `iter::eval!` / `collect_const!` -/

/-- Calling `next` until `None` (what the iteration macros do; `rev()` in a macro calls
    `next_back` instead) collects exactly std's values, in std's order, with at most `len + 1` calls. -/
theorem range_drain (MIN MAX : Int) (a b : Int) (ha : MIN ≤ a ∧ a ≤ MAX) (hb : MIN ≤ b ∧ b ≤ MAX)
    (rev : Bool) (fuel : Nat) (hf : (rangeList a b).length < fuel) :
    drain (RangeIter.next (intStep MIN MAX)) fuel (iterOf rev a b)
        = some (if rev then (rangeList a b).reverse else rangeList a b) ∧
    drain (RangeIter.nextBack (intStep MIN MAX)) fuel (iterOf rev a b)
        = some (if rev then rangeList a b else (rangeList a b).reverse) := by
  rw [RangeIter_next_eq_mkNext, RangeIter_nextBack_eq_mkNext]
  exact drain_iterOf (int_range MIN MAX) rev a b ⟨ha.1, ha.2, hb.1, hb.2⟩ fuel hf

theorem rangeInclusive_drain (MIN MAX : Int) (hmm : MIN < MAX) (a b : Int)
    (ha : MIN ≤ a ∧ a ≤ MAX) (hb : MIN ≤ b ∧ b ≤ MAX)
    (rev : Bool) (fuel : Nat) (hf : (rangeIncList a b).length < fuel) :
    drain (RangeInclusiveIter.next (intStep MIN MAX)) fuel (iterOf rev a b)
        = some (if rev then (rangeIncList a b).reverse else rangeIncList a b) ∧
    drain (RangeInclusiveIter.nextBack (intStep MIN MAX)) fuel (iterOf rev a b)
        = some (if rev then rangeIncList a b else (rangeIncList a b).reverse) := by
  rw [RangeInclusiveIter_next_eq_mkNext, RangeInclusiveIter_nextBack_eq_mkNext]
  exact drain_iterOf (int_rangeInc MIN MAX hmm) rev a b ⟨ha.1, ha.2, hb.1, hb.2⟩ fuel hf

theorem char_range_drain (a b : Nat) (ha : isScalar a = true) (hb : isScalar b = true)
    (rev : Bool) (fuel : Nat) (hf : (charRangeList a b).length < fuel) :
    drain (RangeIter.next charStep) fuel (iterOf rev a b)
        = some (if rev then (charRangeList a b).reverse else charRangeList a b) ∧
    drain (RangeIter.nextBack charStep) fuel (iterOf rev a b)
        = some (if rev then charRangeList a b else (charRangeList a b).reverse) := by
  rw [RangeIter_next_eq_mkNext, RangeIter_nextBack_eq_mkNext]
  exact drain_iterOf char_range rev a b ⟨ha, hb⟩ fuel hf

theorem char_rangeInclusive_drain (a b : Nat) (ha : isScalar a = true) (hb : isScalar b = true)
    (rev : Bool) (fuel : Nat) (hf : (charRangeIncList a b).length < fuel) :
    drain (RangeInclusiveIter.next charStep) fuel (iterOf rev a b)
        = some (if rev then (charRangeIncList a b).reverse else charRangeIncList a b) ∧
    drain (RangeInclusiveIter.nextBack charStep) fuel (iterOf rev a b)
        = some (if rev then charRangeIncList a b else (charRangeIncList a b).reverse) := by
  rw [RangeInclusiveIter_next_eq_mkNext, RangeInclusiveIter_nextBack_eq_mkNext]
  exact drain_iterOf char_rangeInc rev a b ⟨ha, hb⟩ fuel hf

/-! ## the spec deque -/

theorem exhausted_forever {α : Type} (h : List Dir) : dequeRun ([] : List α) h = h.map fun _ => none :=
  dequeRun_nil h

theorem rev_swaps_ends {α : Type} (l : List α) (h : List Dir) :
    specRun true l h = specRun false l (h.map flipDir) := by
  simp only [specRun, if_true, Bool.false_eq_true, if_false]
  exact dequeRun_reverse h l

/-! ## the driver's evaluation shortcuts equal the plain specification (for all inputs) -/

theorem dequeRunFast_eq {α : Type} (l : List α) (h : List Dir) : dequeRunFast l h = dequeRun l h :=
  Lemmas.dequeRunFast_eq l h

theorem rangeSpec_shortcut (rev : Bool) (a b : Int) (h : List Dir) :
    specAnswer rev (rangeEnds a b h.length) (fun _ => rangeList a b) h = specRun rev (rangeList a b) h :=
  specAnswer_eq rev _ _ h (fun l1 l2 e => rangeEnds_split a b h.length l1 l2 e)

theorem rangeIncSpec_shortcut (rev : Bool) (a b : Int) (h : List Dir) :
    specAnswer rev (rangeIncEnds a b h.length) (fun _ => rangeIncList a b) h = specRun rev (rangeIncList a b) h :=
  specAnswer_eq rev _ _ h (fun l1 l2 e => rangeIncEnds_split a b h.length l1 l2 e)

theorem charRangeSpec_shortcut (rev : Bool) (a b : Nat) (h : List Dir) :
    specAnswer rev (charRangeEnds a b h.length) (fun _ => charRangeList a b) h = specRun rev (charRangeList a b) h :=
  specAnswer_eq rev _ _ h (fun l1 l2 e => charRangeEnds_split a b h.length l1 l2 e)

theorem charRangeIncSpec_shortcut (rev : Bool) (a b : Nat) (h : List Dir) :
    specAnswer rev (charRangeIncEnds a b h.length) (fun _ => charRangeIncList a b) h
      = specRun rev (charRangeIncList a b) h :=
  specAnswer_eq rev _ _ h (fun l1 l2 e => charRangeIncEnds_split a b h.length l1 l2 e)

theorem charRangeFrom_shortcut (a k : Nat) : charRangeFromFast a k = charRangeFromList a k :=
  charRangeFromFast_eq a k

/-! ## `for_range!` -/

/-- `for_range!{x in a..b => ..}` binds exactly the values of `a..b` in order — for every
    pair of bounds, inverted and empty ranges included (then the body never runs). -/
theorem forRange_eq (a b : Int) : ∀ (fuel : Nat), (rangeList a b).length ≤ fuel →
    forRange a b fuel = rangeList a b := by
  intro fuel
  induction fuel generalizing a with
  | zero =>
    intro h
    exact (List.eq_nil_of_length_eq_zero (Nat.le_zero.mp h)).symm
  | succ f ih =>
    intro h
    rw [forRange]
    by_cases hab : a < b
    · rw [rangeList_cons hab] at h ⊢
      rw [if_pos hab, ih (a + 1) (Nat.le_of_succ_le_succ h)]
    · rw [if_neg hab, rangeList_nil (Int.not_lt.mp hab)]

example : forRange 5 2 10 = [] ∧ forRange (-2) 1 10 = [-2, -1, 0] := by decide +kernel

/-! ## non-vacuity: the hypotheses are satisfiable and the statements are about real behaviour -/

-- i8: a range touching MAX, consumed from both ends; the last front step yields MAX = 127 and the
-- iterator goes to the (MAX, MIN) encoding, after which both ends answer `None`
example : runRangeInc (intStep (-128) 127) (iterOf false 125 127) [.f, .b, .f, .f, .b]
    = some [some 125, some 127, some 126, none, none] := by decide +kernel
example : rangeIncNextBlock (intStep (-128) 127) ⟨127, 127⟩ = .item 127 ⟨127, -128⟩ := by decide +kernel
example : rangeIncNextBackBlock (intStep (-128) 127) ⟨-128, -128⟩ = .item (-128) ⟨127, -128⟩ := by decide +kernel
-- inverted and empty ranges
example : runRange (intStep (-128) 127) (iterOf false 5 (-5)) [.f, .b] = some [none, none] := by decide +kernel
example : runRange (intStep 0 255) (iterOf true 3 6) [.f, .f, .b, .f] = some [some 5, some 4, some 3, none] := by decide +kernel
-- a char range crossing the surrogate gap, from both ends
example : runRangeInc charStep (iterOf false 0xD7FE 0xE001) [.f, .b, .f, .b, .f]
    = some [some 0xD7FE, some 0xE001, some 0xD7FF, some 0xE000, none] := by decide +kernel
example : charRangeList 0xD7FE 0xD802 = [0xD7FE, 0xD7FF] := by decide +kernel
-- the hypotheses of the theorems are satisfiable
example : ∃ MIN MAX a b : Int, MIN < MAX ∧ (MIN ≤ a ∧ a ≤ MAX) ∧ (MIN ≤ b ∧ b ≤ MAX) := ⟨-128, 127, 3, 5, by decide⟩
example : isScalar 0xD7FF = true ∧ isScalar 0xE000 = true ∧ isScalar 0xD800 = false := by decide +kernel
example : runRangeFrom (intStep 0 255) 252 3 = some [252, 253, 254] := by decide +kernel
-- outside the scope of `rangeFrom_prefix`: pulling MAX trips the `debug_assert!`
example : runRangeFrom (intStep 0 255) 254 2 = none := by decide +kernel
example : runRangeFrom charStep 0xD7FE 3 = some [0xD7FE, 0xD7FF, 0xE000] := by decide +kernel
-- `a..` driven to MAX: values below MAX, then the panic; `take(k)` pulls exactly `k` items like std's `Take`, so it
-- stops before the step at MAX (`253.., take(2)`, `255.., take(0)`), `zip` does not
example : pulls (RangeFromIter.next (intStep 0 255)) 253 4 = [.v 253, .v 254, .panic] := by decide +kernel
example : rangeFromChecked 255 253 4 = ([253, 254], true) ∧ rangeFromChecked 255 253 2 = ([253, 254], false) := by decide +kernel
example : takeLoop (RangeFromIter.next (intStep 0 255)) 253 2 = [.v 253, .v 254] := by decide +kernel
example : takeLoop (RangeFromIter.next (intStep 0 255)) 253 1 = [.v 253] := by decide +kernel
example : takeLoop (RangeFromIter.next (intStep 0 255)) 253 3 = [.v 253, .v 254, .panic] := by decide +kernel
example : takeLoop (RangeFromIter.next (intStep 0 255)) 255 0 = [] ∧
    takeLoop (RangeFromIter.next (intStep 0 255)) 255 1 = [.panic] := by decide +kernel
example : takeLoop (RangeFromIter.next charStep) 0x10FFFE 1 = [.v 0x10FFFE] ∧
    takeLoop (RangeFromIter.next charStep) 0x10FFFE 2 = [.v 0x10FFFE, .panic] := by decide +kernel
-- a source that counts its calls: `take(2)` makes two, `zip` of a 2-item iterator three
example : takeLoop (fun (s : Nat) => Outcome.item s (s + 1)) 0 2 = [.v 0, .v 1] ∧
    takeLoop (fun (s : Nat) => if s < 2 then Outcome.item s (s + 1) else .panic) 0 2 = [.v 0, .v 1] ∧
    zipLoop (fun (s : Nat) => if s < 2 then Outcome.item s (s + 1) else .panic) 0 2 = [.v 0, .v 1, .panic] := by decide +kernel
example : zipLoop (RangeFromIter.next (intStep 0 255)) 253 2 = [.v 253, .v 254, .panic] ∧
    zipOfRun (rangeFromChecked 255 253) 2 = ([253, 254], true) := by decide +kernel
example : nthLoop (RangeFromIter.next (intStep (-128) 127)) 125 1 = .v 126 ∧
    nthLoop (RangeFromIter.next (intStep (-128) 127)) 125 2 = .panic := by decide +kernel
example : pulls (RangeFromIter.next charStep) 0x10FFFE 3 = [.v 0x10FFFE, .panic] := by decide +kernel
-- an iterator that does return `None` at MAX is observed as `end` by every loop (what the check looks for)
example : pulls (fun (s : Nat) => if s < 3 then Outcome.item s (s + 1) else .done) 1 4 = [.v 1, .v 2, .end_] ∧
    takeLoop (fun (s : Nat) => if s < 3 then Outcome.item s (s + 1) else .done) 1 4 = [.v 1, .v 2, .end_] ∧
    nthLoop (fun (s : Nat) => if s < 3 then Outcome.item s (s + 1) else .done) 1 4 = .end_ := by decide +kernel

end Konst.Props.C09
