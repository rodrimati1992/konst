import KonstVerif.Lemmas.Cmp
/-
  C16 — Comparison functions and macros agree with std equality and ordering.

  Every theorem is about the definitions of `Model/Cmp.lean` (which the driver executes against the
  real code) and the std reference of `Spec/Cmp.lean`. A model result `some v` means "returned `v`
  without panicking". No theorem bounds a length or a value.

  The order laws (`*_total_order`, `total_order_laws`) are corollaries of `cmpSlice_eq_lex` … `cmpOption_eq_std`: the
  as-found length-first comparator satisfies the same laws and still is not `Ord::cmp` (`Legacy/Cmp.lean`).
-/
namespace Konst.Props.C16
open Konst.Cmp Konst.Spec.Cmp Konst.Lemmas.Cmp

/-! ## eq_iff -/

/-- `eq_slice_*` / `eq_bytes` never panic and return `left == right` -/
theorem eqSlice_iff (l r : List Int) : eqSlice l r = some (stdEq l r) := eqSlice_spec l r

/-- `eq_str` never panics and returns `left == right` -/
theorem eqStr_iff (l r : List Int) : eqStr l r = some (stdEq l r) := eqStr_spec l r

/-- `const_eq!` on integers / bool / char (`CmpWrapper<$ty>::const_eq`) is `==` -/
theorem eqPrim_iff (a b : Int) : eqPrim a b = stdEq a b := rfl

/-- `eq_nonzero*` is `==` -/
theorem eqNonZero_iff (a b : Int) : eqNonZero a b = stdEq a b := rfl

/-- `eq_ordering` (comparison of the `as i8` casts) is `==` on `Ordering` -/
theorem eqOrdering_iff (a b : Ordering) : eqOrdering a b = stdEq a b := by
  cases a <;> cases b <;> decide

/-- `eq_range_*` is `==` on `Range` -/
theorem eqRange_iff (a b : RangeV) : eqRange a b = stdEq a b := by
  obtain ⟨a1, a2⟩ := a; obtain ⟨b1, b2⟩ := b
  unfold eqRange stdEq
  by_cases h1 : a1 = b1 <;> by_cases h2 : a2 = b2 <;> simp [h1, h2]

/-- what `eq_rangeinc_*` computes for ALL inputs: equality of the bounds -/
theorem eqRangeInc_bounds_only (a b : RangeIncV) :
    eqRangeInc a b = stdEq (a.1, a.2.1) (b.1, b.2.1) := by
  obtain ⟨a1, a2, a3⟩ := a; obtain ⟨b1, b2, b3⟩ := b
  unfold eqRangeInc stdEq
  by_cases h1 : a1 = b1 <;> by_cases h2 : a2 = b2 <;> simp [h1, h2]

/- Full statement (FALSE for the code as it is, see `eqRangeInc_exhausted_differs`):
     ∀ a b : RangeIncV, eqRangeInc a b = stdEq a b
   Proved part: it holds whenever the two `exhausted` flags agree (in particular for all ranges
   written `a..=b` / built with `RangeInclusive::new`, whose flag is `false`). Missing: pairs where
   exactly one range has been iterated to exhaustion — std's derived `==` sees the private flag,
   konst compares `start()`/`end()` only. -/
theorem eqRangeInc_iff_partial (a b : RangeIncV) (h : a.2.2 = b.2.2) :
    eqRangeInc a b = stdEq a b := by
  obtain ⟨a1, a2, a3⟩ := a; obtain ⟨b1, b2, b3⟩ := b
  simp only at h; subst h
  unfold eqRangeInc stdEq
  by_cases h1 : a1 = b1 <;> by_cases h2 : a2 = b2 <;> simp [h1, h2]

/-- exact characterisation of the divergence: konst says equal and std says different precisely
    when the bounds agree and the `exhausted` flags differ (never the other way round) -/
theorem eqRangeInc_exhausted_differs (a b : RangeIncV) :
    eqRangeInc a b ≠ stdEq a b ↔
      (eqRangeInc a b = true ∧ stdEq a b = false ∧ a.1 = b.1 ∧ a.2.1 = b.2.1 ∧ a.2.2 ≠ b.2.2) := by
  obtain ⟨a1, a2, a3⟩ := a; obtain ⟨b1, b2, b3⟩ := b
  unfold eqRangeInc stdEq
  by_cases h1 : a1 = b1 <;> by_cases h2 : a2 = b2 <;> by_cases h3 : a3 = b3 <;> simp [h1, h2, h3]

/-- `eq_option_*`: `==` on `Option`, for any payload comparison that is `==` -/
theorem eqOption_iff {α : Type} [DecidableEq α] (eq : α → α → Option Bool)
    (heq : ∀ a b, eq a b = some (stdEq a b)) (x y : Option α) :
    eqOption eq x y = some (stdEq x y) := by
  cases x <;> cases y <;> simp [eqOption, heq, stdEq]

/-- `const_eq_for!(option; …)` -/
theorem constEqForOption_iff {α : Type} [DecidableEq α] (eq : α → α → Option Bool)
    (heq : ∀ a b, eq a b = some (stdEq a b)) (x y : Option α) :
    constEqForOption eq x y = some (stdEq x y) := by
  cases x <;> cases y <;> simp [constEqForOption, heq, stdEq]

/-- `const_eq_for!(slice; l, r, e)` for an arbitrary (non-panicking) element test `e`: same length
    and `e` holds position-wise -/
theorem constEqForSlice_eq_listEqBy {α : Type} (eq : α → α → Option Bool) (e : α → α → Bool)
    (he : ∀ a b, eq a b = some (e a b)) (l r : List α) :
    constEqForSlice eq l r = some (listEqBy e l r) := constEqForSlice_spec eq e he l r

/-- `const_eq_for!(slice; …)` with an element test that is `==`: `==` on slices -/
theorem constEqForSlice_iff {α : Type} [DecidableEq α] (eq : α → α → Option Bool)
    (heq : ∀ a b, eq a b = some (stdEq a b)) (l r : List α) :
    constEqForSlice eq l r = some (stdEq l r) := by
  rw [constEqForSlice_spec eq stdEq heq, listEqBy_decide stdEq (fun _ _ => rfl)]
  rfl

/-- `const_eq_for!(range; …)` with an element test that is `==` -/
theorem constEqForRange_iff (eq : Int → Int → Bool) (heq : ∀ a b, eq a b = stdEq a b)
    (a b : RangeV) : constEqForRange eq a b = stdEq a b := by
  rw [← eqRange_iff]; simp [constEqForRange, eqRange, heq, stdEq]

/-- `const_eq_for!(range_inclusive; …)`; same restriction as `eqRangeInc_iff_partial`
    (full statement without `h` is false for the same reason) -/
theorem constEqForRangeInc_iff_partial (eq : Int → Int → Bool) (heq : ∀ a b, eq a b = stdEq a b)
    (a b : RangeIncV) (h : a.2.2 = b.2.2) : constEqForRangeInc eq a b = stdEq a b := by
  rw [← eqRangeInc_iff_partial a b h]; simp [constEqForRangeInc, eqRangeInc, heq, stdEq]

/-- `eq_slice_str` is `==` on `&[&str]` (instantiation with `eq_str`) -/
theorem eqSliceStr_iff (l r : List (List Int)) : eqSliceStr l r = some (stdEq l r) :=
  constEqForSlice_iff eqStr eqStr_iff l r

/-- `eq_slice_bytes` is `==` on `&[&[u8]]` (instantiation with `eq_slice_u8`) -/
theorem eqSliceBytes_iff (l r : List (List Int)) : eqSliceBytes l r = some (stdEq l r) :=
  constEqForSlice_iff eqSlice eqSlice_iff l r

/-! ## cmp_eq_lex and the scalar comparisons -/

/-- `cmp_int!` (`cmp_u8` … `cmp_char`) is `Ord::cmp` -/
theorem cmpInt_eq_std (a b : Int) : cmpInt a b = stdCmpScalar a b := cmpInt_eq_compare a b

/-- `cmp_nonzero*` is `Ord::cmp` -/
theorem cmpNonZero_eq_std (a b : Int) : cmpNonZero a b = stdCmpScalar a b := cmpInt_eq_std a b

/-- `cmp_ordering` is `Ord::cmp` on `Ordering` (`Less < Equal < Greater`) -/
theorem cmpOrdering_eq_std (a b : Ordering) : cmpOrdering a b = stdCmpOrdering a b := by
  cases a <;> cases b <;> decide

/-- `cmp_slice_*` / `cmp_bytes` never panic and return the lexicographic `Ord::cmp` -/
theorem cmpSlice_eq_lex (l r : List Int) : cmpSlice l r = some (lexCmp stdCmpScalar l r) :=
  cmpSliceInner_spec l r

/-- `cmp_str` never panics and returns the (byte-wise lexicographic) `Ord::cmp` of `str` -/
theorem cmpStr_eq_lex (l r : List Int) : cmpStr l r = some (lexCmp stdCmpScalar l r) :=
  cmpStrInner_spec l r

/-- `const_cmp_for!(slice; l, r, c)` is the lexicographic order w.r.t. ANY (non-panicking) element
    comparison `c` -/
theorem constCmpForSlice_eq_lex {α : Type} (cmp : α → α → Option Ordering) (c : α → α → Ordering)
    (hc : ∀ a b, cmp a b = some (c a b)) (l r : List α) :
    constCmpForSlice cmp l r = some (lexCmp c l r) := by
  induction l generalizing r with
  | nil => cases r <;> rfl
  | cons a as ih =>
    cases r with
    | nil => rfl
    | cons b bs =>
      simp only [constCmpForSlice, hc, lexCmp, ih bs]
      cases c a b <;> rfl

/-- `cmp_slice_str`: lexicographic over lexicographically compared strings -/
theorem cmpSliceStr_eq_lex (l r : List (List Int)) :
    cmpSliceStr l r = some (lexCmp (lexCmp stdCmpScalar) l r) :=
  constCmpForSlice_eq_lex cmpStr _ cmpStr_eq_lex l r

/-- `cmp_slice_bytes`: lexicographic over lexicographically compared byte slices -/
theorem cmpSliceBytes_eq_lex (l r : List (List Int)) :
    cmpSliceBytes l r = some (lexCmp (lexCmp stdCmpScalar) l r) :=
  constCmpForSlice_eq_lex cmpSlice _ cmpSlice_eq_lex l r

/-- sanity of the specification itself: `lexCmp … = Less` is exactly Lean core's lexicographic
    `<` on lists (`List.Lex`), so the spec is the textbook order and not an artefact of this file -/
theorem lexCmp_lt_iff_listLt (l r : List Int) : lexCmp stdCmpScalar l r = .lt ↔ l < r := by
  induction l generalizing r with
  | nil => cases r <;> simp [lexCmp]
  | cons a as ih =>
    cases r with
    | nil => simp [lexCmp]
    | cons b bs =>
      simp only [lexCmp, then_eq_lt, ih bs, List.cons_lt_cons_iff]
      unfold stdCmpScalar
      rw [Int.compare_eq_lt, Int.compare_eq_eq]

/-! ## cmp_option -/

/-- `cmp_option_*`: `None` before `Some`, payloads by the payload comparison -/
theorem cmpOption_eq_std {α : Type} (cmp : α → α → Option Ordering) (c : α → α → Ordering)
    (hc : ∀ a b, cmp a b = some (c a b)) (x y : Option α) :
    cmpOption cmp x y = some (optCmp c x y) := by
  cases x <;> cases y <;> simp [cmpOption, optCmp, hc]

/-- `const_cmp_for!(option; …)` -/
theorem constCmpForOption_eq_std {α : Type} (cmp : α → α → Option Ordering) (c : α → α → Ordering)
    (hc : ∀ a b, cmp a b = some (c a b)) (x y : Option α) :
    constCmpForOption cmp x y = some (optCmp c x y) := by
  cases x <;> cases y <;> simp [constCmpForOption, optCmp, hc]

/-! ## cmp_equal_iff_eq -/

/-- generic form: whenever a comparison computes a std total order and an equality test computes
    `==`, `cmp == Equal` exactly when `eq` -/
theorem cmp_equal_iff_eq {α : Type} [DecidableEq α] (c : α → α → Ordering) (hord : IsTotalOrder c)
    (cmp : α → α → Option Ordering) (eq : α → α → Option Bool)
    (hcmp : ∀ a b, cmp a b = some (c a b)) (heq : ∀ a b, eq a b = some (stdEq a b)) (a b : α) :
    cmp a b = some .eq ↔ eq a b = some true := by
  rw [hcmp, heq]
  simp [stdEq, hord.eq_iff]

theorem cmpSlice_equal_iff_eq (l r : List Int) : cmpSlice l r = some .eq ↔ eqSlice l r = some true :=
  cmp_equal_iff_eq _ (lex_isTotalOrder int_isTotalOrder) _ _ cmpSlice_eq_lex eqSlice_iff l r

theorem cmpStr_equal_iff_eq (l r : List Int) : cmpStr l r = some .eq ↔ eqStr l r = some true :=
  cmp_equal_iff_eq _ (lex_isTotalOrder int_isTotalOrder) _ _ cmpStr_eq_lex eqStr_iff l r

theorem cmpSliceStr_equal_iff_eq (l r : List (List Int)) :
    cmpSliceStr l r = some .eq ↔ eqSliceStr l r = some true :=
  cmp_equal_iff_eq _ (lex_isTotalOrder (lex_isTotalOrder int_isTotalOrder)) _ _
    cmpSliceStr_eq_lex eqSliceStr_iff l r

theorem cmpSliceBytes_equal_iff_eq (l r : List (List Int)) :
    cmpSliceBytes l r = some .eq ↔ eqSliceBytes l r = some true :=
  cmp_equal_iff_eq _ (lex_isTotalOrder (lex_isTotalOrder int_isTotalOrder)) _ _
    cmpSliceBytes_eq_lex eqSliceBytes_iff l r

theorem cmpInt_equal_iff_eq (a b : Int) : cmpInt a b = .eq ↔ eqPrim a b = true := by
  rw [cmpInt_eq_std, int_isTotalOrder.eq_iff]; simp [eqPrim]

theorem cmpNonZero_equal_iff_eq (a b : Int) : cmpNonZero a b = .eq ↔ eqNonZero a b = true :=
  cmpInt_equal_iff_eq a b

theorem cmpOrdering_equal_iff_eq (a b : Ordering) : cmpOrdering a b = .eq ↔ eqOrdering a b = true := by
  cases a <;> cases b <;> decide

/-- `Option` versions, for any payload whose `cmp`/`eq` are std's -/
theorem cmpOption_equal_iff_eq {α : Type} [DecidableEq α] (c : α → α → Ordering) (hord : IsTotalOrder c)
    (cmp : α → α → Option Ordering) (eq : α → α → Option Bool)
    (hcmp : ∀ a b, cmp a b = some (c a b)) (heq : ∀ a b, eq a b = some (stdEq a b))
    (x y : Option α) : cmpOption cmp x y = some .eq ↔ eqOption eq x y = some true :=
  cmp_equal_iff_eq _ (opt_isTotalOrder hord) _ _ (cmpOption_eq_std cmp c hcmp) (eqOption_iff eq heq) x y

/-! ## order laws — corollaries of `cmpSlice_eq_lex` … `cmpOption_eq_std` -/

/-- packaged statement: the function never panics and its value is a total order
    (`Equal` iff equal, antisymmetric/total via `swap`, transitive) -/
def ComputesTotalOrder {α : Type} (cmp : α → α → Option Ordering) : Prop :=
  ∃ c, (∀ a b, cmp a b = some (c a b)) ∧ IsTotalOrder c

theorem cmpInt_total_order : IsTotalOrder cmpInt := by
  have : cmpInt = stdCmpScalar := by funext a b; exact cmpInt_eq_std a b
  rw [this]; exact int_isTotalOrder

theorem cmpOrdering_total_order : IsTotalOrder cmpOrdering := by
  have : cmpOrdering = stdCmpOrdering := by funext a b; exact cmpOrdering_eq_std a b
  rw [this]; exact ordering_isTotalOrder

theorem cmpSlice_total_order : ComputesTotalOrder cmpSlice :=
  ⟨_, cmpSlice_eq_lex, lex_isTotalOrder int_isTotalOrder⟩

theorem cmpStr_total_order : ComputesTotalOrder cmpStr :=
  ⟨_, cmpStr_eq_lex, lex_isTotalOrder int_isTotalOrder⟩

theorem cmpSliceStr_total_order : ComputesTotalOrder cmpSliceStr :=
  ⟨_, cmpSliceStr_eq_lex, lex_isTotalOrder (lex_isTotalOrder int_isTotalOrder)⟩

theorem cmpSliceBytes_total_order : ComputesTotalOrder cmpSliceBytes :=
  ⟨_, cmpSliceBytes_eq_lex, lex_isTotalOrder (lex_isTotalOrder int_isTotalOrder)⟩

/-- `const_cmp_for!(slice; …)` with an element comparison that computes a total order -/
theorem constCmpForSlice_total_order {α : Type} (cmp : α → α → Option Ordering)
    (h : ComputesTotalOrder cmp) : ComputesTotalOrder (constCmpForSlice cmp) := by
  obtain ⟨c, hc, hord⟩ := h
  exact ⟨_, constCmpForSlice_eq_lex cmp c hc, lex_isTotalOrder hord⟩

/-- `cmp_option_*` / `const_cmp_for!(option; …)` over a payload comparison that computes a total order -/
theorem cmpOption_total_order {α : Type} (cmp : α → α → Option Ordering)
    (h : ComputesTotalOrder cmp) : ComputesTotalOrder (cmpOption cmp) := by
  obtain ⟨c, hc, hord⟩ := h
  exact ⟨_, cmpOption_eq_std cmp c hc, opt_isTotalOrder hord⟩

/-- the three laws spelled out for anything that `ComputesTotalOrder` -/
theorem total_order_laws {α : Type} (cmp : α → α → Option Ordering) (h : ComputesTotalOrder cmp) :
    -- total (trichotomy)
    (∀ a b, cmp a b = some .lt ∨ a = b ∨ cmp b a = some .lt) ∧
    -- antisymmetric
    (∀ a b o, cmp a b = some o → cmp b a = some o.swap) ∧
    -- transitive
    (∀ a b c, cmp a b = some .lt → cmp b c = some .lt → cmp a c = some .lt) ∧
    -- Equal exactly on equal values
    (∀ a b, cmp a b = some .eq ↔ a = b) := by
  obtain ⟨c, hc, hord⟩ := h
  refine ⟨?_, ?_, ?_, ?_⟩
  · intro a b; simp only [hc, Option.some.injEq]; exact hord.total a b
  · intro a b o; simp only [hc, Option.some.injEq]; intro h; rw [← h]; exact hord.swap a b
  · intro x y z; simp only [hc, Option.some.injEq]; exact hord.trans_lt x y z
  · intro a b; simp only [hc, Option.some.injEq]; exact hord.eq_iff a b

/-- e.g. for `cmp_slice_*`: total, antisymmetric, transitive -/
theorem cmpSlice_laws :
    (∀ a b, cmpSlice a b = some .lt ∨ a = b ∨ cmpSlice b a = some .lt) ∧
    (∀ a b o, cmpSlice a b = some o → cmpSlice b a = some o.swap) ∧
    (∀ a b c, cmpSlice a b = some .lt → cmpSlice b c = some .lt → cmpSlice a c = some .lt) ∧
    (∀ a b, cmpSlice a b = some .eq ↔ a = b) :=
  total_order_laws cmpSlice cmpSlice_total_order

/-! ## assertc_eq! / assertc_ne! -/

/-- `assertc_eq!(l, r)` panics exactly when `l == r` is false (given a `const_eq` that is `==`) -/
theorem assertcEq_panics_iff {α : Type} [DecidableEq α] (e : Option Bool) (a b : α)
    (he : e = some (stdEq a b)) : assertcEq e = .panic ↔ a ≠ b := by
  subst he
  by_cases h : a = b <;> simp [assertcEq, cmpAssertInner, stdEq, h]

/-- `assertc_ne!(l, r)` panics exactly when `l != r` is false -/
theorem assertcNe_panics_iff {α : Type} [DecidableEq α] (e : Option Bool) (a b : α)
    (he : e = some (stdEq a b)) : assertcNe e = .panic ↔ a = b := by
  subst he
  by_cases h : a = b <;> simp [assertcNe, cmpAssertInner, stdEq, h]

/-! ## argument expressions of the macros: evaluated once each, left before right -/

theorem _root_.Konst.Cmp.ArgExpr.eval_zero {α : Type} (e : ArgExpr α) : e.eval 0 = e.first := by
  simp [ArgExpr.eval]

/-- what std's `==` / `Ord::cmp` / `assert_eq!` do with their operand expressions, and what
    `ArgUse.once` says: `$left` then `$right`, one evaluation each, and the comparison is applied
    to the values those two evaluations produced -/
theorem once_is_std {α : Type} (l r : ArgExpr α) :
    ArgUse.once.evals = [.left, .right] ∧ ArgUse.once.count .left = 1 ∧ ArgUse.once.count .right = 1 ∧
      ArgUse.once.operands l r = (l.first, r.first) := by
  refine ⟨rfl, by decide, by decide, ?_⟩
  simp [ArgUse.operands, ArgUse.once, ArgExpr.eval_zero]

/-- `const_eq!`, `const_cmp!`, every arm of `const_eq_for!` and of `const_cmp_for!`, and (since
    e16d62f) `assertc_eq!` / `assertc_ne!` evaluate each argument expression exactly once, left
    before right (they bind both with one `match` and only use the bound names afterwards) -/
theorem macro_args_once :
    constEqArgs = .once ∧ constCmpArgs = .once ∧ constEqForArgs = .once ∧ constCmpForArgs = .once ∧
      cmpAssertArgs = .once :=
  ⟨rfl, rfl, rfl, rfl, rfl⟩

/-- `assertc_eq!` / `assertc_ne!` hand to the comparison exactly the two values `assert_eq!` /
    `assert_ne!` compare, for ANY argument expressions (as found this needed the left expression
    to be idempotent: `Konst.Legacy.Cmp.legacyCmpAssertArgs_left_twice`, F10) -/
theorem cmpAssertArgs_operands {α : Type} (l r : ArgExpr α) :
    cmpAssertArgs.operands l r = (l.first, r.first) ∧
      cmpAssertArgs.count .left = 1 ∧ cmpAssertArgs.count .right = 1 :=
  ⟨(once_is_std l r).2.2.2, by decide, by decide⟩

/-! ## non-vacuity: the hypotheses used above are met by the instantiations, and sample values -/
-- a non-idempotent left operand: `assertc_eq!(next(), 0)` with `next()` yielding 0, then 1 compares 0 with 0
example : cmpAssertArgs.operands (⟨0, [1]⟩ : ArgExpr Int) ⟨0, []⟩ = (0, 0) := by decide +kernel
example : (⟨0, [1]⟩ : ArgExpr Int).eval 1 ≠ (⟨0, [1]⟩ : ArgExpr Int).first := by decide +kernel

example : ∀ a b : List Int, eqSlice a b = some (stdEq a b) := eqSlice_iff
example : ∀ a b : Int, (fun x y => some (cmpInt x y)) a b = some (stdCmpScalar a b) :=
  fun a b => by simp [cmpInt_eq_std]
example : ComputesTotalOrder (fun a b : Int => some (cmpInt a b)) :=
  ⟨cmpInt, fun _ _ => rfl, cmpInt_total_order⟩
example : ComputesTotalOrder (cmpOption cmpSlice) := cmpOption_total_order _ cmpSlice_total_order
example : IsTotalOrder stdCmpScalar := int_isTotalOrder
-- the input on which the pre-fix comparator failed (shorter slice lexicographically greater)
example : cmpSlice [2] [1, 1] = some .gt := by decide +kernel
example : constCmpForSlice (fun a b => some (cmpInt a b)) [2] [1, 1] = some .gt := by decide +kernel
example : cmpSlice [1, 1] [2] = some .lt := by decide +kernel
example : cmpStr [0x61] [0x61, 0x62] = some .lt := by decide +kernel
example : cmpSlice [-1] [0] = some .lt := by decide +kernel
example : eqSlice [0, 1] [0, 1] = some true := by decide +kernel
example : eqSlice [0, 1] [0, 2] = some false := by decide +kernel
example : cmpOption cmpSlice none (some []) = some .lt := by decide +kernel
example : assertcEq (eqSlice [1] [2]) = .panic := by decide +kernel
example : assertcNe (eqSlice [1] [2]) = .ok := by decide +kernel
example : eqRangeInc (0, 0, true) (0, 0, false) = true ∧ stdEq ((0, 0, true) : RangeIncV) (0, 0, false) = false := by
  decide +kernel

end Konst.Props.C16
