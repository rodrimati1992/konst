import KonstVerif.Model.OptResEval
import KonstVerif.Spec.OptResEval
import KonstVerif.Props.C19
/-
  C19, evaluation of the argument EXPRESSIONS: for all computations `e`, `v` (arbitrary side effects)
  * the Option/Result expression and the eager second argument are evaluated exactly once, in std's order;
  * with a function argument whose own evaluation has no effect (closure literal, path, variable: `quiet f`) each
    `option::` / `result::` macro that takes one = the std method call, including when the closure body runs;
  * a function-VALUED expression with an effect is evaluated only in the arm that calls it (`*_fx_skipped`), whereas
    a method call evaluates it always — the one place where the macros differ from std (out of the property's scope);
  * `min!`, `max!`, `min_by!`, `max_by!`, `min_by_key!` with a pseudo-closure = the std call: each argument exactly
    once, left then right.  That `min_by!` with a function argument evaluates the function expression first
    (`minByFn_order`) and that `max_by_key!` evaluates its second argument first (`maxByKey_order`) only restates the
    model; `max_by_key!` and the other function-argument forms are not compared with std here.
-/
namespace Konst.Props.C19Eval
open Konst.Trace Konst.OptRes.Eval
open Konst.Spec.OptResEval

variable {α β ε φ κ : Type}

/-- Two computations that run the same `m` first and agree on what follows, whatever `m` yields, are
    equal.  Every macro arm pastes `$e` once, as the scrutinee of its `match`, and Rust evaluates the
    receiver of the method call first: both sides of each `*_eval` below start with the same `e`. -/
theorem bind_congr {γ δ : Type} {m : Tr γ} {f g : γ → Tr δ} (h : ∀ a, f a = g a) : m >>= f = m >>= g :=
  congrArg (m >>= ·) (funext h)

/-! ## eager forms: `$e` then `$v`, both always -/

theorem optUnwrapOr_eval (e : Tr (Option α)) (v : Tr α) :
    optUnwrapOr e v = call2 e v (fun o d => pure (Spec.OptRes.optUnwrapOr o d)) :=
  bind_congr fun o => bind_congr fun _ => by cases o <;> rfl

theorem optOkOr_eval (e : Tr (Option α)) (v : Tr ε) :
    optOkOr e v = call2 e v (fun o d => pure (Spec.OptRes.optOkOr o d)) :=
  bind_congr fun o => bind_congr fun _ => by cases o <;> rfl

theorem resUnwrapOr_eval (e : Tr (Except ε α)) (v : Tr α) :
    resUnwrapOr e v = call2 e v (fun r d => pure (Spec.OptRes.resUnwrapOr r d)) :=
  bind_congr fun r => bind_congr fun _ => by cases r <;> rfl

/-- "exactly once, in order" spelled out on the log: whatever the streams hold, the two argument expressions leave
    the events `o`, `d` (in this order) and nothing else -/
theorem optUnwrapOr_log (os : List (Option α)) (ds : List α) (a : Option α) (b : α) (l : Log) :
    ((optUnwrapOr (stream 'o' os a) (stream 'd' ds b)) l).2 = l ++ ['o', 'd'] := by
  rw [optUnwrapOr_eval]
  exact List.append_assoc l ['o'] ['d']

/-! ## lazy forms with an effect-free function expression = the std method call -/

theorem optUnwrapOrElse_eval (e : Tr (Option α)) (f : Unit → Tr α) :
    optUnwrapOrElse e (quiet f) = call2 e (quiet f) unwrapOrElseM :=
  bind_congr fun o => by cases o <;> rfl

theorem optOkOrElse_eval (e : Tr (Option α)) (f : Unit → Tr ε) :
    optOkOrElse e (quiet f) = call2 e (quiet f) okOrElseM :=
  bind_congr fun o => by cases o <;> rfl

theorem optMap_eval (e : Tr (Option α)) (f : α → Tr β) :
    optMap e (quiet f) = call2 e (quiet f) mapM :=
  bind_congr fun o => by cases o <;> rfl

theorem optAndThen_eval (e : Tr (Option α)) (f : α → Tr (Option β)) :
    optAndThen e (quiet f) = call2 e (quiet f) andThenM :=
  bind_congr fun o => by cases o <;> rfl

theorem optOrElse_eval (e : Tr (Option α)) (f : Unit → Tr (Option α)) :
    optOrElse e (quiet f) = call2 e (quiet f) orElseM :=
  bind_congr fun o => by cases o <;> rfl

theorem optFilter_eval (e : Tr (Option α)) (p : α → Tr Bool) :
    optFilter e (quiet p) = call2 e (quiet p) filterM :=
  bind_congr fun o => by
    cases o with
    | none => rfl
    | some x =>
      show (p x >>= fun keep => if keep then pure (some x) else pure none) = filterM (some x) p
      exact bind_congr fun keep => by cases keep <;> rfl

theorem optFlatten_eval (e : Tr (Option (Option α))) :
    optFlatten e = call1 e (fun o => pure (Spec.OptRes.optFlatten o)) :=
  bind_congr fun o => by cases o <;> rfl

theorem resUnwrapOrElse_eval (e : Tr (Except ε α)) (f : ε → Tr α) :
    resUnwrapOrElse e (quiet f) = call2 e (quiet f) resUnwrapOrElseM :=
  bind_congr fun r => by cases r <;> rfl

theorem resUnwrapErrOrElse_eval (e : Tr (Except ε α)) (f : α → Tr ε) :
    resUnwrapErrOrElse e (quiet f) = call2 e (quiet f) resUnwrapErrOrElseM :=
  bind_congr fun r => by cases r <;> rfl

theorem resMap_eval (e : Tr (Except ε α)) (f : α → Tr β) :
    resMap e (quiet f) = call2 e (quiet f) resMapM :=
  bind_congr fun r => by cases r <;> rfl

theorem resMapErr_eval (e : Tr (Except ε α)) (f : ε → Tr φ) :
    resMapErr e (quiet f) = call2 e (quiet f) resMapErrM :=
  bind_congr fun r => by cases r <;> rfl

theorem resAndThen_eval (e : Tr (Except ε α)) (f : α → Tr (Except ε β)) :
    resAndThen e (quiet f) = call2 e (quiet f) resAndThenM :=
  bind_congr fun r => by cases r <;> rfl

theorem resOrElse_eval (e : Tr (Except ε α)) (f : ε → Tr (Except φ α)) :
    resOrElse e (quiet f) = call2 e (quiet f) resOrElseM :=
  bind_congr fun r => by cases r <;> rfl

/-! ## a function-valued expression WITH an effect: evaluated only in the arm that calls it -/

/-- `unwrap_or_else!(e, fx)` on `Some(x)`: `fx` is not evaluated at all (the method call evaluates it) -/
theorem optUnwrapOrElse_fx_skipped (e : Tr (Option α)) (fx : Tr (Unit → Tr α)) (l : Log) (x : α)
    (h : (e l).1 = some x) :
    optUnwrapOrElse e fx l = (x, (e l).2) ∧ call2 e fx unwrapOrElseM l = (x, (fx (e l).2).2) := by
  simp only [optUnwrapOrElse, call2, unwrapOrElseM, Tr.bind_apply, h]
  exact ⟨rfl, rfl⟩

/-- `result::map!(e, fx)` on `Err(x)` -/
theorem resMap_fx_skipped (e : Tr (Except ε α)) (fx : Tr (α → Tr β)) (l : Log) (x : ε)
    (h : (e l).1 = .error x) :
    resMap e fx l = (.error x, (e l).2) ∧ call2 e fx resMapM l = (.error x, (fx (e l).2).2) := by
  simp only [resMap, call2, resMapM, Tr.bind_apply, h]
  exact ⟨rfl, rfl⟩

/-- in the arm that calls it the macros agree with the method call for EVERY function expression -/
theorem optUnwrapOrElse_fx_called (e : Tr (Option α)) (fx : Tr (Unit → Tr α)) (l : Log) (h : (e l).1 = none) :
    optUnwrapOrElse e fx l = call2 e fx unwrapOrElseM l := by
  simp only [optUnwrapOrElse, call2, unwrapOrElseM, Tr.bind_apply, h]

example : (optUnwrapOrElse (quiet (some (1 : Int))) (fun l => (fun _ => quiet 7, l ++ ['f']))).run = (1, []) ∧
    (call2 (quiet (some (1 : Int))) (fun l => (fun _ => quiet 7, l ++ ['f'])) unwrapOrElseM).run = (1, ['f']) :=
  ⟨rfl, rfl⟩

/-! ## try_!, try_opt!, rebind: the argument expression once -/

theorem try_eval (e : Tr (Except ε α)) (k : α → Except ε β) :
    ((fun l => (((try_ (β := β) e l).1).andThen k, (try_ (β := β) e l).2)) : Tr (Except ε β)) =
      call1 e (fun r => pure (Spec.OptRes.questionRes r k)) :=
  funext fun l => congrArg (·, (e l).2) (Konst.Props.C19.try_eq_question (e l).1 k)

theorem tryOpt_eval (e : Tr (Option α)) (k : α → Option β) :
    ((fun l => (((tryOpt (β := β) e l).1).andThen k, (tryOpt (β := β) e l).2)) : Tr (Option β)) =
      call1 e (fun o => pure (Spec.OptRes.questionOpt o k)) :=
  funext fun l => congrArg (·, (e l).2) (Konst.Props.C19.tryOpt_eq_question (e l).1 k)

theorem rebind_eval (u : OptRes.UserPat) (n : Nat) (annot : Bool) (e : Tr (Except Int (List Int))) :
    tryRebind u n annot e = call1 e (fun r => pure (OptRes.tryRebind u n annot r)) ∧
    rebindIfOk u n annot e = call1 e (fun r => pure (OptRes.rebindIfOk u n annot r)) := ⟨rfl, rfl⟩

/-! ## min / max: both arguments once, left then right; the returned argument is std's -/

theorem min_eval (cmp : α → α → Ordering) (l r : Tr α) :
    OptRes.Eval.min cmp l r = call2 l r (fun a b => pure (Spec.OptRes.minBy cmp a b)) :=
  bind_congr fun a => bind_congr fun b => congrArg pure (Konst.Props.C19.minBy_eq_std cmp a b)

theorem max_eval (cmp : α → α → Ordering) (l r : Tr α) :
    OptRes.Eval.max cmp l r = call2 l r (fun a b => pure (Spec.OptRes.maxBy cmp a b)) :=
  bind_congr fun a => bind_congr fun b => congrArg pure (Konst.Props.C19.maxBy_eq_std cmp a b)

theorem minBy_eval (l r : Tr α) (cmp : α → α → Tr Ordering) :
    minBy l r cmp = call3 l r (quiet cmp) minByM :=
  bind_congr fun a => bind_congr fun b => by
    show (cmp a b >>= fun c => pure (if c = .gt then b else a)) = minByM a b cmp
    exact bind_congr fun c => by cases c <;> rfl

theorem maxBy_eval (l r : Tr α) (cmp : α → α → Tr Ordering) :
    maxBy l r cmp = call3 l r (quiet cmp) maxByM :=
  bind_congr fun a => bind_congr fun b => by
    show (cmp a b >>= fun c => pure (if c = .gt then a else b)) = maxByM a b cmp
    exact bind_congr fun c => by cases c <;> rfl

/-- `min_by_key!` = std's `min_by_key` when the key function is applied to the first argument first -/
theorem minByKey_eval (cmpK : κ → κ → Ordering) (a b : Tr α) (key : α → Tr κ) :
    minByKey cmpK a b key = call3 a b (quiet key) (minByKeyM cmpK) :=
  bind_congr fun x => bind_congr fun y => bind_congr fun kx => bind_congr fun ky => by
    show pure (if cmpK kx ky = .gt then y else x) = pure (match cmpK kx ky with | .lt | .eq => x | .gt => y)
    cases cmpK kx ky <;> rfl

/-- with a function ARGUMENT the function expression is evaluated before the two values (std: after them) -/
theorem minByFn_order (l r : Tr α) (fx : Tr (α → α → Tr Ordering)) :
    minByFn l r fx = (do let f ← fx; minBy l r f) := rfl

/-- `max_by_key!(a, b, key)` evaluates `b` before `a` -/
theorem maxByKey_order (cmpK : κ → κ → Ordering) (a b : Tr α) (key : α → Tr κ) :
    maxByKey cmpK a b key = minmaxByKey .lt cmpK b a key := rfl

example : ((maxByKey (compare : Int → Int → Ordering) (stream 'a' [(1 : Int)] 0) (stream 'b' [2] 0) (logged 'k' id)).run).2
    = ['b', 'a', 'k', 'k'] := rfl

/-! ## caller items named like the identifier patterns of the expansions -/

/-- a caller function or local variable never changes what an expansion means -/
theorem verdict_fn_local (mac form name : String) :
    verdict mac form .fn_ name = .transparent ∧ verdict mac form .local_ name = .transparent :=
  ⟨rfl, rfl⟩

/-- an item whose name the arm does not bind is harmless; in particular the pseudo-closure arms of
    `option::map!` / `and_then!` bind nothing of their own -/
theorem verdict_no_binder (mac form name : String) (d : Decl) (h : name ∉ binders mac form) :
    verdict mac form d name = .transparent := by
  rw [verdict, if_neg h, ite_self]

example : binders "opt.map" "cl" = [] ∧ verdict "opt.map" "cl" .const_ "x" = .transparent := by decide +kernel
example : verdict "opt.unwrap_or" "val" .const_ "value" = .reject ∧ verdict "opt.filter" "cl" .const_ "x" = .reject ∧
    verdict "opt.filter" "cl" .static_ "x" = .reject ∧ verdict "rebind.rebind_if_ok" "p" .const_ "tuple" = .reject := by decide +kernel

/-- a caller const / static / unit struct named like an identifier pattern of the arm is a compile error — in EVERY
    macro of the family (no pattern of an expansion may fail any more; before a6790b3: `Legacy/OptResCapture.lean`) -/
theorem verdict_binder_reject (mac form name : String) (d : Decl) (hd : d ≠ .fn_ ∧ d ≠ .local_)
    (h : name ∈ binders mac form) : verdict mac form d name = .reject := by
  rw [verdict, if_neg (not_or.2 hd), if_pos h]

/-- the names `__parse_closure_1/2` bound before c6bef38 are ordinary caller names now -/
example : verdict "mm.min_by" "fn" .const_ "func" = .transparent ∧ verdict "mm.max_by_key" "fn" .const_ "__x" = .transparent ∧
    verdict "mm.min_by" "fn" .const_ "__konst_pc_func" = .reject := by decide +kernel

end Konst.Props.C19Eval
