import KonstVerif.Lemmas.ArrayEval
import KonstVerif.Lemmas.Hyg
import KonstVerif.Props.C11
/-
  C11, part 2 — the array macros as EXPRESSIONS of the caller's program: how often and in which order the
  argument expressions are evaluated, which closure calls are made, which caller names the expansions can meet.
  Helper lemmas: Lemmas/ArrayEval, Lemmas/Hyg.

  Four findings were made with these definitions and repaired in /repo (F11a 76ed0a3, F11b 5af8e6b, F11c c6bef38,
  F11d b7532cf);
  the as-found definitions and their witnesses (`legacy_arrayMapL_short_ub`, `legacy_hijacked_by_ref`,
  `legacy_mapByVal_args_fn_first`, `legacy_transparent_witnesses`) are in Legacy/ArrayEval.lean, no obligation.
-/
namespace Konst.Props.C11
open Konst Konst.ArrayMacros Konst.ArrayEval Konst.Spec.ArrayStd Konst.Concat.Hyg
variable {α β : Type}

/-! ### argument expressions -/

/-- all four macros, in both forms of the closure argument: every argument expression is evaluated exactly as often
    and in the same order as by `<[T; N]>::map` / `core::array::from_fn` (once each, the array first), and the loop
    runs over those values -/
theorem args_as_std (arm : ClosureArm) :
    arrayMapArgs arm = stdMapArgs arm ∧ arrayMapByValArgs arm = stdMapArgs arm ∧
    arrayFromFnArgs arm = stdFromFnArgs arm := by
  cases arm <;> exact ⟨rfl, rfl, rfl⟩

/-- every macro evaluates each of its argument expressions exactly once -/
theorem args_once (arm : ClosureArm) (a : Arg) :
    (arrayMapArgs arm).count a = (stdMapArgs arm).count a ∧
    (arrayMapByValArgs arm).count a = (stdMapArgs arm).count a ∧
    (arrayFromFnArgs arm).count a = (stdFromFnArgs arm).count a := by
  cases arm <;> cases a <;> decide

/-- a function expression that looks at a shared counter sees what std's sees: one earlier evaluation (the array) in
    `map!` / `map_!`, none in `from_fn!` / `from_fn_!` -/
theorem args_clock (arm : ClosureArm) :
    (arrayMapArgs arm).clockAtFn = (stdMapArgs arm).clockAtFn ∧
    (arrayMapByValArgs arm).clockAtFn = (stdMapArgs arm).clockAtFn ∧
    (arrayFromFnArgs arm).clockAtFn = (stdFromFnArgs arm).clockAtFn := by
  cases arm <;> decide

/-! ### closure calls -/

/-- the call-recording loop with the bound `array_len(&$array)` = N is the loop the C11 theorems are about (ANY closure) -/
theorem arrayMapL_eq_arrayMap (xs : List α) (c : Nat → α → Outcome β) (fuel : Nat) :
    (arrayMapN fuel xs c).res = arrayMap fuel xs c := by
  simpa [arrayMapN, arrayMapL, arrayMap] using
    mapLoopL_res xs.length (fun i => xs[i]?) c fuel 0 0 (List.replicate xs.length none) [] (by simp)

theorem arrayFromFnL_eq_arrayFromFn (n : Nat) (c : Nat → Nat → Outcome β) (fuel : Nat) :
    (arrayFromFnN fuel n c).res = arrayFromFn fuel n c := by
  simpa [arrayFromFnN, arrayFromFnL, arrayFromFn] using
    mapLoopL_res n (fun i => some i) c fuel 0 0 (List.replicate n none) [] (by simp)

/-- `map!` with a well-behaved closure: the closure is called exactly once per element, in index order, with the
    element at that index (`stdCalls`), and the result is `<[T; N]>::map` -/
theorem arrayMapL_calls (xs : List α) (f : α → β) (c : Nat → α → Outcome β) (fuel : Nat)
    (hf : xs.length < fuel) (hc : ∀ t a, c t a = .value (f a)) :
    (arrayMapN fuel xs c).calls = stdCalls xs ∧
    (arrayMapN fuel xs c).res = .array (stdMap f xs) := by
  have h := mapLoopL_value xs.length xs.length (fun j => xs[j]?) f c (fun i a _ _ => hc i a)
    (by intro j hj; simp [hj]) (Nat.le_refl _) fuel hf
  constructor
  · simp [arrayMapN, arrayMapL, h, fetched_eq_go xs xs.length 0 (by omega), stdCalls]
  · simp [arrayMapN, arrayMapL, h, fetched_getElem?_map, stdMap]

/-- `from_fn!` with a well-behaved closure: call number `i` gets the index `i`, for `i = 0, 1, .., N-1` -/
theorem arrayFromFnL_calls (n : Nat) (f : Nat → β) (c : Nat → Nat → Outcome β) (fuel : Nat)
    (hf : n < fuel) (hc : ∀ t i, c t i = .value (f i)) :
    (arrayFromFnN fuel n c).calls = (List.range n).map (fun i => (i, i)) ∧
    (arrayFromFnN fuel n c).res = .array (stdFromFn n f) := by
  have h := mapLoopL_value n n (fun j => some j) f c (fun i a _ _ => hc i a) (fun _ _ => rfl) (Nat.le_refl _) fuel hf
  constructor
  · simp [arrayFromFnN, arrayFromFnL, h, fetched, List.range_eq_range']
  · simp [arrayFromFnN, arrayFromFnL, h, fetched, stdFromFn, List.range_eq_range']

/-- `map_!` with a well-behaved closure: the closure receives the elements once each, in order -/
theorem mapByVal_calls (xs : List α) (f : α → β) (c : Nat → α → Outcome β) (fuel : Nat)
    (hf : xs.length < fuel) (hc : ∀ t a, c t a = .value (f a)) :
    (arrayMapByVal fuel xs c).calls = xs := by
  rw [arrayMapByVal_map xs f c fuel hf fun i a _ => hc i a]

/-! ### names -/

/-- `map!`: whatever the caller calls its variables, closure parameters, functions, types and modules, and wherever
    the argument mentions them, the invocation means what the caller wrote; the only names that are reserved are
    those of the expansion's `let`/`match` bindings — all of the form `__konst_am_*` / `__konst_pc_*` since c6bef38 —
    and only for a caller `const` / `static` / unit struct (which an identifier pattern can never shadow: E0530 /
    E0005 — true of every `macro_rules!` macro that binds a variable) -/
theorem arrayMap_transparent_iff (arm : ClosureArm) (frag : Option String) (d : Decl) (n : String) :
    transparentD (arrayMapSk arm) frag d n = true ↔ ¬ (d.shadowable = false ∧ n ∈ arrayBinders "map" arm) := by
  rw [transparentD_iff_binders _ (by cases arm <;> decide) (by cases arm <;> rfl), binders_arrayMapSk,
    arrayBinders_eq]
  -- the patterns of the skeleton and `arrayBinders` have the same members; order and repetitions differ
  simp only [arrayBinders, List.mem_append, List.mem_cons, List.not_mem_nil, or_false]
  grind

theorem arrayFromFn_transparent_iff (arm : ClosureArm) (frag : Option String) (d : Decl) (n : String) :
    transparentD (arrayFromFnSk arm) frag d n = true ↔ ¬ (d.shadowable = false ∧ n ∈ arrayBinders "from_fn" arm) := by
  rw [transparentD_iff_binders _ (by cases arm <;> decide) (by cases arm <;> rfl), binders_arrayFromFnSk,
    arrayBinders_eq]
  simp only [arrayBinders, List.mem_append, List.mem_cons, List.not_mem_nil, or_false]
  grind

theorem arrayMapByVal_transparent_iff (arm : ClosureArm) (frag : Option String) (d : Decl) (n : String) :
    transparentD (arrayMapByValSk arm) frag d n = true ↔ ¬ (d.shadowable = false ∧ n ∈ arrayBinders "map_" arm) := by
  rw [transparentD_iff_binders _ (by cases arm <;> decide) (by cases arm <;> rfl), binders_arrayMapByValSk,
    bindersL_byValBody, arrayBinders_eq]
  simp only [arrayBinders, List.mem_append, List.mem_cons, List.not_mem_nil, or_false]
  grind

theorem arrayFromFnByVal_transparent_iff (arm : ClosureArm) (frag : Option String) (d : Decl) (n : String) :
    transparentD (arrayFromFnByValSk arm) frag d n = true ↔
      ¬ (d.shadowable = false ∧ n ∈ arrayBinders "from_fn_" arm) := by
  rw [transparentD_iff_binders _ (by cases arm <;> decide) (by cases arm <;> rfl), binders_arrayFromFnByValSk,
    bindersL_byValBody, arrayBinders_eq]
  simp only [arrayBinders, List.mem_append, List.mem_cons, List.not_mem_nil, or_false]
  grind

/-- identifier patterns of the `collect_const!` expansion -/
def ccBinders : List String :=
  ["cmd", "array", "length", "iter", "elem_phantom_ty", "item", "elem_", "next_", "teq"]

/-- `collect_const!`: the iterator arguments are pasted into the body of `const fn __func_zxe7hgbnjs<Ret_.., CAP_..>`,
    next to which the two result constants are declared: those five (mangled) names are reserved, a caller TYPE named
    like the const generic is taken for the bare generic argument `CAP_KO9Y329U2U`, and a caller const / static cannot
    have the name of one of the bindings; a closure PARAMETER cannot be called like one of the three constants -/
theorem collectConst_transparent_iff (d : UserDecl) (n : String) :
    transparentD collectConstSk (some "rem") (.item d) n = true ↔
      ¬ ((d.ns = .val ∧ n ∈ ["CAP_KO9Y329U2U", "__func_zxe7hgbnjs", "__COUNT81608BFNA5", "__ARR81608BFNA5"]) ∨
         (d.ns = .ty ∧ (n = "Ret_KO9Y329U2U" ∨ n = "CAP_KO9Y329U2U")) ∨
         (d.shadowable = false ∧ n ∈ ccBinders)) := by
  rw [transparentD_item]
  simp only [Option.mem_def, Option.some.injEq, exists_eq_left', holes_rem_collectConstSk, binders_collectConstSk,
    gargsFree_collectConstSk, ccBinders, List.mem_cons, List.not_mem_nil, or_false, Prod.mk.injEq]
  grind

theorem collectConst_param_transparent_iff (n : String) :
    transparentD collectConstSk (some "rem") .var n = true ↔ n ∉ constItems := by
  rw [transparentD_var]
  simp only [Option.mem_def, Option.some.injEq, exists_eq_left', holes_rem_collectConstSk, constItems,
    List.mem_cons, List.not_mem_nil, or_false, Prod.mk.injEq, true_and, reduceCtorEq, false_and, false_or]
  grind

/-! ### method calls -/

/-- no method of a caller trait in scope can be picked by the four array expansions, whatever it is called and
    whatever its receiver: they call their helpers by PATH (`$crate::__::array_len`, `$crate::array::ArrayConsumer::next`,
    `$crate::array::ArrayBuilder::{infer_length_from_consumer, push, build}`) -/
theorem array_macros_not_hijacked (name : String) (s : Step) :
    hijacked "map" name s = false ∧ hijacked "from_fn" name s = false ∧
    hijacked "map_" name s = false ∧ hijacked "from_fn_" name s = false := by
  simp [hijacked, hijackedBy, methodCalls]

/-- `collect_const!`: its two method calls are inherent methods taking `self`, found at the first probing step -/
theorem collectConst_not_hijacked (name : String) (s : Step) : hijacked "cc" name s = false := by
  cases s <;> simp [hijacked, hijackedBy, methodCalls, Step.rank]

/-- only names the expansion itself calls with method syntax can be displaced -/
theorem hijacked_only_called (mac name : String) (s : Step) (h : hijacked mac name s = true) :
    name ∈ (methodCalls mac).map (·.1) := by
  simp only [hijacked, hijackedBy, List.any_eq_true] at h
  obtain ⟨⟨n, st⟩, hm, hn⟩ := h
  simp only [Bool.and_eq_true, beq_iff_eq] at hn
  exact List.mem_map.mpr ⟨(n, st), hm, hn.1⟩

/-! ### parameter patterns -/

/-- whatever binding mode the caller writes in the closure parameter of any of the four macros, the variable never
    refers to the expansion's loop counter with write access: the form is rejected by the borrow checker or binds
    the element / a copy of the index (as found `from_fn!` did alias it: `legacy_fromFn_refMut_aliases`, F11d) -/
theorem pattern_never_aliases_counter (mac : String) (m : BindMode) (used : Bool) :
    patVerdict (patPlace mac) m used ≠ .aliasesCounter := by
  have h : ∀ p, p ≠ PatPlace.counter → patVerdict p m used ≠ .aliasesCounter := by
    intro p hp; cases p <;> cases m <;> cases used <;> simp_all [patVerdict]
  apply h
  unfold patPlace
  split <;> simp

/-- `from_fn!` accepts every binding mode (the index is handed over by value, like std's closure parameter) -/
theorem fromFn_pattern_accepts (m : BindMode) (used : Bool) : patVerdict (patPlace "from_fn") m used = .accept := by
  cases m <;> rfl

/-! ### non-vacuity -/

example : (arrayMapN 10 [10, 11, 12] (fun _ a => .value (2 * a + 1))).calls = [(0, 10), (1, 11), (2, 12)] := by decide +kernel
example : (arrayFromFnN 10 2 (fun _ i => .value (3 * i + 2))).calls = [(0, 0), (1, 1)] := by decide +kernel
/-! the model is sensitive to the names and to the method table (the as-found ones: Legacy/ArrayEval.lean) -/
example : transparentD (arrayMapSk .literal) (some "closure") (.item .const) "len" = true := by decide +kernel
example : transparentD (arrayMapSk .literal) none (.item .const) "__konst_am_len" = false := by decide +kernel
example : transparentD (arrayMapSk .literal) (some "closure") (.item .const) "__konst_pc_func" = true := by decide +kernel
example : transparentD (arrayMapSk .expr) (some "closure") (.item .const) "__konst_pc_func" = false := by decide +kernel
example : transparentD (arrayMapByValSk .literal) none .ustruct "__konst_am_array" = false := by decide +kernel
example : transparentD (arrayMapSk .literal) (some "closure") (.item .fn) "__konst_am_len" = true := by decide +kernel
example : transparentD (arrayMapSk .literal) (some "closure") .var "__konst_am_len" = true := by decide +kernel
example : hijackedBy (fun _ => [("len", Step.unsize)]) "map" "len" .autoref = true := by decide +kernel
example : transparentD collectConstSk (some "rem") .var "__ARR81608BFNA5" = false := by decide +kernel
example : transparentD collectConstSk (some "rem") .var "__func_zxe7hgbnjs" = true := by decide +kernel
example : transparentD collectConstSk none (.item .tyAlias) "Ret_KO9Y329U2U" = true := by decide +kernel
example : transparentD collectConstSk (some "Item") (.item .tyAlias) "Ret_KO9Y329U2U" = false := by decide +kernel

end Konst.Props.C11
