import KonstVerif.Lemmas.SliceIter
/-
  C08 — Slice iterators behave like std's double-ended slice iterators.

  For every list `l` (any element type; with `l = List.range len` the elements are the positions, so
  the statements pin down WHICH sub-slice is yielded), every size `n ≥ 1` and every history of
  `next`/`next_back` calls (and `.rev()` calls between them): running the model of the konst iterator
  never panics and returns exactly the results of popping std's item list at the corresponding end —
  `None` for ever once it is empty; `as_slice()`/`remainder()` of the final iterator are std's.

  Vocabulary: `It σ` = an iterator value (`fwd` says which of the two struct types, e.g. `Chunks` or
  `ChunksRev`); `It.run B it h` = results of the history `h` and the final iterator (`none` = a panic);
  `It.runX` = histories in which `none` entries are `.rev()` calls; `X.de` (Lemmas/SliceIter.lean) =
  the blocks of iterator `X` with its abstraction `abs` to a list of items and its invariant `inv`;
  `dequeRun q h` / `dequeRest q h` (Spec/SliceIter.lean) = results / rest of popping the list `q`.
-/
namespace Konst.Props.C08
open Konst Konst.SliceIter Konst.Spec

variable {α σ ι : Type}

/-! ### `iterator_shared!`: rev and copy (every iterator, no hypotheses) -/

def flipDir : Dir → Dir
  | .f => .b
  | .b => .f

/-- `rev()` swaps the two ends: `next` of the reversed iterator is `next_back` of the original (and
    vice versa), same item, and the iterators that come back are again each other's reversal -/
theorem rev_swaps_ends (B : Blocks σ ι) (it : It σ) :
    It.next B it.rev = (It.nextBack B it).mapState It.rev ∧
    It.nextBack B it.rev = (It.next B it).mapState It.rev := by
  obtain ⟨fwd, s⟩ := it
  cases fwd
  · exact ⟨(Step.mapState_mapState (fun s' => (⟨false, s'⟩ : It σ)) It.rev (B.nextBlock s)).symm,
      (Step.mapState_mapState (fun s' => (⟨false, s'⟩ : It σ)) It.rev (B.nextBackBlock s)).symm⟩
  · exact ⟨(Step.mapState_mapState (fun s' => (⟨true, s'⟩ : It σ)) It.rev (B.nextBackBlock s)).symm,
      (Step.mapState_mapState (fun s' => (⟨true, s'⟩ : It σ)) It.rev (B.nextBlock s)).symm⟩

/-- lifted to histories: a history on the reversed iterator gives the results of the mirrored history
    on the original (panics included), and ends in the reversal of where the original ends -/
theorem rev_swaps_ends_history (B : Blocks σ ι) : ∀ (h : List Dir) (it : It σ),
    It.run B it.rev h = (It.run B it (h.map flipDir)).map fun r => (r.1, r.2.rev) := by
  intro h
  induction h with
  | nil => intro it; rfl
  | cons d h ih =>
    intro it
    have hs : It.step B d it.rev = (It.step B (flipDir d) it).mapState It.rev := by
      cases d
      · exact (rev_swaps_ends B it).1
      · exact (rev_swaps_ends B it).2
    simp only [It.run, List.map_cons, hs]
    cases It.step B (flipDir d) it with
    | panic => rfl
    | none =>
      simp only [Step.mapState, ih it]
      cases It.run B it (h.map flipDir) <;> rfl
    | some x it' =>
      simp only [Step.mapState, ih it']
      cases It.run B it' (h.map flipDir) <;> rfl

theorem rev_rev (it : It σ) : it.rev.rev = it := by
  obtain ⟨fwd, s⟩ := it
  simp [It.rev]

theorem copy_eq (it : It σ) : it.copy = it := rfl

/-- copying means: the program `let c = it.copy(); r1 = <history h1 on c>; r2 = <history h2 on it>`
    gives, for both, exactly what the un-copied iterator gives for that history alone.  (Iterators
    are values — a step returns a new iterator and cannot affect any other; the content of the
    statement is that `copy` carries every field over.) -/
theorem copy_independent (B : Blocks σ ι) (it : It σ) (h1 h2 : List Dir) :
    (let c := it.copy
     let r1 := It.run B c h1
     let r2 := It.run B it h2
     (r1, r2)) = (It.run B it h1, It.run B it h2) := rfl

/-- … and for an iterator satisfying its invariant both futures are the deque's: the copy has the same
    future as the original, whatever is done with the other one -/
theorem copy_same_future (D : DEInv σ ι) (it : It σ) (hi : D.inv it.fields) (h1 h2 : List Dir) :
    ∃ c' it', It.run D.blocks it.copy h1 = some (dequeRun (D.absIt it) h1, c') ∧
      It.run D.blocks it h2 = some (dequeRun (D.absIt it) h2, it') := by
  obtain ⟨c', r1, _⟩ := D.run_refines h1 it hi
  obtain ⟨it', r2, _⟩ := D.run_refines h2 it hi
  exact ⟨c', it', r1, r2⟩

theorem rev_reverses_items (D : DEInv σ ι) (it : It σ) : D.absIt it.rev = (D.absIt it).reverse :=
  D.absIt_rev it

/-! ### the constructors panic exactly for size 0 (as std's do) -/

theorem ctor_panics_iff (l : List α) (n : Nat) :
    (windows l n = none ↔ n = 0) ∧ (chunks l n = none ↔ n = 0) ∧ (rchunks l n = none ↔ n = 0) ∧
    (SliceIter.chunksExact l n = none ↔ n = 0) ∧ (rchunksExact l n = none ↔ n = 0) ∧
    (arrayChunks l n = none ↔ n = 0) := by
  by_cases h : n = 0
  · subst h
    simp [windows, chunks, rchunks, SliceIter.chunksExact, rchunksExact, arrayChunks, Slice.asChunks]
  · have hn : 1 ≤ n := by omega
    simp [windows_init l n hn, chunks_init l n hn, rchunks_init l n hn, chunksExact_init l n hn,
      rchunksExact_init l n hn, arrayChunks_init l n hn, h]

theorem iter_abs_init (l : List α) :
    (iter l).fwd = true ∧ Iter.de.abs (iter l).fields = iterSpec l := ⟨rfl, rfl⟩

theorem iter_next_pop_front (s : Iter α) :
    (Iter.nextBlock s = .none ∧ Iter.de.abs s = []) ∨
    (∃ x s', Iter.nextBlock s = .some x s' ∧ Iter.de.abs s = x :: Iter.de.abs s') := by
  rcases Iter.de.next_ok s trivial with h | ⟨x, s', h1, h2, _⟩
  · exact Or.inl h
  · exact Or.inr ⟨x, s', h1, h2⟩

theorem iter_nextBack_pop_back (s : Iter α) :
    (Iter.nextBackBlock s = .none ∧ Iter.de.abs s = []) ∨
    (∃ x s', Iter.nextBackBlock s = .some x s' ∧ Iter.de.abs s = Iter.de.abs s' ++ [x]) := by
  rcases Iter.de.back_ok s trivial with h | ⟨x, s', h1, h2, _⟩
  · exact Or.inl h
  · exact Or.inr ⟨x, s', h1, h2⟩

/-- every history: std's elements popped at the chosen ends; `as_slice()` = what std has left -/
theorem iter_history (l : List α) (h : List Dir) :
    ∃ it', It.run Iter.blocks (iter l) h = some (dequeRun (iterSpec l) h, it') ∧
      Iter.asSlice it' = dequeRest (iterSpec l) h := by
  obtain ⟨it', r1, r2, _, _⟩ := Iter.de.history_fwd (iter l) rfl trivial h
  exact ⟨it', r1, r2⟩

/-- with `.rev()` calls: `as_slice()` of an `IterRev` is still the remaining slice in slice order -/
theorem iter_history_rev (l : List α) (h : List (Option Dir)) :
    ∃ it', It.runX Iter.blocks (iter l) h = some (dequeRunX (iterSpec l) h, it') ∧
      Iter.asSlice it' = if it'.fwd then dequeRestX (iterSpec l) h else (dequeRestX (iterSpec l) h).reverse := by
  obtain ⟨it', r1, r2, _⟩ := Iter.de.historyX_fwd (iter l) rfl trivial h
  have r2' : Iter.de.absIt it' = dequeRestX (iterSpec l) h := r2
  refine ⟨it', r1, ?_⟩
  rw [← r2']
  obtain ⟨fwd, s⟩ := it'
  cases fwd <;> simp [DEInv.absIt, Iter.asSlice, Iter.de]

theorem iterCopied_abs_init (l : List α) :
    (iterCopied l).fwd = true ∧ IterCopied.de.abs (iterCopied l).fields = iterSpec l := ⟨rfl, rfl⟩

theorem iterCopied_next_pop_front (s : IterCopied α) :
    (IterCopied.nextBlock s = .none ∧ IterCopied.de.abs s = []) ∨
    (∃ x s', IterCopied.nextBlock s = .some x s' ∧ IterCopied.de.abs s = x :: IterCopied.de.abs s') := by
  rcases IterCopied.de.next_ok s trivial with h | ⟨x, s', h1, h2, _⟩
  · exact Or.inl h
  · exact Or.inr ⟨x, s', h1, h2⟩

theorem iterCopied_nextBack_pop_back (s : IterCopied α) :
    (IterCopied.nextBackBlock s = .none ∧ IterCopied.de.abs s = []) ∨
    (∃ x s', IterCopied.nextBackBlock s = .some x s' ∧
      IterCopied.de.abs s = IterCopied.de.abs s' ++ [x]) := by
  rcases IterCopied.de.back_ok s trivial with h | ⟨x, s', h1, h2, _⟩
  · exact Or.inl h
  · exact Or.inr ⟨x, s', h1, h2⟩

theorem iterCopied_history (l : List α) (h : List Dir) :
    ∃ it', It.run IterCopied.blocks (iterCopied l) h = some (dequeRun (iterSpec l) h, it') ∧
      IterCopied.asSlice it' = dequeRest (iterSpec l) h := by
  obtain ⟨it', r1, r2, _, _⟩ := IterCopied.de.history_fwd (iterCopied l) rfl trivial h
  exact ⟨it', r1, r2⟩

theorem iterCopied_history_rev (l : List α) (h : List (Option Dir)) :
    ∃ it', It.runX IterCopied.blocks (iterCopied l) h = some (dequeRunX (iterSpec l) h, it') ∧
      IterCopied.asSlice it' =
        if it'.fwd then dequeRestX (iterSpec l) h else (dequeRestX (iterSpec l) h).reverse := by
  obtain ⟨it', r1, r2, _⟩ := IterCopied.de.historyX_fwd (iterCopied l) rfl trivial h
  have r2' : IterCopied.de.absIt it' = dequeRestX (iterSpec l) h := r2
  refine ⟨it', r1, ?_⟩
  rw [← r2']
  obtain ⟨fwd, s⟩ := it'
  cases fwd <;> simp [DEInv.absIt, IterCopied.asSlice, IterCopied.de]

theorem windows_abs_init (l : List α) (n : Nat) (hn : 1 ≤ n) :
    ∃ it0, windows l n = some it0 ∧ it0.fwd = true ∧ Windows.de.inv it0.fields ∧
      Windows.de.abs it0.fields = windowsSpec n l :=
  ⟨_, windows_init l n hn, rfl, hn, rfl⟩

theorem windows_next_pop_front (w : Windows α) (hw : 0 < w.size) :
    (Windows.nextBlock w = .none ∧ windowsSpec w.size w.slice = []) ∨
    (∃ x w', Windows.nextBlock w = .some x w' ∧
      windowsSpec w.size w.slice = x :: windowsSpec w'.size w'.slice ∧ 0 < w'.size) :=
  Windows.de.next_ok w hw

theorem windows_nextBack_pop_back (w : Windows α) (hw : 0 < w.size) :
    (Windows.nextBackBlock w = .none ∧ windowsSpec w.size w.slice = []) ∨
    (∃ x w', Windows.nextBackBlock w = .some x w' ∧
      windowsSpec w.size w.slice = windowsSpec w'.size w'.slice ++ [x] ∧ 0 < w'.size) :=
  Windows.de.back_ok w hw

theorem windows_history (l : List α) (n : Nat) (hn : 1 ≤ n) (h : List Dir) :
    ∃ it0 it', windows l n = some it0 ∧
      It.run Windows.blocks it0 h = some (dequeRun (windowsSpec n l) h, it') := by
  obtain ⟨it', r1, _⟩ := Windows.de.history_fwd ⟨true, ⟨l, n⟩⟩ rfl hn h
  exact ⟨_, it', windows_init l n hn, r1⟩

theorem windows_history_rev (l : List α) (n : Nat) (hn : 1 ≤ n) (h : List (Option Dir)) :
    ∃ it0 it', windows l n = some it0 ∧
      It.runX Windows.blocks it0 h = some (dequeRunX (windowsSpec n l) h, it') := by
  obtain ⟨it', r1, _⟩ := Windows.de.historyX_fwd ⟨true, ⟨l, n⟩⟩ rfl hn h
  exact ⟨_, it', windows_init l n hn, r1⟩

theorem chunks_abs_init (l : List α) (n : Nat) (hn : 1 ≤ n) :
    ∃ it0, chunks l n = some it0 ∧ it0.fwd = true ∧ Chunks.de.inv it0.fields ∧
      Chunks.de.abs it0.fields = chunksSpec n l :=
  ⟨_, chunks_init l n hn, rfl, ⟨hn, fun _ => ne_nil_of_someIfNonempty⟩,
    Chunks.absOpt_someIfNonempty n l⟩

theorem chunks_next_pop_front (c : Chunks α) (hc : Chunks.de.inv c) :
    (Chunks.nextBlock c = .none ∧ Chunks.de.abs c = []) ∨
    (∃ x c', Chunks.nextBlock c = .some x c' ∧ Chunks.de.abs c = x :: Chunks.de.abs c' ∧
      Chunks.de.inv c') :=
  Chunks.de.next_ok c hc

theorem chunks_nextBack_pop_back (c : Chunks α) (hc : Chunks.de.inv c) :
    (Chunks.nextBackBlock c = .none ∧ Chunks.de.abs c = []) ∨
    (∃ x c', Chunks.nextBackBlock c = .some x c' ∧ Chunks.de.abs c = Chunks.de.abs c' ++ [x] ∧
      Chunks.de.inv c') :=
  Chunks.de.back_ok c hc

theorem chunks_history (l : List α) (n : Nat) (hn : 1 ≤ n) (h : List Dir) :
    ∃ it0 it', chunks l n = some it0 ∧
      It.run Chunks.blocks it0 h = some (dequeRun (chunksSpec n l) h, it') := by
  obtain ⟨it0, e, hf, hi, ha⟩ := chunks_abs_init l n hn
  obtain ⟨it', r1, _⟩ := Chunks.de.history_fwd it0 hf hi h
  rw [ha] at r1
  exact ⟨it0, it', e, r1⟩

theorem chunks_history_rev (l : List α) (n : Nat) (hn : 1 ≤ n) (h : List (Option Dir)) :
    ∃ it0 it', chunks l n = some it0 ∧
      It.runX Chunks.blocks it0 h = some (dequeRunX (chunksSpec n l) h, it') := by
  obtain ⟨it0, e, hf, hi, ha⟩ := chunks_abs_init l n hn
  obtain ⟨it', r1, _⟩ := Chunks.de.historyX_fwd it0 hf hi h
  rw [ha] at r1
  exact ⟨it0, it', e, r1⟩

theorem rchunks_abs_init (l : List α) (n : Nat) (hn : 1 ≤ n) :
    ∃ it0, rchunks l n = some it0 ∧ it0.fwd = true ∧ RChunks.de.inv it0.fields ∧
      RChunks.de.abs it0.fields = rchunksSpec n l :=
  ⟨_, rchunks_init l n hn, rfl, ⟨hn, fun _ => ne_nil_of_someIfNonempty⟩,
    RChunks.absOpt_someIfNonempty n l⟩

theorem rchunks_next_pop_front (c : RChunks α) (hc : RChunks.de.inv c) :
    (RChunks.nextBlock c = .none ∧ RChunks.de.abs c = []) ∨
    (∃ x c', RChunks.nextBlock c = .some x c' ∧ RChunks.de.abs c = x :: RChunks.de.abs c' ∧
      RChunks.de.inv c') :=
  RChunks.de.next_ok c hc

theorem rchunks_nextBack_pop_back (c : RChunks α) (hc : RChunks.de.inv c) :
    (RChunks.nextBackBlock c = .none ∧ RChunks.de.abs c = []) ∨
    (∃ x c', RChunks.nextBackBlock c = .some x c' ∧ RChunks.de.abs c = RChunks.de.abs c' ++ [x] ∧
      RChunks.de.inv c') :=
  RChunks.de.back_ok c hc

theorem rchunks_history (l : List α) (n : Nat) (hn : 1 ≤ n) (h : List Dir) :
    ∃ it0 it', rchunks l n = some it0 ∧
      It.run RChunks.blocks it0 h = some (dequeRun (rchunksSpec n l) h, it') := by
  obtain ⟨it0, e, hf, hi, ha⟩ := rchunks_abs_init l n hn
  obtain ⟨it', r1, _⟩ := RChunks.de.history_fwd it0 hf hi h
  rw [ha] at r1
  exact ⟨it0, it', e, r1⟩

theorem rchunks_history_rev (l : List α) (n : Nat) (hn : 1 ≤ n) (h : List (Option Dir)) :
    ∃ it0 it', rchunks l n = some it0 ∧
      It.runX RChunks.blocks it0 h = some (dequeRunX (rchunksSpec n l) h, it') := by
  obtain ⟨it0, e, hf, hi, ha⟩ := rchunks_abs_init l n hn
  obtain ⟨it', r1, _⟩ := RChunks.de.historyX_fwd it0 hf hi h
  rw [ha] at r1
  exact ⟨it0, it', e, r1⟩

/-- the pre-split at `len - len % n`: the iterated part stands for std's full chunks, `rem` is std's
    remainder -/
theorem chunksExact_abs_init (l : List α) (n : Nat) (hn : 1 ≤ n) :
    ∃ it0, SliceIter.chunksExact l n = some it0 ∧ it0.fwd = true ∧
      (ChunksExact.de (chunksExactRem n l)).inv it0.fields ∧
      (ChunksExact.de (chunksExactRem n l)).abs it0.fields = chunksExactSpec n l ∧
      ChunksExact.remainder it0 = chunksExactRem n l := by
  refine ⟨_, chunksExact_init l n hn, rfl, ⟨hn, ?_, rfl⟩, ?_, rfl⟩
  · have hm := Nat.mod_le l.length n
    simp only [List.length_take]
    rw [Nat.min_eq_left (by omega), sub_mod_eq_div_mul, Nat.mul_mod_left]
  · exact chunksExact_take_full n hn l

theorem chunksExact_next_pop_front (r : List α) (c : ChunksExact α) (hc : (ChunksExact.de r).inv c) :
    (ChunksExact.nextBlock c = .none ∧ (ChunksExact.de r).abs c = []) ∨
    (∃ x c', ChunksExact.nextBlock c = .some x c' ∧
      (ChunksExact.de r).abs c = x :: (ChunksExact.de r).abs c' ∧ (ChunksExact.de r).inv c') :=
  (ChunksExact.de r).next_ok c hc

theorem chunksExact_nextBack_pop_back (r : List α) (c : ChunksExact α) (hc : (ChunksExact.de r).inv c) :
    (ChunksExact.nextBackBlock c = .none ∧ (ChunksExact.de r).abs c = []) ∨
    (∃ x c', ChunksExact.nextBackBlock c = .some x c' ∧
      (ChunksExact.de r).abs c = (ChunksExact.de r).abs c' ++ [x] ∧ (ChunksExact.de r).inv c') :=
  (ChunksExact.de r).back_ok c hc

/-- every history: std's full chunks; `remainder()` is std's remainder before and after -/
theorem chunksExact_history (l : List α) (n : Nat) (hn : 1 ≤ n) (h : List Dir) :
    ∃ it0 it', SliceIter.chunksExact l n = some it0 ∧
      It.run ChunksExact.blocks it0 h = some (dequeRun (chunksExactSpec n l) h, it') ∧
      ChunksExact.remainder it0 = chunksExactRem n l ∧
      ChunksExact.remainder it' = chunksExactRem n l := by
  obtain ⟨it0, e, hf, hi, ha, hr⟩ := chunksExact_abs_init l n hn
  obtain ⟨it', r1, _, r3, _⟩ := (ChunksExact.de (chunksExactRem n l)).history_fwd it0 hf hi h
  rw [ha] at r1
  exact ⟨it0, it', e, r1, hr, r3.2.2⟩

/-- with `.rev()` calls: `ChunksExactRev` has `remainder()` too -/
theorem chunksExact_history_rev (l : List α) (n : Nat) (hn : 1 ≤ n) (h : List (Option Dir)) :
    ∃ it0 it', SliceIter.chunksExact l n = some it0 ∧
      It.runX ChunksExact.blocks it0 h = some (dequeRunX (chunksExactSpec n l) h, it') ∧
      ChunksExact.remainder it' = chunksExactRem n l := by
  obtain ⟨it0, e, hf, hi, ha, _⟩ := chunksExact_abs_init l n hn
  obtain ⟨it', r1, _, r3⟩ := (ChunksExact.de (chunksExactRem n l)).historyX_fwd it0 hf hi h
  rw [ha] at r1
  exact ⟨it0, it', e, r1, r3.2.2⟩

theorem rchunksExact_abs_init (l : List α) (n : Nat) (hn : 1 ≤ n) :
    ∃ it0, rchunksExact l n = some it0 ∧ it0.fwd = true ∧
      (RChunksExact.de (rchunksExactRem n l)).inv it0.fields ∧
      (RChunksExact.de (rchunksExactRem n l)).abs it0.fields = rchunksExactSpec n l ∧
      RChunksExact.remainder it0 = rchunksExactRem n l := by
  refine ⟨_, rchunksExact_init l n hn, rfl, ⟨hn, ?_, rfl⟩, ?_, rfl⟩
  · simp only [List.length_drop]
    rw [sub_mod_eq_div_mul, Nat.mul_mod_left]
  · exact rchunksExactSpec_drop_rem n hn l

theorem rchunksExact_next_pop_front (r : List α) (c : RChunksExact α) (hc : (RChunksExact.de r).inv c) :
    (RChunksExact.nextBlock c = .none ∧ (RChunksExact.de r).abs c = []) ∨
    (∃ x c', RChunksExact.nextBlock c = .some x c' ∧
      (RChunksExact.de r).abs c = x :: (RChunksExact.de r).abs c' ∧ (RChunksExact.de r).inv c') :=
  (RChunksExact.de r).next_ok c hc

theorem rchunksExact_nextBack_pop_back (r : List α) (c : RChunksExact α) (hc : (RChunksExact.de r).inv c) :
    (RChunksExact.nextBackBlock c = .none ∧ (RChunksExact.de r).abs c = []) ∨
    (∃ x c', RChunksExact.nextBackBlock c = .some x c' ∧
      (RChunksExact.de r).abs c = (RChunksExact.de r).abs c' ++ [x] ∧ (RChunksExact.de r).inv c') :=
  (RChunksExact.de r).back_ok c hc

theorem rchunksExact_history (l : List α) (n : Nat) (hn : 1 ≤ n) (h : List Dir) :
    ∃ it0 it', rchunksExact l n = some it0 ∧
      It.run RChunksExact.blocks it0 h = some (dequeRun (rchunksExactSpec n l) h, it') ∧
      RChunksExact.remainder it0 = rchunksExactRem n l ∧
      RChunksExact.remainder it' = rchunksExactRem n l := by
  obtain ⟨it0, e, hf, hi, ha, hr⟩ := rchunksExact_abs_init l n hn
  obtain ⟨it', r1, _, r3, _⟩ := (RChunksExact.de (rchunksExactRem n l)).history_fwd it0 hf hi h
  rw [ha] at r1
  exact ⟨it0, it', e, r1, hr, r3.2.2⟩

theorem rchunksExact_history_rev (l : List α) (n : Nat) (hn : 1 ≤ n) (h : List (Option Dir)) :
    ∃ it0 it', rchunksExact l n = some it0 ∧
      It.runX RChunksExact.blocks it0 h = some (dequeRunX (rchunksExactSpec n l) h, it') ∧
      RChunksExact.remainder it' = rchunksExactRem n l := by
  obtain ⟨it0, e, hf, hi, ha, _⟩ := rchunksExact_abs_init l n hn
  obtain ⟨it', r1, _, r3⟩ := (RChunksExact.de (rchunksExactRem n l)).historyX_fwd it0 hf hi h
  rw [ha] at r1
  exact ⟨it0, it', e, r1, r3.2.2⟩

/-- `as_chunks` + re-typing: the `arrays` field is the list of std's full chunks, `rem` std's remainder -/
theorem arrayChunks_abs_init (l : List α) (n : Nat) (hn : 1 ≤ n) :
    ∃ it0, arrayChunks l n = some it0 ∧ it0.fwd = true ∧
      (ArrayChunks.de (chunksExactRem n l)).inv it0.fields ∧
      (ArrayChunks.de (chunksExactRem n l)).abs it0.fields = arrayChunksSpec n l ∧
      ArrayChunks.remainder it0 = chunksExactRem n l :=
  ⟨_, arrayChunks_init l n hn, rfl, rfl, rfl, rfl⟩

theorem arrayChunks_next_pop_front (s : ArrayChunks α) :
    (ArrayChunks.nextBlock s = .none ∧ s.arrays = []) ∨
    (∃ x s', ArrayChunks.nextBlock s = .some x s' ∧ s.arrays = x :: s'.arrays ∧ s'.rem = s.rem) :=
  (ArrayChunks.de s.rem).next_ok s rfl

theorem arrayChunks_nextBack_pop_back (s : ArrayChunks α) :
    (ArrayChunks.nextBackBlock s = .none ∧ s.arrays = []) ∨
    (∃ x s', ArrayChunks.nextBackBlock s = .some x s' ∧ s.arrays = s'.arrays ++ [x] ∧ s'.rem = s.rem) :=
  (ArrayChunks.de s.rem).back_ok s rfl

theorem arrayChunks_history (l : List α) (n : Nat) (hn : 1 ≤ n) (h : List Dir) :
    ∃ it0 it', arrayChunks l n = some it0 ∧
      It.run ArrayChunks.blocks it0 h = some (dequeRun (arrayChunksSpec n l) h, it') ∧
      ArrayChunks.remainder it0 = chunksExactRem n l ∧
      ArrayChunks.remainder it' = chunksExactRem n l := by
  obtain ⟨it0, e, hf, hi, ha, hr⟩ := arrayChunks_abs_init l n hn
  obtain ⟨it', r1, _, r3, _⟩ := (ArrayChunks.de (chunksExactRem n l)).history_fwd it0 hf hi h
  rw [ha] at r1
  exact ⟨it0, it', e, r1, hr, r3⟩

theorem arrayChunks_history_rev (l : List α) (n : Nat) (hn : 1 ≤ n) (h : List (Option Dir)) :
    ∃ it0 it', arrayChunks l n = some it0 ∧
      It.runX ArrayChunks.blocks it0 h = some (dequeRunX (arrayChunksSpec n l) h, it') ∧
      ArrayChunks.remainder it' = chunksExactRem n l := by
  obtain ⟨it0, e, hf, hi, ha, _⟩ := arrayChunks_abs_init l n hn
  obtain ⟨it', r1, _, r3⟩ := (ArrayChunks.de (chunksExactRem n l)).historyX_fwd it0 hf hi h
  rw [ha] at r1
  exact ⟨it0, it', e, r1, r3⟩

/-! ### `as_slice()` / `remainder()` after any history, stated on their own -/

/-- whatever history (with `.rev()` calls) led from `iter(l)` / `iter_copied(l)` to an iterator, its
    `as_slice()` is what std's iterator has left, in slice order -/
theorem as_slice_eq (l : List α) (h : List (Option Dir)) :
    (∀ r it', It.runX Iter.blocks (iter l) h = some (r, it') →
      Iter.asSlice it' = if it'.fwd then dequeRestX (iterSpec l) h else (dequeRestX (iterSpec l) h).reverse) ∧
    (∀ r it', It.runX IterCopied.blocks (iterCopied l) h = some (r, it') →
      IterCopied.asSlice it' =
        if it'.fwd then dequeRestX (iterSpec l) h else (dequeRestX (iterSpec l) h).reverse) := by
  constructor
  · intro r it' e
    obtain ⟨it'', r1, r2⟩ := iter_history_rev l h
    cases r1.symm.trans e
    exact r2
  · intro r it' e
    obtain ⟨it'', r1, r2⟩ := iterCopied_history_rev l h
    cases r1.symm.trans e
    exact r2

/-- whatever history (with `.rev()` calls) led from the constructor's result to an iterator, its
    `remainder()` is std's remainder (`ChunksExact::remainder`, `RChunksExact::remainder`; for
    `array_chunks` the remainder of `chunks_exact(N)`) -/
theorem remainder_eq (l : List α) (n : Nat) (hn : 1 ≤ n) (h : List (Option Dir)) :
    (∀ it0 r it', SliceIter.chunksExact l n = some it0 → It.runX ChunksExact.blocks it0 h = some (r, it') →
      ChunksExact.remainder it' = chunksExactRem n l) ∧
    (∀ it0 r it', rchunksExact l n = some it0 → It.runX RChunksExact.blocks it0 h = some (r, it') →
      RChunksExact.remainder it' = rchunksExactRem n l) ∧
    (∀ it0 r it', arrayChunks l n = some it0 → It.runX ArrayChunks.blocks it0 h = some (r, it') →
      ArrayChunks.remainder it' = chunksExactRem n l) := by
  refine ⟨?_, ?_, ?_⟩
  · intro it0 r it' e0 e
    obtain ⟨it0', it'', e0', r1, r2⟩ := chunksExact_history_rev l n hn h
    cases e0.symm.trans e0'
    cases r1.symm.trans e
    exact r2
  · intro it0 r it' e0 e
    obtain ⟨it0', it'', e0', r1, r2⟩ := rchunksExact_history_rev l n hn h
    cases e0.symm.trans e0'
    cases r1.symm.trans e
    exact r2
  · intro it0 r it' e0 e
    obtain ⟨it0', it'', e0', r1, r2⟩ := arrayChunks_history_rev l n hn h
    cases e0.symm.trans e0'
    cases r1.symm.trans e
    exact r2

/-! ### non-vacuity / sanity: concrete values of model and spec (kernel-evaluated) -/

example : chunksSpec 3 [0,1,2,3,4,5,6] = [[0,1,2],[3,4,5],[6]] := by simp [chunksSpec]
example : rchunksSpec 3 [0,1,2,3,4,5,6] = [[4,5,6],[1,2,3],[0]] := by simp [rchunksSpec]
example : windowsSpec 3 [0,1,2,3] = [[0,1,2],[1,2,3]] := by decide +kernel
example : chunksExactSpec 3 [0,1,2,3,4,5,6] = [[0,1,2],[3,4,5]] ∧ chunksExactRem 3 [0,1,2,3,4,5,6] = [6] := by
  simp [chunksExactSpec, Spec.chunksExact, chunksExactRem]
example : rchunksExactSpec 3 [0,1,2,3,4,5,6] = [[4,5,6],[1,2,3]] ∧ rchunksExactRem 3 [0,1,2,3,4,5,6] = [0] := by
  simp [rchunksExactSpec, rchunksExactRem]
example : dequeRun [10, 20, 30] [.f, .b, .b, .f] = [some 10, some 30, some 20, none] := by decide +kernel
-- the model run: front, back, front, back on chunks(3) of 7 elements, then exhausted
example : ((chunks [0,1,2,3,4,5,6] 3).bind fun it => (It.run Chunks.blocks it [.f, .b, .f, .b]).map (·.1))
    = some [some [0,1,2], some [6], some [3,4,5], none] := by decide +kernel
-- the constructor's assert
example : (chunks [0,1,2] 0).isNone = true := by decide +kernel
-- the invariant is satisfiable and reached
example : Chunks.de.inv (⟨some [1], 2⟩ : Chunks Nat) := ⟨by decide, by intro s h; cases h; simp⟩
-- outside the invariant the blocks really do panic (the hypothesis is not decoration)
example : (Chunks.nextBackBlock (⟨some [1, 2], 0⟩ : Chunks Nat)) matches .panic := by decide +kernel
example : (ChunksExact.nextBackBlock (⟨[1], [], 2⟩ : ChunksExact Nat)) matches .panic := by decide +kernel

end Konst.Props.C08
