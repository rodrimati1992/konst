import KonstVerif.Model.Concat
import KonstVerif.Model.ConcatHyg
import KonstVerif.Model.CStr
import KonstVerif.Spec.Concat
import KonstVerif.Lemmas.Concat
import KonstVerif.Lemmas.CStr
import KonstVerif.Lemmas.Hyg
/-
  C20 — Concatenation/join macros and CStr conversions equal their std counterparts.
  The loops and `firstNul` in closed form are in Lemmas/Concat.lean and Lemmas/CStr.lean, the reserved names of an
  arbitrary skeleton in Lemmas/Hyg.lean. Every theorem is for ALL argument lists / byte strings (no bound on lengths); `usize` overflow of the length pass is
  part of the model (`Panic.overflow`) and of the statements.
-/
namespace Konst.Props.C20
open Konst Konst.Concat Konst.CStr Konst.Spec Konst.Spec.Concat Konst.Lemmas.Concat Konst.Lemmas.CStr
open Konst.Lemmas.Utf8 (valid_enc valid_encs valid_flatten)

/-! ## `str_concat!` -/

/-- what the fill phase writes is std's result (this is where `encode_utf8`'s shifts and masks are
    shown to be the RFC 3629 encoding) -/
theorem written_eq_std (arg : ConcatArg) (h : arg.WF) : written arg = stdOfArg arg := by
  cases arg with
  | strs ss => simp [written, ConcatArg.elems, stdOfArg, stdConcat, Elem.bytes, Function.comp_def]
  | chars cs =>
    simp only [written, ConcatArg.elems, stdOfArg, stdCollectChars, Utf8.encs, List.map_map]
    rw [List.flatMap_def]
    congr 1
    apply List.map_congr_left
    intro c hc
    exact encodeUtf8_scalar (h c hc)

/-- phase 1 (`concat_sum_lengths`): `LEN` is exactly the number of bytes phase 2 writes, or the
    evaluation stops with an overflow when that number does not fit a `usize` -/
theorem concatSumLengths_eq (arg : ConcatArg) :
    concatSumLengths arg =
      if (written arg).length < USIZE then .ok (written arg).length else .panic .overflow := by
  rw [concatSumLengths, sumLoop_eq_slice, sliceSumLoop_eq _ 0 (by decide), Nat.zero_add]
  rfl

/-- phase 2 (`concat_strs::<N>`) for an arbitrary `N`: an out-of-bounds write iff `N` is too small;
    otherwise the written bytes followed by the untouched `0` filler -/
theorem concatStrs_eq (n : Nat) (arg : ConcatArg) :
    concatStrs n arg =
      if (written arg).length ≤ n then
        .ok (written arg ++ List.replicate (n - (written arg).length) 0)
      else .panic .index := by
  rw [← write_fresh, concatStrs, fillLoop_eq_write]
  rfl

/-- with `N = LEN` the second phase never indexes out of
    bounds, writes every slot (no `0` filler survives) and the buffer is the concatenation -/
theorem concat_len_eq_written (arg : ConcatArg) :
    concatStrs (written arg).length arg = .ok (written arg) := by
  rw [concatStrs_eq]; simp

theorem concat_result_valid_utf8 (arg : ConcatArg) (h : arg.WF) : Utf8.Valid (stdOfArg arg) := by
  cases arg with
  | strs ss => exact valid_flatten h
  | chars cs => exact valid_encs h

/-- the `from_utf8` re-validation (`ArrayStr::as_str`, and the `match` in `str_from_iter!`) returns the
    buffer exactly when it is valid UTF-8 and panics otherwise -/
theorem asStr_ok_iff (buf : List Nat) :
    (asStr buf = .ok buf ↔ Utf8.Valid buf) ∧ (asStr buf = .ok buf ∨ asStr buf = .panic .utf8) := by
  have h := stdFromUtf8_ok_iff buf
  by_cases hv : Utf8.Valid buf
  · have := h.mpr hv
    simp [asStr, this, hv]
  · have hne : stdFromUtf8 buf ≠ .ok buf := fun e => hv (h.mp e)
    have : ∃ p, stdFromUtf8 buf = .error p := by
      unfold stdFromUtf8 at hne ⊢
      revert hne
      cases utf8Scan buf.length buf 0 with
      | none => intro hne; exact absurd rfl hne
      | some p => intro _; exact ⟨p, rfl⟩
    obtain ⟨p, hp⟩ := this
    simp [asStr, hp, hv]

/-- `str_concat!(arg)` = std, for every well-formed argument whose total length fits a `usize`:
    no panic in either phase, and the `from_utf8` re-validation succeeds -/
theorem stringConcat_eq_std (arg : ConcatArg) (h : arg.WF) (hlen : (stdOfArg arg).length < USIZE) :
    stringConcat (.expr arg) = .ok (stdOfArg arg) := by
  have hw := written_eq_std arg h
  simp only [stringConcat, concatSumLengths_eq, hw, if_pos hlen, Out.ok_bind]
  have := concat_len_eq_written arg
  rw [hw] at this
  rw [this]
  simp only [Out.ok_bind, asStr, stdFromUtf8_of_valid (concat_result_valid_utf8 arg h)]

/-- the literal-`[]` macro arm agrees with std on the empty list -/
theorem stringConcat_litEmpty : stringConcat .litEmpty = .ok (stdConcat ([] : List (List Nat))) := rfl

/-- the only other outcome: the total length does not fit a `usize` (compile error) -/
theorem stringConcat_overflow (arg : ConcatArg) (h : arg.WF) (hlen : ¬ (stdOfArg arg).length < USIZE) :
    stringConcat (.expr arg) = .panic .overflow := by
  have hw := written_eq_std arg h
  simp only [stringConcat, concatSumLengths_eq, hw, if_neg hlen, Out.panic_bind]

/-! ## `str_join!` -/

theorem sepBytes_eq_std (sep : SepArg) (h : sep.WF) : sep.bytes = stdSep sep := by
  cases sep with
  | str s => rfl
  | chr c => exact encodeUtf8_scalar h

private theorem join_length (sep : List Nat) (first : List Nat) (rem : List (List Nat)) :
    (stdJoin sep (first :: rem)).length
      = (first :: rem).flatten.length + sep.length * rem.length := by
  rw [stdJoin, intercalate_cons, List.flatten_cons, List.length_append, List.length_append, Nat.add_assoc]
  congr 1
  induction rem with
  | nil => rfl
  | cons r rem ih =>
    rw [List.flatMap_cons, List.length_append, List.length_append, ih, List.flatten_cons,
      List.length_append, List.length_cons, Nat.mul_succ]
    omega

/-- phase 1 (`join_sum_lengths`) = the length of std's join, or an overflow when that length does not
    fit a `usize` (whichever of the three checked operations trips first) -/
theorem joinSumLengths_eq (sep : SepArg) (ss : List (List Nat)) :
    joinSumLengths sep ss =
      if (stdJoin sep.bytes ss).length < USIZE then .ok (stdJoin sep.bytes ss).length
      else .panic .overflow := by
  cases ss with
  | nil => rfl
  | cons first rem =>
    have hc := concatSumLengths_eq (.strs (first :: rem))
    rw [written_strs] at hc
    rw [join_length, joinSumLengths, if_neg (by simp), hc, List.length_cons, Nat.add_sub_cancel,
      SepArg.len_eq, ckMul]
    generalize (first :: rem).flatten.length = a
    generalize sep.bytes.length * rem.length = b
    by_cases ha : a < USIZE
    · rw [if_pos ha, Out.ok_bind]
      by_cases hb : b < USIZE
      · rw [if_pos hb, Out.ok_bind, ckAdd]
      · rw [if_neg hb, if_neg (show ¬ a + b < USIZE by omega)]
        rfl
    · rw [if_neg ha, if_neg (show ¬ a + b < USIZE by omega)]
      rfl

/-- phase 2 (`join_strs::<N>`) for an arbitrary `N` -/
theorem joinStrs_eq (n : Nat) (sep : SepArg) (ss : List (List Nat)) :
    joinStrs n sep ss =
      if (stdJoin sep.bytes ss).length ≤ n then
        .ok (stdJoin sep.bytes ss ++ List.replicate (n - (stdJoin sep.bytes ss).length) 0)
      else .panic .index := by
  cases ss with
  | nil => simp [joinStrs, stdJoin, List.intercalate]
  | cons first rem =>
    rw [← write_fresh, stdJoin, intercalate_cons, writeBytes_append]
    simp only [joinStrs]
    cases writeBytes first (List.replicate n 0) 0 with
    | panic p => rfl
    | ok r => exact congrArg (· >>= fun r => pure r.1) (joinRemLoop_eq_write _ _ r.1 r.2)

/-- with `N = LEN` the buffer is exactly the join: no out-of-bounds write, no `0` filler left -/
theorem join_len_eq_written (sep : SepArg) (ss : List (List Nat)) :
    joinStrs (stdJoin sep.bytes ss).length sep ss = .ok (stdJoin sep.bytes ss) := by
  rw [joinStrs_eq]; simp

theorem join_result_valid_utf8 (sep : SepArg) (ss : List (List Nat)) (hsep : sep.WF)
    (h : ∀ s ∈ ss, Utf8.Valid s) : Utf8.Valid (stdJoin (stdSep sep) ss) := by
  apply valid_intercalate _ h
  cases sep with
  | str s => exact hsep
  | chr c => exact valid_enc hsep

/-- `str_join!(sep, slice)` = `<[&str]>::join`, for every valid separator (str or char) and pieces -/
theorem stringJoin_eq_std (sep : SepArg) (ss : List (List Nat)) (hsep : sep.WF)
    (h : ∀ s ∈ ss, Utf8.Valid s) (hlen : (stdJoin (stdSep sep) ss).length < USIZE) :
    stringJoin (.expr sep ss) = .ok (stdJoin (stdSep sep) ss) := by
  have hb := sepBytes_eq_std sep hsep
  rw [← hb] at hlen
  simp only [stringJoin, joinSumLengths_eq sep ss, if_pos hlen, Out.ok_bind, join_len_eq_written]
  rw [hb]
  simp only [asStr, stdFromUtf8_of_valid (join_result_valid_utf8 sep ss hsep h)]

/-- the only other outcome of `str_join!`: the joined length does not fit a `usize` -/
theorem stringJoin_overflow (sep : SepArg) (ss : List (List Nat)) (hsep : sep.WF)
    (hlen : ¬ (stdJoin (stdSep sep) ss).length < USIZE) :
    stringJoin (.expr sep ss) = .panic .overflow := by
  rw [← sepBytes_eq_std sep hsep] at hlen
  simp only [stringJoin, joinSumLengths_eq sep ss, if_neg hlen, Out.panic_bind]

theorem stringJoin_litEmpty (sep : List Nat) : stringJoin .litEmpty = .ok (stdJoin sep []) := rfl

/-! ## `slice_concat!` -/

variable {α : Type}

/-- `first_elem` returns the first element of the concatenation, and panics iff there is none -/
theorem firstElem_eq (ss : List (List α)) :
    firstElem ss = match ss.flatten.head? with
      | some x => .ok x
      | none => .panic .noElem := by
  induction ss with
  | nil => rfl
  | cons s ss ih =>
    cases s with
    | nil => simpa [firstElem] using ih
    | cons x r => simp [firstElem]

/-- `concat_slices::<T, N>` for an arbitrary `N` -/
theorem concatSlices_general (n : Nat) (ss : List (List α)) :
    concatSlices n ss =
      if n = 0 then .ok []
      else match ss.flatten.head? with
        | none => .panic .noElem
        | some x =>
          if ss.flatten.length ≤ n then .ok (ss.flatten ++ List.replicate (n - ss.flatten.length) x)
          else .panic .index := by
  unfold concatSlices
  by_cases hn : n = 0
  · simp [hn]
  · rw [if_neg (fun e => hn e.symm), if_neg hn, firstElem_eq]
    cases hh : ss.flatten.head? with
    | none => rfl
    | some x =>
      simp only [Out.ok_bind]
      rw [← write_fresh, ← sliceFillLoop_eq_write]

/-- with `N = LEN` the result is `<[&[T]]>::concat`; in particular `first_elem`
    cannot panic (when `LEN ≠ 0` some piece is non-empty) and the `N = 0` early return is right -/
theorem concatSlices_eq (ss : List (List α)) :
    concatSlices ss.flatten.length ss = .ok (stdConcat ss) := by
  rw [concatSlices_general, stdConcat]
  by_cases hn : ss.flatten.length = 0
  · rw [if_pos hn]; simp [List.eq_nil_of_length_eq_zero hn]
  · rw [if_neg hn]
    cases hh : ss.flatten.head? with
    | none => simp only [List.head?_eq_none_iff] at hh; simp [hh] at hn
    | some x => simp

/-- `slice_concat!(T, slices)` = `<[&[T]]>::concat`, any element type -/
theorem sliceConcat_eq_std (ss : List (List α)) (hlen : ss.flatten.length < USIZE) :
    sliceConcat ss = .ok (stdConcat ss) := by
  simp only [sliceConcat, sliceConcatSumLengths, sliceSumLoop_eq ss 0 (by decide), Nat.zero_add,
    if_pos hlen, Out.ok_bind, concatSlices_eq]

/-! ## `string::from_iter!` (on the items the iterator chain yields) -/

/-- `string::from_iter!` = `String::from_iter` on the yielded items: the length pass equals what the
    fill pass writes, every slot of the `MaybeUninit` buffer is initialised before `assume_init`,
    the final `assert!(length == CAP)` holds and `from_utf8` succeeds -/
theorem strFromIter_eq_std (arg : ConcatArg) (h : arg.WF) (hlen : (stdOfArg arg).length < USIZE) :
    strFromIter arg.elems = .ok (stdOfArg arg) := by
  have hw := written_eq_std arg h
  have h1 : collectLoop false arg.elems [] 0 = .ok ([], (stdOfArg arg).length) := by
    rw [collectLoop_false, ← concatSumLengths, concatSumLengths_eq, hw, if_pos hlen]
    rfl
  have h2 := collectLoop_true arg.elems [] (List.replicate (stdOfArg arg).length none)
    (by simpa using hlen)
  rw [writeBytes_eq, ← written, hw, if_pos (by simp)] at h2
  simp only [List.nil_append, List.length_nil, Nat.zero_add, List.length_map, List.drop_replicate,
    Nat.sub_self, List.replicate_zero, List.append_nil] at h2
  simp only [strFromIter, h1, Out.ok_bind, h2, ne_eq, not_true_eq_false, if_false,
    assumeInit_map_some, stdFromUtf8_of_valid (concat_result_valid_utf8 arg h)]

/-! ## CStr -/

theorem firstNul_spec (bs : List Nat) (k : Nat) :
    firstNul bs = some k ↔ bs[k]? = some 0 ∧ ∀ j, j < k → bs[j]? ≠ some 0 := by
  constructor
  · intro h; exact ⟨firstNul_getElem? h, firstNul_before h⟩
  · intro ⟨h0, hb⟩
    cases hf : firstNul bs with
    | none =>
      exfalso
      exact firstNul_none hf (List.mem_of_getElem? h0)
    | some i =>
      have hi0 := firstNul_getElem? hf
      have hib := firstNul_before hf
      by_cases h1 : i < k
      · exact absurd hi0 (hb i h1)
      · by_cases h2 : k < i
        · exact absurd h0 (hib k h2)
        · congr 1; omega

/-- `from_bytes_until_nul` succeeds exactly when std does, and the returned CStr is
    the same sub-slice (offset 0, up to and including the first nul) -/
theorem untilNul_ok_iff (bs : List Nat) :
    (fromBytesUntilNul bs).map (fun v => (v.off, v.apply bs))
      = (stdFromBytesUntilNul bs).map (fun c => (0, c)) := by
  simp only [fromBytesUntilNul, fromBytesUntilNulInner_eq, stdFromBytesUntilNul]
  cases firstNul bs with
  | none => rfl
  | some k => simp [View.apply]

/-- `from_bytes_with_nul` succeeds exactly when std does and returns the whole input
    as the CStr, like std -/
theorem withNul_ok_iff (bs : List Nat) :
    (∀ v, fromBytesWithNul bs = .ok v → stdFromBytesWithNul bs = .ok (v.apply bs) ∧ v.off = 0) ∧
    (∀ c, stdFromBytesWithNul bs = .ok c → fromBytesWithNul bs = .ok ⟨0, c.length⟩ ∧ c = bs) ∧
    fromBytesWithNul bs ≠ .panic := by
  rw [fromBytesWithNul_eq]
  simp only [stdFromBytesWithNul]
  cases h : firstNul bs with
  | none => simp
  | some k =>
    by_cases hk : k + 1 = bs.length
    · simp [hk, View.apply]
    · simp only [hk, if_false]
      by_cases hg : bs.getLast? = some 0
      · simp [hg]
      · simp [hg]

/-- error kinds: konst reports std's kind and position EXCEPT when there is an interior nul and the
    last byte is not nul, where konst says `NotNulTerminated` and std `InteriorNul{first nul}`
    (arm 2 precedes arm 4). The property (success + returned CStr) is not affected. -/
theorem withNul_err_kind (bs : List Nat) (e : HuntNulError) (he : fromBytesWithNul bs = .err e) :
    (stdFromBytesWithNul bs = .error (match e with
        | .internalNul p => .interiorNul p
        | .notNulTerminated => .notNulTerminated))
    ∨ (e = .notNulTerminated ∧ bs.getLast? ≠ some 0 ∧
        ∃ k, firstNul bs = some k ∧ k + 1 ≠ bs.length ∧ stdFromBytesWithNul bs = .error (.interiorNul k)) := by
  rw [fromBytesWithNul_eq] at he
  simp only [stdFromBytesWithNul]
  cases h : firstNul bs with
  | none => simp only [h] at he; injection he with he; subst he; left; rfl
  | some k =>
    simp only [h] at he
    by_cases hk : k + 1 = bs.length
    · simp [hk] at he
    · simp only [hk, if_false] at he ⊢
      by_cases hg : bs.getLast? = some 0
      · simp only [hg, ne_eq, not_true_eq_false, if_false] at he
        injection he with he; subst he; left; rfl
      · simp only [hg, ne_eq, not_false_eq_true, if_true] at he
        injection he with he; subst he
        right; exact ⟨rfl, hg, k, rfl, hk, rfl⟩

/-- the divergence of kinds is real (smallest witness `a\0b`) -/
theorem withNul_kind_differs :
    fromBytesWithNul [0x61, 0, 0x62] = .err .notNulTerminated ∧
    stdFromBytesWithNul [0x61, 0, 0x62] = .error (.interiorNul 1) := ⟨by decide, rfl⟩

/-- for every CStr `c` (whatever memory `rest` follows it) the pointer walk of
    `to_bytes_with_nul` stops on the CStr's own terminator, so it never reads outside the CStr and
    returns exactly `c`; `to_bytes` never reaches `unreachable!()` and drops the nul; `to_str` is
    std's `from_utf8` of that -/
theorem cstr_bytes_eq (c rest : List Nat) (hc : IsCStr c) :
    toBytesWithNul (c ++ rest) = some ⟨0, c.length⟩ ∧
    (⟨0, c.length⟩ : View).apply (c ++ rest) = stdToBytesWithNul c ∧
    toBytes (c ++ rest) = .ok ⟨0, c.length - 1⟩ ∧
    (⟨0, c.length - 1⟩ : View).apply (c ++ rest) = stdToBytes c ∧
    toStr (c ++ rest) = (match stdToStr c with
      | .ok _ => .ok ⟨0, c.length - 1⟩
      | .error p => .err p) := by
  have hpos : 0 < c.length := List.length_pos_iff.mpr hc.2
  have h3 := toBytes_append hc rest
  have h4 : (⟨0, c.length - 1⟩ : View).apply (c ++ rest) = c.dropLast := by
    simp only [View.apply, List.drop_zero, List.dropLast_eq_take]
    rw [List.take_append_of_le_length (by omega)]
  refine ⟨toBytesWithNul_append hc rest, by simp [View.apply, stdToBytesWithNul], h3, h4, ?_⟩
  simp only [toStr, h3, h4, stdToStr]
  cases stdFromUtf8 c.dropLast <;> rfl

/-! ## non-vacuity -/

example : ConcatArg.WF (.strs [[0x61], [0xC3, 0xB1], []]) := by
  intro s hs
  simp only [List.mem_cons, List.mem_nil_iff, or_false] at hs
  rcases hs with rfl | rfl | rfl
  · exact ⟨[0x61], by decide, by decide⟩
  · exact ⟨[0xF1], by decide, by decide⟩
  · exact ⟨[], by decide, by decide⟩
example : ConcatArg.WF (.chars [0x61, 0xF1, 0x1F600]) := by
  intro c hc
  simp only [List.mem_cons, List.mem_nil_iff, or_false] at hc
  rcases hc with rfl | rfl | rfl <;> decide
example : stringConcat (.expr (.strs [[0x61], [0xC3, 0xB1], []])) = .ok [0x61, 0xC3, 0xB1] := by decide +kernel
example : stringConcat (.expr (.chars [0x61, 0xF1, 0x1F600])) = .ok [0x61, 0xC3, 0xB1, 0xF0, 0x9F, 0x98, 0x80] := by
  decide +kernel
example : stringJoin (.expr (.chr 0xF1) [[0x61], [], [0x62]]) = .ok [0x61, 0xC3, 0xB1, 0xC3, 0xB1, 0x62] := by
  decide +kernel
/-- a too-small buffer is an out-of-bounds write, a too-large one leaves `0` filler: the model is not
    trivially insensitive to `LEN` -/
example : concatStrs 1 (.strs [[0x61], [0x62]]) = .panic .index := by decide +kernel
example : concatStrs 3 (.strs [[0x61], [0x62]]) = .ok [0x61, 0x62, 0] := by decide +kernel
example : concatSlices 2 ([[], []] : List (List Nat)) = .panic .noElem := by decide +kernel
example : sliceConcat [[1, 2], [], [3]] = .ok [1, 2, 3] := by decide +kernel
example : strFromIter [.chr 0x61, .str [0xC3, 0xB1]] = .ok [0x61, 0xC3, 0xB1] := by decide +kernel
example : IsCStr [0x61, 0] := ⟨by decide, by decide⟩
example : fromBytesWithNul [0x61, 0, 0] = .err (.internalNul 1) := by decide +kernel
example : fromBytesUntilNul [0x61, 0x62] = none := by decide +kernel
example : toBytesWithNul [0x61, 0x62] = none := by decide +kernel

/-! ## name hygiene of the expansions (`Model/ConcatHyg.lean`)

  For every identifier `n` and every kind of item the caller may have declared under that name: the
  invocation means what the caller wrote (`Hyg.transparent`: `n`, mentioned inside the macro argument,
  still resolves to the caller's item and no binding of the expansion collides with it) EXACTLY when
  `n` is none of the listed names. For `str_concat!`, `str_join!` and the list argument of
  `slice_concat!` the only reserved name is the mangled value `__ARGS_81608BFNA5`; the helper
  constants live in an inner block the argument is not pasted into, and they are mangled as well
  (`__LEN_81608BFNA5`, ..). Findings F20a/F20b (the repository before its commit 450faa1): under the plain
  names `LEN`, `CONC`, `STR` they are visible to the element type of `slice_concat!`, and `ArrayStr<LEN>`
  names a caller TYPE. -/
section Hygiene
open Konst.Concat.Hyg

theorem stringConcat_transparent_iff (d : UserDecl) (n : String) :
    transparent stringConcatSk "slice" d n = true ↔ ¬ (d.ns = .val ∧ n = "__ARGS_81608BFNA5") := by
  rw [transparent_iff, show (holes "slice" [] stringConcatSk).flatten = [(.val, "__ARGS_81608BFNA5")] from rfl,
    show binders stringConcatSk = [] from rfl, show gargsFree [] stringConcatSk = [] from rfl]
  simp only [List.mem_cons, List.not_mem_nil, or_false, and_false, Prod.mk.injEq]

theorem stringJoin_transparent_iff (frag : String) (hf : frag = "sep" ∨ frag = "slice")
    (d : UserDecl) (n : String) :
    transparent stringJoinSk frag d n = true ↔ ¬ (d.ns = .val ∧ n = "__ARGS_81608BFNA5") := by
  have hb : binders stringJoinSk = [] := rfl
  have hg : gargsFree [] stringJoinSk = [] := rfl
  rcases hf with rfl | rfl
  · rw [transparent_iff, show (holes "sep" [] stringJoinSk).flatten = [(.val, "__ARGS_81608BFNA5")] from rfl, hb, hg]
    simp only [List.mem_cons, List.not_mem_nil, or_false, and_false, Prod.mk.injEq]
  · rw [transparent_iff, show (holes "slice" [] stringJoinSk).flatten = [(.val, "__ARGS_81608BFNA5")] from rfl, hb, hg]
    simp only [List.mem_cons, List.not_mem_nil, or_false, and_false, Prod.mk.injEq]

theorem sliceConcat_slice_transparent_iff (d : UserDecl) (n : String) :
    transparent sliceConcatSk "slice" d n = true ↔ ¬ (d.ns = .val ∧ n = "__ARGS_81608BFNA5") := by
  rw [transparent_iff, show (holes "slice" [] sliceConcatSk).flatten = [(.val, "__ARGS_81608BFNA5")] from rfl,
    show binders sliceConcatSk = [] from rfl, show gargsFree [] sliceConcatSk = [] from rfl]
  simp only [List.mem_cons, List.not_mem_nil, or_false, and_false, Prod.mk.injEq]

/-- the ELEMENT TYPE of `slice_concat!` is pasted a second time inside the inner block
    (`const __CONC_81608BFNA5: [$elem_ty; __LEN_81608BFNA5]`): only the mangled names are reserved
    there (`slice_concat!([u8; LEN], ..)` with a caller constant `LEN` is fine) -/
theorem sliceConcat_elemTy_transparent_iff (d : UserDecl) (n : String) :
    transparent sliceConcatSk "elem_ty" d n = true ↔
      ¬ (d.ns = .val ∧
          (n = "__ARGS_81608BFNA5" ∨ n = "__LEN_81608BFNA5" ∨ n = "__CONC_81608BFNA5")) := by
  have hh : (holes "elem_ty" [] sliceConcatSk).flatten = [(.val, "__ARGS_81608BFNA5"),
      (.val, "__LEN_81608BFNA5"), (.val, "__CONC_81608BFNA5"), (.val, "__ARGS_81608BFNA5")] := rfl
  rw [transparent_iff, hh, show binders sliceConcatSk = [] from rfl, show gargsFree [] sliceConcatSk = [] from rfl]
  simp only [List.mem_cons, List.not_mem_nil, or_false, and_false, Prod.mk.injEq, ← and_or_left]
  grind

/-- items / const generic of the `from_iter!` expansion that are visible to the iterator arguments -/
def fromIterItems : List String :=
  ["CAP_KO9Y329U2U", "__func_zxe7hgbnjs", "__COUNT81608BFNA5", "__ARR81608BFNA5", "__STR81608BFNA5"]
/-- identifier patterns of the `from_iter!` expansion (they cannot shadow a caller `const`/`static`) -/
def fromIterBinders : List String :=
  ["cmd", "array", "written_length", "iter", "elem_phantom_ty", "item", "elem_", "next_", "teq",
   "byteser", "bytes", "item_len", "i", "j", "x"]

theorem strFromIter_transparent_iff (d : UserDecl) (n : String) :
    transparent strFromIterSk "rem" d n = true ↔
      ¬ ((d.ns = .val ∧ n ∈ fromIterItems) ∨
         (d.ns = .ty ∧ (n = "Ret_KO9Y329U2U" ∨ n = "CAP_KO9Y329U2U")) ∨
         (d.shadowable = false ∧ n ∈ fromIterBinders)) := by
  have hh : (holes "rem" [] strFromIterSk).flatten =
      [(.ty, "Ret_KO9Y329U2U"), (.val, "CAP_KO9Y329U2U"), (.val, "__func_zxe7hgbnjs"),
       (.val, "__COUNT81608BFNA5"), (.val, "__ARR81608BFNA5"), (.val, "__STR81608BFNA5")] := rfl
  have hb : binders strFromIterSk = ["cmd", "array", "written_length", "iter", "elem_phantom_ty", "item", "elem_",
      "next_", "teq", "byteser", "bytes", "item_len", "i", "j", "teq", "teq", "array", "x"] := rfl
  have hg : gargsFree [] strFromIterSk = ["CAP_KO9Y329U2U", "CAP_KO9Y329U2U"] := rfl
  rw [transparent_iff, hh, hb, hg]
  simp only [fromIterItems, fromIterBinders, List.mem_cons, List.not_mem_nil, or_false, Prod.mk.injEq]
  grind

/-- the model IS sensitive to the inner block and to the names: without the inner block the helper
    constants are in the argument's scope, and under the plain names a caller constant `STR` inside the
    argument is captured -/
example : transparent (.block (.item .val "__ARGS_81608BFNA5" [] [.hole "slice"] :: lenConcStr))
    "slice" .const "__STR_81608BFNA5" = false := by decide +kernel
example : transparent (.block [.item .val "__ARGS_81608BFNA5" [] [.hole "slice"],
    .item .val "LEN" [] [], .item .val "CONC" [] [.garg "LEN"], .item .val "STR" [] []])
    "slice" .const "STR" = false := by decide +kernel
example : transparent stringConcatSk "slice" .const "__STR_81608BFNA5" = true := by decide +kernel
example : transparent stringConcatSk "slice" .const "STR" = true := by decide +kernel
example : transparent strFromIterSk "rem" .const "i" = false := by decide +kernel
example : transparent strFromIterSk "rem" .fn "i" = true := by decide +kernel
example : transparent stringJoinSk "sep" .tyAlias "LEN" = true := by decide +kernel
example : transparent sliceConcatSk "elem_ty" .const "LEN" = true := by decide +kernel
example : transparent sliceConcatSk "elem_ty" .const "__LEN_81608BFNA5" = false := by decide +kernel
example : transparent strFromIterSk "rem" .tyAlias "CAP_KO9Y329U2U" = false := by decide +kernel

end Hygiene

end Konst.Props.C20
