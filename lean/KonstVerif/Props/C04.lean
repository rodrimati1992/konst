import KonstVerif.Model.Bytes
import KonstVerif.Model.StrFns
import KonstVerif.Spec.Bytes
import KonstVerif.Lemmas.Bytes
import KonstVerif.Lemmas.SyncMatch
/-
  C04 — Pattern search finds the same first / last occurrence as std.
  The loops in closed form: Lemmas/Bytes.lean.  Every theorem is for ALL byte lists
  `h` (haystack) and `p` (pattern bytes after normalisation), no bound on lengths.
  "`p` occurs in `h` at offset `i`" is `p <+: h.drop i`.
-/
namespace Konst.Props.C04
open Konst Konst.Bytes Konst.Spec.Bytes Konst.Lemmas.Bytes
open Konst.Lemmas.Slice (sliceFrom_inBounds sliceUpTo_inBounds sliceFrom_apply sliceUpTo_apply)

private theorem occ_iff (h p : List Nat) (i : Nat) : occursAt h p i = true ↔ p <+: h.drop i := by
  unfold occursAt; exact List.isPrefixOf_iff_prefix

private theorem occ_false_iff (h p : List Nat) (i : Nat) : occursAt h p i = false ↔ ¬ p <+: h.drop i := by
  rw [← occ_iff]; simp

private theorem occ_beyond (h p : List Nat) (i : Nat) (hi : h.length ≤ i) :
    occursAt h p i = occursAt h p h.length := by
  unfold occursAt
  rw [List.drop_of_length_le hi, List.drop_of_length_le (Nat.le_refl _)]

/-- forward search = the specification, for every haystack and every pattern (empty included) -/
theorem find_eq_spec (h p : List Nat) : bytesFind h p = findSpec h p := bytesFind_eq_spec h p

/-- … and the specification is "the LOWEST offset at which the pattern occurs":
    `bytesFind h p = some i` exactly when `p` occurs at `i` and at no smaller offset -/
theorem find_least (h p : List Nat) (i : Nat) :
    bytesFind h p = some i ↔ (p <+: h.drop i ∧ i ≤ h.length ∧ ∀ j, j < i → ¬ p <+: h.drop j) := by
  rw [find_eq_spec]
  unfold findSpec
  rw [List.find?_range_eq_some]
  simp only [List.mem_range, Bool.not_eq_eq_eq_not, Bool.not_true, occ_iff, occ_false_iff]
  constructor
  · intro ⟨a, b, c⟩; exact ⟨a, by omega, c⟩
  · intro ⟨a, b, c⟩; exact ⟨a, by omega, c⟩

/-- reverse search = the specification for every non-empty pattern -/
theorem rfind_eq_spec (h p : List Nat) (hp : p ≠ []) : bytesRfind h p = rfindSpec h p :=
  bytesRfind_eq_spec h p hp

/-- … and the specification is "the HIGHEST offset at which the pattern occurs" -/
theorem rfind_greatest (h p : List Nat) (hp : p ≠ []) (i : Nat) :
    bytesRfind h p = some i ↔ (p <+: h.drop i ∧ i ≤ h.length ∧ ∀ j, i < j → ¬ p <+: h.drop j) := by
  rw [rfind_eq_spec h p hp]
  unfold rfindSpec
  rw [revFind_range_some]
  simp only [occ_iff, occ_false_iff]
  constructor
  · intro ⟨a, b, c⟩
    refine ⟨a, by omega, ?_⟩
    intro j hj
    by_cases hjl : j < h.length + 1
    · exact c j hj hjl
    · rw [← occ_false_iff]
      exact occursAt_false_of_short (by have := List.length_pos_iff.mpr hp; omega) hp
  · intro ⟨a, b, c⟩
    exact ⟨a, by omega, fun j hj _ => c j hj⟩

theorem find_empty (h : List Nat) : bytesFind h [] = some 0 := by
  rw [find_least]
  exact ⟨List.nil_prefix, Nat.zero_le _, by intro j hj; omega⟩

/-- absence is reported only (and always) when the pattern does not occur anywhere -/
theorem absent_iff (h p : List Nat) :
    (bytesFind h p = none ↔ ∀ i, ¬ p <+: h.drop i) ∧
    (p ≠ [] → (bytesRfind h p = none ↔ ∀ i, ¬ p <+: h.drop i)) := by
  have beyond : (∀ i, i < h.length + 1 → occursAt h p i = false) → ∀ i, ¬ p <+: h.drop i := by
    intro hall i
    rw [← occ_false_iff]
    by_cases hi : i < h.length + 1
    · exact hall i hi
    · rw [occ_beyond h p i (by omega)]; exact hall _ (by omega)
  constructor
  · rw [find_eq_spec]; unfold findSpec
    rw [List.find?_range_eq_none]
    simp only [Bool.not_eq_eq_eq_not, Bool.not_true]
    exact ⟨beyond, fun hall i _ => (occ_false_iff h p i).mpr (hall i)⟩
  · intro hp
    rw [rfind_eq_spec h p hp]; unfold rfindSpec
    rw [revFind_range_none]
    exact ⟨beyond, fun hall i _ => (occ_false_iff h p i).mpr (hall i)⟩

/-- `contains` / `rcontains` say whether the pattern occurs -/
theorem contains_iff (h p : List Nat) :
    bytesContain h p = containsSpec h p ∧
    (bytesContain h p = true ↔ ∃ i, p <+: h.drop i) ∧
    bytesRcontain h p = (rfindSpec h p).isSome ∧
    (bytesRcontain h p = true ↔ ∃ i, p <+: h.drop i) := by
  have hfwd : bytesContain h p = true ↔ ∃ i, p <+: h.drop i := by
    unfold bytesContain
    constructor
    · intro hs
      obtain ⟨i, hi⟩ := Option.isSome_iff_exists.mp hs
      exact ⟨i, ((find_least h p i).mp hi).1⟩
    · intro ⟨i, hi⟩
      cases hr : bytesFind h p with
      | some k => rfl
      | none => exact absurd hi (((absent_iff h p).1.mp hr) i)
  refine ⟨by unfold bytesContain containsSpec; rw [find_eq_spec], hfwd, ?_, ?_⟩
  · by_cases hp : p = []
    · subst hp
      simp [bytesRcontain, bytesRfind, rfindSpec_nil]
    · unfold bytesRcontain; rw [rfind_eq_spec h p hp]
  · by_cases hp : p = []
    · subst hp
      simp only [bytesRcontain, bytesRfind, List.isEmpty_nil, if_true, Option.isSome_some, true_iff]
      exact ⟨0, List.nil_prefix⟩
    · unfold bytesRcontain
      constructor
      · intro hs
        obtain ⟨i, hi⟩ := Option.isSome_iff_exists.mp hs
        exact ⟨i, ((rfind_greatest h p hp i).mp hi).1⟩
      · intro ⟨i, hi⟩
        cases hr : bytesRfind h p with
        | some k => rfl
        | none => exact absurd hi ((((absent_iff h p).2 hp).mp hr) i)

/-- `find_skip`: the haystack after the first occurrence, `h.drop (i + |p|)` (whole haystack for
    an empty pattern), `None` iff absent; the view lies inside the haystack -/
theorem findSkip_eq (h p : List Nat) :
    (findSkip h p).map (·.apply h) = findSkipSpec h p ∧
    (∀ v, findSkip h p = some v → v.InBounds h.length) := by
  unfold findSkip findSkipSpec
  by_cases hp : p = []
  · subst hp
    simp [findSpec_nil, View.apply, View.InBounds]
  · rw [find_eq_spec]
    simp only [List.isEmpty_eq_false_iff.mpr hp, Bool.false_eq_true, if_false]
    cases findSpec h p with
    | none => simp
    | some i => simp [sliceFrom_apply, sliceFrom_inBounds]

/-- `find_keep`: the haystack from the first occurrence on, `h.drop i` -/
theorem findKeep_eq (h p : List Nat) :
    (findKeep h p).map (·.apply h) = findKeepSpec h p ∧
    (∀ v, findKeep h p = some v → v.InBounds h.length) := by
  unfold findKeep findKeepSpec
  by_cases hp : p = []
  · subst hp
    simp [findSpec_nil, View.apply, View.InBounds]
  · rw [find_eq_spec]
    simp only [List.isEmpty_eq_false_iff.mpr hp, Bool.false_eq_true, if_false]
    cases findSpec h p with
    | none => simp
    | some i => simp [sliceFrom_apply, sliceFrom_inBounds]

/-- `rfind_skip`: the haystack before the last occurrence, `h.take i` -/
theorem rfindSkip_eq (h p : List Nat) :
    (rfindSkip h p).map (·.apply h) = rfindSkipSpec h p ∧
    (∀ v, rfindSkip h p = some v → v.InBounds h.length) := by
  unfold rfindSkip rfindSkipSpec
  by_cases hp : p = []
  · subst hp
    simp [rfindSpec_nil, View.apply, View.InBounds]
  · rw [rfind_eq_spec h p hp]
    simp only [List.isEmpty_eq_false_iff.mpr hp, Bool.false_eq_true, if_false]
    cases rfindSpec h p with
    | none => simp
    | some i => simp [sliceUpTo_apply, sliceUpTo_inBounds]

/-- `rfind_keep`: the haystack up to the end of the last occurrence, `h.take (i + |p|)` -/
theorem rfindKeep_eq (h p : List Nat) :
    (rfindKeep h p).map (·.apply h) = rfindKeepSpec h p ∧
    (∀ v, rfindKeep h p = some v → v.InBounds h.length) := by
  unfold rfindKeep rfindKeepSpec
  by_cases hp : p = []
  · subst hp
    simp [rfindSpec_nil, View.apply, View.InBounds]
  · rw [rfind_eq_spec h p hp]
    simp only [List.isEmpty_eq_false_iff.mpr hp, Bool.false_eq_true, if_false]
    cases rfindSpec h p with
    | none => simp
    | some i => simp [sliceUpTo_apply, sliceUpTo_inBounds]

/-! ### split_once / rsplit_once (str level: may panic in `str_up_to`/`str_from`) -/

open Konst.StrFns in
/-- the two cuts around an occurrence of length `n` found at `o` (`none`: not found); the panic
    when an end of the occurrence fails the char-boundary test of `str_up_to`/`str_from` -/
private def cutAt (h : List Nat) (n : Nat) : Option Nat → Except Unit (Option (View × View))
  | none => .ok none
  | some i =>
    if isCharBoundaryForgiving h i = true ∧ isCharBoundaryForgiving h (i + n) = true
    then .ok (some (Slice.sliceUpTo h.length i, Slice.sliceFrom h.length (i + n))) else .error ()

open Konst.StrFns in
private theorem cuts_eq (h : List Nat) (i n : Nat) :
    (do let a ← strUpTo h i; let b ← strFrom h (i + n); pure (some (a, b)) : Except Unit (Option (View × View)))
      = cutAt h n (some i) := by
  unfold strUpTo strFrom cutAt
  by_cases h1 : isCharBoundaryForgiving h i = true <;>
    by_cases h2 : isCharBoundaryForgiving h (i + n) = true <;>
    simp [h1, h2, bind, Except.bind, pure, Except.pure]

open Konst.StrFns in
private theorem splitAt_eq_cuts (h : List Nat) (i : Nat) :
    (StrFns.splitAt h i).map some = cutAt h 0 (some i) := by
  rw [← cuts_eq]
  unfold StrFns.splitAt
  cases strUpTo h i <;> cases strFrom h i <;> rfl

open Konst.StrFns in
private theorem splitOnce_closed (h p : List Nat) : splitOnce h p = cutAt h p.length (findSpec h p) := by
  unfold splitOnce
  by_cases hp : p = []
  · subst hp
    rw [findSpec_nil]
    exact splitAt_eq_cuts h 0
  · simp only [List.isEmpty_eq_false_iff.mpr hp, Bool.false_eq_true, if_false, StrFns.find]
    rw [find_eq_spec]
    cases findSpec h p with
    | none => rfl
    | some i => exact cuts_eq h i p.length

open Konst.StrFns in
private theorem rsplitOnce_closed (h p : List Nat) : rsplitOnce h p = cutAt h p.length (rfindSpec h p) := by
  unfold rsplitOnce
  by_cases hp : p = []
  · subst hp
    rw [rfindSpec_nil]
    exact splitAt_eq_cuts h h.length
  · simp only [List.isEmpty_eq_false_iff.mpr hp, Bool.false_eq_true, if_false, StrFns.rfind]
    rw [rfind_eq_spec h p hp]
    cases rfindSpec h p with
    | none => rfl
    | some i => exact cuts_eq h i p.length

open Konst.StrFns in
private theorem cutAt_spec (h : List Nat) (n : Nat) (o : Option Nat) :
    (∀ r, cutAt h n o = .ok r →
        r.map (fun ab => (ab.1.apply h, ab.2.apply h)) = o.map (fun i => (h.take i, h.drop (i + n))) ∧
        (∀ ab, r = some ab → ab.1.InBounds h.length ∧ ab.2.InBounds h.length)) ∧
    (cutAt h n o = .error () ↔ ∃ i, o = some i ∧
        ¬ (isCharBoundaryForgiving h i = true ∧ isCharBoundaryForgiving h (i + n) = true)) := by
  unfold cutAt
  cases o with
  | none => simp
  | some i =>
    by_cases hb : isCharBoundaryForgiving h i = true ∧ isCharBoundaryForgiving h (i + n) = true
    · simp only [hb, and_self, if_true, Except.ok.injEq, Option.map_some, reduceCtorEq, false_iff]
      refine ⟨?_, (by simp [hb])⟩
      intro r hr; subst hr
      simp [sliceUpTo_apply, sliceFrom_apply, sliceUpTo_inBounds, sliceFrom_inBounds]
    · simp only [hb, if_false, reduceCtorEq, false_imp_iff, implies_true, true_and, true_iff]
      exact ⟨i, by simpa using hb⟩

open Konst.StrFns in
/-- `split_once` (every pattern, empty included): whenever it returns, the two parts are
    `(h.take i, h.drop (i + |p|))` at the FIRST occurrence (`None` iff the pattern is absent), both
    inside `h`; and it panics exactly when an end of the first occurrence is not accepted by the
    char-boundary test of `str_up_to`/`str_from`.
    (That this never happens for a valid UTF-8 haystack and pattern: `splitOnce_valid` below.) -/
theorem splitOnce_eq (h p : List Nat) :
    (∀ r, splitOnce h p = .ok r →
        r.map (fun ab => (ab.1.apply h, ab.2.apply h)) = splitOnceSpec h p ∧
        (∀ ab, r = some ab → ab.1.InBounds h.length ∧ ab.2.InBounds h.length)) ∧
    (splitOnce h p = .error () ↔ ∃ i, findSpec h p = some i ∧
        ¬ (isCharBoundaryForgiving h i = true ∧ isCharBoundaryForgiving h (i + p.length) = true)) := by
  rw [splitOnce_closed]
  exact cutAt_spec h p.length (findSpec h p)

open Konst.StrFns in
/-- `rsplit_once`: the same at the LAST occurrence -/
theorem rsplitOnce_eq (h p : List Nat) :
    (∀ r, rsplitOnce h p = .ok r →
        r.map (fun ab => (ab.1.apply h, ab.2.apply h)) = rsplitOnceSpec h p ∧
        (∀ ab, r = some ab → ab.1.InBounds h.length ∧ ab.2.InBounds h.length)) ∧
    (rsplitOnce h p = .error () ↔ ∃ i, rfindSpec h p = some i ∧
        ¬ (isCharBoundaryForgiving h i = true ∧ isCharBoundaryForgiving h (i + p.length) = true)) := by
  rw [rsplitOnce_closed]
  exact cutAt_spec h p.length (rfindSpec h p)

open Konst.Spec in
/-- the first / last occurrence of a non-empty needle made of whole characters starts and ends on
    character boundaries of the haystack (`match_on_boundaries`) -/
theorem found_on_boundaries (cs ps : List Nat) (hne : Utf8.encs ps ≠ []) (pos : Nat)
    (h : bytesFind (Utf8.encs cs) (Utf8.encs ps) = some pos ∨
      bytesRfind (Utf8.encs cs) (Utf8.encs ps) = some pos) :
    Utf8.IsBoundary cs pos ∧ Utf8.IsBoundary cs (pos + (Utf8.encs ps).length) := by
  have hocc : Utf8.encs ps <+: (Utf8.encs cs).drop pos := by
    rcases h with h | h
    · exact ((find_least _ _ pos).mp h).1
    · exact ((rfind_greatest _ _ hne pos).mp h).1
  exact Lemmas.Utf8.match_on_boundaries cs ps (fun e => hne (by rw [e]; rfl)) pos hocc

open Konst.StrFns Konst.Spec Konst.Lemmas.SyncMatch in
private theorem ends_on_boundaries (cs ps : List Nat) (i : Nat)
    (hi : findSpec (Utf8.encs cs) (Utf8.encs ps) = some i ∨ rfindSpec (Utf8.encs cs) (Utf8.encs ps) = some i) :
    isCharBoundaryForgiving (Utf8.encs cs) i = true ∧
    isCharBoundaryForgiving (Utf8.encs cs) (i + (Utf8.encs ps).length) = true := by
  have hb : Utf8.IsBoundary cs i ∧ Utf8.IsBoundary cs (i + (Utf8.encs ps).length) := by
    by_cases hne : Utf8.encs ps = []
    · rw [hne] at hi ⊢
      rcases hi with hi | hi
      · rw [findSpec_nil] at hi; cases hi
        exact ⟨Lemmas.Utf8.boundary_zero cs, Lemmas.Utf8.boundary_zero cs⟩
      · rw [rfindSpec_nil] at hi; cases hi
        exact ⟨Lemmas.Utf8.boundary_len cs, Lemmas.Utf8.boundary_len cs⟩
    · refine found_on_boundaries cs ps hne i ?_
      rw [find_eq_spec, rfind_eq_spec _ _ hne]
      exact hi
  exact ⟨forgiving_of_boundary cs i hb.1, forgiving_of_boundary cs _ hb.2⟩

open Konst.StrFns Konst.Spec in
/-- `split_once` / `rsplit_once` on `&str` arguments (valid UTF-8 haystack and pattern, `char`
    patterns included as their encoding) never panic and return std's parts:
    `(h.take i, h.drop (i + |p|))` at the first / last occurrence, `None` iff absent -/
theorem splitOnce_valid (h p : List Nat) (hh : Utf8.Valid h) (hp : Utf8.Valid p) :
    (∃ r, splitOnce h p = .ok r ∧
      r.map (fun ab => (ab.1.apply h, ab.2.apply h)) = splitOnceSpec h p) ∧
    (∃ r, rsplitOnce h p = .ok r ∧
      r.map (fun ab => (ab.1.apply h, ab.2.apply h)) = rsplitOnceSpec h p) := by
  obtain ⟨cs, _, rfl⟩ := hh
  obtain ⟨ps, _, rfl⟩ := hp
  constructor
  · cases hs : splitOnce (Utf8.encs cs) (Utf8.encs ps) with
    | error e =>
      obtain ⟨i, hi, hn⟩ := (splitOnce_eq _ _).2.mp hs
      exact absurd (ends_on_boundaries cs ps i (Or.inl hi)) hn
    | ok r => exact ⟨r, rfl, ((splitOnce_eq _ _).1 r hs).1⟩
  · cases hs : rsplitOnce (Utf8.encs cs) (Utf8.encs ps) with
    | error e =>
      obtain ⟨i, hi, hn⟩ := (rsplitOnce_eq _ _).2.mp hs
      exact absurd (ends_on_boundaries cs ps i (Or.inr hi)) hn
    | ok r => exact ⟨r, rfl, ((rsplitOnce_eq _ _).1 r hs).1⟩

/-- the str-level search functions are the byte functions applied to `as_bytes()` (the theorems
    above therefore speak about `string::find`, `rfind`, `contains`, `rcontains`, `find_skip`, … too) -/
theorem str_wrappers (h p : List Nat) :
    StrFns.find h p = bytesFind h p ∧ StrFns.rfind h p = bytesRfind h p ∧
    StrFns.contains h p = bytesContain h p ∧ StrFns.rcontains h p = (rfindSpec h p).isSome ∧
    StrFns.findSkip h p = findSkip h p ∧ StrFns.findKeep h p = findKeep h p ∧
    StrFns.rfindSkip h p = rfindSkip h p ∧ StrFns.rfindKeep h p = rfindKeep h p := by
  refine ⟨rfl, rfl, rfl, ?_, rfl, rfl, rfl, rfl⟩
  exact (contains_iff h p).2.2.1

-- the hypotheses of `splitOnce_valid` are satisfiable: "añ" with pattern "ñ"
example : Konst.Spec.Utf8.Valid [0x61, 0xC3, 0xB1] ∧ Konst.Spec.Utf8.Valid [0xC3, 0xB1] :=
  ⟨⟨[0x61, 0xF1], by decide, by decide⟩, ⟨[0xF1], by decide, by decide⟩⟩
example : StrFns.splitOnce [0x61, 0xC3, 0xB1] [0xC3, 0xB1] = .ok (some (⟨0, 1⟩, ⟨3, 0⟩)) := by rfl

-- non-vacuity / sanity: concrete values of model and spec (kernel-evaluated)
example : bytesFind [97, 97, 97, 98] [97, 97, 98] = some 1 := by decide +kernel
example : findSpec [97, 97, 97, 98] [97, 97, 98] = some 1 := by decide +kernel
example : bytesRfind [97, 98, 98, 98] [97, 98, 98] = some 0 := by decide +kernel
example : bytesRfind [97, 98, 97, 98] [97, 98] = some 2 ∧ rfindSpec [97, 98, 97, 98] [97, 98] = some 2 := by decide +kernel
example : bytesFind [97, 98] [98, 98, 98] = none := by decide +kernel
example : (findSkip [1, 2, 3, 4] [2, 3]).map (·.apply [1, 2, 3, 4]) = some [4] := by decide +kernel
example : StrFns.splitOnce [97, 45, 98] [45] = .ok (some (⟨0, 1⟩, ⟨2, 1⟩)) := by rfl
-- the panic branch of split_once is reachable only with a non-UTF-8 "pattern" (a lone continuation byte of ñ)
example : StrFns.splitOnce [0xC3, 0xB1] [0xB1] = .error () := by rfl
-- the reverse search for an empty pattern: the code's value (outside the property) vs std's
example : bytesRfind [1, 2, 3] [] = some 2 ∧ rfindSpec [1, 2, 3] [] = some 3 := by decide +kernel

end Konst.Props.C04
