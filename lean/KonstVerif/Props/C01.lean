import KonstVerif.Model.Slice
import KonstVerif.Model.Utf8
import KonstVerif.Model.Chr
import KonstVerif.Model.Bytes
import KonstVerif.Model.StrFns
import KonstVerif.Lemmas.Utf8
import KonstVerif.Lemmas.Bytes
import KonstVerif.Lemmas.StrValid
import KonstVerif.Props.C02
import KonstVerif.Props.C03
import KonstVerif.Props.C04
import KonstVerif.Props.C05
import KonstVerif.Props.C07
/-
  C01 — the guards that make konst's unsafe blocks sound (the LOGIC half of "the safe API never
  triggers UB; results stay inside the input and are valid UTF-8").

  What is and is not proved here.  "No undefined behaviour in Rust's abstract machine" is not a
  statement about any Lean model, and nothing below pretends it is.  What is proved, for ALL inputs:
  the arguments handed to `from_raw_parts`, `ptr.offset`, `from_utf8_unchecked` and the `u32 -> char`
  transmute satisfy the preconditions that the safety comments of the Rust code appeal to:

   * string half (`konst/src/string.rs`, "the safety comment as a theorem"): for EVERY valid UTF-8
     haystack `encs cs` and EVERY valid pattern `encs ps` (a `&str`, or a `char` as its encoding), each
     str-returning function returns a view that is `GoodStr`: inside the argument, both ends on
     character boundaries of the argument, denoting valid UTF-8.
   * slice half (`konst_kernel/src/slice.rs`, `slice_const_methods.rs`, `slice_as_chunks.rs`): the
     `ptr.offset(start as _)` cast is lossless, `split_at_mut` halves are disjoint and cover, the
     `as_chunks` arithmetic, `try_into_array` only when the lengths agree.
   * chars: `from_u32` transmutes only scalar values; `encode_utf8(c).as_str()` is a valid
     one-character string of length `≤ 4` that lies inside the 4-byte buffer.

  Theorems of other properties that C01 additionally relies on are listed in `obligations/C01.txt`
  (C02 `views_in_bounds`, C03 `result_valid`, C04 `splitOnce_valid`, C07 `yielded_are_scalar`, …).
  Memory-model facts (provenance, aliasing of `&mut`, initialisation) are OBSERVED on the
  implementation under rustc's const evaluator and Miri (see notes/C01.md), never proved.

  Throughout: `cs`/`ps` are arbitrary lists of scalar values (the chars of the haystack/pattern);
  `encs cs` is the haystack's bytes — i.e. every valid `&str`; no bound on lengths.
-/
namespace Konst.Props.C01
open Konst Konst.Spec.Utf8 Konst.Lemmas.Utf8 Konst.Lemmas.StrValid
open Konst.Spec.Bytes Konst.Lemmas.Bytes Konst.Lemmas.Slice

private theorem isEmpty_false {p : List Nat} (hp : p ≠ []) : p.isEmpty = false :=
  List.isEmpty_eq_false_iff.mpr hp

private theorem isEmpty_true {p : List Nat} (h : p.isEmpty = true) : p = [] := by
  cases p <;> simp_all

/-! ## String half: pattern functions of `konst::string` -/

/-- the shape shared by `find_skip`, `find_keep`, `rfind_skip`, `rfind_keep`: the whole string for
    an empty needle, else a view made from the offset found, which lies on boundaries -/
private theorem search_view_good {cs : List Nat} (hs : ∀ c ∈ cs, isScalar c = true) {e : Bool}
    {o : Option Nat} {mk : Nat → View} (hmk : ∀ pos, e = false → o = some pos → OnBoundaries cs (mk pos))
    {v : View}
    (hv : (if e then some ⟨0, (encs cs).length⟩ else
      match o with
      | some pos => some (mk pos)
      | none => none) = some v) : GoodStr cs v := by
  apply goodStr_of_boundaries cs hs
  cases e with
  | true => cases hv; exact onB_whole cs
  | false =>
    cases o with
    | none => cases hv
    | some pos => cases hv; exact hmk pos rfl rfl

/-- `string::find_skip`, `find_keep`, `rfind_skip`, `rfind_keep` (`&str` and `char` patterns):
    every returned string lies inside the haystack, starts and ends on character boundaries of
    the haystack and is valid UTF-8 — the argument of the `// safety:` comments
    ("because bytes_find_skip was passed `&str`s casted to `&[u8]`s, it returns a valid utf8
    sequence") for every valid haystack and every valid needle, the empty needle included -/
theorem find_family_good (cs ps : List Nat) (hs : ∀ c ∈ cs, isScalar c = true) :
    (∀ v, StrFns.findSkip (encs cs) (encs ps) = some v → GoodStr cs v) ∧
    (∀ v, StrFns.findKeep (encs cs) (encs ps) = some v → GoodStr cs v) ∧
    (∀ v, StrFns.rfindSkip (encs cs) (encs ps) = some v → GoodStr cs v) ∧
    (∀ v, StrFns.rfindKeep (encs cs) (encs ps) = some v → GoodStr cs v) := by
  have found (pos : Nat) (he : (encs ps).isEmpty = false)
      (h : Bytes.bytesFind (encs cs) (encs ps) = some pos ∨ Bytes.bytesRfind (encs cs) (encs ps) = some pos) :
      IsBoundary cs pos ∧ IsBoundary cs (pos + (encs ps).length) :=
    C04.found_on_boundaries cs ps (List.isEmpty_eq_false_iff.mp he) pos h
  exact ⟨fun v hv => search_view_good hs (fun pos he hf => C03.sliceFrom_onB cs _ (Or.inr (found pos he (Or.inl hf)).2)) hv,
    fun v hv => search_view_good hs (fun pos he hf => C03.sliceFrom_onB cs _ (Or.inr (found pos he (Or.inl hf)).1)) hv,
    fun v hv => search_view_good hs (fun pos he hf => C03.sliceUpTo_onB cs _ (Or.inr (found pos he (Or.inr hf)).1)) hv,
    fun v hv => search_view_good hs (fun pos he hf => C03.sliceUpTo_onB cs _ (Or.inr (found pos he (Or.inr hf)).2)) hv⟩

private theorem suffixView_onB (cs : List Nat) {w r : List Nat} (h : encs cs = w ++ r)
    (hb : IsBoundary cs w.length) : OnBoundaries cs (Bytes.suffixView (encs cs) r) := by
  have : Bytes.suffixView (encs cs) r = ⟨w.length, (encs cs).length - w.length⟩ := by
    simp only [Bytes.suffixView, h, List.length_append, View.mk.injEq]; omega
  rw [this]; exact onB_suffix cs _ hb

private theorem prefixView_onB (cs : List Nat) {r : List Nat} (hb : IsBoundary cs r.length) :
    OnBoundaries cs (Bytes.prefixView r) :=
  onB_prefix cs _ hb

/-- what is left between a removed front `w` and a removed back, as `bytes_trim`/`trim_matches`
    compose it: `off`/`len` are those of the composed view -/
private theorem middle_onB (cs : List Nat) {off len : Nat} {w m : List Nat}
    (h1 : IsBoundary cs w.length) (h2 : IsBoundary cs (w ++ m).length)
    (hoff : off = w.length) (hlen : len = m.length) : OnBoundaries cs ⟨off, len⟩ := by
  subst hoff hlen
  exact ⟨h1, by rw [← List.length_append]; exact h2⟩

/-- `string::strip_prefix` / `strip_suffix`: "because `pat` is a `Pattern`, removing it should
    result in a valid `&str`" — for every valid haystack and valid pattern -/
theorem strip_good (cs ps : List Nat) (hs : ∀ c ∈ cs, isScalar c = true) :
    (∀ v, StrFns.stripPrefix (encs cs) (encs ps) = some v → GoodStr cs v) ∧
    (∀ v, StrFns.stripSuffix (encs cs) (encs ps) = some v → GoodStr cs v) := by
  constructor <;> intro v hv <;> apply goodStr_of_boundaries cs hs
  · unfold StrFns.stripPrefix Bytes.stripPrefix at hv
    rw [stripPrefixL_eq, stripPrefixSpec] at hv
    split at hv
    · rename_i hp
      cases hv
      obtain ⟨r, hr⟩ := List.isPrefixOf_iff_prefix.mp hp
      have hd : (encs cs).drop (encs ps).length = r := by rw [← hr, List.drop_left]
      have hb : IsBoundary cs (encs ps).length := by
        simpa using reps_prefix_boundary cs ps 1 r (by simpa using hr.symm)
      rw [hd]
      exact suffixView_onB cs hr.symm hb
    · cases hv
  · unfold StrFns.stripSuffix Bytes.stripSuffix at hv
    rw [stripSuffixL_eq, stripSuffixSpec] at hv
    split at hv
    · rename_i hp
      cases hv
      obtain ⟨t, ht⟩ := List.isSuffixOf_iff_suffix.mp hp
      have hd : (encs cs).take ((encs cs).length - (encs ps).length) = t := by
        rw [← ht, List.length_append, Nat.add_sub_cancel, List.take_left]
      rw [hd]
      exact prefixView_onB cs (reps_suffix_boundary cs ps 1 t (by simpa using ht.symm))
    · cases hv

private theorem takeWhile_ascii (h : List Nat) : ∀ b ∈ h.takeWhile isAsciiWhitespace, b < 128 :=
  fun b hb => ws_lt b (List.all_eq_true.mp List.all_takeWhile b hb)

private theorem trimEnd_decomp_ascii (h : List Nat) :
    ∃ w, h = trimAsciiEndSpec h ++ w ∧ ∀ b ∈ w, b < 128 :=
  ⟨(h.reverse.takeWhile isAsciiWhitespace).reverse,
    by rw [trimAsciiEndSpec, ← List.reverse_append, List.takeWhile_append_dropWhile, List.reverse_reverse],
    fun b hb => takeWhile_ascii _ b (List.mem_reverse.mp hb)⟩

/-- `string::trim`, `trim_start`, `trim_end` ("bytes_trim only removes ascii bytes"): removing
    ASCII whitespace bytes from either end of a valid string cuts on character boundaries -/
theorem trim_ascii_good (cs : List Nat) (hs : ∀ c ∈ cs, isScalar c = true) :
    GoodStr cs (StrFns.trimStart (encs cs)) ∧ GoodStr cs (StrFns.trimEnd (encs cs)) ∧
    GoodStr cs (StrFns.trim (encs cs)) := by
  refine ⟨?_, ?_, ?_⟩ <;> apply goodStr_of_boundaries cs hs
  · show OnBoundaries cs (Bytes.bytesTrimStart (encs cs))
    rw [Bytes.bytesTrimStart, bytesTrimStartL_eq]
    have hd : encs cs = _ ++ trimAsciiStartSpec (encs cs) := List.takeWhile_append_dropWhile.symm
    exact suffixView_onB cs hd (ascii_prefix_boundary cs _ _ (takeWhile_ascii _) hd)
  · show OnBoundaries cs (Bytes.bytesTrimEnd (encs cs))
    rw [Bytes.bytesTrimEnd, bytesTrimEndL_eq]
    obtain ⟨w, hd, hw⟩ := trimEnd_decomp_ascii (encs cs)
    exact prefixView_onB cs (ascii_suffix_boundary cs _ w hw hd)
  · show OnBoundaries cs (Bytes.bytesTrim (encs cs))
    unfold Bytes.bytesTrim
    simp only []
    rw [bytesTrimEndL_eq, bytesTrimStartL_eq]
    obtain ⟨w2, hd, hw2⟩ := trimEnd_decomp_ascii (encs cs)
    generalize trimAsciiEndSpec (encs cs) = E at hd ⊢
    have hd1 : E = E.takeWhile isAsciiWhitespace ++ trimAsciiStartSpec E :=
      List.takeWhile_append_dropWhile.symm
    have hl := congrArg List.length hd1
    rw [List.length_append] at hl
    refine middle_onB cs (w := E.takeWhile isAsciiWhitespace) (m := trimAsciiStartSpec E)
      (ascii_prefix_boundary cs _ (trimAsciiStartSpec E ++ w2) (takeWhile_ascii E)
        (by rw [hd, ← List.append_assoc, ← hd1]))
      (by rw [← hd1]; exact ascii_suffix_boundary cs E w2 hw2 hd) ?_ rfl
    show 0 + (E.length - (trimAsciiStartSpec E).length) = _
    omega

private theorem trimStart_decomp (p h : List Nat) :
    ∃ k, h = (List.replicate k p).flatten ++ trimStartSpec p h := by
  by_cases hp : p = []
  · subst hp; exact ⟨0, by rw [trimStartSpec]; simp⟩
  · obtain ⟨k, hk, _⟩ := C05.trimStartSpec_maximal p hp h; exact ⟨k, hk⟩

private theorem trimEnd_decomp (p h : List Nat) :
    ∃ k, h = trimEndSpec p h ++ (List.replicate k p).flatten := by
  by_cases hp : p = []
  · subst hp; exact ⟨0, by rw [trimEndSpec]; simp⟩
  · obtain ⟨k, hk, _⟩ := C05.trimEndSpec_maximal p hp h; exact ⟨k, hk⟩

/-- `string::trim_matches`, `trim_start_matches`, `trim_end_matches`: removing whole repetitions
    of a valid needle from either end of a valid string cuts on character boundaries -/
theorem trim_matches_good (cs ps : List Nat) (hs : ∀ c ∈ cs, isScalar c = true) :
    GoodStr cs (StrFns.trimStartMatches (encs cs) (encs ps)) ∧
    GoodStr cs (StrFns.trimEndMatches (encs cs) (encs ps)) ∧
    GoodStr cs (StrFns.trimMatches (encs cs) (encs ps)) := by
  refine ⟨?_, ?_, ?_⟩ <;> apply goodStr_of_boundaries cs hs
  · show OnBoundaries cs (Bytes.trimStartMatches (encs cs) (encs ps))
    rw [Bytes.trimStartMatches, trimStartMatchesL_eq]
    obtain ⟨k, hk⟩ := trimStart_decomp (encs ps) (encs cs)
    exact suffixView_onB cs hk (reps_prefix_boundary cs ps k _ hk)
  · show OnBoundaries cs (Bytes.trimEndMatches (encs cs) (encs ps))
    rw [Bytes.trimEndMatches, trimEndMatchesL_eq]
    obtain ⟨k, hk⟩ := trimEnd_decomp (encs ps) (encs cs)
    exact prefixView_onB cs (reps_suffix_boundary cs ps k _ hk)
  · show OnBoundaries cs (Bytes.trimMatches (encs cs) (encs ps))
    unfold Bytes.trimMatches
    simp only []
    rw [trimStartMatchesL_eq, trimEndMatchesL_eq]
    obtain ⟨k, hk⟩ := trimStart_decomp (encs ps) (encs cs)
    generalize trimStartSpec (encs ps) (encs cs) = L at hk ⊢
    obtain ⟨k2, hk2⟩ := trimEnd_decomp (encs ps) L
    have hl := congrArg List.length hk
    rw [List.length_append] at hl
    refine middle_onB cs (w := (List.replicate k (encs ps)).flatten) (m := trimEndSpec (encs ps) L)
      (reps_prefix_boundary cs ps k L hk)
      (reps_suffix_boundary cs ps k2 _ (by rw [hk, List.append_assoc, ← hk2])) ?_ rfl
    show (encs cs).length - L.length + 0 = _
    omega

open Konst.StrFns in
private theorem strUpTo_good (cs : List Nat) (hs : ∀ c ∈ cs, isScalar c = true) (i : Nat) (a : View)
    (hb : IsBoundary cs i) (h : strUpTo (encs cs) i = .ok a) : GoodStr cs a := by
  unfold strUpTo at h
  split at h
  · injection h with h; subst h
    rw [sliceUpTo_of_le (boundary_le cs i hb)]
    exact goodStr_of_boundaries cs hs _ (onB_prefix cs _ hb)
  · cases h

open Konst.StrFns in
private theorem strFrom_good (cs : List Nat) (hs : ∀ c ∈ cs, isScalar c = true) (i : Nat) (a : View)
    (hb : IsBoundary cs i) (h : strFrom (encs cs) i = .ok a) : GoodStr cs a := by
  unfold strFrom at h
  split at h
  · injection h with h; subst h
    rw [sliceFrom_of_le (boundary_le cs i hb)]
    exact goodStr_of_boundaries cs hs _ (onB_suffix cs _ hb)
  · cases h

open Konst.StrFns in
/-- shared by split_once / rsplit_once: the two cuts at `i` and `j` -/
private theorem two_cuts_good (cs : List Nat) (hs : ∀ c ∈ cs, isScalar c = true) (i j : Nat)
    (hi : IsBoundary cs i) (hj : IsBoundary cs j) (a b : View)
    (h : (do let a ← strUpTo (encs cs) i; let b ← strFrom (encs cs) j; pure (some (a, b))
          : Except Unit (Option (View × View))) = .ok (some (a, b))) :
    GoodStr cs a ∧ GoodStr cs b := by
  cases hX : strUpTo (encs cs) i with
  | error e => simp [hX, bind, Except.bind] at h
  | ok a' =>
    cases hY : strFrom (encs cs) j with
    | error e => simp [hX, hY, bind, Except.bind] at h
    | ok b' =>
      simp only [hX, hY, bind, Except.bind, pure, Except.pure, Except.ok.injEq, Option.some.injEq,
        Prod.mk.injEq] at h
      obtain ⟨rfl, rfl⟩ := h
      exact ⟨strUpTo_good cs hs i _ hi hX, strFrom_good cs hs j _ hj hY⟩

open Konst.StrFns in
private theorem splitAt_good (cs : List Nat) (hs : ∀ c ∈ cs, isScalar c = true) (i : Nat)
    (hi : IsBoundary cs i) (a b : View)
    (h : (StrFns.splitAt (encs cs) i).map some = .ok (some (a, b))) : GoodStr cs a ∧ GoodStr cs b := by
  unfold StrFns.splitAt at h
  cases hX : strUpTo (encs cs) i with
  | error e => simp [hX, bind, Except.bind, Except.map] at h
  | ok a' =>
    cases hY : strFrom (encs cs) i with
    | error e => simp [hX, hY, bind, Except.bind, Except.map] at h
    | ok b' =>
      simp only [hX, hY, bind, Except.bind, pure, Except.pure, Except.map, Except.ok.injEq,
        Option.some.injEq, Prod.mk.injEq] at h
      obtain ⟨rfl, rfl⟩ := h
      exact ⟨strUpTo_good cs hs i _ hi hX, strFrom_good cs hs i _ hi hY⟩

open Konst.StrFns in
/-- `string::split_once` / `rsplit_once` (`&str` and `char` delimiters, the empty one included):
    on valid arguments they never reach `non_char_boundary_panic` (C04 `splitOnce_valid`), and both
    returned parts lie inside the argument, on its character boundaries, and are valid UTF-8 -/
theorem split_once_good (cs ps : List Nat) (hs : ∀ c ∈ cs, isScalar c = true)
    (hps : ∀ c ∈ ps, isScalar c = true) :
    (∃ r, splitOnce (encs cs) (encs ps) = .ok r ∧ ∀ a b, r = some (a, b) → GoodStr cs a ∧ GoodStr cs b) ∧
    (∃ r, rsplitOnce (encs cs) (encs ps) = .ok r ∧ ∀ a b, r = some (a, b) → GoodStr cs a ∧ GoodStr cs b) := by
  obtain ⟨⟨r, hr, _⟩, ⟨r2, hr2, _⟩⟩ :=
    C04.splitOnce_valid (encs cs) (encs ps) ⟨cs, hs, rfl⟩ ⟨ps, hps, rfl⟩
  refine ⟨⟨r, hr, ?_⟩, ⟨r2, hr2, ?_⟩⟩
  · intro a b hab; subst hab
    unfold splitOnce at hr
    by_cases he : (encs ps).isEmpty = true
    · simp only [he, if_true] at hr
      exact splitAt_good cs hs 0 (boundary_zero cs) a b hr
    · have hne : encs ps ≠ [] := fun e => he (by simp [e])
      simp only [he] at hr
      cases hf : find (encs cs) (encs ps) with
      | none => simp [hf] at hr
      | some pos =>
        obtain ⟨h1, h2⟩ := C04.found_on_boundaries cs ps hne pos (Or.inl hf)
        simp only [hf, Bool.false_eq_true, if_false] at hr
        exact two_cuts_good cs hs _ _ h1 h2 a b hr
  · intro a b hab; subst hab
    unfold rsplitOnce at hr2
    by_cases he : (encs ps).isEmpty = true
    · simp only [he, if_true] at hr2
      exact splitAt_good cs hs _ (boundary_len cs) a b hr2
    · have hne : encs ps ≠ [] := fun e => he (by simp [e])
      simp only [he] at hr2
      cases hf : rfind (encs cs) (encs ps) with
      | none => simp [hf] at hr2
      | some pos =>
        obtain ⟨h1, h2⟩ := C04.found_on_boundaries cs ps hne pos (Or.inr hf)
        simp only [hf, Bool.false_eq_true, if_false] at hr2
        exact two_cuts_good cs hs _ _ h1 h2 a b hr2

/-! ## String half: index-based slicing (`str_from`, `str_up_to`, `str_range`, `get_*`, `split_at`) -/

/-- `str_from`, `str_up_to`, `str_range`, `string::get_from/get_up_to/get_range`, `string::split_at`:
    whenever they return (instead of panicking / `None`), the result is `GoodStr`: the
    char-boundary predicate evaluated before `from_utf8_unchecked` is strong enough, for every valid
    string and EVERY pair of indices (beyond the length, `usize::MAX`, `start > end` included) -/
theorem slicing_good (cs : List Nat) (hs : ∀ c ∈ cs, isScalar c = true) (a b : Nat) :
    (∀ v, Utf8.strFrom (encs cs) a = .ok v → GoodStr cs v) ∧
    (∀ v, Utf8.strUpTo (encs cs) b = .ok v → GoodStr cs v) ∧
    (∀ v, Utf8.strRange (encs cs) a b = .ok v → GoodStr cs v) ∧
    (∀ v, Utf8.getFrom (encs cs) a = some v → GoodStr cs v) ∧
    (∀ v, Utf8.getUpTo (encs cs) b = some v → GoodStr cs v) ∧
    (∀ v, Utf8.getRange (encs cs) a b = some v → GoodStr cs v) ∧
    (∀ u v, Utf8.splitAt (encs cs) a = .ok (u, v) → GoodStr cs u ∧ GoodStr cs v) :=
  C03.views_good cs hs a b

/-- `chr::encode_utf8(c).as_str()` (the `from_utf8_unchecked` in `Utf8Encoded::as_str`): for every
    `char` the `len` bytes handed out are a valid one-character string, `1 ≤ len ≤ 4`, and
    `slice_up_to(&self.encoded, len)` stays inside the 4-byte buffer -/
theorem encodeUtf8_valid (c : Nat) (hc : isScalar c = true) :
    Valid (Chr.encodeUtf8 c).asBytes ∧ (Chr.encodeUtf8 c).asBytes = encs [c] ∧
    1 ≤ (Chr.encodeUtf8 c).len ∧ (Chr.encodeUtf8 c).len ≤ 4 ∧
    (Chr.encodeUtf8 c).len ≤ (Chr.encodeUtf8 c).encoded.length ∧
    (Chr.encodeUtf8 c).asBytes.length = (Chr.encodeUtf8 c).len := by
  obtain ⟨h1, h2, h3⟩ := C07.encodeUtf8_eq_enc c hc
  have he : encs [c] = enc c := by simp
  refine ⟨⟨[c], by simpa using hc, by rw [h1, he]⟩, by rw [h1, he], ?_, ?_, ?_, ?_⟩
  · rw [h2]; exact clen_pos c
  · rw [h2]; exact clen_le_four c
  · rw [h2, h3]; exact clen_le_four c
  · rw [h1, h2]; exact enc_length c

/-- `chr::from_u32`: the `transmute::<u32, char>` is reached exactly for Unicode scalar values
    (C07 `fromU32_iff` restated as the guard of the unsafe block) -/
theorem fromU32_guard (n : Nat) :
    (∀ c, Chr.fromU32 n = some c → c = n ∧ isScalar c = true) ∧
    (Chr.fromU32 n = none ↔ isScalar n = false) := by
  obtain ⟨h1, _, _⟩ := C07.fromU32_iff n
  rw [h1]
  by_cases h : isScalar n = true
  · simp only [h, if_true, Option.some.injEq, reduceCtorEq, Bool.true_eq_false, iff_self, and_true]
    intro c hc; subst hc; exact ⟨rfl, h⟩
  · simp [h]

/-- the `ptr.offset(start as _)` site of `__slice_from_impl!` (shared and `_mut`): the offset is
    only computed when `start ≤ len`, hence (slice lengths never exceed `isize::MAX`) the cast
    `start as isize` is lossless and non-negative, and `offset + rem = len` stays inside (one past
    the end at most); the `from_raw_parts(ptr, len)` of `__slice_up_to_impl!` is reached only
    with `len ≤ slice.len()` -/
theorem offset_cast_lossless (len start : Nat) (hlen : len ≤ ISIZE_MAX) :
    (∀ v, Slice.sliceFromImpl len start = some v →
      v.off = start ∧ start ≤ len ∧ start ≤ ISIZE_MAX ∧ v.off + v.len = len) ∧
    (∀ v, Slice.sliceUpToImpl len start = some v → v.off = 0 ∧ v.len = start ∧ start ≤ len) := by
  constructor <;> intro v hv
  · rw [sliceFromImpl_eq] at hv
    split at hv
    · cases hv
      exact ⟨rfl, ‹start ≤ len›, Nat.le_trans ‹start ≤ len› hlen, Nat.add_sub_cancel' ‹start ≤ len›⟩
    · cases hv
  · rw [sliceUpToImpl_eq] at hv
    split at hv
    · cases hv; exact ⟨rfl, rfl, ‹start ≤ len›⟩
    · cases hv

/-- `split_at_mut` (its own `from_raw_parts_mut` pair), `split_first_mut`, `split_last_mut`: the two
    `&mut` results never overlap, lie inside the slice, and together cover it when `at ≤ len` -/
theorem mut_halves_disjoint (len at_ : Nat) :
    ((Slice.splitAtMut len at_).1.InBounds len ∧ (Slice.splitAtMut len at_).2.InBounds len ∧
      ((Slice.splitAtMut len at_).1.off + (Slice.splitAtMut len at_).1.len ≤ (Slice.splitAtMut len at_).2.off ∨
        (Slice.splitAtMut len at_).2.len = 0) ∧
      (at_ ≤ len → (Slice.splitAtMut len at_).1 = ⟨0, at_⟩ ∧ (Slice.splitAtMut len at_).2 = ⟨at_, len - at_⟩)) ∧
    (∀ f r, Slice.splitFirst len = some (f, r) →
      f.InBounds len ∧ r.InBounds len ∧ f.off + f.len ≤ r.off ∧ f.len + r.len = len) ∧
    (∀ l r, Slice.splitLast len = some (l, r) →
      l.InBounds len ∧ r.InBounds len ∧ r.off + r.len ≤ l.off ∧ l.len + r.len = len) := by
  refine ⟨?_, ?_, ?_⟩
  · unfold Slice.splitAtMut View.InBounds
    split
    · exact ⟨Nat.le_of_eq (Nat.zero_add len), Nat.zero_le len, Or.inr rfl,
        fun h => absurd h (Nat.not_le.mpr ‹at_ > len›)⟩
    · have h : at_ ≤ len := Nat.le_of_not_lt ‹_›
      exact ⟨Nat.le_trans (Nat.le_of_eq (Nat.zero_add at_)) h, Nat.le_of_eq (Nat.add_sub_cancel' h),
        Or.inl (Nat.le_of_eq (Nat.zero_add at_)), fun _ => ⟨rfl, rfl⟩⟩
  · intro f r h
    unfold Slice.splitFirst at h
    split at h
    · cases h
    · cases h
      simp only [View.InBounds]
      omega
  · intro l r h
    unfold Slice.splitLast at h
    split at h
    · cases h
    · cases h
      simp only [View.InBounds]
      omega

/-- `as_chunks::<N>` / `as_rchunks::<N>`: the `from_raw_parts(arrs_in.as_ptr() as *const [T; N],
    arrs_len)` re-typing covers exactly the `arrs_len * N` elements of `arrs_in`, and
    `arrs_len * N + rem = len`; `N = 0` never reaches it (the `assert!`) -/
theorem asChunks_arith (len n : Nat) :
    (∀ a k r, Slice.asChunks len n = some (a, k, r) →
      n ≠ 0 ∧ a.off = 0 ∧ a.len = k * n ∧ k * n + r.len = len ∧ (r.len = 0 ∨ r.off = k * n) ∧
      r.len < n ∧ a.InBounds len ∧ r.InBounds len) ∧
    (∀ r a k, Slice.asRchunks len n = some (r, a, k) →
      n ≠ 0 ∧ r.off = 0 ∧ a.len = k * n ∧ r.len + k * n = len ∧ (a.len = 0 ∨ a.off = r.len) ∧
      r.len < n ∧ a.InBounds len ∧ r.InBounds len) := by
  constructor
  · intro a k r h
    unfold Slice.asChunks at h
    split at h
    · cases h
    · rename_i hn
      have hle : len / n * n ≤ len := Nat.div_mul_le_self _ _
      have hlt : len - len / n * n < n := by
        rw [Nat.sub_eq_of_eq_add (Nat.mod_add_div' len n).symm]
        exact Nat.mod_lt len (Nat.pos_of_ne_zero hn)
      dsimp only at h
      rw [splitAt_of_le hle] at h
      cases h
      exact ⟨hn, rfl, rfl, Nat.add_sub_cancel' hle, Or.inr rfl, hlt,
        Nat.le_trans (Nat.le_of_eq (Nat.zero_add _)) hle, Nat.le_of_eq (Nat.add_sub_cancel' hle)⟩
  · intro r a k h
    unfold Slice.asRchunks at h
    split at h
    · cases h
    · rename_i hn
      have hle : len % n ≤ len := Nat.mod_le _ _
      have hsub : len - len % n = len / n * n := Nat.sub_eq_of_eq_add (Nat.div_add_mod' len n).symm
      dsimp only at h
      rw [splitAt_of_le hle] at h
      cases h
      exact ⟨hn, rfl, hsub, by rw [← hsub]; exact Nat.add_sub_cancel' hle, Or.inr rfl,
        Nat.mod_lt len (Nat.pos_of_ne_zero hn), Nat.le_of_eq (Nat.add_sub_cancel' hle),
        Nat.le_trans (Nat.le_of_eq (Nat.zero_add _)) hle⟩

/-- `try_into_array(_mut)`: the `&*(slice.as_ptr() as *const [T; N])` cast is reached only when
    `slice.len() == N`, and then views the whole slice -/
theorem tryIntoArray_guard (len n : Nat) :
    ∀ v, Slice.tryIntoArray len n = some v → len = n ∧ v = ⟨0, len⟩ := by
  intro v h
  unfold Slice.tryIntoArray at h
  by_cases hn : len = n
  · subst hn; simp only [if_true, Option.some.injEq] at h; subst h; exact ⟨rfl, rfl⟩
  · simp [hn] at h

/-! ## non-vacuity / sanity ("añ€😀" = 61 c3b1 e282ac f09f9880, kernel-evaluated) -/

example : ∀ c ∈ [0x61, 0xF1, 0x20AC, 0x1F600], isScalar c = true := by decide +kernel
example : encs [0x61, 0xF1, 0x20AC] = [0x61, 0xC3, 0xB1, 0xE2, 0x82, 0xAC] := by decide +kernel
-- find_skip("añ€", "ñ") = "€" at offset 3; the hypotheses of `find_family_good` are satisfiable
example : StrFns.findSkip (encs [0x61, 0xF1, 0x20AC]) (encs [0xF1]) = some ⟨3, 3⟩ := by decide +kernel
-- a byte pattern that is NOT a whole character may cut inside one: the boundary claim really needs `encs ps`
example : Bytes.findSkip (encs [0x61, 0xF1, 0x20AC]) [0xC3] = some ⟨2, 4⟩ ∧
    Utf8.isCharBoundary (encs [0x61, 0xF1, 0x20AC]) 2 = false := by decide +kernel
example : StrFns.trimMatches (encs [0xF1, 0x61, 0xF1, 0xF1]) (encs [0xF1]) = ⟨2, 1⟩ := by decide +kernel
example : StrFns.trim [0x20, 0xC3, 0xB1, 0x0C] = ⟨1, 2⟩ := by decide +kernel
example : StrFns.splitOnce (encs [0x61, 0x20AC, 0x62]) (encs [0x20AC]) = .ok (some (⟨0, 1⟩, ⟨4, 1⟩)) := by rfl
example : Slice.sliceFromImpl 5 (2 ^ 64 - 1) = none ∧ Slice.sliceFromImpl 5 5 = some ⟨5, 0⟩ := by decide +kernel
example : Slice.splitAtMut 5 2 = (⟨0, 2⟩, ⟨2, 3⟩) ∧ Slice.splitAtMut 5 7 = (⟨0, 5⟩, ⟨0, 0⟩) := by decide +kernel
example : Slice.asRchunks 7 3 = some (⟨0, 1⟩, ⟨1, 6⟩, 2) := by decide +kernel

end Konst.Props.C01
