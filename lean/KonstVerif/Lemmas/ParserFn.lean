import KonstVerif.Lemmas.Parser
/-
  Helper lemmas for C14, with no assumption on the remainder: when a `Parser` step fails (`Fails`), and
  what a successful one says about the free function the method delegates to (`FnOk`) and about the
  one-shot flag.  Both are read off the unfolded methods (`stripPrefix_eq` … of Lemmas/Parser.lean),
  every operation once (`step_sound`).
-/
namespace Konst.Lemmas.ParserFn
open Konst Konst.Parser Konst.Spec.Utf8 Konst.Spec.Bytes Konst.Lemmas.Utf8 Konst.Lemmas.Parser

/-- what a successful step `p ↦ p'` of `op` says about the free function applied to `p`'s remainder:
    it found exactly `p'`'s remainder — or (`split`, `rsplit`, `split_keep` only) it found nothing
    and the method handed out the rest once: empty remainder, flag set -/
def FnOk (op : Op) (p p' : Parser) : Prop :=
  ∀ fr, freeFn op p.str = some fr →
    fr = .found p'.str ∨
    (fr = .notFound ∧ op.yieldsRest = true ∧ p'.str = [] ∧ p'.yieldedLastSplit = true)

theorem fnOk_found {op : Op} {p p' : Parser} (h : freeFn op p.str = some (.found p'.str)) : FnOk op p p' :=
  fun _ hfr => Or.inl (Option.some.inj (hfr.symm.trans h))

theorem fnOk_rest {op : Op} {p p' : Parser} (h : freeFn op p.str = some .notFound)
    (hop : op.yieldsRest = true) (hs : p'.str = []) (hf : p'.yieldedLastSplit = true) : FnOk op p p' :=
  fun _ hfr => Or.inr ⟨Option.some.inj (hfr.symm.trans h), hop, hs, hf⟩

theorem findKeep_apply (s d : List Nat) : FnRes.ofOptView s (StrFns.findKeep s d) =
    match StrFns.find s d with
    | some pos => .found (s.drop pos)
    | none => .notFound := by
  show FnRes.ofOptView s (Bytes.findKeep s d) = match Bytes.bytesFind s d with
    | some pos => .found (s.drop pos)
    | none => .notFound
  unfold Bytes.findKeep
  cases d with
  | nil => rw [Props.C04.find_empty]; exact congrArg FnRes.found (Lemmas.Slice.whole_apply s)
  | cons a t =>
    rw [List.isEmpty_cons, if_neg Bool.false_ne_true]
    cases Bytes.bytesFind s (a :: t) with
    | none => rfl
    | some pos => exact congrArg FnRes.found (Lemmas.Slice.sliceFrom_apply s pos)

/-- `Parser::trim` trims the start then the end, `string::trim` the end then the start: same result -/
theorem trim_apply (s : List Nat) : (StrFns.trim s).apply s =
    (StrFns.trimEnd ((StrFns.trimStart s).apply s)).apply ((StrFns.trimStart s).apply s) := by
  show (Bytes.bytesTrim s).apply s =
    (Bytes.bytesTrimEnd ((Bytes.bytesTrimStart s).apply s)).apply ((Bytes.bytesTrimStart s).apply s)
  rw [(Props.C05.bytesTrim_eq _).1, (Props.C05.bytesTrimStart_eq _).1, (Props.C05.bytesTrimEnd_eq _).1]
  rfl

theorem trimMatches_apply (s m : List Nat) : (StrFns.trimMatches s m).apply s =
    (StrFns.trimEndMatches ((StrFns.trimStartMatches s m).apply s) m).apply
      ((StrFns.trimStartMatches s m).apply s) := by
  show (Bytes.trimMatches s m).apply s = (Bytes.trimEndMatches ((Bytes.trimStartMatches s m).apply s) m).apply
      ((Bytes.trimStartMatches s m).apply s)
  rw [(Props.C05.trimMatches_eq_spec _ _).1, (Props.C05.trimStartMatches_eq_spec _ _).1,
    (Props.C05.trimEndMatches_eq_spec _ _).1]
  rfl

/-- when `op` returns `Err`: the free function finds nothing; for the split family, the last piece
    was handed out (terminators: or there is nothing left / no delimiter); the trims and skips never -/
def Fails (op : Op) (p : Parser) : Prop :=
  match op with
  | .stripPrefix _ | .stripSuffix _ | .findSkip _ | .rfindSkip _ | .parseInt _ _ | .parseBool =>
    freeFn op p.str = some .notFound
  | .split _ | .rsplit _ | .splitKeep _ => p.yieldedLastSplit = true
  | .splitTerminator _ | .rsplitTerminator _ =>
    p.yieldedLastSplit = true ∨ p.str = [] ∨ freeFn op p.str = some .notFound
  | _ => False

/-- `r` is a sound result of `op` on `p`: it is an `Err` exactly when `Fails`; an `Ok` leaves the
    remainder the free function computes, touches the flag only inside the split family, and there
    sets it only together with an empty remainder -/
def Sound (op : Op) (p : Parser) (r : Res) : Prop :=
  ((∃ e, r = .err e) ↔ Fails op p) ∧
  ∀ p' v, r = .ok p' v → FnOk op p p' ∧
    (op.isSplitFamily = false → p'.yieldedLastSplit = p.yieldedLastSplit) ∧
    (op.isSplitFamily = true → p'.yieldedLastSplit = true → p'.str = [])

theorem sound_failed {op : Op} {p : Parser} {d : ParseDirection} {k : ErrorKind} (h : Fails op p) :
    Sound op p (failed p d k) :=
  ⟨⟨fun _ => h, fun _ => ⟨_, rfl⟩⟩, fun _ _ h => nomatch h⟩

theorem sound_panic {op : Op} {p : Parser} (h : ¬ Fails op p) : Sound op p .panic :=
  ⟨⟨fun ⟨_, he⟩ => (nomatch he), fun hf => absurd hf h⟩, fun _ _ h => nomatch h⟩

theorem sound_ok {op : Op} {p p' : Parser} {v : Value} (h : ¬ Fails op p) (hfn : FnOk op p p')
    (hfl : if op.isSplitFamily then p'.yieldedLastSplit = true → p'.str = []
           else p'.yieldedLastSplit = p.yieldedLastSplit) : Sound op p (.ok p' v) := by
  refine ⟨⟨fun ⟨_, he⟩ => (nomatch he), fun hf => absurd hf h⟩, fun _ _ hr => ?_⟩
  cases hr
  cases hsf : op.isSplitFamily
  · rw [hsf] at hfl
    exact ⟨hfn, fun _ => hfl, fun hs => nomatch hs⟩
  · rw [hsf] at hfl
    exact ⟨hfn, fun hs => (nomatch hs), fun _ => hfl⟩

theorem found_ne_notFound {o : Option FnRes} {s : List Nat} (h : o = some (.found s)) : ¬ o = some .notFound :=
  fun h' => nomatch h.symm.trans h'

theorem step_sound (op : Op) (p : Parser) : Sound op p (step op p) := by
  cases op with
  | stripPrefix m =>
    have hfree : freeFn (.stripPrefix m) p.str = some (.ofOptView p.str (StrFns.stripPrefix p.str m)) := rfl
    rw [show step (.stripPrefix m) p = _ from stripPrefix_eq p m]
    generalize StrFns.stripPrefix p.str m = o at hfree ⊢
    cases o with
    | none => exact sound_failed hfree
    | some x => exact sound_ok (found_ne_notFound hfree) (fnOk_found hfree) rfl
  | stripSuffix m =>
    have hfree : freeFn (.stripSuffix m) p.str = some (.ofOptView p.str (StrFns.stripSuffix p.str m)) := rfl
    rw [show step (.stripSuffix m) p = _ from stripSuffix_eq p m]
    generalize StrFns.stripSuffix p.str m = o at hfree ⊢
    cases o with
    | none => exact sound_failed hfree
    | some x => exact sound_ok (found_ne_notFound hfree) (fnOk_found hfree) rfl
  | findSkip m =>
    have hfree : freeFn (.findSkip m) p.str = some (.ofOptView p.str (StrFns.findSkip p.str m)) := rfl
    rw [show step (.findSkip m) p = _ from findSkip_eq p m]
    generalize StrFns.findSkip p.str m = o at hfree ⊢
    cases o with
    | none => exact sound_failed hfree
    | some x => exact sound_ok (found_ne_notFound hfree) (fnOk_found hfree) rfl
  | rfindSkip m =>
    have hfree : freeFn (.rfindSkip m) p.str = some (.ofOptView p.str (StrFns.rfindSkip p.str m)) := rfl
    rw [show step (.rfindSkip m) p = _ from rfindSkip_eq p m]
    generalize StrFns.rfindSkip p.str m = o at hfree ⊢
    cases o with
    | none => exact sound_failed hfree
    | some x => exact sound_ok (found_ne_notFound hfree) (fnOk_found hfree) rfl
  | trimStart => exact sound_ok id (fnOk_found rfl) rfl
  | trimEnd => exact sound_ok id (fnOk_found rfl) rfl
  | trimStartMatches m => exact sound_ok id (fnOk_found rfl) rfl
  | trimEndMatches m => exact sound_ok id (fnOk_found rfl) rfl
  | trim => exact sound_ok id (fnOk_found (congrArg (some ∘ FnRes.found) (trim_apply p.str))) rfl
  | trimMatches m => exact sound_ok id (fnOk_found (congrArg (some ∘ FnRes.found) (trimMatches_apply p.str m))) rfl
  | skip n =>
    rw [show step (.skip n) p = _ from skip_eq p n]
    exact sound_ok id (fun _ (hfr : none = some _) => nomatch hfr) rfl
  | skipBack n =>
    rw [show step (.skipBack n) p = _ from skipBack_eq p n]
    split
    · exact sound_panic id
    · split
      · exact sound_panic id
      · exact sound_ok id (fun _ (hfr : none = some _) => nomatch hfr) rfl
  | parseInt sg bits =>
    have hfree : freeFn (.parseInt sg bits) p.str = some (match ParseInt.parseIntegerPrefix sg bits p.str with
      | none => .notFound
      | some (_, consumed) => .found (p.str.drop consumed)) := rfl
    rw [show step (.parseInt sg bits) p = _ from parseInt_eq p sg bits]
    generalize ParseInt.parseIntegerPrefix sg bits p.str = o at hfree ⊢
    rcases o with _ | ⟨num, n⟩
    · exact sound_failed hfree
    · dsimp only
      split
      · exact sound_panic (found_ne_notFound hfree)
      · exact sound_ok (found_ne_notFound hfree) (fnOk_found hfree) rfl
  | parseBool =>
    have hfree : freeFn .parseBool p.str = some (match ParseInt.parseBoolPrefix p.str with
      | none => .notFound
      | some (_, consumed) => .found (p.str.drop consumed)) := rfl
    rw [show step .parseBool p = _ from parseBool_eq p]
    generalize ParseInt.parseBoolPrefix p.str = o at hfree ⊢
    rcases o with _ | ⟨b, n⟩
    · exact sound_failed hfree
    · dsimp only
      split
      · exact sound_panic (found_ne_notFound hfree)
      · exact sound_ok (found_ne_notFound hfree) (fnOk_found hfree) rfl
  | split d =>
    have hfree : freeFn (.split d) p.str = some (match StrFns.splitOnce p.str d with
      | .error _ => .panic
      | .ok none => .notFound
      | .ok (some (_, after)) => .found (after.apply p.str)) := rfl
    rw [show step (.split d) p = _ from split_eq p d]
    cases hfl : p.yieldedLastSplit with
    | true => exact sound_failed hfl
    | false =>
      have hnf : ¬ Fails (.split d) p := fun h => nomatch hfl.symm.trans h
      rw [if_neg Bool.false_ne_true]
      generalize StrFns.splitOnce p.str d = r at hfree ⊢
      rcases r with _ | _ | ⟨a, b⟩
      · exact sound_panic hnf
      · exact sound_ok hnf (fnOk_rest hfree rfl rfl rfl) fun _ => rfl
      · exact sound_ok hnf (fnOk_found hfree) fun (hf : false = true) => nomatch hf
  | rsplit d =>
    have hfree : freeFn (.rsplit d) p.str = some (match StrFns.rsplitOnce p.str d with
      | .error _ => .panic
      | .ok none => .notFound
      | .ok (some (before, _)) => .found (before.apply p.str)) := rfl
    rw [show step (.rsplit d) p = _ from rsplit_eq p d]
    cases hfl : p.yieldedLastSplit with
    | true => exact sound_failed hfl
    | false =>
      have hnf : ¬ Fails (.rsplit d) p := fun h => nomatch hfl.symm.trans h
      rw [if_neg Bool.false_ne_true]
      generalize StrFns.rsplitOnce p.str d = r at hfree ⊢
      rcases r with _ | _ | ⟨a, b⟩
      · exact sound_panic hnf
      · dsimp only [Bool.false_eq_true, if_false]
        split
        · exact sound_panic hnf
        · exact sound_ok hnf (fnOk_rest hfree rfl rfl rfl) fun _ => rfl
      · exact sound_ok hnf (fnOk_found hfree) fun (hf : false = true) => nomatch hf
  | splitKeep d =>
    have hfree : freeFn (.splitKeep d) p.str = some _ := congrArg some (findKeep_apply p.str d)
    rw [show step (.splitKeep d) p = _ from splitKeep_eq p d]
    cases hfl : p.yieldedLastSplit with
    | true => exact sound_failed hfl
    | false =>
      have hnf : ¬ Fails (.splitKeep d) p := fun h => nomatch hfl.symm.trans h
      rw [if_neg Bool.false_ne_true]
      generalize StrFns.find p.str d = o at hfree ⊢
      cases o with
      | none => exact sound_ok hnf (fnOk_rest hfree rfl rfl rfl) fun _ => rfl
      | some pos =>
        dsimp only
        split
        · exact sound_panic hnf
        · exact sound_ok hnf (fnOk_found hfree) fun (hf : false = true) => nomatch hf
  | splitTerminator d =>
    have hfree : freeFn (.splitTerminator d) p.str = some (match StrFns.splitOnce p.str d with
      | .error _ => .panic
      | .ok none => .notFound
      | .ok (some (_, after)) => .found (after.apply p.str)) := rfl
    rw [show step (.splitTerminator d) p = _ from splitTerminator_eq p d]
    cases hfl : p.yieldedLastSplit with
    | true => exact sound_failed (Or.inl hfl)
    | false =>
      cases hemp : p.str.isEmpty with
      | true => exact sound_failed (Or.inr (Or.inl (List.isEmpty_iff.mp hemp)))
      | false =>
        have hnf : ∀ {s}, freeFn (.splitTerminator d) p.str = some s → s ≠ .notFound →
            ¬ Fails (.splitTerminator d) p := fun hs hne h =>
          h.elim (fun h => nomatch hfl.symm.trans h) fun h => h.elim
            (fun h => nomatch hemp.symm.trans (List.isEmpty_iff.mpr h))
            (fun h => hne (Option.some.inj (hs.symm.trans h)))
        rw [if_neg Bool.false_ne_true, if_neg Bool.false_ne_true]
        generalize StrFns.splitOnce p.str d = r at hfree ⊢
        rcases r with _ | _ | ⟨a, b⟩
        · exact sound_panic (hnf hfree fun h => nomatch h)
        · exact sound_failed (Or.inr (Or.inr hfree))
        · exact sound_ok (hnf hfree fun h => nomatch h) (fnOk_found hfree) List.isEmpty_iff.mp
  | rsplitTerminator d =>
    have hfree : freeFn (.rsplitTerminator d) p.str = some (match StrFns.rsplitOnce p.str d with
      | .error _ => .panic
      | .ok none => .notFound
      | .ok (some (before, _)) => .found (before.apply p.str)) := rfl
    rw [show step (.rsplitTerminator d) p = _ from rsplitTerminator_eq p d]
    cases hfl : p.yieldedLastSplit with
    | true => exact sound_failed (Or.inl hfl)
    | false =>
      cases hemp : p.str.isEmpty with
      | true => exact sound_failed (Or.inr (Or.inl (List.isEmpty_iff.mp hemp)))
      | false =>
        have hnf : ∀ {s}, freeFn (.rsplitTerminator d) p.str = some s → s ≠ .notFound →
            ¬ Fails (.rsplitTerminator d) p := fun hs hne h =>
          h.elim (fun h => nomatch hfl.symm.trans h) fun h => h.elim
            (fun h => nomatch hemp.symm.trans (List.isEmpty_iff.mpr h))
            (fun h => hne (Option.some.inj (hs.symm.trans h)))
        rw [if_neg Bool.false_ne_true, if_neg Bool.false_ne_true]
        generalize StrFns.rsplitOnce p.str d = r at hfree ⊢
        rcases r with _ | _ | ⟨a, b⟩
        · exact sound_panic (hnf hfree fun h => nomatch h)
        · exact sound_failed (Or.inr (Or.inr hfree))
        · exact sound_ok (hnf hfree fun h => nomatch h) (fnOk_found hfree) List.isEmpty_iff.mp

theorem step_fn (op : Op) (p p' : Parser) (v : Value) (h : step op p = .ok p' v) : FnOk op p p' :=
  ((step_sound op p).2 p' v h).1

theorem flag_unchanged (op : Op) (p p' : Parser) (v : Value) (hns : op.isSplitFamily = false)
    (h : step op p = .ok p' v) : p'.yieldedLastSplit = p.yieldedLastSplit :=
  ((step_sound op p).2 p' v h).2.1 hns

theorem splitfam_flag_empty (op : Op) (p p' : Parser) (v : Value) (hsf : op.isSplitFamily = true)
    (h : step op p = .ok p' v) (hfl' : p'.yieldedLastSplit = true) : p'.str = [] :=
  ((step_sound op p).2 p' v h).2.2 hsf hfl'

end Konst.Lemmas.ParserFn
