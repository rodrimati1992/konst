import KonstVerif.Spec.Utf8
import KonstVerif.Model.StrFns
import KonstVerif.Lemmas.Utf8
/-
  The statements about self-synchronising codes of `Lemmas.Utf8.Sync`, for a `Code` structure of this
  namespace (`Code.toSync` maps it to the other one), and two facts about
  `StrFns.isCharBoundaryForgiving` that C04 needs: it is the function of `Model/Utf8.lean`, and it
  accepts every character boundary.
-/
namespace Konst.Lemmas.SyncMatch

structure Code where
  enc  : Nat → List Nat
  cont : Nat → Bool
  clen : Nat → Nat
  ok   : ∀ c, ∃ b t, enc c = b :: t ∧ cont b = false ∧ (∀ x ∈ t, cont x = true) ∧ t.length + 1 = clen b

/-- the same code as a `Lemmas.Utf8.Code`; `encs`, `Boundary` and `ByteTest` below unfold to those of
    `Lemmas.Utf8.Sync` for it -/
def Code.toSync (K : Code) : Utf8.Code := ⟨K.enc, K.cont, K.clen, K.ok⟩

variable (K : Code)

def encs (cs : List Nat) : List Nat := cs.flatMap K.enc

@[simp] theorem encs_nil : encs K [] = [] := rfl
@[simp] theorem encs_cons (c : Nat) (cs : List Nat) : encs K (c :: cs) = K.enc c ++ encs K cs :=
  Utf8.Sync.encs_cons K.toSync c cs

def Boundary (cs : List Nat) (i : Nat) : Prop := ∃ k, i = (encs K (cs.take k)).length

theorem boundary_zero (cs) : Boundary K cs 0 := Utf8.Sync.boundary_zero K.toSync cs
theorem boundary_len (cs) : Boundary K cs (encs K cs).length := Utf8.Sync.boundary_len K.toSync cs

def ByteTest (s : List Nat) (i : Nat) : Prop := i = s.length ∨ ∃ b, s[i]? = some b ∧ K.cont b = false

theorem boundary_iff : ∀ (cs : List Nat) (i : Nat), i ≤ (encs K cs).length →
    (Boundary K cs i ↔ ByteTest K (encs K cs) i) :=
  Utf8.Sync.boundary_iff K.toSync

theorem prefix_chars : ∀ (ps ds : List Nat), encs K ps <+: encs K ds →
    ∃ m, encs K ps = encs K (ds.take m) :=
  Utf8.Sync.prefix_chars K.toSync

theorem match_on_boundaries (cs ps : List Nat) (hps : ps ≠ []) (i : Nat)
    (hm : encs K ps <+: (encs K cs).drop i) :
    Boundary K cs i ∧ Boundary K cs (i + (encs K ps).length) :=
  Utf8.Sync.match_on_boundaries K.toSync cs ps hps i hm

open Konst.Spec.Utf8 Konst.StrFns

/-- `Model/StrFns.lean` and `Model/Utf8.lean` model `__is_char_boundary_forgiving` separately -/
theorem forgiving_eq_utf8 (s : List Nat) (i : Nat) :
    isCharBoundaryForgiving s i = Konst.Utf8.isCharBoundaryForgiving s i := by
  unfold isCharBoundaryForgiving Konst.Utf8.isCharBoundaryForgiving
  by_cases h : i < s.length
  · rw [List.getElem?_eq_getElem h, List.getD_eq_getElem?_getD, List.getElem?_eq_getElem h,
      decide_eq_false (Nat.not_le.mpr h)]
    rfl
  · rw [List.getElem?_eq_none (Nat.le_of_not_lt h), decide_eq_true (Nat.le_of_not_lt h)]
    rfl

theorem forgiving_of_boundary (cs : List Nat) (i : Nat) (hb : IsBoundary cs i) :
    isCharBoundaryForgiving (Spec.Utf8.encs cs) i = true := by
  have h : Konst.Utf8.isCharBoundaryBytes (Spec.Utf8.encs cs) i = true := (Utf8.isCharBoundary_encs_iff cs i).mpr hb
  rw [forgiving_eq_utf8, Utf8.forgiving_eq, h, Bool.or_true]

end Konst.Lemmas.SyncMatch
