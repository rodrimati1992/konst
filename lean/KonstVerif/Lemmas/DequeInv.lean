import KonstVerif.Lemmas.Deque
import KonstVerif.Model.Hist
import KonstVerif.Spec.Chars
/-
  Deque refinement for step functions that may panic and that satisfy the one-step facts only on
  states satisfying an invariant (e.g. "the remaining bytes are valid UTF-8"): `Refines`, and what it
  gives for every front/back history (`steps_refine`, `items_refine`, `steps_inv`).
-/
namespace Konst.Deque

open Konst Konst.Hist Konst.Spec.Chars

structure Refines {ε σ ι : Type} (next back : StepFn ε σ ι) (inv : σ → Prop) (abs : σ → List ι) :
    Prop where
  next_ok : ∀ s e, inv s → next s ≠ .error e
  next_none : ∀ s, inv s → next s = .ok none → abs s = []
  next_some : ∀ s x s', inv s → next s = .ok (some (x, s')) → inv s' ∧ abs s = x :: abs s'
  back_ok : ∀ s e, inv s → back s ≠ .error e
  back_none : ∀ s, inv s → back s = .ok none → abs s = []
  back_some : ∀ s x s', inv s → back s = .ok (some (x, s')) → inv s' ∧ abs s = abs s' ++ [x]

section
variable {ε σ ι : Type} {next back : StepFn ε σ ι} {inv : σ → Prop} {abs : σ → List ι}

private theorem of_step {r : Except ε (Option (ι × σ))} {A : Prop} {P : ι → σ → Prop}
    (h : (r = .ok none ∧ A) ∨ ∃ x s', r = .ok (some (x, s')) ∧ P x s') :
    (∀ e, r ≠ .error e) ∧ (r = .ok none → A) ∧ ∀ x s', r = .ok (some (x, s')) → P x s' := by
  rcases h with ⟨rfl, ha⟩ | ⟨x, s', rfl, hp⟩
  · exact ⟨fun _ h => (nomatch h), fun _ => ha, fun _ _ h => (nomatch h)⟩
  · exact ⟨fun _ h => (nomatch h), fun h => (nomatch h), fun _ _ h => by cases h; exact hp⟩

theorem Refines.of_steps
    (hn : ∀ s, inv s → (next s = .ok none ∧ abs s = []) ∨
      ∃ x s', next s = .ok (some (x, s')) ∧ inv s' ∧ abs s = x :: abs s')
    (hb : ∀ s, inv s → (back s = .ok none ∧ abs s = []) ∨
      ∃ x s', back s = .ok (some (x, s')) ∧ inv s' ∧ abs s = abs s' ++ [x]) :
    Refines next back inv abs where
  next_ok s e hi := (of_step (hn s hi)).1 e
  next_none s hi := (of_step (hn s hi)).2.1
  next_some s x s' hi := (of_step (hn s hi)).2.2 x s'
  back_ok s e hi := (of_step (hb s hi)).1 e
  back_none s hi := (of_step (hb s hi)).2.1
  back_some s x s' hi := (of_step (hb s hi)).2.2 x s'

theorem Refines.pick (R : Refines next back inv abs) (d : Dir) {s : σ} (hi : inv s) :
    (pick next back d s = .ok none ∧ abs s = []) ∨
    ∃ x s', pick next back d s = .ok (some (x, s')) ∧ inv s' ∧
      abs s = match d with | .f => x :: abs s' | .b => abs s' ++ [x] := by
  cases d with
  | f =>
    cases hn : next s with
    | error e => exact absurd hn (R.next_ok s e hi)
    | ok r =>
      cases r with
      | none => exact Or.inl ⟨hn, R.next_none s hi hn⟩
      | some p => exact Or.inr ⟨p.1, p.2, hn, R.next_some s p.1 p.2 hi hn⟩
  | b =>
    cases hn : back s with
    | error e => exact absurd hn (R.back_ok s e hi)
    | ok r =>
      cases r with
      | none => exact Or.inl ⟨hn, R.back_none s hi hn⟩
      | some p => exact Or.inr ⟨p.1, p.2, hn, R.back_some s p.1 p.2 hi hn⟩

theorem dequeSteps_snoc {ι : Type} (q : List ι) (x : ι) (h : List Dir) :
    dequeSteps (q ++ [x]) (.b :: h) = (some x, q) :: dequeSteps q h := by
  cases q with
  | nil => rfl
  | cons a q =>
    rw [List.cons_append, dequeSteps]
    simp only [← List.cons_append, List.getLast_concat, List.dropLast_concat]

theorem mem_of_mem_runDeque {ι : Type} : ∀ (h : List Dir) (q : List ι) (z : ι),
    some z ∈ runDeque q h → z ∈ q := by
  intro h
  induction h with
  | nil => intro q z hz; cases q <;> cases hz
  | cons d h ih =>
    intro q z hz
    cases q with
    | nil =>
      rw [runDeque, List.mem_cons] at hz
      rcases hz with hz | hz
      · cases hz
      · exact ih [] z hz
    | cons a q =>
      cases d with
      | f =>
        rw [runDeque, List.mem_cons, Option.some.injEq] at hz
        rcases hz with rfl | hz
        · exact List.mem_cons_self
        · exact List.mem_cons_of_mem _ (ih q z hz)
      | b =>
        rw [runDeque, List.mem_cons, Option.some.injEq] at hz
        rcases hz with rfl | hz
        · exact List.getLast_mem _
        · exact List.dropLast_subset _ (ih _ z hz)

theorem dequeSteps_fst {ι : Type} : ∀ (h : List Dir) (q : List ι),
    (dequeSteps q h).map (·.1) = runDeque q h := by
  intro h
  induction h with
  | nil => intro q; cases q <;> simp [dequeSteps, runDeque]
  | cons d h ih =>
    intro q
    cases q with
    | nil => simp [dequeSteps, runDeque, ih]
    | cons x xs => cases d <;> simp [dequeSteps, runDeque, ih]

theorem steps_refine (R : Refines next back inv abs) : ∀ (h : List Dir) (s : σ), inv s →
    (steps next back s h).map (fun p => (p.1, abs p.2)) =
      (dequeSteps (abs s) h).map (fun p => (Obs.ofOption p.1, p.2)) := by
  intro h
  induction h with
  | nil => intro s _; cases abs s <;> rfl
  | cons d h ih =>
    intro s hi
    rw [steps]
    rcases R.pick d hi with ⟨hn, ha⟩ | ⟨x, s', hn, hi', ha⟩
    · rw [hn, List.map_cons, ih s hi, ha]
      rfl
    · rw [hn, ha, List.map_cons, ih s' hi']
      cases d with
      | f => rfl
      | b => rw [dequeSteps_snoc]; rfl

theorem items_refine (R : Refines next back inv abs) (h : List Dir) (s : σ) (hi : inv s) :
    (steps next back s h).map (·.1) = (runDeque (abs s) h).map Obs.ofOption := by
  have e := congrArg (List.map (·.1)) (steps_refine R h s hi)
  rw [List.map_map, List.map_map] at e
  rw [← dequeSteps_fst, List.map_map]
  exact e

theorem steps_inv (R : Refines next back inv abs) : ∀ (h : List Dir) (s : σ), inv s →
    ∀ p ∈ steps next back s h, inv p.2 := by
  intro h
  induction h with
  | nil => intro s _ p hp; cases hp
  | cons d h ih =>
    intro s hi p hp
    rw [steps] at hp
    rcases R.pick d hi with ⟨hn, _⟩ | ⟨x, s', hn, hi', _⟩
    · rw [hn, List.mem_cons] at hp
      rcases hp with rfl | hp
      · exact hi
      · exact ih s hi p hp
    · rw [hn, List.mem_cons] at hp
      rcases hp with rfl | hp
      · exact hi'
      · exact ih s' hi' p hp

/-- an observation `g` of the state that is a function `G` of the abstraction wherever the invariant
    holds: after every step of every history it is `G` of what the deque has left -/
theorem steps_observe (R : Refines next back inv abs) {β : Type} (g : σ → β) (G : List ι → β)
    (hg : ∀ s, inv s → g s = G (abs s)) (h : List Dir) (s : σ) (hi : inv s) :
    (steps next back s h).map (fun p => (p.1, g p.2)) =
      (dequeSteps (abs s) h).map (fun p => (Obs.ofOption p.1, G p.2)) := by
  have e := congrArg (List.map fun x : Obs ι × List ι => (x.1, G x.2)) (steps_refine R h s hi)
  rw [List.map_map, List.map_map] at e
  refine Eq.trans (List.map_congr_left fun p hp => ?_) e
  rw [hg p.2 (steps_inv R h s hi p hp)]
  rfl

end
end Konst.Deque
