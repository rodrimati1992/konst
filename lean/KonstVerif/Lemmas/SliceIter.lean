import KonstVerif.Model.SliceIter
import KonstVerif.Spec.SliceIter
import KonstVerif.Props.C02
import KonstVerif.Lemmas.Deque
import KonstVerif.Lemmas.SliceIterSpec
/-
  Helper development for C08.  `DEInv`: a pair of `iterator_shared!` blocks with an abstraction to a list and an
  invariant, whose `next` block pops the front and whose `next_back` block pops the back; generic refinement
  theorems for `It.run` / `It.runX` (every history, both struct types, `.rev()` between steps).  Every iterator
  gets a `DEInv` instance (the facts about the std specification lists they rest on are in
  Lemmas/SliceIterSpec.lean).
-/
namespace Konst.SliceIter

open Konst Konst.Slice Konst.Spec

variable {α : Type}

/-! ### the konst slice functions on element lists are `take`/`drop` (from the C02 theorems) -/

theorem splitAtL_eq (s : List α) (at_ : Nat) : splitAtL s at_ = (s.take at_, s.drop at_) := by
  have h := Konst.Props.C02.splitAt_eq s at_
  unfold splitAtL
  simp only []
  rw [h]
  unfold stdSplitAt
  by_cases hle : at_ ≤ s.length
  · simp [hle]
  · have : s.length ≤ at_ := by omega
    simp [hle, List.take_of_length_le this, List.drop_eq_nil_of_le this]

theorem sliceUpToL_eq (s : List α) (n : Nat) : sliceUpToL s n = s.take n := by
  unfold sliceUpToL
  rw [Konst.Props.C02.sliceUpTo_eq_std_or_clamp]
  unfold stdGetUpTo
  by_cases hle : n ≤ s.length
  · simp [hle]
  · have : s.length ≤ n := by omega
    simp [hle, List.take_of_length_le this]

theorem sliceFromL_eq (s : List α) (n : Nat) : sliceFromL s n = s.drop n := by
  unfold sliceFromL
  rw [Konst.Props.C02.sliceFrom_eq_std_or_clamp]
  unfold stdGetFrom
  by_cases hle : n ≤ s.length
  · simp [hle]
  · have : s.length ≤ n := by omega
    simp [hle, List.drop_eq_nil_of_le this]

/-! ### blocks that refine a deque -/

/-- the two blocks of one `iterator_shared!` invocation together with: the list of items the fields
    still stand for (`abs`, front to back for the forward type), an invariant of the fields, and the
    one-step facts — under the invariant neither block panics, the `next` block pops the front of
    `abs`, the `next_back` block pops its back, and both keep the invariant. -/
structure DEInv (σ ι : Type) where
  blocks : Blocks σ ι
  abs : σ → List ι
  inv : σ → Prop
  next_ok : ∀ s, inv s → (blocks.nextBlock s = .none ∧ abs s = []) ∨
      (∃ x s', blocks.nextBlock s = .some x s' ∧ abs s = x :: abs s' ∧ inv s')
  back_ok : ∀ s, inv s → (blocks.nextBackBlock s = .none ∧ abs s = []) ∨
      (∃ x s', blocks.nextBackBlock s = .some x s' ∧ abs s = abs s' ++ [x] ∧ inv s')

/-- items an iterator value still has to yield, in the order ITS `next` yields them -/
def DEInv.absIt {σ ι : Type} (D : DEInv σ ι) (it : It σ) : List ι :=
  if it.fwd then D.abs it.fields else (D.abs it.fields).reverse

theorem popBack_concat {ι : Type} (q : List ι) (x : ι) : popBack (q ++ [x]) = (some x, q) := by
  simp [popBack]

theorem pop_nil {ι : Type} (d : Dir) : pop d ([] : List ι) = (none, []) := by
  cases d <;> simp [pop, popFront, popBack]

/-- one `next`/`next_back` call on either struct type is one pop of the deque -/
theorem DEInv.step_pop {σ ι : Type} (D : DEInv σ ι) (d : Dir) (it : It σ) (hi : D.inv it.fields) :
    (It.step D.blocks d it = .none ∧ D.absIt it = []) ∨
    (∃ x it', It.step D.blocks d it = .some x it' ∧ pop d (D.absIt it) = (some x, D.absIt it') ∧
      D.inv it'.fields ∧ it'.fwd = it.fwd) := by
  obtain ⟨fwd, s⟩ := it
  simp only at hi
  cases d <;> cases fwd
  · -- next on the Rev type = next_back block
    rcases D.back_ok s hi with ⟨h1, h2⟩ | ⟨x, s', h1, h2, h3⟩
    · left; simp [It.step, It.next, h1, Step.mapState, DEInv.absIt, h2]
    · right
      refine ⟨x, ⟨false, s'⟩, ?_, ?_, h3, rfl⟩
      · simp [It.step, It.next, h1, Step.mapState]
      · simp [DEInv.absIt, h2, pop, popFront]
  · rcases D.next_ok s hi with ⟨h1, h2⟩ | ⟨x, s', h1, h2, h3⟩
    · left; simp [It.step, It.next, h1, Step.mapState, DEInv.absIt, h2]
    · right
      refine ⟨x, ⟨true, s'⟩, ?_, ?_, h3, rfl⟩
      · simp [It.step, It.next, h1, Step.mapState]
      · simp [DEInv.absIt, h2, pop, popFront]
  · -- next_back on the Rev type = next block
    rcases D.next_ok s hi with ⟨h1, h2⟩ | ⟨x, s', h1, h2, h3⟩
    · left; simp [It.step, It.nextBack, h1, Step.mapState, DEInv.absIt, h2]
    · right
      refine ⟨x, ⟨false, s'⟩, ?_, ?_, h3, rfl⟩
      · simp [It.step, It.nextBack, h1, Step.mapState]
      · simp only [DEInv.absIt, h2, pop, Bool.false_eq_true, if_false, List.reverse_cons]
        exact popBack_concat _ _
  · rcases D.back_ok s hi with ⟨h1, h2⟩ | ⟨x, s', h1, h2, h3⟩
    · left; simp [It.step, It.nextBack, h1, Step.mapState, DEInv.absIt, h2]
    · right
      refine ⟨x, ⟨true, s'⟩, ?_, ?_, h3, rfl⟩
      · simp [It.step, It.nextBack, h1, Step.mapState]
      · simp only [DEInv.absIt, h2, pop, if_true]
        exact popBack_concat _ _

theorem DEInv.absIt_rev {σ ι : Type} (D : DEInv σ ι) (it : It σ) :
    D.absIt it.rev = (D.absIt it).reverse := by
  obtain ⟨fwd, s⟩ := it
  cases fwd <;> simp [DEInv.absIt, It.rev]

/-- every history of `next`/`next_back` calls: no panic, the results are the deque's, the final
    iterator stands for what is left of the deque, keeps the invariant and its type -/
theorem DEInv.run_refines {σ ι : Type} (D : DEInv σ ι) :
    ∀ (h : List Dir) (it : It σ), D.inv it.fields →
      ∃ it', It.run D.blocks it h = some (dequeRun (D.absIt it) h, it') ∧
        D.absIt it' = dequeRest (D.absIt it) h ∧ D.inv it'.fields ∧ it'.fwd = it.fwd := by
  intro h
  induction h with
  | nil => intro it hi; exact ⟨it, rfl, rfl, hi, rfl⟩
  | cons d h ih =>
    intro it hi
    rcases D.step_pop d it hi with ⟨h1, h2⟩ | ⟨x, it1, h1, h2, h3, h4⟩
    · obtain ⟨it', r1, r2, r3, r4⟩ := ih it hi
      refine ⟨it', ?_, ?_, r3, r4⟩
      · simp only [It.run, h1, r1, Option.map_some, dequeRun]
        rw [h2, pop_nil]
      · rw [r2, h2]; simp only [dequeRest, pop_nil]
    · obtain ⟨it', r1, r2, r3, r4⟩ := ih it1 h3
      refine ⟨it', ?_, ?_, r3, by rw [r4, h4]⟩
      · simp only [It.run, h1, r1, Option.map_some, dequeRun, h2]
      · rw [r2]; simp only [dequeRest, h2]

/-- the same with `.rev()` calls between the steps (`none` entries of the history) -/
theorem DEInv.runX_refines {σ ι : Type} (D : DEInv σ ι) :
    ∀ (h : List (Option Dir)) (it : It σ), D.inv it.fields →
      ∃ it', It.runX D.blocks it h = some (dequeRunX (D.absIt it) h, it') ∧
        D.absIt it' = dequeRestX (D.absIt it) h ∧ D.inv it'.fields := by
  intro h
  induction h with
  | nil => intro it hi; exact ⟨it, rfl, rfl, hi⟩
  | cons o h ih =>
    intro it hi
    cases o with
    | none =>
      obtain ⟨it', r1, r2, r3⟩ := ih it.rev hi
      refine ⟨it', ?_, ?_, r3⟩
      · simp only [It.runX, r1, dequeRunX, D.absIt_rev]
      · rw [r2]; simp only [dequeRestX, D.absIt_rev]
    | some d =>
      rcases D.step_pop d it hi with ⟨h1, h2⟩ | ⟨x, it1, h1, h2, h3, _⟩
      · obtain ⟨it', r1, r2, r3⟩ := ih it hi
        refine ⟨it', ?_, ?_, r3⟩
        · simp only [It.runX, h1, r1, Option.map_some, dequeRunX]
          rw [h2, pop_nil]
        · rw [r2, h2]; simp only [dequeRestX, pop_nil]
      · obtain ⟨it', r1, r2, r3⟩ := ih it1 h3
        refine ⟨it', ?_, ?_, r3⟩
        · simp only [It.runX, h1, r1, Option.map_some, dequeRunX, h2]
        · rw [r2]; simp only [dequeRestX, h2]

/-- the deque of Spec/SliceIter.lean is the deque of the generic development (Lemmas/Deque.lean) -/
theorem dequeRun_eq_runDeque {ι : Type} : ∀ (h : List Dir) (q : List ι),
    dequeRun q h = Konst.Deque.runDeque q h := by
  intro h
  induction h with
  | nil => intro q; cases q <;> simp [dequeRun, Konst.Deque.runDeque]
  | cons d h ih =>
    intro q
    cases q with
    | nil =>
      simp only [dequeRun, pop_nil, Konst.Deque.runDeque, ih]
    | cons x xs =>
      cases d with
      | f => simp only [dequeRun, pop, popFront, Konst.Deque.runDeque, ih]
      | b =>
        simp only [dequeRun, pop, Konst.Deque.runDeque, ih]
        have : popBack (x :: xs) = (some ((x :: xs).getLast (by simp)), (x :: xs).dropLast) := by
          simp only [popBack]
          rw [List.getLast?_eq_some_getLast (by simp)]
        rw [this]

/-! ### what the two blocks of each iterator return under the invariant, and its `DEInv` instance -/

theorem checkedSub_of_le {a b : Nat} (h : b ≤ a) : checkedSub a b = some (a - b) :=
  if_pos h
theorem checkedDiv_of_pos {a b : Nat} (h : 0 < b) : checkedDiv a b = some (a / b) :=
  if_neg (Nat.ne_of_gt h)
theorem checkedRem_of_pos {a b : Nat} (h : 0 < b) : checkedRem a b = some (a % b) :=
  if_neg (Nat.ne_of_gt h)

theorem someIfNonempty_nil : someIfNonempty ([] : List α) = none := rfl
theorem someIfNonempty_of_ne {s : List α} (h : s ≠ []) : someIfNonempty s = some s := by
  cases s with
  | nil => exact absurd rfl h
  | cons _ _ => rfl
theorem ne_nil_of_someIfNonempty {s t : List α} (h : someIfNonempty s = some t) : t ≠ [] := by
  cases s with
  | nil => cases h
  | cons a b =>
    cases h
    exact List.cons_ne_nil a b

theorem Step.mapState_mapState {ι σ τ υ : Type} (f : σ → τ) (g : τ → υ) (x : Step ι σ) :
    (x.mapState f).mapState g = x.mapState fun s => g (f s) := by
  cases x <;> rfl

/-- `Iter`/`IterRev`: the fields stand for the elements of `slice`; no invariant -/
def Iter.de : DEInv (Iter α) α where
  blocks := Iter.blocks
  abs s := s.slice
  inv _ := True
  next_ok := by
    intro s _
    obtain ⟨sl⟩ := s
    cases sl with
    | nil => left; exact ⟨rfl, rfl⟩
    | cons x xs => right; exact ⟨x, ⟨xs⟩, rfl, rfl, trivial⟩
  back_ok := by
    intro s _
    obtain ⟨sl⟩ := s
    by_cases h : sl = []
    · left; subst h; exact ⟨rfl, rfl⟩
    · right
      refine ⟨sl.getLast h, ⟨sl.dropLast⟩, ?_, ?_, trivial⟩
      · simp [Iter.blocks, Iter.nextBackBlock, h]
      · exact (List.dropLast_concat_getLast h).symm

def IterCopied.de : DEInv (IterCopied α) α where
  blocks := IterCopied.blocks
  abs s := s.slice
  inv _ := True
  next_ok := by
    intro s _
    obtain ⟨sl⟩ := s
    cases sl with
    | nil => left; exact ⟨rfl, rfl⟩
    | cons x xs => right; exact ⟨x, ⟨xs⟩, rfl, rfl, trivial⟩
  back_ok := by
    intro s _
    obtain ⟨sl⟩ := s
    by_cases h : sl = []
    · left; subst h; exact ⟨rfl, rfl⟩
    · right
      refine ⟨sl.getLast h, ⟨sl.dropLast⟩, ?_, ?_, trivial⟩
      · simp [IterCopied.blocks, IterCopied.nextBackBlock, h]
      · exact (List.dropLast_concat_getLast h).symm

theorem Windows.nextBlock_of_lt {sl : List α} {n : Nat} (h : sl.length < n) :
    Windows.nextBlock ⟨sl, n⟩ = .none :=
  if_pos h

theorem Windows.nextBlock_of_le {sl : List α} {n : Nat} (h : n ≤ sl.length) :
    Windows.nextBlock ⟨sl, n⟩ = .some (sl.take n) ⟨sl.drop 1, n⟩ := by
  simp only [Windows.nextBlock, if_neg (Nat.not_lt.mpr h), sliceUpToL_eq, sliceFromL_eq]

theorem Windows.nextBackBlock_of_lt {sl : List α} {n : Nat} (h : sl.length < n) :
    Windows.nextBackBlock ⟨sl, n⟩ = .none :=
  if_pos h

theorem Windows.nextBackBlock_of_le {sl : List α} {n : Nat} (hn : 0 < n) (h : n ≤ sl.length) :
    Windows.nextBackBlock ⟨sl, n⟩ = .some (sl.drop (sl.length - n)) ⟨sl.take (sl.length - 1), n⟩ := by
  simp only [Windows.nextBackBlock, if_neg (Nat.not_lt.mpr h), checkedSub_of_le h,
    checkedSub_of_le (Nat.le_trans hn h), sliceUpToL_eq, sliceFromL_eq]

/-- `Windows`/`WindowsRev`: the fields stand for std's windows of `slice`; invariant `size ≠ 0`
    (established by the constructor's `assert!`) -/
def Windows.de : DEInv (Windows α) (List α) where
  blocks := Windows.blocks
  abs w := windowsSpec w.size w.slice
  inv w := 0 < w.size
  next_ok := by
    rintro ⟨sl, n⟩ hw
    by_cases h : sl.length < n
    · exact .inl ⟨Windows.nextBlock_of_lt h, windowsSpec_of_lt n sl h⟩
    · have hle : n ≤ sl.length := Nat.le_of_not_lt h
      exact .inr ⟨_, _, Windows.nextBlock_of_le hle, windowsSpec_cons n sl hw hle, hw⟩
  back_ok := by
    rintro ⟨sl, n⟩ hw
    by_cases h : sl.length < n
    · exact .inl ⟨Windows.nextBackBlock_of_lt h, windowsSpec_of_lt n sl h⟩
    · have hle : n ≤ sl.length := Nat.le_of_not_lt h
      exact .inr ⟨_, _, Windows.nextBackBlock_of_le hw hle, windowsSpec_last n sl hw hle, hw⟩

/-- items an `Option<&[T]>` field of `Chunks` stands for -/
def Chunks.absOpt (n : Nat) : Option (List α) → List (List α)
  | none => []
  | some s => chunksSpec n s

theorem Chunks.absOpt_someIfNonempty (n : Nat) (s : List α) :
    Chunks.absOpt n (someIfNonempty s) = chunksSpec n s := by
  cases s with
  | nil => exact (chunksSpec_nil n).symm
  | cons _ _ => rfl

theorem Chunks.nextBlock_some (s : List α) (n : Nat) :
    Chunks.nextBlock ⟨some s, n⟩ = .some (s.take n) ⟨someIfNonempty (s.drop n), n⟩ := by
  simp only [Chunks.nextBlock, splitAtL_eq]

theorem Chunks.nextBackBlock_some {s : List α} {n : Nat} (hs : s ≠ []) (hn : 0 < n) :
    Chunks.nextBackBlock ⟨some s, n⟩ = .some (s.drop ((s.length - 1) / n * n))
      ⟨someIfNonempty (s.take ((s.length - 1) / n * n)), n⟩ := by
  simp only [Chunks.nextBackBlock, checkedSub_of_le (List.length_pos_iff.mpr hs), Option.bind_some,
    checkedDiv_of_pos hn, splitAtL_eq]

/-- `Chunks`/`ChunksRev`: invariant `chunk_size ≠ 0` and `slice` is never `Some(&[])` -/
def Chunks.de : DEInv (Chunks α) (List α) where
  blocks := Chunks.blocks
  abs c := Chunks.absOpt c.chunkSize c.slice
  inv c := 0 < c.chunkSize ∧ ∀ s, c.slice = some s → s ≠ []
  next_ok := by
    rintro ⟨sl, n⟩ ⟨hn, hne⟩
    cases sl with
    | none => exact .inl ⟨rfl, rfl⟩
    | some s =>
      refine .inr ⟨_, _, Chunks.nextBlock_some s n, ?_, hn, fun _ => ne_nil_of_someIfNonempty⟩
      simp only [Chunks.absOpt_someIfNonempty]
      exact chunksSpec_cons n s (hne s rfl) hn
  back_ok := by
    rintro ⟨sl, n⟩ ⟨hn, hne⟩
    cases sl with
    | none => exact .inl ⟨rfl, rfl⟩
    | some s =>
      have hs : s ≠ [] := hne s rfl
      refine .inr ⟨_, _, Chunks.nextBackBlock_some hs hn, ?_, hn, fun _ => ne_nil_of_someIfNonempty⟩
      simp only [Chunks.absOpt_someIfNonempty]
      exact chunksSpec_last n hn _ s rfl hs

def RChunks.absOpt (n : Nat) : Option (List α) → List (List α)
  | none => []
  | some s => rchunksSpec n s

theorem RChunks.absOpt_someIfNonempty (n : Nat) (s : List α) :
    RChunks.absOpt n (someIfNonempty s) = rchunksSpec n s := by
  cases s with
  | nil => exact (rchunksSpec_nil n).symm
  | cons _ _ => rfl

theorem RChunks.nextBlock_some (s : List α) (n : Nat) :
    RChunks.nextBlock ⟨some s, n⟩ = .some (s.drop (s.length - n))
      ⟨someIfNonempty (s.take (s.length - n)), n⟩ := by
  simp only [RChunks.nextBlock, splitAtL_eq]

theorem RChunks.nextBackBlock_some (s : List α) {n : Nat} (hn : 0 < n) :
    RChunks.nextBackBlock ⟨some s, n⟩ = .some (s.take (if s.length % n = 0 then n else s.length % n))
      ⟨someIfNonempty (s.drop (if s.length % n = 0 then n else s.length % n)), n⟩ := by
  simp only [RChunks.nextBackBlock, checkedRem_of_pos hn, splitAtL_eq]

def RChunks.de : DEInv (RChunks α) (List α) where
  blocks := RChunks.blocks
  abs c := RChunks.absOpt c.chunkSize c.slice
  inv c := 0 < c.chunkSize ∧ ∀ s, c.slice = some s → s ≠ []
  next_ok := by
    rintro ⟨sl, n⟩ ⟨hn, hne⟩
    cases sl with
    | none => exact .inl ⟨rfl, rfl⟩
    | some s =>
      refine .inr ⟨_, _, RChunks.nextBlock_some s n, ?_, hn, fun _ => ne_nil_of_someIfNonempty⟩
      simp only [RChunks.absOpt_someIfNonempty]
      exact rchunksSpec_cons n s (hne s rfl) hn
  back_ok := by
    rintro ⟨sl, n⟩ ⟨hn, hne⟩
    cases sl with
    | none => exact .inl ⟨rfl, rfl⟩
    | some s =>
      refine .inr ⟨_, _, RChunks.nextBackBlock_some s hn, ?_, hn, fun _ => ne_nil_of_someIfNonempty⟩
      simp only [RChunks.absOpt_someIfNonempty]
      exact rchunksSpec_last n hn s (hne s rfl)

theorem ChunksExact.nextBlock_of_ne {sl : List α} (r : List α) (n : Nat) (he : sl ≠ []) :
    ChunksExact.nextBlock ⟨sl, r, n⟩ = .some (sl.take n) ⟨sl.drop n, r, n⟩ := by
  simp only [ChunksExact.nextBlock, List.isEmpty_iff, he, if_false, splitAtL_eq]

theorem ChunksExact.nextBackBlock_of_ne {sl : List α} (r : List α) {n : Nat} (he : sl ≠ [])
    (hle : n ≤ sl.length) :
    ChunksExact.nextBackBlock ⟨sl, r, n⟩
      = .some (sl.drop (sl.length - n)) ⟨sl.take (sl.length - n), r, n⟩ := by
  simp only [ChunksExact.nextBackBlock, List.isEmpty_iff, he, if_false, checkedSub_of_le hle,
    splitAtL_eq]

theorem length_drop_mod {sl : List α} {n : Nat} (hle : n ≤ sl.length) (hm : sl.length % n = 0) :
    (sl.drop n).length % n = 0 := by
  rw [List.length_drop, sub_mod_self' _ _ hle]
  exact hm

theorem length_take_sub_mod {sl : List α} {n : Nat} (hle : n ≤ sl.length) (hm : sl.length % n = 0) :
    (sl.take (sl.length - n)).length % n = 0 := by
  rw [List.length_take_of_le (Nat.sub_le _ _), sub_mod_self' _ _ hle]
  exact hm

/-- `ChunksExact`/`ChunksExactRev` whose `rem` field is `r`: invariant `chunk_size ≠ 0`, the length of
    the pre-split `slice` is a multiple of `chunk_size`, and `rem` is never touched -/
def ChunksExact.de (r : List α) : DEInv (ChunksExact α) (List α) where
  blocks := ChunksExact.blocks
  abs c := Spec.chunksExact c.chunkSize c.slice
  inv c := 0 < c.chunkSize ∧ c.slice.length % c.chunkSize = 0 ∧ c.rem = r
  next_ok := by
    rintro ⟨sl, rem, n⟩ ⟨hn, hm, hr⟩
    by_cases he : sl = []
    · subst he
      exact .inl ⟨rfl, chunksExact_nil n hn⟩
    · have hle : n ≤ sl.length := le_of_mod_zero (List.length_pos_iff.mpr he) hm
      exact .inr ⟨_, _, ChunksExact.nextBlock_of_ne rem n he, chunksExact_cons n sl hn hle, hn,
        length_drop_mod hle hm, hr⟩
  back_ok := by
    rintro ⟨sl, rem, n⟩ ⟨hn, hm, hr⟩
    by_cases he : sl = []
    · subst he
      exact .inl ⟨rfl, chunksExact_nil n hn⟩
    · have hle : n ≤ sl.length := le_of_mod_zero (List.length_pos_iff.mpr he) hm
      exact .inr ⟨_, _, ChunksExact.nextBackBlock_of_ne rem he hle, chunksExact_last n hn sl hm hle, hn,
        length_take_sub_mod hle hm, hr⟩

theorem RChunksExact.nextBlock_of_ne {sl : List α} (r : List α) {n : Nat} (he : sl ≠ [])
    (hle : n ≤ sl.length) :
    RChunksExact.nextBlock ⟨sl, r, n⟩
      = .some (sl.drop (sl.length - n)) ⟨sl.take (sl.length - n), r, n⟩ := by
  simp only [RChunksExact.nextBlock, List.isEmpty_iff, he, if_false, checkedSub_of_le hle,
    splitAtL_eq]

theorem RChunksExact.nextBackBlock_of_ne {sl : List α} (r : List α) (n : Nat) (he : sl ≠ []) :
    RChunksExact.nextBackBlock ⟨sl, r, n⟩ = .some (sl.take n) ⟨sl.drop n, r, n⟩ := by
  simp only [RChunksExact.nextBackBlock, List.isEmpty_iff, he, if_false, splitAtL_eq]

def RChunksExact.de (r : List α) : DEInv (RChunksExact α) (List α) where
  blocks := RChunksExact.blocks
  abs c := rchunksExactSpec c.chunkSize c.slice
  inv c := 0 < c.chunkSize ∧ c.slice.length % c.chunkSize = 0 ∧ c.rem = r
  next_ok := by
    rintro ⟨sl, rem, n⟩ ⟨hn, hm, hr⟩
    by_cases he : sl = []
    · subst he
      exact .inl ⟨rfl, rchunksExactSpec_nil n hn⟩
    · have hle : n ≤ sl.length := le_of_mod_zero (List.length_pos_iff.mpr he) hm
      exact .inr ⟨_, _, RChunksExact.nextBlock_of_ne rem he hle, rchunksExactSpec_cons n sl hn hle, hn,
        length_take_sub_mod hle hm, hr⟩
  back_ok := by
    rintro ⟨sl, rem, n⟩ ⟨hn, hm, hr⟩
    by_cases he : sl = []
    · subst he
      exact .inl ⟨rfl, rchunksExactSpec_nil n hn⟩
    · have hle : n ≤ sl.length := le_of_mod_zero (List.length_pos_iff.mpr he) hm
      exact .inr ⟨_, _, RChunksExact.nextBackBlock_of_ne rem n he, rchunksExactSpec_last n hn sl hm hle,
        hn, length_drop_mod hle hm, hr⟩

/-- `ArrayChunks`/`ArrayChunksRev` whose `rem` field is `r`: the fields stand for the arrays of `arrays` -/
def ArrayChunks.de (r : List α) : DEInv (ArrayChunks α) (List α) where
  blocks := ArrayChunks.blocks
  abs s := s.arrays
  inv s := s.rem = r
  next_ok := by
    intro s hs
    obtain ⟨arrs, rem⟩ := s
    cases arrs with
    | nil => left; exact ⟨rfl, rfl⟩
    | cons x xs => right; exact ⟨x, ⟨xs, rem⟩, rfl, rfl, hs⟩
  back_ok := by
    intro s hs
    obtain ⟨arrs, rem⟩ := s
    by_cases h : arrs = []
    · left; subst h; exact ⟨rfl, rfl⟩
    · right
      refine ⟨arrs.getLast h, ⟨arrs.dropLast, rem⟩, ?_, ?_, hs⟩
      · simp [ArrayChunks.blocks, ArrayChunks.nextBackBlock, h]
      · exact (List.dropLast_concat_getLast h).symm

theorem retype_eq_chunksExact (n : Nat) (hn : 0 < n) : ∀ (k : Nat) (flat : List α),
    flat.length = k * n → retype n k flat = Spec.chunksExact n flat := by
  intro k
  induction k with
  | zero =>
    intro flat hl
    have : flat = [] := List.eq_nil_of_length_eq_zero (by simpa using hl)
    subst this
    simp [retype, chunksExact_nil n hn]
  | succ k ih =>
    intro flat hl
    have hle : n ≤ flat.length := by rw [hl, Nat.succ_mul]; omega
    rw [chunksExact_cons n flat hn hle, ← ih (flat.drop n) (by rw [List.length_drop, hl, Nat.succ_mul]; omega)]
    unfold retype
    rw [List.range_succ_eq_map, List.map_cons, List.map_map]
    simp only [Nat.zero_mul, List.drop_zero, List.drop_drop]
    congr 1
    apply List.map_congr_left
    intro i _
    simp only [Function.comp, Nat.succ_eq_add_one, Nat.add_mul, Nat.one_mul]
    congr 2
    omega

/-! ### the value of every constructor for a size `≥ 1` -/

theorem windows_init (l : List α) (n : Nat) (hn : 1 ≤ n) :
    windows l n = some ⟨true, ⟨l, n⟩⟩ := by
  have : n ≠ 0 := by omega
  simp [windows, this]

theorem chunks_init (l : List α) (n : Nat) (hn : 1 ≤ n) :
    chunks l n = some ⟨true, ⟨someIfNonempty l, n⟩⟩ := by
  have : n ≠ 0 := by omega
  simp [chunks, this]

theorem rchunks_init (l : List α) (n : Nat) (hn : 1 ≤ n) :
    rchunks l n = some ⟨true, ⟨someIfNonempty l, n⟩⟩ := by
  have : n ≠ 0 := by omega
  simp [rchunks, this]

theorem chunksExact_init (l : List α) (n : Nat) (hn : 1 ≤ n) :
    SliceIter.chunksExact l n
      = some ⟨true, ⟨l.take (l.length - l.length % n), l.drop (l.length - l.length % n), n⟩⟩ := by
  have h0 : n ≠ 0 := by omega
  have hm := Nat.mod_le l.length n
  simp [SliceIter.chunksExact, h0, checkedRem_of_pos hn, checkedSub_of_le hm, splitAtL_eq]

theorem rchunksExact_init (l : List α) (n : Nat) (hn : 1 ≤ n) :
    rchunksExact l n = some ⟨true, ⟨l.drop (l.length % n), l.take (l.length % n), n⟩⟩ := by
  have h0 : n ≠ 0 := by omega
  simp [rchunksExact, h0, checkedRem_of_pos hn, splitAtL_eq]

theorem arrayChunks_init (l : List α) (n : Nat) (hn : 1 ≤ n) :
    arrayChunks l n
      = some ⟨true, ⟨Spec.chunksExact n l, l.drop (l.length - l.length % n)⟩⟩ := by
  have h0 : n ≠ 0 := by omega
  have hs := splitAtL_eq l (l.length / n * n)
  unfold splitAtL at hs
  simp only [Prod.mk.injEq] at hs
  have hle : l.length / n * n ≤ l.length := Nat.div_mul_le_self _ _
  unfold arrayChunks asChunks
  simp only [h0, if_false]
  rw [hs.1, hs.2, retype_eq_chunksExact n hn (l.length / n) _ (by rw [List.length_take]; omega),
    ← sub_mod_eq_div_mul, chunksExact_take_full n hn l]

/-! ### histories from a freshly constructed (forward) iterator -/

theorem DEInv.history_fwd {σ ι : Type} (D : DEInv σ ι) (it0 : It σ) (hf : it0.fwd = true)
    (hi : D.inv it0.fields) (h : List Dir) :
    ∃ it', It.run D.blocks it0 h = some (dequeRun (D.abs it0.fields) h, it') ∧
      D.abs it'.fields = dequeRest (D.abs it0.fields) h ∧ D.inv it'.fields ∧ it'.fwd = true := by
  obtain ⟨it', r1, r2, r3, r4⟩ := D.run_refines h it0 hi
  have e0 : D.absIt it0 = D.abs it0.fields := by simp [DEInv.absIt, hf]
  have e1 : D.absIt it' = D.abs it'.fields := by simp [DEInv.absIt, r4, hf]
  rw [e0] at r1 r2
  rw [e1] at r2
  exact ⟨it', r1, r2, r3, by rw [r4, hf]⟩

theorem DEInv.historyX_fwd {σ ι : Type} (D : DEInv σ ι) (it0 : It σ) (hf : it0.fwd = true)
    (hi : D.inv it0.fields) (h : List (Option Dir)) :
    ∃ it', It.runX D.blocks it0 h = some (dequeRunX (D.abs it0.fields) h, it') ∧
      D.absIt it' = dequeRestX (D.abs it0.fields) h ∧ D.inv it'.fields := by
  obtain ⟨it', r1, r2, r3⟩ := D.runX_refines h it0 hi
  have e0 : D.absIt it0 = D.abs it0.fields := by simp [DEInv.absIt, hf]
  rw [e0] at r1 r2
  exact ⟨it', r1, r2, r3⟩

end Konst.SliceIter
