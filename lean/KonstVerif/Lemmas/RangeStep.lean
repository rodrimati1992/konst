import KonstVerif.Model.Range
/-
  What the two steppers of `Model/Range.lean` return on values of the type: the integer
  `overflowing_add(1)` / `overflowing_sub(1)` away from and at the bound that wraps, and the `char`
  stepper as an equation in the neighbouring scalar value (`charSucc`, `charPred`).
-/
namespace Konst.Range.Lemmas
open Konst.Range

/-- the integer `increment` never panics; the flags do not depend on the bounds -/
theorem intIncrement_eq (MIN MAX a b : Int) :
    intIncrement MIN MAX a b = some
      { finishedInclusive := decide (a > b), finishedExclusive := decide (a ≥ b),
        overflowed := (overflowingAdd1 MIN MAX a).2, next := (overflowingAdd1 MIN MAX a).1 } := rfl

theorem intDecrement_eq (MIN MAX a b : Int) :
    intDecrement MIN MAX a b = some
      { finishedInclusive := decide (b < a), finishedExclusive := decide (b ≤ a),
        overflowed := (overflowingSub1 MIN MAX b).2, next := (overflowingSub1 MIN MAX b).1 } := rfl

theorem overflowingAdd1_lt {MIN MAX x : Int} (h : x < MAX) : overflowingAdd1 MIN MAX x = (x + 1, false) :=
  if_neg (Int.not_lt.mpr (Int.add_one_le_of_lt h))

theorem overflowingAdd1_max (MIN MAX : Int) : overflowingAdd1 MIN MAX MAX = (MIN, true) := by
  have e : MAX + 1 - (MAX - MIN + 1) = MIN := by omega
  rw [overflowingAdd1, if_pos (Int.lt_add_one_iff.mpr (Int.le_refl MAX)), e]

theorem overflowingSub1_gt {MIN MAX x : Int} (h : MIN < x) : overflowingSub1 MIN MAX x = (x - 1, false) :=
  if_neg (Int.not_lt.mpr (Int.le_sub_one_of_lt h))

theorem overflowingSub1_min (MIN MAX : Int) : overflowingSub1 MIN MAX MIN = (MAX, true) := by
  have e : MIN - 1 + (MAX - MIN + 1) = MAX := by omega
  rw [overflowingSub1, if_pos (Int.sub_one_lt_iff.mpr (Int.le_refl MIN)), e]

/-- the scalar value after `a`, across the surrogate gap, wrapping at `char::MAX` -/
def charSucc (a : Nat) : Nat := if a = 0xD7FF then 0xE000 else if a = 0x10FFFF then 0 else a + 1

def charPred (b : Nat) : Nat := if b = 0 then 0x10FFFF else if b = 0xE000 then 0xD7FF else b - 1

theorem charSucc_scalar {a : Nat} (ha : a < 0xD800 ∨ (0xE000 ≤ a ∧ a ≤ 0x10FFFF)) :
    charSucc a < 0xD800 ∨ (0xE000 ≤ charSucc a ∧ charSucc a ≤ 0x10FFFF) := by
  unfold charSucc
  split
  · decide
  · split
    · decide
    · omega

theorem charPred_scalar {b : Nat} (hb : b < 0xD800 ∨ (0xE000 ≤ b ∧ b ≤ 0x10FFFF)) :
    charPred b < 0xD800 ∨ (0xE000 ≤ charPred b ∧ charPred b ≤ 0x10FFFF) := by
  unfold charPred
  split
  · decide
  · split
    · decide
    · omega

theorem charIncrement_scalar (a b : Nat) (ha : a < 0xD800 ∨ (0xE000 ≤ a ∧ a ≤ 0x10FFFF)) :
    charIncrement a b = some
      { finishedInclusive := decide (a > b), finishedExclusive := decide (a ≥ b),
        overflowed := decide (a = 0x10FFFF), next := charSucc a } := by
  have hp : (if a = 0xD7FF then (0xE000, false) else if a = 0x10FFFF then (0, true) else (a + 1, false))
      = (charSucc a, decide (a = 0x10FFFF)) := by
    unfold charSucc
    by_cases h1 : a = 0xD7FF
    · subst h1; rfl
    · by_cases h2 : a = 0x10FFFF
      · subst h2; rfl
      · rw [if_neg h1, if_neg h2, if_neg h1, if_neg h2, decide_eq_false h2]
  unfold charIncrement
  rw [hp]
  simp only [fromU32, if_pos (charSucc_scalar ha)]

theorem charDecrement_scalar (a b : Nat) (hb : b < 0xD800 ∨ (0xE000 ≤ b ∧ b ≤ 0x10FFFF)) :
    charDecrement a b = some
      { finishedInclusive := decide (b < a), finishedExclusive := decide (b ≤ a),
        overflowed := decide (b = 0), next := charPred b } := by
  have hp : (if b = 0 then (0x10FFFF, true) else if b = 0xE000 then (0xD7FF, false) else (b - 1, false))
      = (charPred b, decide (b = 0)) := by
    unfold charPred
    by_cases h1 : b = 0
    · subst h1; rfl
    · by_cases h2 : b = 0xE000
      · subst h2; rfl
      · rw [if_neg h1, if_neg h2, if_neg h1, if_neg h2, decide_eq_false h1]
  unfold charDecrement
  rw [hp]
  simp only [fromU32, if_pos (charPred_scalar hb)]

end Konst.Range.Lemmas
