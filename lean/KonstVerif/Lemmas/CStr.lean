import KonstVerif.Model.CStr
import KonstVerif.Spec.Concat
import KonstVerif.Lemmas.Slice
/-
  C20, CStr half: "first index of 0" (a list with a first nul is `a ++ 0 :: b` with no nul in `a`),
  the scan loop and the pointer walk, closed forms of the constructors and conversions in terms of the first nul.
-/
namespace Konst.Lemmas.CStr
open Konst Konst.Slice Konst.CStr Konst.Spec.Concat

theorem firstNul_append_nul {a : List Nat} (h : 0 ∉ a) (b : List Nat) :
    firstNul (a ++ 0 :: b) = some a.length := by
  induction a with
  | nil => rfl
  | cons x a ih =>
    obtain ⟨hx, ha⟩ := not_or.mp (fun hm => h (List.mem_cons.mpr hm))
    rw [List.cons_append, firstNul, if_neg (Ne.symm hx), ih ha]
    rfl

theorem firstNul_split {l : List Nat} {k : Nat} (h : firstNul l = some k) :
    ∃ a b, l = a ++ 0 :: b ∧ 0 ∉ a ∧ a.length = k := by
  induction l generalizing k with
  | nil => cases h
  | cons x r ih =>
    rw [firstNul] at h
    split at h
    · cases h
      exact ⟨[], r, by simp [*], by simp, rfl⟩
    · obtain ⟨j, hj, rfl⟩ := Option.map_eq_some_iff.mp h
      obtain ⟨a, b, rfl, ha, rfl⟩ := ih hj
      exact ⟨x :: a, b, rfl, by simp [ha, Ne.symm ‹_›], rfl⟩

theorem firstNul_none_iff (l : List Nat) : firstNul l = none ↔ 0 ∉ l := by
  induction l with
  | nil => simp [firstNul]
  | cons x r ih =>
    rw [firstNul]
    split
    · simp [*]
    · simp [*, Ne.symm ‹_›]

theorem firstNul_none {l : List Nat} (h : firstNul l = none) : 0 ∉ l := (firstNul_none_iff l).mp h

theorem firstNul_lt {l : List Nat} {k : Nat} (h : firstNul l = some k) : k < l.length := by
  obtain ⟨a, b, rfl, _, rfl⟩ := firstNul_split h
  simp

theorem firstNul_getElem? {l : List Nat} {k : Nat} (h : firstNul l = some k) : l[k]? = some 0 := by
  obtain ⟨a, b, rfl, _, rfl⟩ := firstNul_split h
  simp

theorem firstNul_before {l : List Nat} {k : Nat} (h : firstNul l = some k) :
    ∀ j, j < k → l[j]? ≠ some 0 := by
  obtain ⟨a, b, rfl, ha, rfl⟩ := firstNul_split h
  intro j hj e
  rw [List.getElem?_append_left hj] at e
  exact ha (List.mem_of_getElem? e)

theorem firstNul_append {a : List Nat} {k : Nat} (h : firstNul a = some k) (b : List Nat) :
    firstNul (a ++ b) = some k := by
  obtain ⟨a, c, rfl, ha, rfl⟩ := firstNul_split h
  rw [List.append_assoc, List.cons_append, firstNul_append_nul ha]

theorem take_through_nul (a b : List Nat) : (a ++ 0 :: b).take (a.length + 1) = a ++ [0] := by
  simp [List.take_append, List.take_of_length_le]

/-- the `&CStr` invariant of the specification (`IsCStr`: non-empty, first nul at the last index) is
    "`body ++ [0]` with no nul in `body`" -/
theorem isCStr_snoc {body : List Nat} (h0 : 0 ∉ body) : IsCStr (body ++ [0]) :=
  ⟨by simp [firstNul_append_nul h0], by simp⟩

theorem walk_eq (l : List Nat) (i : Nat) : walk l i = (firstNul l).map (i + ·) := by
  induction l generalizing i with
  | nil => rfl
  | cons b r ih =>
    rw [walk, firstNul]
    by_cases hb : b = 0
    · rw [if_neg (fun h => h hb), if_pos hb]
      rfl
    · rw [if_pos hb, if_neg hb, ih, Option.map_map]
      congr 1
      funext k
      exact Nat.add_right_comm i 1 k ▸ Nat.add_assoc i k 1

theorem walk_none_iff (l : List Nat) (i : Nat) : walk l i = none ↔ 0 ∉ l := by
  rw [walk_eq, Option.map_eq_none_iff, firstNul_none_iff]

/-- the `for_range!` scan of `from_bytes_until_nul_inner` visits the bytes as the pointer walk does -/
theorem untilNulLoop_eq_walk (len : Nat) (l : List Nat) (i : Nat) :
    untilNulLoop len l i = (walk l i).map fun k => (sliceUpTo len (k + 1), k + 1) := by
  induction l generalizing i with
  | nil => rfl
  | cons b r ih =>
    rw [untilNulLoop, walk]
    by_cases hb : b = 0
    · rw [if_pos hb, if_neg (fun h => h hb)]
      rfl
    · rw [if_neg hb, if_pos hb, ih]

theorem fromBytesUntilNulInner_eq (bs : List Nat) :
    fromBytesUntilNulInner bs = (firstNul bs).map fun k => (⟨0, k + 1⟩, k + 1) := by
  rw [fromBytesUntilNulInner, untilNulLoop_eq_walk, walk_eq]
  cases h : firstNul bs with
  | none => rfl
  | some k => simp [Lemmas.Slice.sliceUpTo_of_le (Nat.succ_le_of_lt (firstNul_lt h))]

/-- complete description of `from_bytes_with_nul`'s four arms in terms of the first nul; in
    particular the `bytes[bytes.len() - 1]` of the second arm never panics -/
theorem fromBytesWithNul_eq (bs : List Nat) :
    fromBytesWithNul bs =
      match firstNul bs with
      | none => .err .notNulTerminated
      | some k =>
        if k + 1 = bs.length then .ok ⟨0, bs.length⟩
        else if bs.getLast? ≠ some 0 then .err .notNulTerminated
        else .err (.internalNul k) := by
  simp only [fromBytesWithNul, fromBytesUntilNulInner_eq]
  cases h : firstNul bs with
  | none => rfl
  | some k =>
    simp only [Option.map_some]
    by_cases hk : k + 1 = bs.length
    · simp [hk]
    · simp only [hk, if_false]
      have hl := firstNul_lt h
      cases hg : bs.getLast? with
      | none => simp only [List.getLast?_eq_none_iff] at hg; simp [hg] at hl
      | some last =>
        by_cases h0 : last = 0
        · simp [h0]
        · simp [h0]

theorem toBytesWithNul_eq (mem : List Nat) : toBytesWithNul mem = (firstNul mem).map fun k => ⟨0, k + 1⟩ := by
  rw [toBytesWithNul, walk_eq, Option.map_map]
  congr 1
  funext k
  simp

/-- `to_bytes` in closed form: the `_ => unreachable!()` arm is never taken, whatever the memory (when the walk
    stops, it stops on a nul, the last element of the `from_raw_parts(start, i + 1)` slice) -/
theorem toBytes_eq (mem : List Nat) :
    toBytes mem = match firstNul mem with
      | none => .oob
      | some k => .ok ⟨0, k⟩ := by
  rw [toBytes, toBytesWithNul_eq]
  cases h : firstNul mem with
  | none => rfl
  | some k =>
    obtain ⟨a, b, rfl, _, rfl⟩ := firstNul_split h
    simp [View.apply, take_through_nul]

theorem toBytesWithNul_append {c : List Nat} (hc : IsCStr c) (rest : List Nat) :
    toBytesWithNul (c ++ rest) = some ⟨0, c.length⟩ := by
  have hpos : 0 < c.length := List.length_pos_iff.mpr hc.2
  rw [toBytesWithNul_eq, firstNul_append hc.1 rest, Option.map_some, Nat.sub_add_cancel hpos]

theorem toBytes_append {c : List Nat} (hc : IsCStr c) (rest : List Nat) :
    toBytes (c ++ rest) = .ok ⟨0, c.length - 1⟩ := by
  rw [toBytes_eq, firstNul_append hc.1 rest]

theorem toBytesWithNul_isCStr {mem : List Nat} (hc : IsCStr mem) :
    toBytesWithNul mem = some ⟨0, mem.length⟩ := by
  simpa using toBytesWithNul_append hc []

theorem toBytes_isCStr {mem : List Nat} (hc : IsCStr mem) : toBytes mem = .ok ⟨0, mem.length - 1⟩ := by
  simpa using toBytes_append hc []

theorem isCStr_take (c rest : List Nat) : ((c ++ rest).drop 0).take c.length = c := by simp

theorem untilNul_isCStr {bs c : List Nat} (h : stdFromBytesUntilNul bs = some c) : IsCStr c := by
  obtain ⟨k, hk, rfl⟩ := Option.map_eq_some_iff.mp h
  obtain ⟨a, b, rfl, ha, rfl⟩ := firstNul_split hk
  rw [take_through_nul]
  exact isCStr_snoc ha

end Konst.Lemmas.CStr
