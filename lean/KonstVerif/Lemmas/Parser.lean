import KonstVerif.Model.Parser
import KonstVerif.Spec.ParserInv
import KonstVerif.Lemmas.Utf8
import KonstVerif.Lemmas.Bytes
import KonstVerif.Props.C04
import KonstVerif.Props.C05
/-
  Helper lemmas for C13 / C14.  The idea: every `Parser` method keeps a sub-range of the remainder whose ends
  are char boundaries and advances `start_offset` by what it cut at the front (`Cut`, `Good`).  To see it,
  each method is first written with `try_parsing!`/`parsing!` unfolded (`stripPrefix_eq` …: the result is
  `okFront`, `okBack` or `failed` by cases on the free string function), and each free function is shown to
  cut a valid string at a boundary (`FrontAt`, `BackAt`), using that the byte test `Bnd` is local
  (`bnd_drop_iff`, `bnd_take_iff`).
-/
namespace Konst.Lemmas.Parser
open Konst Konst.Parser Konst.Spec.Utf8 Konst.Spec.Bytes Konst.Lemmas.Utf8
open Konst.Lemmas.Slice (sliceFrom_apply sliceUpTo_apply)

/-- the strict char-boundary byte test of the code -/
abbrev Bnd (s : List Nat) (k : Nat) : Prop := Utf8.isCharBoundaryBytes s k = true

theorem bnd_iff (s : List Nat) (k : Nat) :
    Bnd s k ↔ k = s.length ∨ (k < s.length ∧ Utf8.byteIsCharBoundary (s.getD k 0) = true) := by
  unfold Bnd Utf8.isCharBoundaryBytes
  simp only [Bool.or_eq_true, beq_iff_eq, Bool.and_eq_true, decide_eq_true_eq]

theorem bnd_len (s : List Nat) : Bnd s s.length := (bnd_iff s _).mpr (Or.inl rfl)

theorem bnd_le {s : List Nat} {k : Nat} (h : Bnd s k) : k ≤ s.length := by
  rcases (bnd_iff s k).mp h with h | h
  · exact Nat.le_of_eq h
  · exact Nat.le_of_lt h.1

theorem getD_drop (s : List Nat) (a k : Nat) : (s.drop a).getD k 0 = s.getD (a + k) 0 := by
  rw [List.getD_eq_getElem?_getD, List.getD_eq_getElem?_getD, List.getElem?_drop]

theorem getD_take (s : List Nat) (b k : Nat) (h : k < b) : (s.take b).getD k 0 = s.getD k 0 := by
  rw [List.getD_eq_getElem?_getD, List.getD_eq_getElem?_getD, List.getElem?_take_of_lt h]

theorem bnd_drop_iff {s : List Nat} {a : Nat} (ha : a ≤ s.length) (k : Nat) :
    Bnd (s.drop a) k ↔ Bnd s (a + k) := by
  rw [bnd_iff, bnd_iff, List.length_drop, getD_drop]
  rw [show (k = s.length - a) = (a + k = s.length) from propext (by omega), Nat.lt_sub_iff_add_lt']

theorem bnd_drop {s : List Nat} {a k : Nat} (ha : a ≤ s.length) (h : Bnd (s.drop a) k) : Bnd s (a + k) :=
  (bnd_drop_iff ha k).mp h

theorem bnd_take_iff {s : List Nat} {b k : Nat} (hb : Bnd s b) (hk : k ≤ b) :
    Bnd (s.take b) k ↔ Bnd s k := by
  have hbl := bnd_le hb
  rcases Nat.eq_or_lt_of_le hk with rfl | hlt
  · exact ⟨fun _ => hb, fun _ => (bnd_iff _ _).mpr (Or.inl (by rw [List.length_take, Nat.min_eq_left hbl]))⟩
  · rw [bnd_iff, bnd_iff, List.length_take, Nat.min_eq_left hbl, getD_take s b k hlt]
    simp only [Nat.ne_of_lt hlt, Nat.ne_of_lt (Nat.lt_of_lt_of_le hlt hbl), hlt,
      Nat.lt_of_lt_of_le hlt hbl, false_or, true_and]

theorem bnd_take {s : List Nat} {b k : Nat} (hb : Bnd s b) (h : Bnd (s.take b) k) : Bnd s k := by
  have hk := bnd_le h
  rw [List.length_take] at hk
  exact (bnd_take_iff hb (Nat.le_trans hk (Nat.min_le_left _ _))).mp h

theorem bnd_of_ascii {s : List Nat} {k : Nat} (hk : k < s.length) (hb : s.getD k 0 < 128) : Bnd s k := by
  refine (bnd_iff s k).mpr (Or.inr ⟨hk, ?_⟩)
  unfold Utf8.byteIsCharBoundary Utf8.asI8
  simp only [hb, if_true, decide_eq_true_eq]
  omega

theorem bnd_iff_isBoundary (cs : List Nat) (hs : ∀ c ∈ cs, isScalar c = true) (k : Nat) :
    Bnd (encs cs) k ↔ IsBoundary cs k := boundary_iff cs hs k

theorem bnd_zero {s : List Nat} (hv : Valid s) : Bnd s 0 := by
  obtain ⟨cs, hs, rfl⟩ := hv
  exact (bnd_iff_isBoundary cs hs 0).mpr (boundary_zero cs)

/-- both ends of a byte-wise occurrence of a `&str` needle in a `&str` are boundaries (an empty needle
    only where its position is one: offset 0 or the end) -/
theorem bnd_match {s m : List Nat} (hv : Valid s) (hm : Valid m) {i : Nat} (hocc : m <+: s.drop i)
    (h0 : m = [] → Bnd s i) : Bnd s i ∧ Bnd s (i + m.length) := by
  by_cases hne : m = []
  · subst hne; exact ⟨h0 rfl, h0 rfl⟩
  · obtain ⟨cs, hs, rfl⟩ := hv
    obtain ⟨ps, _, rfl⟩ := hm
    have := match_on_boundaries cs ps (fun h => hne (by rw [h]; rfl)) i hocc
    exact ⟨(bnd_iff_isBoundary cs hs i).mpr this.1, (bnd_iff_isBoundary cs hs _).mpr this.2⟩

theorem valid_drop {s : List Nat} (hv : Valid s) {k : Nat} (hk : Bnd s k) : Valid (s.drop k) := by
  obtain ⟨cs, hs, rfl⟩ := hv
  exact drop_valid cs hs k ((bnd_iff_isBoundary cs hs k).mp hk)

theorem valid_take {s : List Nat} (hv : Valid s) {k : Nat} (hk : Bnd s k) : Valid (s.take k) := by
  obtain ⟨cs, hs, rfl⟩ := hv
  exact take_valid cs hs k ((bnd_iff_isBoundary cs hs k).mp hk)

theorem valid_ascii (b : Nat) (hb : b < 128) : Valid [b] :=
  ⟨[b], by
    intro c hc
    simp only [List.mem_singleton] at hc
    subst hc
    unfold isScalar
    simp only [Bool.or_eq_true, decide_eq_true_eq]
    left; omega,
   by simp [encs, enc, hb]⟩

theorem bnd_ascii_prefix : ∀ (a : List Nat) {s rest : List Nat}, Valid s → s = a ++ rest →
    (∀ b ∈ a, b < 128) → Bnd s a.length := by
  intro a
  induction a with
  | nil => intro s rest hv _ _; exact bnd_zero hv
  | cons b a ih =>
    intro s rest hv hs ha
    subst hs
    have h1 := (bnd_match (i := 0) hv (valid_ascii b (ha b List.mem_cons_self))
      ⟨a ++ rest, rfl⟩ (fun h => nomatch h)).2
    have := ih (valid_drop hv h1) rfl (fun x hx => ha x (List.mem_cons_of_mem _ hx))
    rw [List.length_cons, Nat.add_comm]
    exact bnd_drop (Nat.le_add_left 1 _) this

theorem bnd_ascii_suffix (a : List Nat) {rest : List Nat} (h : ∀ b ∈ rest, b < 128) :
    Bnd (a ++ rest) a.length := by
  cases rest with
  | nil => rw [List.append_nil]; exact bnd_len a
  | cons d ds =>
    refine bnd_of_ascii (by rw [List.length_append, List.length_cons]; omega) ?_
    rw [List.getD_eq_getElem?_getD, List.getElem?_append_right (Nat.le_refl _), Nat.sub_self]
    exact h d List.mem_cons_self

/-! ### where the free functions cut a valid string -/

def FrontAt (h r : List Nat) : Prop := ∃ k, Bnd h k ∧ r = h.drop k
def BackAt (h r : List Nat) : Prop := ∃ k, Bnd h k ∧ r = h.take k

theorem frontAt_self {h : List Nat} (hv : Valid h) : FrontAt h h := ⟨0, bnd_zero hv, by simp⟩
theorem backAt_self (h : List Nat) : BackAt h h := ⟨h.length, bnd_len h, by simp⟩
theorem frontAt_nil (h : List Nat) : FrontAt h [] := ⟨h.length, bnd_len h, by simp⟩
theorem backAt_nil {h : List Nat} (hv : Valid h) : BackAt h [] := ⟨0, bnd_zero hv, by simp⟩

theorem frontAt_trans {h r t : List Nat} (h1 : FrontAt h r) (h2 : FrontAt r t) : FrontAt h t := by
  obtain ⟨k, hk, rfl⟩ := h1
  obtain ⟨j, hj, rfl⟩ := h2
  exact ⟨k + j, bnd_drop (bnd_le hk) hj, by rw [List.drop_drop]⟩

theorem backAt_trans {h r t : List Nat} (h1 : BackAt h r) (h2 : BackAt r t) : BackAt h t := by
  obtain ⟨k, hk, rfl⟩ := h1
  obtain ⟨j, hj, rfl⟩ := h2
  have hjk : j ≤ k := Nat.le_trans (bnd_le hj) (List.length_take_le k h)
  exact ⟨j, bnd_take hk hj, by rw [List.take_take, Nat.min_eq_left hjk]⟩

theorem frontAt_valid {h r : List Nat} (hv : Valid h) (h1 : FrontAt h r) : Valid r := by
  obtain ⟨k, hk, rfl⟩ := h1; exact valid_drop hv hk
theorem backAt_valid {h r : List Nat} (hv : Valid h) (h1 : BackAt h r) : Valid r := by
  obtain ⟨k, hk, rfl⟩ := h1; exact valid_take hv hk

theorem frontAt_of_prefix {h m : List Nat} (hv : Valid h) (hm : Valid m) (hp : m <+: h) :
    FrontAt h (h.drop m.length) :=
  ⟨m.length, by simpa using (bnd_match (i := 0) hv hm hp (fun _ => bnd_zero hv)).2, rfl⟩

theorem backAt_of_suffix {h m : List Nat} (hv : Valid h) (hm : Valid m) (hs : m <:+ h) :
    BackAt h (h.take (h.length - m.length)) := by
  have hocc : m <+: h.drop (h.length - m.length) := by
    rw [← List.suffix_iff_eq_drop.mp hs]; exact List.prefix_refl m
  exact ⟨_, (bnd_match hv hm hocc (fun h0 => by subst h0; exact bnd_len h)).1, rfl⟩

theorem stripPrefix_front {h m : List Nat} {x : View} (hv : Valid h) (hm : Valid m)
    (hx : StrFns.stripPrefix h m = some x) : FrontAt h (x.apply h) := by
  have h1 := (Props.C05.stripPrefix_eq h m).1
  rw [show Bytes.stripPrefix h m = some x from hx, stripPrefixSpec] at h1
  split at h1
  · next hp =>
    rw [show x.apply h = h.drop m.length from Option.some.inj h1]
    exact frontAt_of_prefix hv hm (List.isPrefixOf_iff_prefix.mp hp)
  · cases h1

theorem stripSuffix_back {h m : List Nat} {x : View} (hv : Valid h) (hm : Valid m)
    (hx : StrFns.stripSuffix h m = some x) : BackAt h (x.apply h) := by
  have h1 := (Props.C05.stripSuffix_eq h m).1
  rw [show Bytes.stripSuffix h m = some x from hx, stripSuffixSpec] at h1
  split at h1
  · next hp =>
    rw [show x.apply h = h.take (h.length - m.length) from Option.some.inj h1]
    exact backAt_of_suffix hv hm (List.isSuffixOf_iff_suffix.mp hp)
  · cases h1

theorem dropWhile_eq_drop (q : Nat → Bool) (l : List Nat) : l.dropWhile q = l.drop (l.takeWhile q).length := by
  conv => rhs; arg 2; rw [← List.takeWhile_append_dropWhile (p := q) (l := l)]
  exact (List.drop_left' rfl).symm

theorem trimStart_front {h : List Nat} (hv : Valid h) : FrontAt h ((StrFns.trimStart h).apply h) := by
  rw [show StrFns.trimStart h = Bytes.bytesTrimStart h from rfl, (Props.C05.bytesTrimStart_eq h).1]
  have hsplit : h = h.takeWhile isAsciiWhitespace ++ h.dropWhile isAsciiWhitespace :=
    List.takeWhile_append_dropWhile.symm
  exact ⟨_, bnd_ascii_prefix _ hv hsplit fun b hb => Lemmas.Bytes.ws_lt b (List.all_eq_true.mp List.all_takeWhile b hb),
    dropWhile_eq_drop _ h⟩

theorem trimEnd_back (h : List Nat) : BackAt h ((StrFns.trimEnd h).apply h) := by
  rw [show StrFns.trimEnd h = Bytes.bytesTrimEnd h from rfl, (Props.C05.bytesTrimEnd_eq h).1, trimAsciiEndSpec]
  have hsplit : h = (h.reverse.dropWhile isAsciiWhitespace).reverse ++
      (h.reverse.takeWhile isAsciiWhitespace).reverse := by
    rw [← List.reverse_append, List.takeWhile_append_dropWhile, List.reverse_reverse]
  have hb := bnd_ascii_suffix (h.reverse.dropWhile isAsciiWhitespace).reverse
    (rest := (h.reverse.takeWhile isAsciiWhitespace).reverse) fun b hb =>
      Lemmas.Bytes.ws_lt b (List.all_eq_true.mp List.all_takeWhile b (List.mem_reverse.mp hb))
  rw [← hsplit] at hb
  exact ⟨_, hb, List.prefix_iff_eq_take.mp ⟨_, hsplit.symm⟩⟩

theorem trimStartSpec_front (m : List Nat) (hm : Valid m) : ∀ (n : Nat) (h : List Nat), h.length = n → Valid h →
    FrontAt h (trimStartSpec m h) := by
  intro n
  induction n using Nat.strongRecOn with
  | _ n ih =>
    intro h hn hv
    subst hn
    rw [trimStartSpec]
    split
    · next hc =>
      have hpre : m <+: h := List.isPrefixOf_iff_prefix.mp hc.2
      have hcut := frontAt_of_prefix hv hm hpre
      have hlen : 0 < m.length := List.length_pos_iff.mpr hc.1
      have hle := hpre.length_le
      have hlt : (h.drop m.length).length < h.length := by
        rw [List.length_drop]
        exact Nat.sub_lt (Nat.lt_of_lt_of_le hlen hle) hlen
      exact frontAt_trans hcut (ih _ hlt _ rfl (frontAt_valid hv hcut))
    · exact frontAt_self hv

theorem trimStartMatches_front {h m : List Nat} (hv : Valid h) (hm : Valid m) :
    FrontAt h ((StrFns.trimStartMatches h m).apply h) := by
  rw [show StrFns.trimStartMatches h m = Bytes.trimStartMatches h m from rfl,
    (Props.C05.trimStartMatches_eq_spec h m).1]
  exact trimStartSpec_front m hm _ h rfl hv

theorem trimEndSpec_back (m : List Nat) (hm : Valid m) : ∀ (n : Nat) (h : List Nat), h.length = n → Valid h →
    BackAt h (trimEndSpec m h) := by
  intro n
  induction n using Nat.strongRecOn with
  | _ n ih =>
    intro h hn hv
    subst hn
    rw [trimEndSpec]
    split
    · next hc =>
      have hsuf : m <:+ h := List.isSuffixOf_iff_suffix.mp hc.2
      have hcut := backAt_of_suffix hv hm hsuf
      have hlen : 0 < m.length := List.length_pos_iff.mpr hc.1
      have hle := hsuf.length_le
      have hlt : (h.take (h.length - m.length)).length < h.length := by
        rw [List.length_take]
        exact Nat.lt_of_le_of_lt (Nat.min_le_left _ _) (Nat.sub_lt (Nat.lt_of_lt_of_le hlen hle) hlen)
      exact backAt_trans hcut (ih _ hlt _ rfl (backAt_valid hv hcut))
    · exact backAt_self h

theorem trimEndMatches_back {h m : List Nat} (hv : Valid h) (hm : Valid m) :
    BackAt h ((StrFns.trimEndMatches h m).apply h) := by
  rw [show StrFns.trimEndMatches h m = Bytes.trimEndMatches h m from rfl,
    (Props.C05.trimEndMatches_eq_spec h m).1]
  exact trimEndSpec_back m hm _ h rfl hv

theorem findSpec_bnd {h m : List Nat} (hv : Valid h) (hm : Valid m) {i : Nat} (hi : findSpec h m = some i) :
    Bnd h i ∧ Bnd h (i + m.length) := by
  refine bnd_match hv hm ?_ ?_
  · rw [← Props.C04.find_eq_spec] at hi
    exact ((Props.C04.find_least h m i).mp hi).1
  · rintro rfl
    rw [Lemmas.Bytes.findSpec_nil] at hi
    cases hi
    exact bnd_zero hv

theorem rfindSpec_bnd {h m : List Nat} (hv : Valid h) (hm : Valid m) {i : Nat}
    (hi : rfindSpec h m = some i) : Bnd h i ∧ Bnd h (i + m.length) := by
  by_cases hne : m = []
  · subst hne
    rw [Lemmas.Bytes.rfindSpec_nil] at hi
    cases hi
    exact ⟨bnd_len h, bnd_len h⟩
  · rw [← Props.C04.rfind_eq_spec h m hne] at hi
    exact bnd_match hv hm ((Props.C04.rfind_greatest h m hne i).mp hi).1 (fun h0 => absurd h0 hne)

theorem findSkip_front {h m : List Nat} {x : View} (hv : Valid h) (hm : Valid m)
    (hx : StrFns.findSkip h m = some x) : FrontAt h (x.apply h) := by
  have h1 := (Props.C04.findSkip_eq h m).1
  rw [show Bytes.findSkip h m = some x from hx, findSkipSpec] at h1
  cases hf : findSpec h m with
  | none => rw [hf] at h1; cases h1
  | some i => rw [hf] at h1; exact ⟨_, (findSpec_bnd hv hm hf).2, Option.some.inj h1⟩

theorem rfindSkip_back {h m : List Nat} {x : View} (hv : Valid h) (hm : Valid m)
    (hx : StrFns.rfindSkip h m = some x) : BackAt h (x.apply h) := by
  have h1 := (Props.C04.rfindSkip_eq h m).1
  rw [show Bytes.rfindSkip h m = some x from hx, rfindSkipSpec] at h1
  cases hf : rfindSpec h m with
  | none => rw [hf] at h1; cases h1
  | some i => rw [hf] at h1; exact ⟨_, (rfindSpec_bnd hv hm hf).1, Option.some.inj h1⟩

/-- reading a `split_once`/`rsplit_once` result off its specification: nothing found, or the two parts -/
theorem once_cut {h : List Nat} {n : Nat} {r : Option (View × View)} {o : Option Nat}
    (hmap : r.map (fun ab => (ab.1.apply h, ab.2.apply h)) = o.map fun i => (h.take i, h.drop (i + n))) :
    match o with
    | none => r = none
    | some i => ∃ a b, r = some (a, b) ∧ a.apply h = h.take i ∧ b.apply h = h.drop (i + n) := by
  cases o with
  | none =>
    cases r with
    | none => rfl
    | some ab => cases hmap
  | some i =>
    cases r with
    | none => cases hmap
    | some ab =>
      have := Prod.mk.inj (Option.some.inj hmap)
      exact ⟨ab.1, ab.2, rfl, this.1, this.2⟩

theorem splitOnce_cut {h d : List Nat} (hv : Valid h) (hd : Valid d) :
    match findSpec h d with
    | none => StrFns.splitOnce h d = .ok none
    | some i => ∃ a b, StrFns.splitOnce h d = .ok (some (a, b)) ∧
        a.apply h = h.take i ∧ b.apply h = h.drop (i + d.length) := by
  obtain ⟨r, hr, hmap⟩ := (Props.C04.splitOnce_valid h d hv hd).1
  rw [hr]
  unfold splitOnceSpec at hmap
  cases hf : findSpec h d with
  | none => rw [hf] at hmap; rw [show r = none from once_cut hmap]
  | some i => rw [hf] at hmap; obtain ⟨a, b, rfl, hab⟩ := once_cut hmap; exact ⟨a, b, rfl, hab⟩

theorem rsplitOnce_cut {h d : List Nat} (hv : Valid h) (hd : Valid d) :
    match rfindSpec h d with
    | none => StrFns.rsplitOnce h d = .ok none
    | some i => ∃ a b, StrFns.rsplitOnce h d = .ok (some (a, b)) ∧
        a.apply h = h.take i ∧ b.apply h = h.drop (i + d.length) := by
  obtain ⟨r, hr, hmap⟩ := (Props.C04.splitOnce_valid h d hv hd).2
  rw [hr]
  unfold rsplitOnceSpec at hmap
  cases hf : rfindSpec h d with
  | none => rw [hf] at hmap; rw [show r = none from once_cut hmap]
  | some i => rw [hf] at hmap; obtain ⟨a, b, rfl, hab⟩ := once_cut hmap; exact ⟨a, b, rfl, hab⟩

theorem forgiving_of_bnd {s : List Nat} {k : Nat} (hk : Bnd s k) : Utf8.isCharBoundaryForgiving s k = true := by
  rw [forgiving_eq, show Utf8.isCharBoundaryBytes s k = true from hk, Bool.or_true]

theorem strFrom_of_bnd {s : List Nat} {k : Nat} (hk : Bnd s k) :
    Utf8.strFrom s k = .ok (Slice.sliceFrom s.length k) :=
  Lemmas.Utf8.strFrom_ok s k (forgiving_of_bnd hk)

theorem strUpTo_of_bnd {s : List Nat} {k : Nat} (hk : Bnd s k) :
    Utf8.strUpTo s k = .ok (Slice.sliceUpTo s.length k) :=
  Lemmas.Utf8.strUpTo_ok s k (forgiving_of_bnd hk)

theorem splitAt_ok {s : List Nat} {k : Nat} (hk : Bnd s k) :
    Utf8.splitAt s k = .ok (Slice.sliceUpTo s.length k, Slice.sliceFrom s.length k) := by
  unfold Utf8.splitAt; rw [strFrom_of_bnd hk, strUpTo_of_bnd hk]; rfl


theorem strFrom_apply {s : List Nat} {k : Nat} {v : View} (h : Utf8.strFrom s k = .ok v) :
    v.apply s = s.drop k := by
  unfold Utf8.strFrom at h
  split at h
  · cases h; exact sliceFrom_apply s k
  · cases h

theorem strUpTo_apply {s : List Nat} {k : Nat} {v : View} (h : Utf8.strUpTo s k = .ok v) :
    v.apply s = s.take k := by
  unfold Utf8.strUpTo at h
  split at h
  · cases h; exact sliceUpTo_apply s k
  · cases h

theorem splitAt_apply {s : List Nat} {k : Nat} {a b : View} (h : Utf8.splitAt s k = .ok (a, b)) :
    a.apply s = s.take k ∧ b.apply s = s.drop k := by
  unfold Utf8.splitAt at h
  cases h1 : Utf8.strUpTo s k with
  | error e => rw [h1] at h; cases h
  | ok x =>
    cases h2 : Utf8.strFrom s k with
    | error e => rw [h1, h2] at h; cases h
    | ok y =>
      rw [h1, h2] at h
      cases h
      exact ⟨strUpTo_apply h1, strFrom_apply h2⟩

/-! ### parse_* consume an ASCII prefix -/

theorem isDigit_lt {b : Nat} (h : ParseInt.isDigit b = true) : b < 128 := by
  unfold ParseInt.isDigit at h
  simp only [Bool.and_eq_true, decide_eq_true_eq] at h
  omega

theorem accLoop_prefix (bits : Nat) : ∀ (bytes : List Nat) (num n : Nat) (rest : List Nat),
    ParseInt.accLoop bits bytes num = some (n, rest) →
    ∃ pre, bytes = pre ++ rest ∧ ∀ b ∈ pre, b < 128 := by
  intro bytes
  induction bytes with
  | nil =>
    intro num n rest h
    simp only [ParseInt.accLoop, Option.some.injEq, Prod.mk.injEq] at h
    exact ⟨[], by simp [h.2], by simp⟩
  | cons b t ih =>
    intro num n rest h
    unfold ParseInt.accLoop at h
    by_cases hd : ParseInt.isDigit b = true
    · simp only [hd, if_true] at h
      split at h
      · cases h
      · obtain ⟨pre, hp, hall⟩ := ih _ _ _ h
        refine ⟨b :: pre, by simp [hp], ?_⟩
        intro x hx
        simp only [List.mem_cons] at hx
        rcases hx with rfl | hx
        · exact isDigit_lt hd
        · exact hall x hx
    · simp only [hd] at h
      simp only [Bool.false_eq_true, if_false, Option.some.injEq, Prod.mk.injEq] at h
      exact ⟨[], by simp [h.2], by simp⟩

theorem parseIntegerBody_prefix (signed : Bool) (bits : Nat) (s : List Nat) (v : Int) (rest : List Nat)
    (h : ParseInt.parseIntegerBody signed bits s = some (v, rest)) :
    ∃ pre, s = pre ++ rest ∧ ∀ b ∈ pre, b < 128 := by
  unfold ParseInt.parseIntegerBody at h
  have hsign : ∃ sg, s = sg ++ (ParseInt.parseSign signed s).2 ∧ ∀ b ∈ sg, b < 128 := by
    unfold ParseInt.parseSign
    cases signed with
    | false => exact ⟨[], by simp, by simp⟩
    | true =>
      simp only [if_true]
      split
      · exact ⟨[45], by simp, by simp⟩
      · exact ⟨[], by simp, by simp⟩
  obtain ⟨sg, hsg, hsgall⟩ := hsign
  rcases hps : ParseInt.parseSign signed s with ⟨isneg, b1⟩
  rw [hps] at h hsg
  simp only [] at h hsg
  cases hfd : ParseInt.firstDigit bits b1 with
  | none => simp [hfd] at h
  | some nb =>
    obtain ⟨n0, b2⟩ := nb
    simp only [hfd] at h
    have hb1 : ∃ d, b1 = d :: b2 ∧ d < 128 := by
      unfold ParseInt.firstDigit at hfd
      cases b1 with
      | nil => simp at hfd
      | cons d r =>
        by_cases hd : ParseInt.isDigit d = true
        · simp only [hd, if_true, Option.some.injEq, Prod.mk.injEq] at hfd
          exact ⟨d, by rw [hfd.2], isDigit_lt hd⟩
        · simp [hd] at hfd
    obtain ⟨d, hd1, hd2⟩ := hb1
    cases hacc : ParseInt.accLoop bits b2 n0 with
    | none => simp [hacc] at h
    | some nr =>
      obtain ⟨num, rest'⟩ := nr
      simp only [hacc] at h
      cases hap : ParseInt.applySign signed bits num isneg with
      | none => simp [hap] at h
      | some v' =>
        simp only [hap, Option.some.injEq, Prod.mk.injEq] at h
        obtain ⟨pre, hp, hall⟩ := accLoop_prefix bits b2 n0 num rest' hacc
        refine ⟨sg ++ d :: pre, ?_, ?_⟩
        · rw [hsg, hd1, hp, ← h.2]; simp
        · intro x hx
          simp only [List.mem_append, List.mem_cons] at hx
          rcases hx with hx | rfl | hx
          · exact hsgall x hx
          · exact hd2
          · exact hall x hx

theorem parseIntegerPrefix_bnd {signed : Bool} {bits : Nat} {s : List Nat} {v : Int} {n : Nat}
    (hv : Valid s) (h : ParseInt.parseIntegerPrefix signed bits s = some (v, n)) : Bnd s n := by
  unfold ParseInt.parseIntegerPrefix at h
  cases hb : ParseInt.parseIntegerBody signed bits s with
  | none => simp [hb] at h
  | some vr =>
    obtain ⟨v', rest⟩ := vr
    simp only [hb, Option.map_some, Option.some.injEq, Prod.mk.injEq] at h
    obtain ⟨pre, hp, hall⟩ := parseIntegerBody_prefix signed bits s v' rest hb
    have := bnd_ascii_prefix pre hv hp hall
    have hn : n = pre.length := by rw [← h.2, hp]; simp
    rw [hn]; exact this

theorem parseBoolPrefix_bnd {s : List Nat} {b : Bool} {n : Nat}
    (hv : Valid s) (h : ParseInt.parseBoolPrefix s = some (b, n)) : Bnd s n := by
  unfold ParseInt.parseBoolPrefix at h
  split at h
  · next rest =>
    simp only [Option.some.injEq, Prod.mk.injEq] at h
    rw [← h.2]
    exact bnd_ascii_prefix [116, 114, 117, 101] hv (rest := rest) rfl (by decide)
  · next rest =>
    simp only [Option.some.injEq, Prod.mk.injEq] at h
    rw [← h.2]
    exact bnd_ascii_prefix [102, 97, 108, 115, 101] hv (rest := rest) rfl (by decide)
  · cases h

/-! ### skip / skip_back round to a boundary -/

theorem skipUp_spec (bytes : List Nat) : ∀ (fuel n : Nat), n ≤ bytes.length → bytes.length - n < fuel →
    n ≤ skipUp bytes fuel n ∧ Bnd bytes (skipUp bytes fuel n) := by
  intro fuel
  induction fuel with
  | zero => intro n _ h; exact absurd h (Nat.not_lt_zero _)
  | succ f ih =>
    intro n hn hf
    unfold skipUp
    by_cases hb : Utf8.isCharBoundaryBytes bytes n = true
    · rw [if_pos hb]
      exact ⟨Nat.le_refl _, hb⟩
    · have hlt : n < bytes.length := Nat.lt_of_le_of_ne hn fun he => hb (he ▸ bnd_len bytes)
      have := ih (n + 1) hlt (Nat.lt_of_lt_of_le (Nat.sub_succ_lt_self _ _ hlt) (Nat.le_of_lt_succ hf))
      rw [if_neg hb]
      exact ⟨Nat.le_of_succ_le this.1, this.2⟩

theorem skipDown_spec (bytes : List Nat) (h0 : Bnd bytes 0) : ∀ (pos : Nat),
    ∃ k, skipDown bytes pos = some k ∧ k ≤ pos ∧ Bnd bytes k := by
  intro pos
  induction pos with
  | zero => exact ⟨0, by simp [skipDown, show Utf8.isCharBoundaryBytes bytes 0 = true from h0], Nat.le_refl _, h0⟩
  | succ p ih =>
    unfold skipDown
    by_cases hb : Utf8.isCharBoundaryBytes bytes (p + 1) = true
    · exact ⟨p + 1, by simp [hb], Nat.le_refl _, hb⟩
    · obtain ⟨k, hk, hle, hbk⟩ := ih
      exact ⟨k, by simp [hb, hk], by omega, hbk⟩

/-! ### each method with its macro unfolded -/

/-- `Ok` of a method working from the start that leaves `s` of `p`'s remainder: `start_offset` grows by
    the number of bytes the remainder lost -/
abbrev okFront (p : Parser) (fl : Bool) (s : List Nat) (v : Value) : Res :=
  .ok ⟨.fromStart, fl, p.startOffset + (p.str.length - s.length), s⟩ v

abbrev okBack (p : Parser) (fl : Bool) (s : List Nat) (v : Value) : Res :=
  .ok ⟨.fromEnd, fl, p.startOffset, s⟩ v

abbrev failed (p : Parser) (d : ParseDirection) (k : ErrorKind) : Res :=
  .err ⟨p.startOffset, p.startOffset + p.str.length, d, k⟩

theorem stripPrefix_eq (p : Parser) (m : List Nat) : stripPrefix p m =
    match StrFns.stripPrefix p.str m with
    | some x => okFront p p.yieldedLastSplit (x.apply p.str) .unit
    | none => failed p .fromStart .strip := by
  unfold stripPrefix tryParsing
  dsimp only
  cases StrFns.stripPrefix p.str m <;> rfl

theorem stripSuffix_eq (p : Parser) (m : List Nat) : stripSuffix p m =
    match StrFns.stripSuffix p.str m with
    | some x => okBack p p.yieldedLastSplit (x.apply p.str) .unit
    | none => failed p .fromEnd .strip := by
  unfold stripSuffix tryParsing
  dsimp only
  cases StrFns.stripSuffix p.str m <;> rfl

theorem findSkip_eq (p : Parser) (m : List Nat) : findSkip p m =
    match StrFns.findSkip p.str m with
    | some x => okFront p p.yieldedLastSplit (x.apply p.str) .unit
    | none => failed p .fromStart .find := by
  unfold findSkip tryParsing
  dsimp only
  cases StrFns.findSkip p.str m <;> rfl

theorem rfindSkip_eq (p : Parser) (m : List Nat) : rfindSkip p m =
    match StrFns.rfindSkip p.str m with
    | some x => okBack p p.yieldedLastSplit (x.apply p.str) .unit
    | none => failed p .fromEnd .find := by
  unfold rfindSkip tryParsing
  dsimp only
  cases StrFns.rfindSkip p.str m <;> rfl

theorem trimStart_eq (p : Parser) :
    trimStart p = okFront p p.yieldedLastSplit ((StrFns.trimStart p.str).apply p.str) .unit := rfl

theorem trimEnd_eq (p : Parser) :
    trimEnd p = okBack p p.yieldedLastSplit ((StrFns.trimEnd p.str).apply p.str) .unit := rfl

theorem trimStartMatches_eq (p : Parser) (m : List Nat) : trimStartMatches p m =
    okFront p p.yieldedLastSplit ((StrFns.trimStartMatches p.str m).apply p.str) .unit := rfl

theorem trimEndMatches_eq (p : Parser) (m : List Nat) : trimEndMatches p m =
    okBack p p.yieldedLastSplit ((StrFns.trimEndMatches p.str m).apply p.str) .unit := rfl

theorem parseInt_eq (p : Parser) (signed : Bool) (bits : Nat) : parseInt p signed bits =
    match ParseInt.parseIntegerPrefix signed bits p.str with
    | none => failed p .fromStart .parseInteger
    | some (num, n) =>
      match Utf8.strFrom p.str n with
      | .error _ => .panic
      | .ok _ => okFront p p.yieldedLastSplit (p.str.drop n) (.int num) := by
  unfold parseInt tryParsing
  dsimp only
  rcases ParseInt.parseIntegerPrefix signed bits p.str with _ | ⟨num, n⟩
  · rfl
  · dsimp only
    cases h : Utf8.strFrom p.str n with
    | error e => rfl
    | ok v => simp only [Parser.setStr, enableIfStartAdd, strFrom_apply h]

theorem parseBool_eq (p : Parser) : parseBool p =
    match ParseInt.parseBoolPrefix p.str with
    | none => failed p .fromStart .parseBool
    | some (b, n) =>
      match Utf8.strFrom p.str n with
      | .error _ => .panic
      | .ok _ => okFront p p.yieldedLastSplit (p.str.drop n) (.bool b) := by
  unfold parseBool tryParsing
  dsimp only
  rcases ParseInt.parseBoolPrefix p.str with _ | ⟨b, n⟩
  · rfl
  · dsimp only
    cases h : Utf8.strFrom p.str n with
    | error e => rfl
    | ok v => simp only [Parser.setStr, enableIfStartAdd, strFrom_apply h]

theorem split_eq (p : Parser) (d : List Nat) : split p d =
    if p.yieldedLastSplit then failed p .fromStart .splitExhausted else
    match StrFns.splitOnce p.str d with
    | .error _ => .panic
    | .ok (some (before, after)) => okFront p false (after.apply p.str) (.piece before)
    | .ok none => okFront p true [] (.piece ⟨0, p.str.length⟩) := by
  unfold split tryParsing
  dsimp only
  cases hfl : p.yieldedLastSplit
  · simp only [Bool.false_eq_true, if_false]
    rcases StrFns.splitOnce p.str d with _ | _ | ⟨a, b⟩
    · rfl
    · simp only [strFrom_of_bnd (bnd_len p.str), enableIfStartAdd, Parser.setStr, sliceFrom_apply, List.drop_length]
    · simp only [enableIfStartAdd, Parser.setStr]
  · rfl

theorem rsplit_eq (p : Parser) (d : List Nat) : rsplit p d =
    if p.yieldedLastSplit then failed p .fromEnd .splitExhausted else
    match StrFns.rsplitOnce p.str d with
    | .error _ => .panic
    | .ok (some (after, before)) => okBack p false (after.apply p.str) (.piece before)
    | .ok none =>
      match Utf8.strUpTo p.str 0 with
      | .error _ => .panic
      | .ok _ => okBack p true [] (.piece ⟨0, p.str.length⟩) := by
  unfold rsplit tryParsing
  dsimp only
  cases hfl : p.yieldedLastSplit
  · simp only [Bool.false_eq_true, if_false]
    rcases StrFns.rsplitOnce p.str d with _ | _ | ⟨a, b⟩
    · rfl
    · dsimp only
      cases h : Utf8.strUpTo p.str 0 with
      | error e => rfl
      | ok v => simp only [enableIfStartAdd, Parser.setStr, strUpTo_apply h, List.take_zero]
    · simp only [enableIfStartAdd, Parser.setStr]
  · rfl

theorem splitTerminator_eq (p : Parser) (d : List Nat) : splitTerminator p d =
    if p.yieldedLastSplit then failed p .fromStart .splitExhausted
    else if p.str.isEmpty then failed p .fromStart .delimiterNotFound
    else match StrFns.splitOnce p.str d with
      | .error _ => .panic
      | .ok (some (before, after)) =>
        okFront p (after.apply p.str).isEmpty (after.apply p.str) (.piece before)
      | .ok none => failed p .fromStart .delimiterNotFound := by
  unfold splitTerminator tryParsing
  dsimp only
  cases p.yieldedLastSplit
  · cases p.str.isEmpty
    · simp only [Bool.or_false, Bool.false_eq_true, if_false]
      rcases StrFns.splitOnce p.str d with _ | _ | ⟨a, b⟩ <;> rfl
    · rfl
  · simp only [Bool.or_true, if_true]
    rfl

theorem rsplitTerminator_eq (p : Parser) (d : List Nat) : rsplitTerminator p d =
    if p.yieldedLastSplit then failed p .fromEnd .splitExhausted
    else if p.str.isEmpty then failed p .fromEnd .delimiterNotFound
    else match StrFns.rsplitOnce p.str d with
      | .error _ => .panic
      | .ok (some (after, before)) =>
        okBack p (after.apply p.str).isEmpty (after.apply p.str) (.piece before)
      | .ok none => failed p .fromEnd .delimiterNotFound := by
  unfold rsplitTerminator tryParsing
  dsimp only
  cases p.yieldedLastSplit
  · cases p.str.isEmpty
    · simp only [Bool.or_false, Bool.false_eq_true, if_false]
      rcases StrFns.rsplitOnce p.str d with _ | _ | ⟨a, b⟩ <;> rfl
    · rfl
  · simp only [Bool.or_true, if_true]
    rfl

theorem splitKeep_eq (p : Parser) (d : List Nat) : splitKeep p d =
    if p.yieldedLastSplit then failed p .fromStart .splitExhausted else
    match StrFns.find p.str d with
    | some pos =>
      match Utf8.splitAt p.str pos with
      | .error _ => .panic
      | .ok (before, _) => okFront p false (p.str.drop pos) (.piece before)
    | none => okFront p true [] (.piece ⟨0, p.str.length⟩) := by
  unfold splitKeep tryParsing
  dsimp only
  cases hfl : p.yieldedLastSplit
  · simp only [Bool.false_eq_true, if_false]
    cases StrFns.find p.str d with
    | none =>
      simp only [strFrom_of_bnd (bnd_len p.str), enableIfStartAdd, Parser.setStr, sliceFrom_apply, List.drop_length]
    | some pos =>
      dsimp only
      cases h : Utf8.splitAt p.str pos with
      | error e => rfl
      | ok ab => simp only [enableIfStartAdd, Parser.setStr, (splitAt_apply h).2]
  · rfl

def skipCount (s : List Nat) (n : Nat) : Nat := if n > s.length then s.length else skipUp s (s.length + 1) n

theorem skipCount_bnd (s : List Nat) (n : Nat) : Bnd s (skipCount s n) := by
  unfold skipCount
  split
  · exact bnd_len _
  · next hn =>
    exact (skipUp_spec s (s.length + 1) n (Nat.le_of_not_gt hn) (Nat.lt_succ_of_le (Nat.sub_le _ _))).2

theorem skip_eq (p : Parser) (n : Nat) : skip p n =
    .ok ⟨.fromStart, p.yieldedLastSplit, p.startOffset + skipCount p.str n, p.str.drop (skipCount p.str n)⟩ .unit := by
  have h := strFrom_of_bnd (skipCount_bnd p.str n)
  unfold skipCount at h
  unfold skip
  simp only [h, Parser.setStr, sliceFrom_apply]
  rfl

theorem skipBack_eq (p : Parser) (n : Nat) : skipBack p n =
    match skipDown p.str (p.str.length - n) with
    | none => .panic
    | some pos =>
      match Utf8.strUpTo p.str pos with
      | .error _ => .panic
      | .ok _ => okBack p p.yieldedLastSplit (p.str.take pos) .unit := by
  unfold skipBack
  dsimp only
  cases skipDown p.str (p.str.length - n) with
  | none => rfl
  | some pos =>
    dsimp only
    cases h : Utf8.strUpTo p.str pos with
    | error e => rfl
    | ok v => simp only [Parser.setStr, strUpTo_apply h]

/-! ### what every operation guarantees -/

/-- `p'` keeps the sub-range `[a, b)` of `p`'s remainder (`a`, `b` char boundaries of it) and its
    `start_offset` advanced by exactly `a` -/
def Cut (p p' : Parser) : Prop :=
  ∃ a b, a ≤ b ∧ Bnd p.str a ∧ Bnd p.str b ∧
    p'.startOffset = p.startOffset + a ∧ p'.str = (p.str.take b).drop a

/-- result of an operation with direction `d` called on `p`: a successful one returns a `Cut` of `p`
    with `parse_direction = d`; a failing one an error carrying `p`'s offsets and `d`; no panic -/
def Good (d : ParseDirection) (p : Parser) (r : Res) : Prop :=
  match r with
  | .ok p' _ => Cut p p' ∧ p'.dir = d
  | .err e => e.startOffset = p.startOffset ∧ e.endOffset = p.startOffset + p.str.length ∧ e.dir = d
  | .panic => False

theorem good_failed (p : Parser) (d : ParseDirection) (k : ErrorKind) : Good d p (failed p d k) :=
  ⟨rfl, rfl, rfl⟩

theorem good_okFront {p : Parser} {fl : Bool} {s : List Nat} {v : Value} (h : FrontAt p.str s) :
    Good .fromStart p (okFront p fl s v) := by
  obtain ⟨k, hk, rfl⟩ := h
  have hle := bnd_le hk
  refine ⟨⟨k, p.str.length, hle, hk, bnd_len _, ?_, by rw [List.take_length]⟩, rfl⟩
  show p.startOffset + (p.str.length - (p.str.drop k).length) = p.startOffset + k
  rw [List.length_drop, Nat.sub_sub_self hle]

theorem good_okBack {p : Parser} {fl : Bool} {s : List Nat} {v : Value} (hv : Valid p.str)
    (h : BackAt p.str s) : Good .fromEnd p (okBack p fl s v) := by
  obtain ⟨k, hk, rfl⟩ := h
  exact ⟨⟨0, k, Nat.zero_le _, bnd_zero hv, hk, rfl, rfl⟩, rfl⟩

theorem stripPrefix_good (p : Parser) (m : List Nat) (hv : Valid p.str) (hm : Valid m) :
    Good .fromStart p (stripPrefix p m) := by
  rw [stripPrefix_eq]
  cases hx : StrFns.stripPrefix p.str m with
  | none => exact good_failed ..
  | some x => exact good_okFront (stripPrefix_front hv hm hx)

theorem stripSuffix_good (p : Parser) (m : List Nat) (hv : Valid p.str) (hm : Valid m) :
    Good .fromEnd p (stripSuffix p m) := by
  rw [stripSuffix_eq]
  cases hx : StrFns.stripSuffix p.str m with
  | none => exact good_failed ..
  | some x => exact good_okBack hv (stripSuffix_back hv hm hx)

theorem findSkip_good (p : Parser) (m : List Nat) (hv : Valid p.str) (hm : Valid m) :
    Good .fromStart p (findSkip p m) := by
  rw [findSkip_eq]
  cases hx : StrFns.findSkip p.str m with
  | none => exact good_failed ..
  | some x => exact good_okFront (findSkip_front hv hm hx)

theorem rfindSkip_good (p : Parser) (m : List Nat) (hv : Valid p.str) (hm : Valid m) :
    Good .fromEnd p (rfindSkip p m) := by
  rw [rfindSkip_eq]
  cases hx : StrFns.rfindSkip p.str m with
  | none => exact good_failed ..
  | some x => exact good_okBack hv (rfindSkip_back hv hm hx)

theorem trimStart_good (p : Parser) (hv : Valid p.str) : Good .fromStart p (trimStart p) :=
  good_okFront (trimStart_front hv)

theorem trimEnd_good (p : Parser) (hv : Valid p.str) : Good .fromEnd p (trimEnd p) :=
  good_okBack hv (trimEnd_back p.str)

theorem trimStartMatches_good (p : Parser) (m : List Nat) (hv : Valid p.str) (hm : Valid m) :
    Good .fromStart p (trimStartMatches p m) :=
  good_okFront (trimStartMatches_front hv hm)

theorem trimEndMatches_good (p : Parser) (m : List Nat) (hv : Valid p.str) (hm : Valid m) :
    Good .fromEnd p (trimEndMatches p m) :=
  good_okBack hv (trimEndMatches_back hv hm)

theorem cut_both {p p' : Parser} {mid : List Nat} (hf : FrontAt p.str mid) (hb : BackAt mid p'.str)
    (hs : p'.startOffset = p.startOffset + (p.str.length - mid.length)) : Cut p p' := by
  obtain ⟨k1, hk1, rfl⟩ := hf
  obtain ⟨k2, hk2, hstr⟩ := hb
  have hle := bnd_le hk1
  refine ⟨k1, k1 + k2, Nat.le_add_right _ _, hk1, bnd_drop hle hk2, ?_, ?_⟩
  · rw [hs, List.length_drop, Nat.sub_sub_self hle]
  · rw [hstr, List.drop_take, Nat.add_sub_cancel_left]

theorem trim_good (p : Parser) (hv : Valid p.str) : Good .fromBoth p (trim p) :=
  ⟨cut_both (mid := (StrFns.trimStart p.str).apply p.str) (trimStart_front hv) (trimEnd_back _) rfl, rfl⟩

theorem trimMatches_good (p : Parser) (m : List Nat) (hv : Valid p.str) (hm : Valid m) :
    Good .fromBoth p (trimMatches p m) :=
  have hf := trimStartMatches_front hv hm
  ⟨cut_both (mid := (StrFns.trimStartMatches p.str m).apply p.str) hf
    (trimEndMatches_back (frontAt_valid hv hf) hm) rfl, rfl⟩

theorem split_good (p : Parser) (d : List Nat) (hv : Valid p.str) (hd : Valid d) :
    Good .fromStart p (split p d) := by
  rw [split_eq]
  split
  · exact good_failed ..
  · have hc := splitOnce_cut hv hd
    cases hf : findSpec p.str d with
    | none =>
      rw [hf] at hc
      rw [hc]
      exact good_okFront (frontAt_nil _)
    | some i =>
      rw [hf] at hc
      obtain ⟨a, b, hr, _, hb⟩ := hc
      rw [hr]
      exact good_okFront ⟨_, (findSpec_bnd hv hd hf).2, hb⟩

theorem splitTerminator_good (p : Parser) (d : List Nat) (hv : Valid p.str) (hd : Valid d) :
    Good .fromStart p (splitTerminator p d) := by
  rw [splitTerminator_eq]
  split
  · exact good_failed ..
  · split
    · exact good_failed ..
    · have hc := splitOnce_cut hv hd
      cases hf : findSpec p.str d with
      | none =>
        rw [hf] at hc
        rw [hc]
        exact good_failed ..
      | some i =>
        rw [hf] at hc
        obtain ⟨a, b, hr, _, hb⟩ := hc
        rw [hr]
        exact good_okFront ⟨_, (findSpec_bnd hv hd hf).2, hb⟩

theorem rsplit_good (p : Parser) (d : List Nat) (hv : Valid p.str) (hd : Valid d) :
    Good .fromEnd p (rsplit p d) := by
  rw [rsplit_eq]
  split
  · exact good_failed ..
  · have hc := rsplitOnce_cut hv hd
    cases hf : rfindSpec p.str d with
    | none =>
      rw [hf] at hc
      rw [hc, strUpTo_of_bnd (bnd_zero hv)]
      exact good_okBack hv (backAt_nil hv)
    | some i =>
      rw [hf] at hc
      obtain ⟨a, b, hr, ha, _⟩ := hc
      rw [hr]
      exact good_okBack hv ⟨_, (rfindSpec_bnd hv hd hf).1, ha⟩

theorem rsplitTerminator_good (p : Parser) (d : List Nat) (hv : Valid p.str) (hd : Valid d) :
    Good .fromEnd p (rsplitTerminator p d) := by
  rw [rsplitTerminator_eq]
  split
  · exact good_failed ..
  · split
    · exact good_failed ..
    · have hc := rsplitOnce_cut hv hd
      cases hf : rfindSpec p.str d with
      | none =>
        rw [hf] at hc
        rw [hc]
        exact good_failed ..
      | some i =>
        rw [hf] at hc
        obtain ⟨a, b, hr, ha, _⟩ := hc
        rw [hr]
        exact good_okBack hv ⟨_, (rfindSpec_bnd hv hd hf).1, ha⟩

theorem splitKeep_good (p : Parser) (d : List Nat) (hv : Valid p.str) (hd : Valid d) :
    Good .fromStart p (splitKeep p d) := by
  rw [splitKeep_eq, show StrFns.find p.str d = findSpec p.str d from Props.C04.find_eq_spec p.str d]
  split
  · exact good_failed ..
  · cases hf : findSpec p.str d with
    | none => exact good_okFront (frontAt_nil _)
    | some pos =>
      have hb := (findSpec_bnd hv hd hf).1
      dsimp only
      rw [splitAt_ok hb]
      exact good_okFront ⟨pos, hb, rfl⟩

theorem skip_good (p : Parser) (n : Nat) : Good .fromStart p (skip p n) := by
  have hb := skipCount_bnd p.str n
  rw [skip_eq]
  exact ⟨⟨_, _, bnd_le hb, hb, bnd_len _, rfl, by rw [List.take_length]⟩, rfl⟩

theorem skipBack_good (p : Parser) (n : Nat) (hv : Valid p.str) : Good .fromEnd p (skipBack p n) := by
  obtain ⟨k, hk, _, hb⟩ := skipDown_spec p.str (bnd_zero hv) (p.str.length - n)
  rw [skipBack_eq, hk]
  dsimp only
  rw [strUpTo_of_bnd hb]
  exact good_okBack hv ⟨k, hb, rfl⟩

theorem parseInt_good (p : Parser) (signed : Bool) (bits : Nat) (hv : Valid p.str) :
    Good .fromStart p (parseInt p signed bits) := by
  rw [parseInt_eq]
  cases hx : ParseInt.parseIntegerPrefix signed bits p.str with
  | none => exact good_failed ..
  | some vn =>
    have hb := parseIntegerPrefix_bnd hv hx
    dsimp only
    rw [strFrom_of_bnd hb]
    exact good_okFront ⟨_, hb, rfl⟩

theorem parseBool_good (p : Parser) (hv : Valid p.str) : Good .fromStart p (parseBool p) := by
  rw [parseBool_eq]
  cases hx : ParseInt.parseBoolPrefix p.str with
  | none => exact good_failed ..
  | some vn =>
    have hb := parseBoolPrefix_bnd hv hx
    dsimp only
    rw [strFrom_of_bnd hb]
    exact good_okFront ⟨_, hb, rfl⟩

/-- every operation, every argument: on a parser whose remainder is a `&str`, with `&str`/`char`
    patterns, the result is `Good` for the operation's direction -/
theorem step_good (op : Op) (p : Parser) (hv : Valid p.str)
    (hpat : ∀ m, op.pattern = some m → Valid m) : Good op.direction p (step op p) := by
  cases op with
  | splitTerminator d => exact splitTerminator_good p d hv (hpat d rfl)
  | rsplitTerminator d => exact rsplitTerminator_good p d hv (hpat d rfl)
  | split d => exact split_good p d hv (hpat d rfl)
  | rsplit d => exact rsplit_good p d hv (hpat d rfl)
  | splitKeep d => exact splitKeep_good p d hv (hpat d rfl)
  | stripPrefix m => exact stripPrefix_good p m hv (hpat m rfl)
  | stripSuffix m => exact stripSuffix_good p m hv (hpat m rfl)
  | trim => exact trim_good p hv
  | trimStart => exact trimStart_good p hv
  | trimEnd => exact trimEnd_good p hv
  | trimMatches m => exact trimMatches_good p m hv (hpat m rfl)
  | trimStartMatches m => exact trimStartMatches_good p m hv (hpat m rfl)
  | trimEndMatches m => exact trimEndMatches_good p m hv (hpat m rfl)
  | findSkip m => exact findSkip_good p m hv (hpat m rfl)
  | rfindSkip m => exact rfindSkip_good p m hv (hpat m rfl)
  | skip n => exact skip_good p n
  | skipBack n => exact skipBack_good p n hv
  | parseInt s b => exact parseInt_good p s b hv
  | parseBool => exact parseBool_good p hv

open Konst.Spec.ParserInv

theorem inv_valid {cs : List Nat} {base : Nat} {p : Parser} (hs : ∀ c ∈ cs, isScalar c = true)
    (h : Inv cs base p) : Valid p.str := by
  rw [h.str_eq]
  have := cut_valid cs hs (p.startOffset - base) (p.startOffset - base + p.str.length) h.lo h.hi
  rwa [Nat.add_sub_cancel_left] at this

/-- a boundary of the window `[lo, lo + n)` of `s`, itself cut at boundaries, is a boundary of `s` -/
theorem bnd_window {s : List Nat} {lo n k : Nat} (hlo : lo ≤ s.length) (hhi : Bnd s (lo + n))
    (h : Bnd ((s.drop lo).take n) k) : Bnd s (lo + k) :=
  bnd_drop hlo (bnd_take ((bnd_drop_iff hlo n).mpr hhi) h)

theorem inv_cut {cs : List Nat} {base : Nat} {p p' : Parser} (hs : ∀ c ∈ cs, isScalar c = true)
    (h : Inv cs base p) (hc : Cut p p') : Inv cs base p' := by
  obtain ⟨a, b, hab, ha, hb, hstart, hstr⟩ := hc
  have hbn : b ≤ p.str.length := bnd_le hb
  have hlo_le := boundary_le cs _ h.lo
  have hhi := (bnd_iff_isBoundary cs hs _).mpr h.hi
  rw [h.str_eq] at ha hb
  have ha' := (bnd_iff_isBoundary cs hs _).mp (bnd_window hlo_le hhi ha)
  have hb' := (bnd_iff_isBoundary cs hs _).mp (bnd_window hlo_le hhi hb)
  have hlen : p'.str.length = b - a := by
    rw [hstr, List.length_drop, List.length_take, Nat.min_eq_left hbn]
  have hlo' : p'.startOffset - base = p.startOffset - base + a := by
    rw [hstart, Nat.sub_add_comm h.base_le]
  refine ⟨Nat.le_trans h.base_le (hstart ▸ Nat.le_add_right _ _), ?_, ?_, ?_⟩
  · rw [hlo', hlen, hstr]
    conv => lhs; rw [h.str_eq]
    rw [List.take_take, Nat.min_eq_left hbn, List.drop_take, List.drop_drop]
  · rw [hlo']
    exact ha'
  · rw [hlo', hlen, Nat.add_assoc, Nat.add_sub_cancel' hab]
    exact hb'

theorem cut_bounds {p p' : Parser} (hc : Cut p p') :
    p'.str.length ≤ p.str.length ∧ p.startOffset ≤ p'.startOffset ∧ p'.endOffset ≤ p.endOffset := by
  obtain ⟨a, b, hab, _, hb, hstart, hstr⟩ := hc
  have hbl := bnd_le hb
  unfold Parser.endOffset
  rw [hstart, hstr, List.length_drop, List.length_take, Nat.min_eq_left hbl, Nat.add_assoc,
    Nat.add_sub_cancel' hab]
  exact ⟨Nat.le_trans (Nat.sub_le _ _) hbl, Nat.le_add_right _ _, Nat.add_le_add_left hbl _⟩

theorem valid_of_cut {p p' : Parser} (hv : Valid p.str) (hc : Cut p p') : Valid p'.str := by
  obtain ⟨a, b, hab, ha, hb, _, hstr⟩ := hc
  rw [hstr]
  exact valid_drop (valid_take hv hb) ((bnd_take_iff hb hab).mpr ha)

end Konst.Lemmas.Parser
