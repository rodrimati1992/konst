import KonstVerif.Model.ParseInt
import KonstVerif.Spec.ParseInt
/-
  Helper lemmas for C12 (core Lean only).
-/
namespace Konst.Lemmas.ParseInt
open Konst.ParseInt Konst.Spec.ParseInt

theorem dropWhile_nil_iff_all {α : Type} (p : α → Bool) (l : List α) :
    l.dropWhile p = [] ↔ l.all p = true := by
  induction l with
  | nil => simp
  | cons a l ih =>
    by_cases h : p a = true
    · simp [h, ih]
    · simp [h]

theorem takeWhile_eq_self_of_all {α : Type} (p : α → Bool) (l : List α) (h : l.all p = true) :
    l.takeWhile p = l := by
  induction l with
  | nil => simp
  | cons a l ih =>
    simp only [List.all_cons, Bool.and_eq_true] at h
    simp [h.1, ih h.2]

theorem length_dropWhile_le {α : Type} (p : α → Bool) (l : List α) : (l.dropWhile p).length ≤ l.length := by
  induction l with
  | nil => simp
  | cons a l ih =>
    by_cases h : p a = true
    · simp only [List.dropWhile_cons, h, if_true, List.length_cons]; omega
    · simp [h]

theorem head_dropWhile_not {α : Type} (p : α → Bool) (l : List α) (x : α)
    (h : (l.dropWhile p).head? = some x) : p x = false := by
  have := List.head?_dropWhile_not p l
  rw [h] at this
  exact this

theorem isDigit_eq (b : Nat) : isDigit b = isAsciiDigit b := by
  unfold isDigit isAsciiDigit
  by_cases h1 : 48 ≤ b <;> by_cases h2 : b ≤ 57 <;> simp [h1, h2]

theorem isDigit_fun : isDigit = isAsciiDigit := funext isDigit_eq

def valFrom (num : Nat) (ds : List Nat) : Nat := ds.foldl (fun acc d => acc * 10 + (d - 48)) num

theorem decVal_eq (ds : List Nat) : decVal ds = valFrom 0 ds := by
  simp only [decVal, valFrom]

theorem valFrom_cons (num d : Nat) (ds : List Nat) :
    valFrom num (d :: ds) = valFrom (num * 10 + (d - 48)) ds := by
  simp only [valFrom, List.foldl_cons]

theorem valFrom_ge (ds : List Nat) : ∀ num, num ≤ valFrom num ds := by
  induction ds with
  | nil => intro num; simp [valFrom]
  | cons d ds ih =>
    intro num
    have := ih (num * 10 + (d - 48))
    rw [valFrom_cons]
    omega

theorem decVal_cons (d : Nat) (ds : List Nat) : decVal (d :: ds) = valFrom (d - 48) ds := by
  rw [decVal_eq, valFrom_cons]; simp

theorem two_pow_pred (bits : Nat) (h : 1 ≤ bits) : 2 ^ bits = 2 * 2 ^ (bits - 1) := by
  obtain ⟨k, rfl⟩ : ∃ k, bits = k + 1 := ⟨bits - 1, by omega⟩
  simp [Nat.pow_succ, Nat.mul_comm]

theorem ten_le_two_pow (bits : Nat) (h : 4 ≤ bits) : 10 ≤ 2 ^ bits := by
  have : 2 ^ 4 ≤ 2 ^ bits := Nat.pow_le_pow_right (by decide) h
  omega

theorem digitAs_eq (bits b : Nat) (hb : 4 ≤ bits) (hd : isDigit b = true) : digitAs bits b = b - 48 := by
  have := ten_le_two_pow bits hb
  unfold isDigit at hd
  simp only [Bool.and_eq_true, decide_eq_true_eq] at hd
  unfold digitAs
  exact Nat.mod_eq_of_lt (by omega)

theorem maxPos_eq (bits : Nat) (h : 1 ≤ bits) : maxPos bits = 2 ^ (bits - 1) - 1 := by
  unfold maxPos asUnsigned tMax
  have h2 := two_pow_pred bits h
  have hpos := Nat.two_pow_pos (bits - 1)
  rw [Int.emod_eq_of_lt (by omega) (by omega)]
  omega

theorem maxNeg_eq (bits : Nat) (h : 1 ≤ bits) : maxNeg bits = 2 ^ (bits - 1) := by
  unfold maxNeg asUnsigned tMin
  have h2 := two_pow_pred bits h
  have hpos := Nat.two_pow_pos (bits - 1)
  have e1 : (-((2 ^ (bits - 1) : Nat) : Int)) =
      ((2 ^ (bits - 1) : Nat) : Int) + ((2 ^ bits : Nat) : Int) * (-1) := by omega
  rw [e1, Int.add_mul_emod_self_left, Int.emod_eq_of_lt (by omega) (by omega)]
  omega

theorem asSigned_of_lt (bits num : Nat) (h : num < 2 ^ (bits - 1)) : asSigned bits num = num := if_pos h

/-- `2^(bits-1) as $type` is `MIN` -/
theorem asSigned_top (bits : Nat) (h : 1 ≤ bits) : asSigned bits (2 ^ (bits - 1)) = tMin bits := by
  have h2 := two_pow_pred bits h
  unfold asSigned tMin
  rw [if_neg (Nat.lt_irrefl _)]
  omega

/-- the signed branch of `@apply_sign` in closed form -/
theorem applySign_signed (bits num : Nat) (isneg : Bool) (h : 1 ≤ bits) :
    applySign true bits num isneg =
      if isneg then (if num ≤ 2 ^ (bits - 1) then some (-(num : Int)) else none)
      else (if num < 2 ^ (bits - 1) then some (num : Int) else none) := by
  unfold applySign
  rw [if_pos rfl, maxPos_eq bits h, maxNeg_eq bits h]
  cases isneg with
  | false =>
    rw [if_neg Bool.false_ne_true, if_neg Bool.false_ne_true]
    by_cases hlt : num < 2 ^ (bits - 1)
    · rw [if_pos (Nat.le_sub_one_of_lt hlt), if_pos hlt, asSigned_of_lt bits num hlt]
    · rw [if_neg (fun hle => hlt (Nat.lt_of_le_of_lt hle (Nat.sub_one_lt (Nat.ne_of_gt (Nat.two_pow_pos _))))), if_neg hlt]
  | true =>
    rw [if_pos rfl, if_pos rfl]
    by_cases hle : num ≤ 2 ^ (bits - 1)
    · rw [if_pos hle, if_pos hle]
      rcases Nat.lt_or_eq_of_le hle with hlt | rfl
      · have hne : (num : Int) ≠ tMin bits := by unfold tMin; omega
        rw [asSigned_of_lt bits num hlt, wrappingNeg, if_neg hne]
      · rw [asSigned_top bits h, wrappingNeg, if_pos rfl]
        rfl
    · rw [if_neg hle, if_neg hle]
/-! ### the accumulation loop -/

/-- one step: the two overflow flags together fire exactly when the exact value leaves the type -/
theorem step_flags (bits num b : Nat) (hb : 4 ≤ bits) (hd : isDigit b = true) :
    ((overflowingMul bits num 10).2 ||
      (overflowingAdd bits (overflowingMul bits num 10).1 (digitAs bits b)).2) = true
      ↔ 2 ^ bits ≤ num * 10 + (b - 48) := by
  rw [digitAs_eq bits b hb hd]
  unfold overflowingMul overflowingAdd
  simp only [Bool.or_eq_true, decide_eq_true_eq]
  by_cases h1 : 2 ^ bits ≤ num * 10
  · constructor
    · intro _; omega
    · intro _; exact Or.inl h1
  · have e1 : (num * 10) % 2 ^ bits = num * 10 := Nat.mod_eq_of_lt (by omega)
    rw [e1]
    constructor
    · intro h; cases h with
      | inl h => exact absurd h h1
      | inr h => exact h
    · intro h; exact Or.inr h

theorem step_value (bits num b : Nat) (hb : 4 ≤ bits) (hd : isDigit b = true)
    (h : num * 10 + (b - 48) < 2 ^ bits) :
    (overflowingAdd bits (overflowingMul bits num 10).1 (digitAs bits b)).1 = num * 10 + (b - 48) := by
  rw [digitAs_eq bits b hb hd]
  unfold overflowingMul overflowingAdd
  simp only
  have e1 : (num * 10) % 2 ^ bits = num * 10 := Nat.mod_eq_of_lt (by omega)
  rw [e1]
  exact Nat.mod_eq_of_lt h

/-- the wrap-around loop computes the exact value of the maximal digit run, and throws exactly when
    that value does not fit the unsigned twin -/
theorem accLoop_eq (bits : Nat) (hb : 4 ≤ bits) : ∀ (bytes : List Nat) (num : Nat), num < 2 ^ bits →
    accLoop bits bytes num =
      if valFrom num (bytes.takeWhile isDigit) < 2 ^ bits
      then some (valFrom num (bytes.takeWhile isDigit), bytes.dropWhile isDigit) else none := by
  intro bytes
  induction bytes with
  | nil => intro num h; simp [accLoop, valFrom, h]
  | cons b rest ih =>
    intro num h
    rw [accLoop]
    by_cases hd : isDigit b = true
    · simp only [hd, if_true, List.takeWhile_cons, List.dropWhile_cons, valFrom_cons]
      have hf := step_flags bits num b hb hd
      by_cases hov : 2 ^ bits ≤ num * 10 + (b - 48)
      · have hge := valFrom_ge (List.takeWhile isDigit rest) (num * 10 + (b - 48))
        have hnot : ¬ valFrom (num * 10 + (b - 48)) (List.takeWhile isDigit rest) < 2 ^ bits := by omega
        simp only [hf.mpr hov, if_true, hnot, if_false]
      · have hfalse : ((overflowingMul bits num 10).2 ||
            (overflowingAdd bits (overflowingMul bits num 10).1 (digitAs bits b)).2) = false := by
          cases hx : ((overflowingMul bits num 10).2 ||
            (overflowingAdd bits (overflowingMul bits num 10).1 (digitAs bits b)).2) with
          | false => rfl
          | true => exact absurd (hf.mp hx) hov
        simp only [hfalse, Bool.false_eq_true, if_false]
        rw [step_value bits num b hb hd (by omega), ih _ (by omega)]
    · simp [hd, valFrom, h]

/-! ### assembling `parse_integer!` -/

/-- first digit + loop: the magnitude in the unsigned twin -/
def magPrefix (bits : Nat) (body : List Nat) : Option (Nat × List Nat) :=
  match firstDigit bits body with
  | none => none
  | some (n0, b2) => accLoop bits b2 n0

theorem magPrefix_eq (bits : Nat) (hb : 4 ≤ bits) (body : List Nat) :
    magPrefix bits body =
      if body.takeWhile isAsciiDigit ≠ [] ∧ decVal (body.takeWhile isAsciiDigit) < 2 ^ bits
      then some (decVal (body.takeWhile isAsciiDigit), body.dropWhile isAsciiDigit) else none := by
  rw [← isDigit_fun]
  unfold magPrefix firstDigit
  cases body with
  | nil => simp
  | cons b rest =>
    by_cases hd : isDigit b = true
    · have hlt : digitAs bits b < 2 ^ bits := by
        rw [digitAs_eq bits b hb hd]
        have := ten_le_two_pow bits hb
        unfold isDigit at hd
        simp only [Bool.and_eq_true, decide_eq_true_eq] at hd
        omega
      simp only [hd, if_true, List.takeWhile_cons, List.dropWhile_cons, decVal_cons]
      rw [accLoop_eq bits hb rest _ hlt, digitAs_eq bits b hb hd]
      simp
    · simp [hd]

theorem parseSign_cons_ne (c : Nat) (rem : List Nat) (hc : c ≠ 45) :
    parseSign true (c :: rem) = (false, c :: rem) := by
  unfold parseSign
  rw [if_pos rfl]
  split
  · rename_i h
    cases h
    exact absurd rfl hc
  · rfl

theorem parseSign_eq (signed : Bool) (s : List Nat) :
    parseSign signed s = (hasMinus signed s, if hasMinus signed s = true then s.drop 1 else s) := by
  unfold parseSign hasMinus
  cases signed with
  | false => simp
  | true =>
    match s with
    | [] => simp
    | b :: rem =>
      by_cases h : b = 45
      · subst h; simp
      · simp only [if_true, Bool.true_and, List.head?_cons]
        have : (some b == some 45) = false := by simp [h]
        simp only [this, Bool.false_eq_true, if_false]
        split
        · rename_i heq; simp at heq; exact absurd heq.1 h
        · rfl

theorem parseSign_length_le (signed : Bool) (s : List Nat) : (parseSign signed s).2.length ≤ s.length := by
  rw [parseSign_eq]
  split
  · simp only [List.length_drop]; omega
  · exact Nat.le_refl _

theorem magPrefix_length_le (bits : Nat) (hb : 4 ≤ bits) (body : List Nat) (num : Nat) (rest : List Nat)
    (h : magPrefix bits body = some (num, rest)) : rest.length ≤ body.length := by
  rw [magPrefix_eq bits hb] at h
  split at h
  · cases h
    exact length_dropWhile_le _ _
  · cases h

theorem parseIntegerBody_eq (signed : Bool) (bits : Nat) (s : List Nat) :
    parseIntegerBody signed bits s =
      match magPrefix bits (parseSign signed s).2 with
      | none => none
      | some (num, rest) =>
        match applySign signed bits num (parseSign signed s).1 with
        | none => none
        | some v => some (v, rest) := by
  unfold parseIntegerBody magPrefix
  generalize parseSign signed s = ps
  obtain ⟨isneg, b1⟩ := ps
  simp only []
  cases h1 : firstDigit bits b1 with
  | none => rfl
  | some p => obtain ⟨n0, b2⟩ := p; rfl

theorem parseIntegerBody_unsigned_nonneg (bits : Nat) (s : List Nat) (v : Int) (rest : List Nat)
    (h : parseIntegerBody false bits s = some (v, rest)) : 0 ≤ v := by
  rw [parseIntegerBody_eq] at h
  split at h
  · cases h
  · cases h
    exact Int.natCast_nonneg _

theorem inRange_unsigned (bits D : Nat) : inRange false bits (D : Int) = decide (D < 2 ^ bits) := by
  simp only [inRange, Bool.false_eq_true, if_false, decide_eq_decide]
  omega

theorem inRange_signed_pos (bits D : Nat) : inRange true bits (D : Int) = decide (D < 2 ^ (bits - 1)) := by
  simp only [inRange, if_true, decide_eq_decide]
  omega

theorem inRange_signed_neg (bits D : Nat) : inRange true bits (-(D : Int)) = decide (D ≤ 2 ^ (bits - 1)) := by
  have hpos := Nat.two_pow_pos (bits - 1)
  simp only [inRange, if_true, decide_eq_decide]
  omega

/-- the overflow check of the unsigned twin followed by `@apply_sign` is the range test of the type on `±D` -/
theorem applySign_eq_inRange (signed : Bool) (bits : Nat) (h1 : 1 ≤ bits) (D : Nat) (s : List Nat) :
    (if D < 2 ^ bits then applySign signed bits D (hasMinus signed s) else none) =
      if inRange signed bits (if hasMinus signed s = true then -(D : Int) else (D : Int)) = true
      then some (if hasMinus signed s = true then -(D : Int) else (D : Int)) else none := by
  have h2 := two_pow_pred bits h1
  have hpos := Nat.two_pow_pos (bits - 1)
  cases signed with
  | false =>
    have hm : hasMinus false s = false := rfl
    simp only [hm, Bool.false_eq_true, if_false, inRange_unsigned, decide_eq_true_eq]
    rfl
  | true =>
    rw [applySign_signed bits D _ h1]
    cases hasMinus true s with
    | true =>
      simp only [if_true, inRange_signed_neg, decide_eq_true_eq]
      by_cases hle : D ≤ 2 ^ (bits - 1)
      · rw [if_pos hle, if_pos (show D < 2 ^ bits by omega)]
      · rw [if_neg hle, ite_self]
    | false =>
      simp only [Bool.false_eq_true, if_false, inRange_signed_pos, decide_eq_true_eq]
      by_cases hlt : D < 2 ^ (bits - 1)
      · rw [if_pos hlt, if_pos (show D < 2 ^ bits by omega)]
      · rw [if_neg hlt, ite_self]

/-- `parse_integer!` = the documented prefix parse (value and rest), for every type of at least 4 bits -/
theorem parseIntegerBody_eq_spec (signed : Bool) (bits : Nat) (hb : 4 ≤ bits) (s : List Nat) :
    parseIntegerBody signed bits s = prefixParseInt signed bits s := by
  rw [parseIntegerBody_eq, parseSign_eq]
  unfold prefixParseInt
  simp only []
  generalize (if hasMinus signed s = true then s.drop 1 else s) = body
  rw [magPrefix_eq bits hb]
  generalize decVal (List.takeWhile isAsciiDigit body) = D
  have hr := applySign_eq_inRange signed bits (Nat.le_trans (by decide) hb) D s
  generalize (if hasMinus signed s = true then -(D : Int) else (D : Int)) = v at hr ⊢
  by_cases hne : List.takeWhile isAsciiDigit body = []
  · simp only [hne, ne_eq, not_true_eq_false, false_and, if_false]
  · simp only [hne, ne_eq, not_false_eq_true, true_and]
    by_cases hfit : D < 2 ^ bits
    · rw [if_pos hfit] at hr ⊢
      simp only [hr]
      cases inRange signed bits v <;> rfl
    · rw [if_neg hfit] at hr ⊢
      cases hc : inRange signed bits v with
      | false => rfl
      | true =>
        rw [hc, if_pos rfl] at hr
        cases hr
/-- a prefix parse of the reference that leaves nothing is a whole-string parse of the reference
    (`prefixParseInt` with an empty rest = `stdParseInt`) -/
theorem whole_of_prefix (signed : Bool) (bits : Nat) (s : List Nat) :
    (match prefixParseInt signed bits s with
      | some (v, rest) => if rest.isEmpty = true then some v else none
      | none => none) = stdParseInt signed bits s := by
  unfold prefixParseInt stdParseInt
  simp only []
  generalize (if hasMinus signed s = true then s.drop 1 else s) = body
  by_cases hall : body.all isAsciiDigit = true
  · rw [takeWhile_eq_self_of_all _ _ hall, (dropWhile_nil_iff_all isAsciiDigit body).mpr hall]
    simp only [hall, true_and]
    generalize (if hasMinus signed s = true then -(decVal body : Int) else (decVal body : Int)) = v
    by_cases hc : body ≠ [] ∧ inRange signed bits v = true
    · rw [if_pos hc, if_pos hc]
      rfl
    · rw [if_neg hc, if_neg hc]
  · have hd : (body.dropWhile isAsciiDigit).isEmpty = false :=
      List.isEmpty_eq_false_iff.mpr fun h => hall ((dropWhile_nil_iff_all isAsciiDigit body).mp h)
    simp only [hall, Bool.false_eq_true, false_and, and_false, if_false]
    generalize (if hasMinus signed s = true then -(decVal (body.takeWhile isAsciiDigit) : Int)
      else (decVal (body.takeWhile isAsciiDigit) : Int)) = w
    by_cases hc : List.takeWhile isAsciiDigit body ≠ [] ∧ inRange signed bits w = true
    · rw [if_pos hc]
      simp only [hd, Bool.false_eq_true, if_false]
    · rw [if_neg hc]

theorem tryParsing_eq {α : Type} (p : MiniParser) (kind : ErrorKind) (body : List Nat → Option (α × Nat)) :
    tryParsingFromStart p kind body =
      match body p.str with
      | none => .error { startOffset := p.startOffset, endOffset := p.startOffset + p.str.length,
                         dir := .fromStart, kind := kind }
      | some (ret, n) =>
        .ok (ret, { dir := .fromStart,
                    startOffset := p.startOffset + (p.str.length - (p.str.drop n).length),
                    str := p.str.drop n }) := by
  unfold tryParsingFromStart
  simp only []
  cases h : body p.str with
  | none => rfl
  | some r => obtain ⟨ret, n⟩ := r; rfl

theorem tryParsing_error {α : Type} (p : MiniParser) (kind : ErrorKind) (body : List Nat → Option (α × Nat))
    (e : MiniError) (h : tryParsingFromStart p kind body = .error e) :
    e.startOffset = p.startOffset ∧ e.endOffset = p.startOffset + p.str.length ∧
      e.dir = .fromStart ∧ e.offset = p.startOffset ∧ e.kind = kind := by
  rw [tryParsing_eq] at h
  cases hb : body p.str with
  | none =>
    rw [hb] at h
    simp only [Except.error.injEq] at h
    subst h
    exact ⟨rfl, rfl, rfl, rfl, rfl⟩
  | some r =>
    obtain ⟨ret, n⟩ := r
    rw [hb] at h
    simp at h

theorem bool_cases (s : List Nat) :
    (∃ t, s = 116 :: 114 :: 117 :: 101 :: t) ∨ (∃ t, s = 102 :: 97 :: 108 :: 115 :: 101 :: t) ∨
      ((∀ t, s ≠ 116 :: 114 :: 117 :: 101 :: t) ∧ ∀ t, s ≠ 102 :: 97 :: 108 :: 115 :: 101 :: t) := by
  by_cases h1 : ∃ t, s = 116 :: 114 :: 117 :: 101 :: t
  · exact .inl h1
  · by_cases h2 : ∃ t, s = 102 :: 97 :: 108 :: 115 :: 101 :: t
    · exact .inr (.inl h2)
    · exact .inr (.inr ⟨fun t h => h1 ⟨t, h⟩, fun t h => h2 ⟨t, h⟩⟩)

theorem parseBoolPrefix_none (s : List Nat) (h1 : ∀ t, s ≠ 116 :: 114 :: 117 :: 101 :: t)
    (h2 : ∀ t, s ≠ 102 :: 97 :: 108 :: 115 :: 101 :: t) : parseBoolPrefix s = none := by
  unfold parseBoolPrefix
  split
  · exact absurd rfl (h1 _)
  · exact absurd rfl (h2 _)
  · rfl

theorem prefixParseBool_true (t : List Nat) : prefixParseBool (116 :: 114 :: 117 :: 101 :: t) = some (true, t) := rfl
theorem prefixParseBool_false (t : List Nat) :
    prefixParseBool (102 :: 97 :: 108 :: 115 :: 101 :: t) = some (false, t) := rfl

theorem prefixParseBool_none (s : List Nat) (h1 : ∀ t, s ≠ 116 :: 114 :: 117 :: 101 :: t)
    (h2 : ∀ t, s ≠ 102 :: 97 :: 108 :: 115 :: 101 :: t) : prefixParseBool s = none := by
  have ht : trueBytes.isPrefixOf s = false :=
    Bool.eq_false_iff.mpr fun h => (List.isPrefixOf_iff_prefix.mp h).elim fun t e => h1 t e.symm
  have hf : falseBytes.isPrefixOf s = false :=
    Bool.eq_false_iff.mpr fun h => (List.isPrefixOf_iff_prefix.mp h).elim fun t e => h2 t e.symm
  simp only [prefixParseBool, ht, hf, Bool.false_eq_true, if_false]

end Konst.Lemmas.ParseInt
