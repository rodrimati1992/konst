import KonstVerif.Model.LitDecode
import KonstVerif.Spec.LitDecode
/-
  The scanner of `konst_proc_macros::parsing::parse_string` decodes every well-formed literal body
  to the string the Rust Reference assigns to it.
-/
namespace Konst.Lit.Lemmas
open Konst.Lit Konst.Lit.Spec

theorem takeWhile_run {α : Type} (p : α → Bool) (t : List α) (x : α) (l : List α)
    (ht : ∀ c ∈ t, p c = true) (hx : p x = false) :
    (t ++ x :: l).takeWhile p = t ∧ (t ++ x :: l).dropWhile p = x :: l := by
  induction t with
  | nil => simp [hx]
  | cons a t ih =>
    have ha : p a = true := ht a (by simp)
    have ih' := ih (fun c hc => ht c (by simp [hc]))
    simp [ha, ih'.1, ih'.2]

theorem takeWhile_all {α : Type} (p : α → Bool) (t : List α) (ht : ∀ c ∈ t, p c = true) :
    t.takeWhile p = t ∧ t.dropWhile p = [] := by
  induction t with
  | nil => simp
  | cons a t ih =>
    have ha : p a = true := ht a (by simp)
    have ih' := ih (fun c hc => ht c (by simp [hc]))
    simp [ha, ih'.1, ih'.2]

theorem dropWhile_run {α : Type} (p : α → Bool) (t l : List α)
    (ht : ∀ c ∈ t, p c = true) (hl : ∀ c, l.head? = some c → p c = false) :
    (t ++ l).dropWhile p = l := by
  induction t with
  | nil =>
    cases l with
    | nil => rfl
    | cons x l => simp [hl x rfl]
  | cons a t ih =>
    have ha : p a = true := ht a (by simp)
    simp [ha, ih (fun c hc => ht c (by simp [hc]))]

theorem head_render (r : List (List Char × Esc)) (tail : List Char) :
    (renderSegs r tail).head? = (nextText r tail).head? := by
  cases r with
  | nil => rfl
  | cons s r =>
    obtain ⟨t, e⟩ := s
    cases t with
    | nil => simp [renderSegs, nextText]
    | cons a t => simp [renderSegs, nextText]

theorem le_toNat (c d : Char) (h : c ≤ d) : c.toNat ≤ d.toNat := by
  have : c.val ≤ d.val := h
  exact UInt32.le_iff_toNat_le.mp this

theorem hexDigit_lt (c : Char) (d : Nat) (h : hexDigitVal c = some d) : d < 16 := by
  unfold hexDigitVal at h
  split at h
  next hc =>
    cases h
    exact Nat.lt_of_le_of_lt (Nat.sub_le_sub_right (le_toNat _ _ hc.2) _) (by decide)
  next =>
    split at h
    next hc =>
      cases h
      exact Nat.lt_of_le_of_lt (Nat.add_le_add_right (Nat.sub_le_sub_right (le_toNat _ _ hc.2) _) 10) (by decide)
    next =>
      split at h
      next hc =>
        cases h
        exact Nat.lt_of_le_of_lt (Nat.add_le_add_right (Nat.sub_le_sub_right (le_toNat _ _ hc.2) _) 10) (by decide)
      next => cases h

private abbrev hexStep (acc : Option Nat) (c : Char) : Option Nat :=
  match acc, hexDigitVal c with
  | some a, some d => some (a * 16 + d)
  | _, _ => none

private theorem foldl_none (ds : List Char) : ds.foldl hexStep none = none := by
  induction ds with
  | nil => rfl
  | cons c r ih => simp [List.foldl, hexStep, ih]

/-- `from_str_radix`'s accumulator loop is the plain fold: with at most 6 digits left and
    `acc < 16 ^ (6 - digits left)` the value stays below `16 ^ 6 < 2 ^ 32`, so the `u32` overflow test never fires -/
theorem go_eq : ∀ (ds : List Char) (acc : Nat), ds.length ≤ 6 → acc < 16 ^ (6 - ds.length) →
    fromStrRadix16.go ds acc = ds.foldl hexStep (some acc) := by
  intro ds
  induction ds with
  | nil => intro acc _ _; simp [fromStrRadix16.go]
  | cons c r ih =>
    intro acc hl ha
    simp only [fromStrRadix16.go, List.foldl]
    cases hc : hexDigitVal c with
    | none => simp [hexStep, hc, foldl_none]
    | some d =>
      have hd := hexDigit_lt c d hc
      simp only [List.length_cons] at hl ha
      have hpow : 16 ^ (6 - r.length) = 16 ^ (6 - (r.length + 1)) * 16 := by
        have : 6 - r.length = (6 - (r.length + 1)) + 1 := by omega
        rw [this, Nat.pow_succ]
      have hbound : acc * 16 + d < 16 ^ (6 - r.length) := by rw [hpow]; omega
      have h32 : acc * 16 + d < 2 ^ 32 := by
        have : 16 ^ (6 - r.length) ≤ 16 ^ 6 := Nat.pow_le_pow_right (by decide) (by omega)
        have : (16 : Nat) ^ 6 < 2 ^ 32 := by decide
        omega
      simp only [h32, if_true, hexStep, hc]
      exact ih (acc * 16 + d) (by omega) hbound

/-- on 1 to 6 hex digits (what `\u{…}` and `\xNN` allow) `from_str_radix(_, 16)` is the reference value -/
theorem radix_eq (ds : List Char) (hne : ds ≠ []) (hl : ds.length ≤ 6) :
    fromStrRadix16 ds = hexValue ds := by
  unfold fromStrRadix16 hexValue
  cases ds with
  | nil => exact absurd rfl hne
  | cons c r =>
    simp only []
    have := go_eq (c :: r) 0 hl (Nat.pow_pos (by decide))
    exact this

/-- main scanner lemma: one loop turn per segment -/
theorem unescape_segs : ∀ (segs : List (List Char × Esc)) (tail out : List Char) (fuel : Nat),
    segsWF segs tail → segs.length + 1 ≤ fuel →
    unescape fuel (renderSegs segs tail) out = .ok (out ++ meaningSegs segs tail) := by
  intro segs
  induction segs with
  | nil =>
    intro tail out fuel hwf hf
    obtain ⟨f, rfl⟩ : ∃ f, fuel = f + 1 := ⟨fuel - 1, by omega⟩
    have hno : ∀ c ∈ tail, (decide (c ≠ '\\')) = true := by
      intro c hc; simpa using hwf c hc
    have := takeWhile_all (fun c => decide (c ≠ '\\')) tail hno
    rw [renderSegs, meaningSegs, unescape]
    dsimp only
    rw [this.1, this.2]
  | cons s r ih =>
    intro tail out fuel hwf hf
    obtain ⟨t, e⟩ := s
    obtain ⟨f, rfl⟩ : ∃ f, fuel = f + 1 := ⟨fuel - 1, by omega⟩
    obtain ⟨ht, he, hm, hr⟩ := hwf
    have hf' : r.length + 1 ≤ f := by simp only [List.length_cons] at hf; omega
    have hno : ∀ c ∈ t, (decide (c ≠ '\\')) = true := by
      intro c hc; simpa using ht c hc
    have hx : (decide ('\\' ≠ '\\')) = false := by decide
    have hrun := takeWhile_run (fun c => decide (c ≠ '\\')) t '\\' (e.text ++ renderSegs r tail) hno hx
    have hrender : renderSegs ((t, e) :: r) tail = t ++ '\\' :: (e.text ++ renderSegs r tail) := by
      rw [renderSegs, List.append_assoc, List.cons_append]
    rw [hrender, unescape, meaningSegs]
    dsimp only
    rw [hrun.1, hrun.2]
    have IH := fun o => ih tail o f hr hf'
    -- a turn that appends `m` to the copied text `t` and goes on behind the escape
    have turn : ∀ m : List Char, unescape f (renderSegs r tail) (out ++ t ++ m) =
        .ok (out ++ (t ++ m ++ meaningSegs r tail)) := fun m =>
      (IH _).trans (by simp only [List.append_assoc])
    cases e with
    | n | r | t | bslash | zero | squote | dquote => exact turn _
    | hex h l =>
      -- `\xHL`: `from_str_radix` on the two digits is the reference value `v < 128`, pushed as a char
      obtain ⟨v, hv, hlt⟩ := he
      simp [Esc.text, Esc.meaning, (radix_eq [h, l] (List.cons_ne_nil _ _) (show 2 ≤ 6 by decide)).trans hv, hv, hlt, IH,
        List.append_assoc]
    | uni ds =>
      -- `\u{ds}`: the scanner cuts at the first `}` (`hrun2`: none inside `ds`), drops the `{`, filters `_`
      obtain ⟨hnb, hne, hlen, v, c, hv, hc⟩ := he
      have hno2 : ∀ x ∈ ('{' :: ds), (decide (x ≠ '}')) = true := by
        intro x hx
        rcases List.mem_cons.mp hx with rfl | hx
        · decide
        · simpa using hnb x hx
      have hx2 : (decide ('}' ≠ '}')) = false := by decide
      have hrun2 := takeWhile_run (fun c => decide (c ≠ '}')) ('{' :: ds) '}' (renderSegs r tail) hno2 hx2
      have hcontains : ('{' :: ds ++ '}' :: renderSegs r tail).contains '}' = true := by
        simp
      have e1 : ('{' :: (ds ++ '}' :: renderSegs r tail)) = ('{' :: ds) ++ '}' :: renderSegs r tail := by simp
      simp only [Esc.text, Esc.meaning, List.cons_append, List.append_assoc, List.nil_append]
      simp only [show ('u' = 'x') = False by decide, if_false, if_true]
      rw [e1, hcontains]
      simp only [if_true, hrun2.1, hrun2.2, List.drop_one, List.tail_cons]
      rw [radix_eq _ hne hlen, hv]
      simp only [Option.bind_some, hc]
      rw [IH]
      simp [List.append_assoc]
    | cont nl ws =>
      -- line continuation: the whitespace run `ws` is skipped and stops exactly at the next segment (`hm`)
      obtain ⟨hnl, hws⟩ := he
      have hdrop := dropWhile_run isContWs ws (renderSegs r tail) hws (by
        intro c hc
        rw [head_render] at hc
        exact hm c hc)
      rcases hnl with rfl | rfl
      · simp [Esc.text, Esc.meaning, hdrop, IH, List.append_assoc]
      · simp [Esc.text, Esc.meaning, hdrop, IH, List.append_assoc]

end Konst.Lit.Lemmas
