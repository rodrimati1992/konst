import KonstVerif.Model.IterDsl
import KonstVerif.Spec.IterDsl
/-
  Fusion lemmas for C10: the emitted push-style loop (Model/IterDsl) against the list semantics
  of std's adapters (Spec/IterDsl).

  The three formulations of the emitted code (`feed`, `feedK`, `feedKL`) treat one item at one adapter
  in the same way: it goes on, it is dropped or ends the loop, or it is replaced by the items of an
  inner iterator (`Act`, `act`).  Every induction over the chain splits on that, and what the code
  of the single adapters does is stated once, about `act`.

  Forward:   for a rev-free chain driven by `next`, one pushed item contributes exactly the head-part
             of the list semantics of the *residual* chain (`StepOK`).
  Direction: the directional code `feed c d` equals the forward code of the normalised chain `fwd c d`
             on mirrored zip states (`feed_fwd`).
  Consumer:  the consumer code folded with early break over the yielded items equals the list consumer
             in iteration order (`consMany_iterConsume`).
  Literal:   the loop nest with the consumer code innermost (`feedK`) computes what items-then-consumer
             computes (`feedK_spec`).
-/
namespace Konst.Iter.Lemmas
open Konst.Iter Konst.Iter.Spec

/-! ## residual semantics: the chain with its hoisted variables at their current values -/

/-- std semantics of adapter `a` whose hoisted variable currently holds `c` -/
def applyCell : Ad → Cell → List Val → List Val
  | .enumerate, .nat i, xs => enumFrom i xs
  | .skip _, .nat k, xs => xs.drop k
  | .take _, .nat k, xs => xs.take k
  | .skipWhile p, .flag s, xs => if s then xs.dropWhile p else xs
  | .zip _, .lst l, xs => zipVals xs l
  | a, _, xs => applyAd a xs

def stdEvalSt : List Ad → St → List Val → List Val
  | [], _, xs => xs
  | a :: r, [], xs => stdEvalSt r [] (applyAd a xs)
  | a :: r, c :: st, xs => stdEvalSt r st (applyCell a c xs)

/-- the state list is aligned with the chain and every cell has the kind its adapter uses -/
def WF : List Ad → St → Prop
  | [], st => st = []
  | _ :: _, [] => False
  | .enumerate :: r, c :: st => (∃ i, c = .nat i) ∧ WF r st
  | .skip _ :: r, c :: st => (∃ i, c = .nat i) ∧ WF r st
  | .take _ :: r, c :: st => (∃ i, c = .nat i) ∧ WF r st
  | .skipWhile _ :: r, c :: st => (∃ s, c = .flag s) ∧ WF r st
  | .zip _ :: r, c :: st => (∃ l, c = .lst l) ∧ WF r st
  | .copied :: r, _ :: st => WF r st
  | .filter _ :: r, _ :: st => WF r st
  | .filterMap _ :: r, _ :: st => WF r st
  | .flatMap _ :: r, _ :: st => WF r st
  | .flatten :: r, _ :: st => WF r st
  | .map _ :: r, _ :: st => WF r st
  | .rev :: r, _ :: st => WF r st
  | .takeWhile _ :: r, _ :: st => WF r st

def NoRev : List Ad → Prop
  | [] => True
  | .rev :: _ => False
  | _ :: r => NoRev r

def CellOK : Ad → Cell → Prop
  | .enumerate, c => ∃ i, c = .nat i
  | .skip _, c => ∃ i, c = .nat i
  | .take _, c => ∃ i, c = .nat i
  | .skipWhile _, c => ∃ s, c = .flag s
  | .zip _, c => ∃ l, c = .lst l
  | _, _ => True

theorem wf_cons {a : Ad} {r : List Ad} {c : Cell} {st : St} :
    WF (a :: r) (c :: st) ↔ CellOK a c ∧ WF r st := by
  cases a <;> simp only [WF, CellOK, true_and]

theorem noRev_cons {a : Ad} {r : List Ad} : NoRev (a :: r) ↔ a ≠ .rev ∧ NoRev r := by
  cases a <;> simp [NoRev]

def initCell : Ad → Cell
  | .enumerate => .nat 0
  | .skip k => .nat k
  | .take k => .nat k
  | .skipWhile _ => .flag true
  | .zip l => .lst l
  | _ => .u

theorem initSt_cons (a : Ad) (r : List Ad) : initSt (a :: r) = initCell a :: initSt r := by
  cases a <;> rfl

theorem cellOK_init (a : Ad) : CellOK a (initCell a) := by
  cases a <;> first | trivial | exact ⟨_, rfl⟩

theorem applyCell_init (a : Ad) (xs : List Val) : applyCell a (initCell a) xs = applyAd a xs := by
  cases a <;> rfl

theorem wf_init : ∀ c, WF c (initSt c) := by
  intro c
  induction c with
  | nil => rfl
  | cons a r ih => rw [initSt_cons]; exact wf_cons.2 ⟨cellOK_init a, ih⟩

theorem zipVals_nil_right (l : List Val) : zipVals l [] = [] := by cases l <;> rfl

theorem applyAd_nil (a : Ad) : applyAd a [] = [] := by
  cases a <;> first | rfl | simp [applyAd]

theorem applyCell_nil (a : Ad) (c : Cell) : applyCell a c [] = [] := by
  cases a <;> first | rfl | (cases c <;> first | rfl | simp [applyCell, applyAd])

theorem stdEvalSt_nil : ∀ (c : List Ad) (st : St), stdEvalSt c st [] = [] := by
  intro c
  induction c with
  | nil => intro st; rfl
  | cons a r ih =>
    intro st
    cases st with
    | nil => simp only [stdEvalSt, applyAd_nil, ih]
    | cons k st => simp only [stdEvalSt, applyCell_nil, ih]

theorem stdEval_nil (c : List Ad) : stdEval c [] = [] := by
  induction c with
  | nil => rfl
  | cons a r ih => simp only [stdEval, applyAd_nil, ih]

theorem stdEvalSt_init : ∀ (c : List Ad) (xs : List Val), stdEvalSt c (initSt c) xs = stdEval c xs := by
  intro c
  induction c with
  | nil => intro xs; rfl
  | cons a r ih => intro xs; rw [initSt_cons]; simp only [stdEvalSt, stdEval, applyCell_init, ih]

/-! ## one adapter, one item -/

/-- what the code of one adapter does with one item; `c` is the new value of its hoisted variable -/
inductive Act where
  /-- the item, possibly transformed, goes on to the rest of the chain -/
  | pass (c : Cell) (y : Val)
  /-- `continue` (`brk = false`) or `break 'label` (`brk = true`) -/
  | halt (c : Cell) (brk : Bool)
  /-- a nested loop pushes `ys` through the rest of the chain -/
  | nest (c : Cell) (ys : List Val)

def Act.cell : Act → Cell
  | .pass c _ => c
  | .halt c _ => c
  | .nest c _ => c

def Act.mapCell (g : Cell → Cell) : Act → Act
  | .pass c y => .pass (g c) y
  | .halt c b => .halt (g c) b
  | .nest c ys => .nest (g c) ys

/-- the code of adapter `a` under the `$next_fn` token `d` on item `x`, its variable holding `c` -/
def act : Ad → Bool → Cell → Val → Act
  | .copied, _, c, x => .pass c x
  | .rev, _, c, x => .pass c x
  | .map f, _, c, x => .pass c (f x)
  | .filter p, _, c, x => if p x then .pass c x else .halt c false
  | .filterMap f, _, c, x => match f x with | some y => .pass c y | none => .halt c false
  | .takeWhile p, _, c, x => if p x then .pass c x else .halt c true
  | .flatMap f, d, c, x => .nest c (walk d (f x))
  | .flatten, d, c, x => .nest c (walk d (unseq x))
  | .enumerate, _, .nat i, x => .pass (.nat (i + 1)) (.pair (.n i) x)
  | .skip _, _, .nat k, x => if k ≠ 0 then .halt (.nat (k - 1)) false else .pass (.nat k) x
  | .take _, _, .nat k, x => if k = 0 then .halt (.nat k) true else .pass (.nat (k - 1)) x
  | .skipWhile p, _, .flag s, x => if s && p x then .halt (.flag true) false else .pass (.flag false) x
  | .zip _, d, .lst l, x =>
    match pop d l with
    | some (e, l') => .pass (.lst l') (.pair x e)
    | none => .halt (.lst l) true
  | _, _, c, _ => .halt c true

/-- the `$next_fn` token for the adapters after `a` -/
def dirAfter : Ad → Bool → Bool
  | .rev, d => !d
  | _, d => d

theorem dirAfter_of_ne_rev {a : Ad} (h : a ≠ .rev) (d : Bool) : dirAfter a d = d := by
  cases a <;> first | rfl | exact absurd rfl h

def onSt {α : Type} (g : St → St) (r : St × α) : St × α := (g r.1, r.2)

theorem feed_cons_nil (a : Ad) (r : List Ad) (d : Bool) (x : Val) : feed (a :: r) d [] x = ([], [], true) := by
  cases a <;> rfl

theorem feed_cons (a : Ad) (r : List Ad) (d : Bool) (c : Cell) (st : St) (x : Val) :
    feed (a :: r) d (c :: st) x =
      match act a d c x with
      | .pass c' y => onSt (c' :: ·) (feed r (dirAfter a d) st y)
      | .halt c' b => (c' :: st, [], b)
      | .nest c' ys => onSt (c' :: ·) (foldItems (feed r (dirAfter a d)) st ys) := by
  cases a with
  | copied => rfl
  | rev => rfl
  | map f => rfl
  | flatMap f => rfl
  | flatten => rfl
  | filter p => simp only [feed, act]; cases p x <;> rfl
  | takeWhile p => simp only [feed, act]; cases p x <;> rfl
  | filterMap f => simp only [feed, act]; cases f x <;> rfl
  | enumerate => cases c <;> rfl
  | skip n =>
    cases c with
    | nat k => cases k <;> rfl
    | _ => rfl
  | take n =>
    cases c with
    | nat k => cases k <;> rfl
    | _ => rfl
  | skipWhile p =>
    cases c with
    | flag s => simp only [feed, act]; cases s <;> cases p x <;> rfl
    | _ => rfl
  | zip l =>
    cases c with
    | lst l0 => simp only [feed, act]; cases pop d l0 <;> rfl
    | _ => rfl

/-! ## forward fusion: one pushed item against the list semantics of the residual chain -/

def StepOK (c : List Ad) : Prop :=
  ∀ st x st' out b, WF c st → feed c false st x = (st', out, b) →
    WF c st' ∧ ∀ xs, stdEvalSt c st (x :: xs) = out ++ (if b then [] else stdEvalSt c st' xs)

theorem many_of_step (c : List Ad) (h : StepOK c) :
    ∀ ys st st' out b, WF c st → foldItems (feed c false) st ys = (st', out, b) →
      WF c st' ∧ ∀ zs, stdEvalSt c st (ys ++ zs) =
        out ++ (if b then [] else stdEvalSt c st' zs) := by
  intro ys
  induction ys with
  | nil =>
    intro st st' out b hw he
    cases he
    exact ⟨hw, fun zs => rfl⟩
  | cons y ys ih =>
    intro st st' out b hw he
    simp only [foldItems] at he
    rcases hfe : feed c false st y with ⟨s1, o1, b1⟩
    rw [hfe] at he
    obtain ⟨hw1, h1⟩ := h st y s1 o1 b1 hw hfe
    cases b1 with
    | true =>
      cases he
      exact ⟨hw1, fun zs => (h1 (ys ++ zs)).trans (by simp)⟩
    | false =>
      dsimp only at he
      rcases hfo : foldItems (feed c false) s1 ys with ⟨s2, o2, b2⟩
      rw [hfo] at he
      cases he
      obtain ⟨hw2, h2⟩ := ih s1 s2 o2 b2 hw1 hfo
      refine ⟨hw2, fun zs => ?_⟩
      rw [List.cons_append, h1 (ys ++ zs), if_neg Bool.false_ne_true, h2 zs, List.append_assoc]

theorem cellOK_act {a : Ad} {c : Cell} (hk : CellOK a c) (d : Bool) (x : Val) :
    CellOK a (act a d c x).cell := by
  cases a with
  | enumerate => obtain ⟨i, rfl⟩ := hk; exact ⟨_, rfl⟩
  | skip n => obtain ⟨i, rfl⟩ := hk; simp only [act]; split <;> exact ⟨_, rfl⟩
  | take n => obtain ⟨i, rfl⟩ := hk; simp only [act]; split <;> exact ⟨_, rfl⟩
  | skipWhile p => obtain ⟨s, rfl⟩ := hk; simp only [act]; split <;> exact ⟨_, rfl⟩
  | zip l => obtain ⟨l', rfl⟩ := hk; simp only [act]; split <;> exact ⟨_, rfl⟩
  | _ => trivial

theorem applyCell_cons {a : Ad} {c : Cell} (hk : CellOK a c) (hr : a ≠ .rev) (x : Val) (xs : List Val) :
    applyCell a c (x :: xs) =
      match act a false c x with
      | .pass c' y => y :: applyCell a c' xs
      | .halt c' b => if b then [] else applyCell a c' xs
      | .nest c' ys => ys ++ applyCell a c' xs := by
  cases a with
  | rev => exact absurd rfl hr
  | copied => rfl
  | map f => rfl
  | flatMap f => simp [applyCell, applyAd, act, walk]
  | flatten => simp [applyCell, applyAd, act, walk]
  | filter p => by_cases h : p x <;> simp [applyCell, applyAd, act, h]
  | takeWhile p => by_cases h : p x <;> simp [applyCell, applyAd, act, h]
  | filterMap f => cases h : f x <;> simp [applyCell, applyAd, act, h]
  | enumerate => obtain ⟨i, rfl⟩ := hk; rfl
  | skip n =>
    obtain ⟨i, rfl⟩ := hk
    cases i <;> simp [applyCell, act]
  | take n =>
    obtain ⟨i, rfl⟩ := hk
    cases i <;> simp [applyCell, act]
  | skipWhile p =>
    obtain ⟨s, rfl⟩ := hk
    cases s <;> by_cases h : p x <;> simp [applyCell, act, h]
  | zip l =>
    obtain ⟨l', rfl⟩ := hk
    cases l' <;> simp [applyCell, act, pop, zipVals]

theorem stepOK : ∀ c, NoRev c → StepOK c := by
  intro c
  induction c with
  | nil =>
    intro _ st x st' out b hw he
    cases he
    exact ⟨hw, fun xs => rfl⟩
  | cons a r ih =>
    intro hnr st x st' out b hw he
    obtain ⟨har, hnr'⟩ := noRev_cons.1 hnr
    cases st with
    | nil => exact hw.elim
    | cons k st =>
      obtain ⟨hk, hwr⟩ := wf_cons.1 hw
      have hk' := cellOK_act hk false x
      have hstd := applyCell_cons hk har x
      rw [feed_cons, dirAfter_of_ne_rev har] at he
      generalize act a false k x = A at he hk' hstd
      cases A with
      | pass c' y =>
        rcases hf : feed r false st y with ⟨s1, o1, b1⟩
        obtain ⟨hw1, h1⟩ := ih hnr' st y s1 o1 b1 hwr hf
        dsimp only at he
        rw [hf] at he
        cases he
        exact ⟨wf_cons.2 ⟨hk', hw1⟩, fun xs => (congrArg (stdEvalSt r st) (hstd xs)).trans (h1 _)⟩
      | halt c' b0 =>
        cases he
        refine ⟨wf_cons.2 ⟨hk', hwr⟩, fun xs => (congrArg (stdEvalSt r st) (hstd xs)).trans ?_⟩
        cases b
        · rfl
        · exact stdEvalSt_nil r st
      | nest c' ys =>
        rcases hf : foldItems (feed r false) st ys with ⟨s1, o1, b1⟩
        obtain ⟨hw1, h1⟩ := many_of_step r (ih hnr') ys st s1 o1 b1 hwr hf
        dsimp only at he
        rw [hf] at he
        cases he
        exact ⟨wf_cons.2 ⟨hk', hw1⟩, fun xs => (congrArg (stdEvalSt r st) (hstd xs)).trans (h1 _)⟩

/-! ## the direction token: `feed c d` is the forward code of the normalised chain `fwd c d` -/

/-- the rev-free chain that, driven forwards, does what `c` does under direction `d`:
    `rev` becomes a no-op that keeps the state aligned; inner iterators and zip arguments that are
    walked by `next_back` are reversed -/
def fwd : List Ad → Bool → List Ad
  | [], _ => []
  | .rev :: r, d => .copied :: fwd r (!d)
  | .flatMap f :: r, d => .flatMap (fun x => walk d (f x)) :: fwd r d
  | .flatten :: r, d => .flatMap (fun x => walk d (unseq x)) :: fwd r d
  | .zip l :: r, d => .zip (walk d l) :: fwd r d
  | .copied :: r, d => .copied :: fwd r d
  | .enumerate :: r, d => .enumerate :: fwd r d
  | .filter p :: r, d => .filter p :: fwd r d
  | .filterMap f :: r, d => .filterMap f :: fwd r d
  | .map f :: r, d => .map f :: fwd r d
  | .skip k :: r, d => .skip k :: fwd r d
  | .skipWhile p :: r, d => .skipWhile p :: fwd r d
  | .take k :: r, d => .take k :: fwd r d
  | .takeWhile p :: r, d => .takeWhile p :: fwd r d

def fwdAd : Ad → Bool → Ad
  | .rev, _ => .copied
  | .flatMap f, d => .flatMap (fun x => walk d (f x))
  | .flatten, d => .flatMap (fun x => walk d (unseq x))
  | .zip l, d => .zip (walk d l)
  | a, _ => a

theorem fwd_cons (a : Ad) (r : List Ad) (d : Bool) : fwd (a :: r) d = fwdAd a d :: fwd r (dirAfter a d) := by
  cases a <;> rfl

theorem fwdAd_ne_rev (a : Ad) (d : Bool) : fwdAd a d ≠ .rev := by
  cases a <;> exact Ad.noConfusion

theorem dirAfter_fwdAd (a : Ad) (d d' : Bool) : dirAfter (fwdAd a d) d' = d' :=
  dirAfter_of_ne_rev (fwdAd_ne_rev a d) d'

def walkCell (d : Bool) : Cell → Cell
  | .lst l => .lst (walk d l)
  | c => c

def fwdCell : Ad → Bool → Cell → Cell
  | .zip _, d, c => walkCell d c
  | _, _, c => c

def fwdSt : List Ad → Bool → St → St
  | a :: r, d, c :: st => fwdCell a d c :: fwdSt r (dirAfter a d) st
  | _, _, st => st

def mapSt (g : St → St) : St × List Val × Bool → St × List Val × Bool
  | (s, o, b) => (g s, o, b)

theorem pop_walk (d : Bool) (l : List Val) :
    pop false (walk d l) = (pop d l).map (fun p => (p.1, walk d p.2)) := by
  cases d with
  | false => cases l <;> simp [pop, walk]
  | true =>
    rcases List.eq_nil_or_concat l with rfl | ⟨l', e, rfl⟩
    · simp [pop, walk]
    · simp [pop, walk]

theorem foldItems_onSt (g : St → St) (s1 s2 : St → Val → St × List Val × Bool)
    (h : ∀ st x, s2 (g st) x = onSt g (s1 st x)) :
    ∀ ys st, foldItems s2 (g st) ys = onSt g (foldItems s1 st ys) := by
  intro ys
  induction ys with
  | nil => intro st; rfl
  | cons y ys ih =>
    intro st
    simp only [foldItems]
    rw [h st y]
    rcases s1 st y with ⟨a, o, b⟩
    cases b with
    | true => rfl
    | false => simp only [onSt, ih a]

private theorem mapSt_cons (k : Cell) (g : St → St) (r : St × List Val × Bool) :
    (match mapSt g r with | (s, o, b) => (k :: s, o, b)) =
      mapSt (fun s => match s with | [] => [] | c :: s' => c :: g s') (match r with | (s, o, b) => (k :: s, o, b)) := by
  rcases r with ⟨s, o, b⟩; simp [mapSt]

theorem act_fwd (a : Ad) (d : Bool) (c : Cell) (x : Val) :
    act (fwdAd a d) false (fwdCell a d c) x = (act a d c x).mapCell (fwdCell a d) := by
  cases a with
  | copied => rfl
  | rev => rfl
  | map f => rfl
  | flatMap f => rfl
  | flatten => rfl
  | filter p => simp only [act, fwdAd, fwdCell]; cases p x <;> rfl
  | takeWhile p => simp only [act, fwdAd, fwdCell]; cases p x <;> rfl
  | filterMap f => simp only [act, fwdAd, fwdCell]; cases f x <;> rfl
  | enumerate => cases c <;> rfl
  | skip n =>
    cases c with
    | nat k => cases k <;> rfl
    | _ => rfl
  | take n =>
    cases c with
    | nat k => cases k <;> rfl
    | _ => rfl
  | skipWhile p =>
    cases c with
    | flag s => simp only [act, fwdAd, fwdCell]; cases s <;> cases p x <;> rfl
    | _ => rfl
  | zip l =>
    cases c with
    | lst l0 => simp only [act, fwdAd, fwdCell, walkCell, pop_walk]; cases pop d l0 <;> rfl
    | _ => rfl

theorem feed_fwd : ∀ (c : List Ad) (d : Bool) (st : St) (x : Val),
    feed (fwd c d) false (fwdSt c d st) x = onSt (fwdSt c d) (feed c d st x) := by
  intro c
  induction c with
  | nil => intro d st x; rfl
  | cons a r ih =>
    intro d st x
    rw [fwd_cons]
    cases st with
    | nil => rw [feed_cons_nil]; exact feed_cons_nil _ _ _ _
    | cons k st =>
      show feed (fwdAd a d :: fwd r (dirAfter a d)) false (fwdCell a d k :: fwdSt r (dirAfter a d) st) x = _
      rw [feed_cons, feed_cons, dirAfter_fwdAd, act_fwd]
      cases act a d k x with
      | pass c' y => exact congrArg (onSt (fwdCell a d c' :: ·)) (ih _ st y)
      | halt c' b => rfl
      | nest c' ys => exact congrArg (onSt (fwdCell a d c' :: ·)) (foldItems_onSt _ _ _ (ih _) ys st)

theorem fwd_noRev : ∀ (c : List Ad) (d : Bool), NoRev (fwd c d) := by
  intro c
  induction c with
  | nil => intro d; trivial
  | cons a r ih => intro d; rw [fwd_cons]; exact noRev_cons.2 ⟨fwdAd_ne_rev a d, ih _⟩

theorem fwdCell_init (a : Ad) (d : Bool) : fwdCell a d (initCell a) = initCell (fwdAd a d) := by
  cases a <;> rfl

theorem fwdSt_init : ∀ (c : List Ad) (d : Bool), fwdSt c d (initSt c) = initSt (fwd c d) := by
  intro c
  induction c with
  | nil => intro d; rfl
  | cons a r ih =>
    intro d
    rw [fwd_cons, initSt_cons, initSt_cons, ← fwdCell_init, ← ih]
    rfl

theorem fwd_length : ∀ (c : List Ad) (d : Bool), (fwd c d).length = c.length := by
  intro c
  induction c with
  | nil => intro d; rfl
  | cons a r ih => intro d; rw [fwd_cons, List.length_cons, List.length_cons, ih]

/-! ### chains without a reversing method, chains put together -/

theorem anyRev_eq_hasRev : ∀ c : List Ad, anyRev c = hasRev c := by
  intro c; induction c with
  | nil => rfl
  | cons a r ih => cases a <;> simp [anyRev, hasRev, ih]

theorem noRev_of_hasRev : ∀ c : List Ad, hasRev c = false → NoRev c := by
  intro c; induction c with
  | nil => intro _; trivial
  | cons a r ih => intro h; cases a <;> simp [hasRev, NoRev] at h ⊢ <;> exact ih h

theorem fwd_false_std : ∀ (post : List Ad), NoRev post → ∀ xs,
    stdEval (fwd post false) xs = stdEval post xs := by
  intro post
  induction post with
  | nil => intro _ xs; rfl
  | cons a r ih =>
    intro h xs
    obtain ⟨ha, hr⟩ := noRev_cons.1 h
    have hx : applyAd (fwdAd a false) xs = applyAd a xs := by
      cases a <;> first | rfl | exact absurd rfl ha
    rw [fwd_cons, dirAfter_of_ne_rev ha]
    simp only [stdEval, hx, ih hr]

theorem hasRev_append_rev (pre post : List Ad) : hasRev (pre ++ .rev :: post) = true := by
  induction pre with
  | nil => rfl
  | cons a r ih => cases a <;> simp [hasRev, ih]

theorem stdEval_append (pre post : List Ad) : ∀ xs,
    stdEval (pre ++ post) xs = stdEval post (stdEval pre xs) := by
  induction pre with
  | nil => intro xs; rfl
  | cons a r ih => intro xs; simp [stdEval, ih]

theorem fwd_append : ∀ (mid rest : List Ad) (d : Bool), NoRev mid →
    fwd (mid ++ rest) d = fwd mid d ++ fwd rest d := by
  intro mid
  induction mid with
  | nil => intro rest d _; rfl
  | cons a r ih =>
    intro rest d h
    obtain ⟨ha, hr⟩ := noRev_cons.1 h
    rw [List.cons_append, fwd_cons, fwd_cons, dirAfter_of_ne_rev ha, ih rest d hr, List.cons_append]

/-! ## the outer loop and the consumer -/

theorem consMany_append (c : Cons) : ∀ (l1 l2 : List Val) (a : CAcc),
    consMany c a (l1 ++ l2) =
      match consMany c a l1 with
      | (a', true) => (a', true)
      | (a', false) => consMany c a' l2 := by
  intro l1
  induction l1 with
  | nil => intro l2 a; simp [consMany]
  | cons x xs ih =>
    intro l2 a
    simp only [List.cons_append, consMany]
    rcases consStep c a x with ⟨a', b⟩
    cases b with
    | true => simp
    | false => simpa using ih l2 a'

theorem runLoop_fwd (c : List Ad) (hnr : NoRev c) (cons : Cons) :
    ∀ (xs : List Val) (st : St) (a : CAcc), WF c st →
      runLoop c false cons st a xs = (consMany cons a (stdEvalSt c st xs)).1 := by
  intro xs
  induction xs with
  | nil => intro st a _; rw [stdEvalSt_nil]; rfl
  | cons x xs ih =>
    intro st a hw
    simp only [runLoop]
    rcases hf : feed c false st x with ⟨s1, o1, b1⟩
    obtain ⟨hw1, h1⟩ := stepOK c hnr st x s1 o1 b1 hw hf
    rw [h1 xs, consMany_append]
    dsimp only
    rcases consMany cons a o1 with ⟨a', cb⟩
    cases cb with
    | true => rfl
    | false =>
      cases b1 with
      | true => rfl
      | false => exact ih s1 a' hw1

theorem runLoop_dir (c : List Ad) (d : Bool) (cons : Cons) :
    ∀ (xs : List Val) (st : St) (a : CAcc),
      runLoop c d cons st a xs = runLoop (fwd c d) false cons (fwdSt c d st) a xs := by
  intro xs
  induction xs with
  | nil => intro st a; rfl
  | cons x xs ih =>
    intro st a
    simp only [runLoop, feed_fwd]
    rcases feed c d st x with ⟨s1, o1, b1⟩
    simp only [onSt]
    rcases consMany cons a o1 with ⟨a', cb⟩
    cases cb with
    | true => rfl
    | false =>
      cases b1 with
      | true => rfl
      | false => exact ih s1 a'

/-- the consumer applied to the items *in iteration order* (what the consumer code computes):
    `rfind`/`rfold`/`rposition` behave as `find`/`fold`/`position` on the order they are fed -/
def iterConsume : Cons → List Val → Res
  | .rfind p, l => .opt (l.find? p)
  | .rfold i f, l => .val (l.foldl f i)
  | .rposition p, l => .onat (l.findIdx? p)
  | c, l => stdConsume c l

theorem iterConsume_nonrev (cons : Cons) (hk : cons.isRev = false) (l : List Val) :
    iterConsume cons l = stdConsume cons l := by
  cases cons <;> simp [Cons.isRev] at hk <;> rfl

theorem consMany_congr {c c' : Cons} (h : ∀ a x, consStep c a x = consStep c' a x) :
    ∀ l a, consMany c a l = consMany c' a l := by
  intro l
  induction l with
  | nil => intro a; rfl
  | cons x xs ih => intro a; simp only [consMany, h, ih]

theorem consMany_find (p : Val → Bool) : ∀ (l : List Val) (k : Nat),
    (consMany (.find p) ⟨.opt none, k⟩ l).1.ret = .opt (l.find? p) := by
  intro l
  induction l with
  | nil => intro k; rfl
  | cons x xs ih =>
    intro k
    by_cases hp : p x = true <;> simp [consMany, consStep, hp, ih]

theorem consMany_fold (i : Val) (f : Val → Val → Val) : ∀ (l : List Val) (acc : Val) (k : Nat),
    (consMany (.fold i f) ⟨.val acc, k⟩ l).1.ret = .val (l.foldl f acc) := by
  intro l
  induction l with
  | nil => intro acc k; rfl
  | cons x xs ih => intro acc k; simp [consMany, consStep, ih]

theorem consMany_position (p : Val → Bool) : ∀ (l : List Val) (k : Nat),
    (consMany (.position p) ⟨.onat none, k⟩ l).1.ret = .onat ((l.findIdx? p).map (· + k)) := by
  intro l
  induction l with
  | nil => intro k; rfl
  | cons x xs ih =>
    intro k
    by_cases hp : p x = true
    · simp [consMany, consStep, hp, List.findIdx?_cons]
    · simp [consMany, consStep, hp, List.findIdx?_cons, ih]
      cases List.findIdx? p xs <;> simp; omega

theorem consMany_iterConsume (c : Cons) (l : List Val) :
    (consMany c (consInit c) l).1.ret = iterConsume c l := by
  cases c with
  | forEach =>
    have : ∀ (l l0 : List Val) (k : Nat), (consMany .forEach ⟨.items l0, k⟩ l).1.ret = .items (l0 ++ l) := by
      intro l; induction l with
      | nil => intro l0 k; simp [consMany]
      | cons x xs ih => intro l0 k; simp [consMany, consStep, ih]
    simpa [consInit, iterConsume, stdConsume] using this l [] 0
  | collect =>
    have : ∀ (l l0 : List Val) (k : Nat), (consMany .collect ⟨.items l0, k⟩ l).1.ret = .items (l0 ++ l) := by
      intro l; induction l with
      | nil => intro l0 k; simp [consMany]
      | cons x xs ih => intro l0 k; simp [consMany, consStep, ih]
    simpa [consInit, iterConsume, stdConsume] using this l [] 0
  | all p =>
    have : ∀ (l : List Val) (k : Nat), (consMany (.all p) ⟨.bool true, k⟩ l).1.ret = .bool (l.all p) := by
      intro l; induction l with
      | nil => intro k; simp [consMany]
      | cons x xs ih =>
        intro k
        by_cases hp : p x = true <;> simp [consMany, consStep, hp, ih]
    simpa [consInit, iterConsume, stdConsume] using this l 0
  | any p =>
    have : ∀ (l : List Val) (k : Nat), (consMany (.any p) ⟨.bool false, k⟩ l).1.ret = .bool (l.any p) := by
      intro l; induction l with
      | nil => intro k; simp [consMany]
      | cons x xs ih =>
        intro k
        by_cases hp : p x = true <;> simp [consMany, consStep, hp, ih]
    simpa [consInit, iterConsume, stdConsume] using this l 0
  | count =>
    have : ∀ (l : List Val) (n k : Nat), (consMany .count ⟨.nat n, k⟩ l).1.ret = .nat (n + l.length) := by
      intro l; induction l with
      | nil => intro n k; simp [consMany]
      | cons x xs ih => intro n k; simp [consMany, consStep, ih]; omega
    simpa [consInit, iterConsume, stdConsume] using this l 0 0
  | find p => exact consMany_find p l 0
  | rfind p => exact (congrArg (·.1.ret) (consMany_congr (c := .rfind p) (c' := .find p) (fun _ _ => rfl) l _)).trans (consMany_find p l 0)
  | findMap f =>
    have : ∀ (l : List Val) (k : Nat), (consMany (.findMap f) ⟨.opt none, k⟩ l).1.ret = .opt (l.findSome? f) := by
      intro l; induction l with
      | nil => intro k; simp [consMany]
      | cons x xs ih =>
        intro k
        cases hf : f x <;> simp [consMany, consStep, hf, ih]
    simpa [consInit, iterConsume, stdConsume] using this l 0
  | fold i f => exact consMany_fold i f l i 0
  | rfold i f =>
    exact (congrArg (·.1.ret) (consMany_congr (c := .rfold i f) (c' := .fold i f) (fun _ _ => rfl) l _)).trans (consMany_fold i f l i 0)
  | next =>
    cases l <;> simp [consMany, consStep, consInit, iterConsume, stdConsume]
  | nth n =>
    have : ∀ (l : List Val) (k : Nat), (consMany (.nth n) ⟨.opt none, k⟩ l).1.ret = .opt l[k]? := by
      intro l; induction l with
      | nil => intro k; simp [consMany]
      | cons x xs ih =>
        intro k
        cases k with
        | zero => simp [consMany, consStep]
        | succ j => simp [consMany, consStep, ih]
    simpa [consInit, iterConsume, stdConsume] using this l n
  | position p => simpa [consInit, iterConsume, stdConsume] using consMany_position p l 0
  | rposition p =>
    rw [consMany_congr (c := .rposition p) (c' := .position p) (fun _ _ => rfl)]
    simpa [consInit, iterConsume] using consMany_position p l 0

/-! ## the literal loop nest (`feedK`) = items-then-consumer (`feed` + `consMany`) -/

theorem feedK_cons_nil (cons : Cons) (a : Ad) (r : List Ad) (d : Bool) (acc : CAcc) (x : Val) :
    feedK cons (a :: r) d [] acc x = ([], acc, true) := by
  cases a <;> rfl

theorem feedK_cons (cons : Cons) (a : Ad) (r : List Ad) (d : Bool) (c : Cell) (st : St) (acc : CAcc) (x : Val) :
    feedK cons (a :: r) d (c :: st) acc x =
      match act a d c x with
      | .pass c' y => onSt (c' :: ·) (feedK cons r (dirAfter a d) st acc y)
      | .halt c' b => (c' :: st, acc, b)
      | .nest c' ys => onSt (c' :: ·) (foldItemsK (feedK cons r (dirAfter a d)) st acc ys) := by
  cases a with
  | copied => rfl
  | rev => rfl
  | map f => rfl
  | flatMap f => rfl
  | flatten => rfl
  | filter p => simp only [feedK, act]; cases p x <;> rfl
  | takeWhile p => simp only [feedK, act]; cases p x <;> rfl
  | filterMap f => simp only [feedK, act]; cases f x <;> rfl
  | enumerate => cases c <;> rfl
  | skip n =>
    cases c with
    | nat k => cases k <;> rfl
    | _ => rfl
  | take n =>
    cases c with
    | nat k => cases k <;> rfl
    | _ => rfl
  | skipWhile p =>
    cases c with
    | flag s => simp only [feedK, act]; cases s <;> cases p x <;> rfl
    | _ => rfl
  | zip l =>
    cases c with
    | lst l0 => simp only [feedK, act]; cases pop d l0 <;> rfl
    | _ => rfl

/-- one turn of a (sub)loop in the two formulations, `R` from `feed` and `RK` from `feedK`: the same
    consumer variables and `break`, and the same state unless the consumer's code left the nest -/
def KRel (cons : Cons) (a : CAcc) (R : St × List Val × Bool) (RK : St × CAcc × Bool) : Prop :=
  RK.2 = ((consMany cons a R.2.1).1, (consMany cons a R.2.1).2 || R.2.2) ∧
    ((consMany cons a R.2.1).2 = false → RK.1 = R.1)

def KSpec (cons : Cons) (step : St → Val → St × List Val × Bool)
    (stepK : St → CAcc → Val → St × CAcc × Bool) : Prop :=
  ∀ st a x, KRel cons a (step st x) (stepK st a x)

theorem krel_onSt {cons : Cons} {a : CAcc} {R : St × List Val × Bool} {RK : St × CAcc × Bool}
    (g : St → St) (h : KRel cons a R RK) : KRel cons a (onSt g R) (onSt g RK) :=
  ⟨h.1, fun hc => congrArg g (h.2 hc)⟩

theorem krel_halt (cons : Cons) (a : CAcc) (s : St) (b : Bool) : KRel cons a (s, [], b) (s, a, b) :=
  ⟨rfl, fun _ => rfl⟩

theorem foldK_of_stepK (cons : Cons) (step : St → Val → St × List Val × Bool)
    (stepK : St → CAcc → Val → St × CAcc × Bool) (h : KSpec cons step stepK) :
    ∀ ys st a, KRel cons a (foldItems step st ys) (foldItemsK stepK st a ys) := by
  intro ys
  induction ys with
  | nil => intro st a; exact krel_halt cons a st false
  | cons y ys ih =>
    intro st a
    have h12 := h st a y
    simp only [foldItems, foldItemsK]
    generalize step st y = R at h12 ⊢
    generalize stepK st a y = RK at h12 ⊢
    obtain ⟨s1, o1, b1⟩ := R
    obtain ⟨s2, a2, b2⟩ := RK
    obtain ⟨h1, h2⟩ := h12
    dsimp only at h1 h2 ⊢
    rcases hc : consMany cons a o1 with ⟨a1, cb⟩
    simp only [hc, Prod.mk.injEq] at h1 h2
    obtain ⟨rfl, rfl⟩ := h1
    cases b1 with
    | true => rw [Bool.or_true]; exact ⟨by rw [hc, Bool.or_true], by rw [hc]; exact h2⟩
    | false =>
      cases cb with
      | true => exact ⟨by simp only [consMany_append, hc, Bool.true_or], by simp [consMany_append, hc]⟩
      | false =>
        obtain rfl := h2 rfl
        obtain ⟨h3, h4⟩ := ih s2 a2
        exact ⟨by simp only [consMany_append, hc]; exact h3, by simp only [consMany_append, hc]; exact h4⟩

theorem feedK_spec (cons : Cons) : ∀ (c : List Ad) (d : Bool), KSpec cons (feed c d) (feedK cons c d) := by
  intro c
  induction c with
  | nil =>
    intro d st a x
    show KRel cons a (st, [x], false) (match consStep cons a x with | (a', b) => (st, a', b))
    unfold KRel
    simp only [consMany]
    rcases consStep cons a x with ⟨a', b⟩
    cases b <;> exact ⟨rfl, fun _ => trivial⟩
  | cons ad r ih =>
    intro d st a x
    cases st with
    | nil => rw [feed_cons_nil, feedK_cons_nil]; exact krel_halt cons a [] true
    | cons k st =>
      rw [feed_cons, feedK_cons]
      cases act ad d k x with
      | pass c' y => exact krel_onSt _ (ih _ st a y)
      | halt c' b => exact krel_halt cons a _ b
      | nest c' ys => exact krel_onSt _ (foldK_of_stepK cons _ _ (ih _) ys st a)

theorem runLoopK_eq (c : List Ad) (d : Bool) (cons : Cons) :
    ∀ (xs : List Val) (st : St) (a : CAcc), runLoopK c d cons st a xs = runLoop c d cons st a xs := by
  intro xs
  induction xs with
  | nil => intro st a; rfl
  | cons x xs ih =>
    intro st a
    have h12 := feedK_spec cons c d st a x
    simp only [runLoopK, runLoop]
    generalize feed c d st x = R at h12 ⊢
    generalize feedK cons c d st a x = RK at h12 ⊢
    obtain ⟨s1, o1, b1⟩ := R
    obtain ⟨s2, a2, b2⟩ := RK
    obtain ⟨h1, h2⟩ := h12
    dsimp only at h1 h2 ⊢
    rcases hc : consMany cons a o1 with ⟨a1, cb⟩
    simp only [hc, Prod.mk.injEq] at h1 h2
    obtain ⟨rfl, rfl⟩ := h1
    cases cb with
    | true => rfl
    | false =>
      obtain rfl := h2 rfl
      cases b1 with
      | true => rfl
      | false => exact ih s2 a2

theorem konstEvalK_eq (c : List Ad) (cons : Cons) (src : List Val) :
    konstEvalK c cons src = konstEval c cons src := by
  unfold konstEvalK konstEval
  simp only [runLoopK_eq]

end Konst.Iter.Lemmas
