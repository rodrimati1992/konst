import KonstVerif.Model.ArrayEval
import KonstVerif.Lemmas.ArrayMacros
/-
  The call-recording loop `mapLoopL` (C11, part 2) and what it gives for `mapLoop` itself (`mapLoop_values`, on
  which `arrayMap_value` / `arrayFromFn_value` of part 1 rest).
-/
namespace Konst.ArrayEval
open Konst.ArrayMacros
variable {α β : Type}

/-- when the loop bound is the real length of `out`, `mapLoopL` is `mapLoop` plus the record of the calls -/
theorem mapLoopL_res (len : Nat) (get : Nat → Option α) (c : Nat → α → Outcome β) :
    ∀ (fuel t i : Nat) (out : List (Option β)) (calls : List (Nat × α)), out.length = len →
      (mapLoopL len get c fuel t i out calls).res = mapLoop len get c fuel t i out := by
  intro fuel
  induction fuel with
  | zero => intro t i out calls _; simp [mapLoopL, mapLoop]
  | succ f ih =>
    intro t i out calls ho
    by_cases hil : i < len
    · simp only [mapLoopL, mapLoop, hil, if_true]
      cases hg : get i with
      | none => simp
      | some a =>
        simp only []
        cases hc : c t a with
        | value v =>
          have hio : i < out.length := by omega
          simp only [hio, if_true]
          exact ih (t + 1) (i + 1) (out.set i (some v)) _ (by simp [ho])
        | cont => exact ih (t + 1) i out _ ho
        | brk => simp
        | ret => simp
        | panic => simp
    · simp [mapLoopL, mapLoop, hil]

def fetched (get : Nat → Option α) (i k : Nat) : List (Nat × α) :=
  (List.range' i k).filterMap fun j => (get j).map fun a => (j, a)

theorem fetched_succ {get : Nat → Option α} {i k : Nat} {a : α} (h : get i = some a) :
    fetched get i (k + 1) = (i, a) :: fetched get (i + 1) k := by
  simp [fetched, List.range'_succ, h]

/-- over a list, the fetched elements are the calls std makes on that stretch -/
theorem fetched_eq_go (xs : List α) :
    ∀ (k i : Nat), i + k ≤ xs.length →
      fetched (fun j => xs[j]?) i k = stdCalls.go i ((xs.drop i).take k) := by
  intro k
  induction k with
  | zero => intro i _; simp [fetched, stdCalls.go]
  | succ k ih =>
    intro i h
    have hi : i < xs.length := by omega
    rw [fetched_succ (a := xs[i]) (by simp [hi]), List.drop_eq_getElem_cons hi, List.take_succ_cons,
      stdCalls.go, ih (i + 1) (by omega)]

theorem fetched_length (get : Nat → Option α) :
    ∀ (k i : Nat), (∀ j, j < i + k → (get j).isSome) → (fetched get i k).length = k := by
  intro k
  induction k with
  | zero => intro i _; rfl
  | succ k ih =>
    intro i h
    obtain ⟨a, hg⟩ := Option.isSome_iff_exists.mp (h i (by omega))
    rw [fetched_succ hg, List.length_cons, ih (i + 1) (fun j hj => h j (by omega))]

theorem fetched_getElem?_map (xs : List α) (f : α → β) :
    (fetched (fun j => xs[j]?) 0 xs.length).map (fun p => f p.2) = xs.map f := by
  have hgo : ∀ (l : List α) i, (stdCalls.go i l).map (fun p => f p.2) = l.map f := by
    intro l
    induction l with
    | nil => intro i; rfl
    | cons a r ih => intro i; rw [stdCalls.go, List.map_cons, ih, List.map_cons]
  rw [fetched_eq_go xs xs.length 0 (Nat.le_of_eq (Nat.zero_add _)), hgo, List.drop_zero, List.take_length]

/-- `k` iterations over indices that yield values and fit into `out`: one call each, in index order, each value
    written to its slot -/
theorem mapLoopL_steps (lenSeen n : Nat) (get : Nat → Option α) (f : α → β) (c : Nat → α → Outcome β)
    (hc : ∀ i a, i < lenSeen → get i = some a → c i a = .value (f a))
    (hget : ∀ j, j < lenSeen → (get j).isSome) :
    ∀ (k fuel : Nat) (done : List β) (calls : List (Nat × α)), done.length + k ≤ lenSeen → done.length + k ≤ n →
      mapLoopL lenSeen get c (fuel + k) done.length done.length (outOf n done) calls =
        mapLoopL lenSeen get c fuel (done.length + k) (done.length + k)
          (outOf n (done ++ (fetched get done.length k).map fun p => f p.2)) (calls ++ fetched get done.length k) := by
  intro k
  induction k with
  | zero => intro fuel done calls _ _; simp [fetched]
  | succ k ih =>
    intro fuel done calls hl hn
    obtain ⟨a, hg⟩ := Option.isSome_iff_exists.mp (hget done.length (by omega))
    have hio : done.length < (outOf n done).length := by rw [outOf_length (by omega)]; omega
    rw [← Nat.add_assoc, mapLoopL, if_pos (by omega), hg]
    simp only [hc _ a (by omega) hg, hio, if_true]
    rw [outOf_set (f a) (by omega)]
    have := ih fuel (done ++ [f a]) (calls ++ [(done.length, a)])
    simp only [List.length_append, List.length_cons, List.length_nil, Nat.zero_add] at this
    rw [this (by omega) (by omega), fetched_succ hg]
    simp [Nat.add_assoc, Nat.add_comm 1 k]

/-- all-values run with `lenSeen ≤ N`: the closure is called once for each of the indices `0 .. lenSeen-1`, in
    this order, with the element at that index; exactly those slots are written; the result is the array iff
    `lenSeen = N` and `assume_init` of an array with unwritten slots otherwise -/
theorem mapLoopL_value (lenSeen n : Nat) (get : Nat → Option α) (f : α → β) (c : Nat → α → Outcome β)
    (hc : ∀ i a, i < lenSeen → get i = some a → c i a = .value (f a))
    (hget : ∀ j, j < lenSeen → (get j).isSome) (hle : lenSeen ≤ n)
    (fuel : Nat) (hf : lenSeen < fuel) :
    mapLoopL lenSeen get c fuel 0 0 (List.replicate n none) [] =
      ⟨if lenSeen = n then .array ((fetched get 0 lenSeen).map fun p => f p.2) else .ub,
       outOf n ((fetched get 0 lenSeen).map fun p => f p.2), fetched get 0 lenSeen⟩ := by
  obtain ⟨fu, rfl⟩ : ∃ fu, fuel = fu + 1 + lenSeen := ⟨fuel - 1 - lenSeen, by omega⟩
  have h := mapLoopL_steps lenSeen n get f c hc hget lenSeen (fu + 1) [] [] (by simp) (by simpa using hle)
  simp only [List.length_nil, Nat.zero_add, outOf_nil, List.nil_append] at h
  have hl : ((fetched get 0 lenSeen).map fun p => f p.2).length = lenSeen := by
    rw [List.length_map, fetched_length get lenSeen 0 (by simpa using hget)]
  rw [h, mapLoopL, if_neg (Nat.lt_irrefl _), afterLoop, beq_self_eq_true, if_pos rfl, assumeInit_outOf (by omega), hl]

/-- the by-reference loop of C11 on a closure that yields `f` of the element at every index -/
theorem mapLoop_values (n : Nat) (get : Nat → Option α) (f : α → β) (c : Nat → α → Outcome β)
    (hc : ∀ i a, i < n → get i = some a → c i a = .value (f a)) (hget : ∀ j, j < n → (get j).isSome)
    (fuel : Nat) (hf : n < fuel) :
    mapLoop n get c fuel 0 0 (List.replicate n none) = .array ((fetched get 0 n).map fun p => f p.2) := by
  rw [← mapLoopL_res n get c fuel 0 0 _ [] List.length_replicate,
    mapLoopL_value n n get f c hc hget (Nat.le_refl n) fuel hf, if_pos rfl]

/-- `lenSeen > N` cannot produce an array either: after `N` calls the write `out[N]` is out of bounds; shown for
    all-value closures over a total `get` (`from_fn!`) -/
theorem mapLoopL_long_panic (lenSeen n : Nat) (f : Nat → β) (c : Nat → Nat → Outcome β)
    (hc : ∀ t a, c t a = .value (f a)) (hlt : n < lenSeen) (fuel : Nat) (hf : n < fuel) :
    (mapLoopL lenSeen (fun j => some j) c fuel 0 0 (List.replicate n none) []).res = .panic := by
  obtain ⟨fu, rfl⟩ : ∃ fu, fuel = fu + 1 + n := ⟨fuel - 1 - n, by omega⟩
  have h := mapLoopL_steps lenSeen n (fun j => some j) f c (fun i a _ _ => hc i a) (fun _ _ => rfl) n (fu + 1) [] [] (by simp; omega)
    (by simp)
  simp only [List.length_nil, Nat.zero_add, outOf_nil, List.nil_append] at h
  have hl : ((fetched (fun j => some j) 0 n).map fun p => f p.2).length = n := by
    rw [List.length_map, fetched_length _ n 0 (fun _ _ => rfl)]
  rw [h, mapLoopL, if_pos hlt]
  simp only [hc, outOf_length (Nat.le_of_eq hl), Nat.lt_irrefl, if_false]

end Konst.ArrayEval
