import KonstVerif.Lemmas.ArrayBuilder
import KonstVerif.Lemmas.ArrayConsumer
import KonstVerif.Spec.ArrayStd
/-
  Refinement of whole histories (C11 builder_history, C15 ledgers): the `ArrayBuilder` state machine
  refines the bounded vector, the `ArrayConsumer` state machine refines the deque.
-/
namespace Konst.Histories
open Konst.ArrayBuilder (mapFrom mapFrom_id)
open Konst.Spec.ArrayStd
variable {α : Type}

/-! ### `Clone::clone`, with an element `Clone` that may panic; the plain clone is the case without a panic -/

theorem cup_past (fresh : Nat → α → α) (j : Nat) (l : List α) :
    ∀ i, j < i → clonesUntilPanic (ArrayBuilder.panicAt fresh j) i l = (mapFrom fresh i l, false) := by
  induction l with
  | nil => intro i _; rfl
  | cons x r ih =>
    intro i hi
    have hne : i ≠ j := by omega
    simp [clonesUntilPanic, ArrayBuilder.panicAt, hne, ih (i + 1) (by omega), mapFrom]

theorem cup_upto (fresh : Nat → α → α) (j : Nat) (l : List α) :
    ∀ i, i ≤ j → clonesUntilPanic (ArrayBuilder.panicAt fresh j) i l =
      if j - i < l.length then (mapFrom fresh i (l.take (j - i)), true) else (mapFrom fresh i l, false) := by
  induction l with
  | nil => intro i _; rfl
  | cons x r ih =>
    intro i hi
    by_cases he : i = j
    · subst he
      simp [clonesUntilPanic, ArrayBuilder.panicAt, mapFrom]
    · have hlt : i + 1 ≤ j := by omega
      have hsub : j - i = (j - (i + 1)) + 1 := by omega
      simp only [clonesUntilPanic, ArrayBuilder.panicAt, he, if_false, ih (i + 1) hlt, List.length_cons]
      by_cases hj : j - (i + 1) < r.length
      · have : j - i < r.length + 1 := by omega
        simp [hj, hsub, mapFrom]
      · have : ¬ (j - i < r.length + 1) := by omega
        simp [hj, this, mapFrom]

/-- the independent reference of the histories is what the call-by-call description gives for an
    element `Clone` panicking on its `j`-th call -/
theorem cup_panicAt (fresh : Nat → α → α) (j : Nat) (l : List α) :
    clonesUntilPanic (ArrayBuilder.panicAt fresh j) 0 l = refClonePanic fresh j l := by
  rw [cup_upto fresh j l 0 (Nat.zero_le _)]
  simp [refClonePanic]

theorem cup_length (fresh : Nat → α → Option α) (l : List α) :
    ∀ i, (clonesUntilPanic fresh i l).2 = false → (clonesUntilPanic fresh i l).1.length = l.length := by
  induction l with
  | nil => intro i _; rfl
  | cons x r ih =>
    intro i h
    cases hf : fresh i x with
    | none => simp [clonesUntilPanic, hf] at h
    | some v =>
      simp only [clonesUntilPanic, hf] at h ⊢
      simp [ih (i + 1) h]

theorem cup_total (fresh : Nat → α → α) (l : List α) :
    ∀ i, clonesUntilPanic (fun i x => some (fresh i x)) i l = (mapFrom fresh i l, false) := by
  induction l with
  | nil => intro i; rfl
  | cons x r ih => intro i; simp [clonesUntilPanic, mapFrom, ih]

theorem bld_cloneLoopP (fresh : Nat → α → Option α) (l : List α) :
    ∀ (i : Nat) (this : ArrayBuilder.Builder α) (done : List α), ArrayBuilder.Wf this done →
      done.length + l.length ≤ this.n →
      ((clonesUntilPanic fresh i l).2 = true →
        ArrayBuilder.cloneLoopP fresh l i this = .panicked (done ++ (clonesUntilPanic fresh i l).1)) ∧
      ((clonesUntilPanic fresh i l).2 = false →
        ∃ c, ArrayBuilder.cloneLoopP fresh l i this = .done c ∧
          ArrayBuilder.Wf c (done ++ (clonesUntilPanic fresh i l).1) ∧ c.n = this.n) := by
  induction l with
  | nil =>
    intro i this done h _
    exact ⟨by simp [clonesUntilPanic], fun _ => ⟨this, rfl, by simpa [clonesUntilPanic] using h, rfl⟩⟩
  | cons x r ih =>
    intro i this done h hlen
    simp only [List.length_cons] at hlen
    cases hf : fresh i x with
    | none =>
      simp [clonesUntilPanic, ArrayBuilder.cloneLoopP, hf, ArrayBuilder.wf_dropped h]
    | some v =>
      obtain ⟨b', hp, hw, hn⟩ := ArrayBuilder.wf_push_ok h v (by omega)
      obtain ⟨g1, g2⟩ := ih (i + 1) b' (done ++ [v]) hw (by simp; omega)
      simp only [clonesUntilPanic, hf, ArrayBuilder.cloneLoopP, hp]
      refine ⟨fun hp' => by simpa using g1 hp', fun hp' => ?_⟩
      obtain ⟨c, hc, hwc, hcn⟩ := g2 hp'
      exact ⟨c, hc, by simpa using hwc, by omega⟩

theorem bld_cloneP (fresh : Nat → α → Option α) {b : ArrayBuilder.Builder α} {acc : List α}
    (h : ArrayBuilder.Wf b acc) :
    ((clonesUntilPanic fresh 0 acc).2 = true →
      ArrayBuilder.cloneP fresh b = .panicked (clonesUntilPanic fresh 0 acc).1) ∧
    ((clonesUntilPanic fresh 0 acc).2 = false →
      ∃ c, ArrayBuilder.cloneP fresh b = .done c ∧ ArrayBuilder.Wf c (clonesUntilPanic fresh 0 acc).1 ∧
        c.n = b.n) := by
  have := bld_cloneLoopP fresh acc 0 (ArrayBuilder.new b.n) [] (ArrayBuilder.wf_new b.n)
    (by simpa [ArrayBuilder.new] using h.1)
  simpa [ArrayBuilder.cloneP, ArrayBuilder.wf_asSlice h, ArrayBuilder.new] using this

/-- the invariant of `ArrayConsumer::clone`: the clone starts with `taken_back = N` and gives one slot back per copy
    written, so at any moment it owns exactly the copies made so far (`done`) and a panicking `T::clone` drops
    exactly those -/
theorem cons_cloneLoopP (fresh : Nat → α → Option α) (l : List α) :
    ∀ (this : ArrayConsumer.Consumer α) (done : List α), ArrayConsumer.Wf this done → this.takenFront = 0 →
      l.length ≤ this.takenBack →
      ((clonesUntilPanic fresh done.length l).2 = true →
        ArrayConsumer.cloneLoopP fresh l done.length this =
          .panicked (done ++ (clonesUntilPanic fresh done.length l).1)) ∧
      ((clonesUntilPanic fresh done.length l).2 = false →
        ∃ c, ArrayConsumer.cloneLoopP fresh l done.length this = .done c ∧
          ArrayConsumer.Wf c (done ++ (clonesUntilPanic fresh done.length l).1) ∧ c.n = this.n) := by
  induction l with
  | nil =>
    intro this done h _ _
    exact ⟨by simp [clonesUntilPanic], fun _ => ⟨this, rfl, by simpa [clonesUntilPanic] using h, rfl⟩⟩
  | cons x r ih =>
    intro this done h h0 hb
    simp only [List.length_cons] at hb
    cases hf : fresh done.length x with
    | none => simp [clonesUntilPanic, ArrayConsumer.cloneLoopP, hf, ArrayConsumer.wf_dropped h]
    | some v =>
      obtain ⟨g1, g2⟩ := ih _ (done ++ [v]) (ArrayConsumer.wf_cloneStep h h0 (by omega) v) h0
        (Nat.le_sub_one_of_lt hb)
      simp only [List.length_append, List.length_cons, List.length_nil, Nat.zero_add] at g1 g2
      simp only [clonesUntilPanic, hf, ArrayConsumer.cloneLoopP]
      refine ⟨fun hp' => by simpa using g1 hp', fun hp' => ?_⟩
      obtain ⟨c, hc, hwc, hcn⟩ := g2 hp'
      exact ⟨c, hc, by simpa using hwc, hcn⟩

theorem cons_cloneP (fresh : Nat → α → Option α) {c : ArrayConsumer.Consumer α} {rem : List α}
    (h : ArrayConsumer.Wf c rem) :
    ((clonesUntilPanic fresh 0 rem).2 = true →
      ArrayConsumer.cloneP fresh c = .panicked (clonesUntilPanic fresh 0 rem).1) ∧
    ((clonesUntilPanic fresh 0 rem).2 = false →
      ∃ c', ArrayConsumer.cloneP fresh c = .done c' ∧
        ArrayConsumer.Wf c' (clonesUntilPanic fresh 0 rem).1 ∧ c'.n = c.n) := by
  have hle : rem.length ≤ c.n := by
    obtain ⟨pre, post, _, _, _, hn⟩ := h
    omega
  have := cons_cloneLoopP fresh rem ⟨c.n, List.replicate c.n none, 0, c.n⟩ []
    ⟨[], List.replicate c.n none, by simp, rfl, by simp, by simp⟩ rfl hle
  simpa [ArrayConsumer.cloneP, ArrayConsumer.wf_asSlice h] using this

theorem cons_cloneP_total (fresh : Nat → α → α) (c : ArrayConsumer.Consumer α) :
    ArrayConsumer.cloneP (fun i x => some (fresh i x)) c =
      (match ArrayConsumer.clone fresh c with | some c' => .done c' | none => .ub) := by
  have hloop : ∀ (l : List α) (i : Nat) (this : ArrayConsumer.Consumer α),
      ArrayConsumer.cloneLoopP (fun i x => some (fresh i x)) l i this =
        .done (ArrayConsumer.cloneLoop fresh l i this) := by
    intro l
    induction l with
    | nil => intro i this; rfl
    | cons x r ih => intro i this; simp [ArrayConsumer.cloneLoopP, ArrayConsumer.cloneLoop, ih]
  unfold ArrayConsumer.cloneP ArrayConsumer.clone
  cases ArrayConsumer.asSlice c with
  | none => rfl
  | some l => simp [hloop]

theorem _root_.Konst.ArrayConsumer.wf_clone (fresh : Nat → α → α) {c : ArrayConsumer.Consumer α} {rem : List α}
    (h : ArrayConsumer.Wf c rem) :
    ∃ c', ArrayConsumer.clone fresh c = some c' ∧ ArrayConsumer.Wf c' (mapFrom fresh 0 rem) ∧ c'.n = c.n := by
  obtain ⟨c', hc, hw, hn⟩ := (cons_cloneP (fun i x => some (fresh i x)) h).2 (by rw [cup_total])
  rw [cup_total] at hw
  rw [cons_cloneP_total] at hc
  cases hcl : ArrayConsumer.clone fresh c with
  | none => simp [hcl] at hc
  | some c'' =>
    rw [hcl] at hc
    cases hc
    exact ⟨c', rfl, hw, hn⟩

/-! ### a builder history refines the same history on the bounded vector -/

theorem bld_step (fresh : Nat → α → α) {b : ArrayBuilder.Builder α} {acc : List α} (k : Nat)
    (h : ArrayBuilder.Wf b acc) (op : ArrayBuilder.Op α) :
    ArrayBuilder.Wf (ArrayBuilder.step fresh (b, k) op).1.1 (bvStep fresh b.n (acc, k) op).1.1 ∧
    (ArrayBuilder.step fresh (b, k) op).1.1.n = b.n ∧
    (ArrayBuilder.step fresh (b, k) op).1.2 = (bvStep fresh b.n (acc, k) op).1.2 ∧
    (ArrayBuilder.step fresh (b, k) op).2 = (bvStep fresh b.n (acc, k) op).2 := by
  cases op with
  | push v =>
    by_cases hlt : acc.length < b.n
    · obtain ⟨b', hp, hw, hn⟩ := ArrayBuilder.wf_push_ok h v hlt
      simp [ArrayBuilder.step, bvStep, bvPush, hp, hlt, hw, hn]
    · have hfull : acc.length = b.n := by have := h.1; omega
      simp [ArrayBuilder.step, bvStep, bvPush, ArrayBuilder.wf_push_full h v hfull, hlt, h]
  | clone =>
    obtain ⟨c, hc, hw, hn⟩ := ArrayBuilder.wf_clone (fun i => fresh (k + i)) h
    simp [ArrayBuilder.step, bvStep, hc, ArrayBuilder.wf_dropped h, hw, hn, h.2.1]
  | cloneDrop =>
    obtain ⟨c, hc, hw, hn⟩ := ArrayBuilder.wf_clone (fun i => fresh (k + i)) h
    simp [ArrayBuilder.step, bvStep, hc, ArrayBuilder.wf_dropped hw, h, h.2.1]
  | clonePanic j =>
    have hcp := cup_panicAt (fun i => fresh (k + i)) j acc
    obtain ⟨g1, g2⟩ := bld_cloneP (ArrayBuilder.panicAt (fun i => fresh (k + i)) j) h
    rw [hcp] at g1 g2
    by_cases hj : j < acc.length
    · have hp := g1 (by simp [refClonePanic, hj])
      simp only [refClonePanic, hj, if_true] at hp
      simp [ArrayBuilder.step, bvStep, hp, refClonePanic, hj, h]
    · obtain ⟨c, hc, hw, hn⟩ := g2 (by simp [refClonePanic, hj])
      simp only [refClonePanic, hj, if_false] at hw
      simp [ArrayBuilder.step, bvStep, hc, ArrayBuilder.wf_dropped hw, refClonePanic, hj, h, h.2.1]
  | cloneFrom vs =>
    obtain ⟨t1, t2, t3⟩ := ArrayBuilder.wf_pushAll_new (α := α) b.n vs
    obtain ⟨c, hc, hw, hn⟩ := ArrayBuilder.wf_cloneFrom (fun i => fresh (k + vs.length + i)) h t1
    simp [ArrayBuilder.step, bvStep, bvAccepted, hc, ArrayBuilder.wf_dropped t1, hw, hn, t2, t3, t1.2.1]
  | cloneInto vs =>
    obtain ⟨t1, t2, t3⟩ := ArrayBuilder.wf_pushAll_new (α := α) b.n vs
    obtain ⟨c, hc, hw, hn⟩ := ArrayBuilder.wf_cloneFrom (fun i => fresh (k + vs.length + i)) t1 h
    simp [ArrayBuilder.step, bvStep, bvAccepted, hc, ArrayBuilder.wf_dropped h, hw, hn, t2, h.2.1]

theorem bld_run (fresh : Nat → α → α) (ops : List (ArrayBuilder.Op α)) :
    ∀ (b : ArrayBuilder.Builder α) (acc : List α) (k : Nat), ArrayBuilder.Wf b acc →
      ArrayBuilder.Wf (ArrayBuilder.run fresh (b, k) ops).1.1 (bvRun fresh b.n (acc, k) ops).1.1 ∧
      (ArrayBuilder.run fresh (b, k) ops).1.1.n = b.n ∧
      (ArrayBuilder.run fresh (b, k) ops).1.2 = (bvRun fresh b.n (acc, k) ops).1.2 ∧
      (ArrayBuilder.run fresh (b, k) ops).2 = (bvRun fresh b.n (acc, k) ops).2 := by
  induction ops with
  | nil => intro b acc k h; exact ⟨h, rfl, rfl, rfl⟩
  | cons op r ih =>
    intro b acc k h
    obtain ⟨h1, h2, h3, h4⟩ := bld_step fresh k h op
    have e : (ArrayBuilder.step fresh (b, k) op).1 =
        ((ArrayBuilder.step fresh (b, k) op).1.1, (bvStep fresh b.n (acc, k) op).1.2) := Prod.ext rfl h3
    obtain ⟨g1, g2, g3, g4⟩ := ih _ _ (bvStep fresh b.n (acc, k) op).1.2 h1
    rw [h2] at g1 g2 g3 g4
    simp only [ArrayBuilder.run, bvRun]
    rw [e, h4, g4]
    exact ⟨g1, g2, g3, rfl⟩

/-- the pushes that end up in the final builder either extend the initial ones, or (after a
    `clone_from` from a second builder) do not depend on them -/
theorem pushesFrom_cases (ops : List (ArrayBuilder.Op α)) :
    (∀ a, pushesFrom a ops = a ++ pushesFrom [] ops) ∨ (∀ a, pushesFrom a ops = pushesFrom [] ops) := by
  induction ops with
  | nil => left; intro a; simp [pushesFrom]
  | cons op r ih =>
    cases op with
    | push v =>
      rcases ih with ih | ih
      · left; intro a
        simp only [pushesFrom, List.nil_append]
        rw [ih (a ++ [v]), ih [v]]; simp
      · right; intro a
        simp only [pushesFrom, List.nil_append]
        rw [ih (a ++ [v]), ih [v]]
    | cloneFrom vs => right; intro a; simp [pushesFrom]
    | clone => simpa only [pushesFrom] using ih
    | cloneDrop => simpa only [pushesFrom] using ih
    | clonePanic j => simpa only [pushesFrom] using ih
    | cloneInto vs => simpa only [pushesFrom] using ih

/-- with value-preserving clones the bounded vector holds the first `n` of the pushes that reach it -/
theorem bvRun_values (n : Nat) (ops : List (ArrayBuilder.Op α)) :
    ∀ (acc : List α) (k : Nat), acc.length ≤ n →
      (bvRun (fun _ x => x) n (acc, k) ops).1.1 = (pushesFrom acc ops).take n := by
  induction ops with
  | nil => intro acc k h; simp [bvRun, pushesFrom, List.take_of_length_le h]
  | cons op r ih =>
    intro acc k h
    cases op with
    | push v =>
      by_cases hlt : acc.length < n
      · simp only [bvRun, bvStep, bvPush, hlt, if_true, pushesFrom]
        rw [ih (acc ++ [v]) (k + 1) (by simp; omega)]
      · have : acc.length = n := by omega
        simp only [bvRun, bvStep, bvPush, hlt, if_false, pushesFrom]
        rw [ih acc (k + 1) h]
        rcases pushesFrom_cases r with hc | hc
        · rw [hc acc, hc (acc ++ [v]), List.append_assoc,
            List.take_append_of_le_length (by omega), List.take_append_of_le_length (by omega)]
        · rw [hc acc, hc (acc ++ [v])]
    | clone =>
      simp only [bvRun, bvStep, pushesFrom, mapFrom_id]
      exact ih acc _ h
    | cloneDrop =>
      simp only [bvRun, bvStep, pushesFrom]
      exact ih acc _ h
    | clonePanic j =>
      simp only [bvRun, bvStep, pushesFrom]
      exact ih acc _ h
    | cloneFrom vs =>
      simp only [bvRun, bvStep, pushesFrom, mapFrom_id, bvAccepted]
      rw [ih (vs.take n) _ (by simp; omega)]
      rcases pushesFrom_cases r with hc | hc
      · rw [hc (vs.take n), hc vs]
        by_cases hl : vs.length ≤ n
        · rw [List.take_of_length_le hl]
        · rw [List.take_append_of_le_length (by simp; omega), List.take_take, Nat.min_self,
            List.take_append_of_le_length (by omega)]
      · rw [hc (vs.take n), hc vs]
    | cloneInto vs =>
      simp only [bvRun, bvStep, pushesFrom, mapFrom_id]
      exact ih acc _ h

/-! ### a consumer history refines the same history on the deque -/

theorem cons_step (fresh : Nat → α → α) {c : ArrayConsumer.Consumer α} {rem : List α} (k : Nat)
    (h : ArrayConsumer.Wf c rem) (op : ArrayConsumer.Op) :
    ArrayConsumer.Wf (ArrayConsumer.step fresh (c, k) op).1.1 (dqStep fresh (rem, k) op).1.1 ∧
    (ArrayConsumer.step fresh (c, k) op).1.2 = (dqStep fresh (rem, k) op).1.2 ∧
    (ArrayConsumer.step fresh (c, k) op).2 = (dqStep fresh (rem, k) op).2 := by
  cases op with
  | next =>
    cases rem with
    | nil => simp [ArrayConsumer.step, dqStep, dqNext, ArrayConsumer.wf_next_nil h, h]
    | cons x r =>
      obtain ⟨hn, hw⟩ := ArrayConsumer.wf_next_cons h
      simp [ArrayConsumer.step, dqStep, dqNext, hn, hw]
  | nextBack =>
    rcases List.eq_nil_or_concat rem with rfl | ⟨r, x, rfl⟩
    · simp [ArrayConsumer.step, dqStep, dqNextBack, ArrayConsumer.wf_nextBack_nil h, h]
    · have h' : ArrayConsumer.Wf c (r ++ [x]) := by simpa using h
      obtain ⟨hn, hw⟩ := ArrayConsumer.wf_nextBack_snoc h'
      simp [ArrayConsumer.step, dqStep, dqNextBack, hn, hw]
  | clone =>
    obtain ⟨c', hc, hw, _⟩ := ArrayConsumer.wf_clone (fun i => fresh (k + i)) h
    simp [ArrayConsumer.step, dqStep, hc, ArrayConsumer.wf_dropped h, hw, ArrayConsumer.wf_sliceLen h]
  | cloneDrop =>
    obtain ⟨c', hc, hw, _⟩ := ArrayConsumer.wf_clone (fun i => fresh (k + i)) h
    simp [ArrayConsumer.step, dqStep, hc, ArrayConsumer.wf_dropped hw, h, ArrayConsumer.wf_sliceLen h]
  | clonePanic j =>
    have hcp := cup_panicAt (fun i => fresh (k + i)) j rem
    obtain ⟨g1, g2⟩ := cons_cloneP (ArrayBuilder.panicAt (fun i => fresh (k + i)) j) h
    rw [hcp] at g1 g2
    by_cases hj : j < rem.length
    · have hp := g1 (by simp [refClonePanic, hj])
      simp only [refClonePanic, hj, if_true] at hp
      simp [ArrayConsumer.step, dqStep, hp, refClonePanic, hj, h]
    · obtain ⟨c', hc, hw, hn⟩ := g2 (by simp [refClonePanic, hj])
      simp only [refClonePanic, hj, if_false] at hw
      simp [ArrayConsumer.step, dqStep, hc, ArrayConsumer.wf_dropped hw, refClonePanic, hj, h,
        ArrayConsumer.wf_sliceLen h]

theorem cons_run (fresh : Nat → α → α) (ops : List ArrayConsumer.Op) :
    ∀ (c : ArrayConsumer.Consumer α) (rem : List α) (k : Nat), ArrayConsumer.Wf c rem →
      ArrayConsumer.Wf (ArrayConsumer.run fresh (c, k) ops).1.1 (dqRun fresh (rem, k) ops).1.1 ∧
      (ArrayConsumer.run fresh (c, k) ops).1.2 = (dqRun fresh (rem, k) ops).1.2 ∧
      (ArrayConsumer.run fresh (c, k) ops).2 = (dqRun fresh (rem, k) ops).2 := by
  induction ops with
  | nil => intro c rem k h; exact ⟨h, rfl, rfl⟩
  | cons op r ih =>
    intro c rem k h
    obtain ⟨h1, h3, h4⟩ := cons_step fresh k h op
    have e : (ArrayConsumer.step fresh (c, k) op).1 =
        ((ArrayConsumer.step fresh (c, k) op).1.1, (dqStep fresh (rem, k) op).1.2) := Prod.ext rfl h3
    obtain ⟨g1, g3, g4⟩ := ih _ _ (dqStep fresh (rem, k) op).1.2 h1
    simp only [ArrayConsumer.run, dqRun]
    rw [e, h4, g4]
    exact ⟨g1, g3, rfl⟩

theorem cons_finish {c : ArrayConsumer.Consumer α} {rem : List α} (h : ArrayConsumer.Wf c rem)
    (e : ArrayConsumer.End) : ArrayConsumer.finish c e = some (dqFinish rem e) := by
  cases e with
  | drop => simp [ArrayConsumer.finish, dqFinish, ArrayConsumer.wf_dropped h]
  | forget => simp [ArrayConsumer.finish, dqFinish, ArrayConsumer.wf_asSlice h]
  | assertEmpty =>
    cases rem with
    | nil => simp [ArrayConsumer.finish, dqFinish, ArrayConsumer.isEmpty, ArrayConsumer.wf_sliceLen h]
    | cons x r =>
      simp [ArrayConsumer.finish, dqFinish, ArrayConsumer.isEmpty, ArrayConsumer.wf_sliceLen h,
        ArrayConsumer.wf_dropped h]

/-- clone-free deque history: what was handed out from the front, what is left, and what was handed
    out from the back partition the initial content in order -/
theorem dq_ledger (fresh : Nat → α → α) (ops : List ArrayConsumer.Op)
    (hops : ∀ op ∈ ops, op = .next ∨ op = .nextBack) :
    ∀ (rem : List α) (k : Nat),
      fronts (dqRun fresh (rem, k) ops).2 ++ (dqRun fresh (rem, k) ops).1.1 ++
        (backs (dqRun fresh (rem, k) ops).2).reverse = rem := by
  induction ops with
  | nil => intro rem k; simp [dqRun, fronts, backs]
  | cons op r ih =>
    intro rem k
    have hr : ∀ op ∈ r, op = .next ∨ op = .nextBack := fun o ho => hops o (List.mem_cons_of_mem _ ho)
    rcases hops op List.mem_cons_self with rfl | rfl
    · cases rem with
      | nil =>
        simp only [dqRun, dqStep, dqNext, fronts, backs]
        exact ih hr [] k
      | cons x rest =>
        simp only [dqRun, dqStep, dqNext, fronts, backs]
        have := ih hr rest k
        simp only [List.cons_append, this]
    · rcases List.eq_nil_or_concat rem with rfl | ⟨rest, x, rfl⟩
      · simp only [dqRun, dqStep, dqNextBack, List.getLast?_nil, fronts, backs]
        exact ih hr [] k
      · simp only [List.concat_eq_append, dqRun, dqStep, dqNextBack, List.getLast?_append, List.getLast?_singleton,
          Option.some_or, List.dropLast_concat, fronts, backs, List.reverse_cons]
        have := ih hr rest k
        rw [← List.append_assoc, this]

end Konst.Histories
