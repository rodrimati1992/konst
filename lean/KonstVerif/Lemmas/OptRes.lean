import KonstVerif.Model.OptRes
import KonstVerif.Spec.OptRes
/-
  Helper lemmas for C19: the tuple walker of `try_rebind!`/`rebind_if_ok!`.
-/
namespace Konst.Lemmas.OptRes
open Konst Konst.OptRes

/-- the statements one expects for patterns `pats` whose head sits at tuple index `i`:
    per pattern (an optional `let _: ty = var;` for a typed place, then) `lhs = var.i` -/
def expectedStmts (i : Nat) : List PatKind → List Stmt
  | [] => []
  | p :: rem =>
    (if p = .typedPlace then [Stmt.assertTy i] else []) ++
      Stmt.assign ⟨i, p⟩ (.field (.idx i)) :: expectedStmts (i + 1) rem

theorem expectedStmts_cons (i : Nat) (p : PatKind) (rem : List PatKind) :
    expectedStmts i (p :: rem) =
      (if p = .typedPlace then [Stmt.assertTy i] else []) ++
        Stmt.assign ⟨i, p⟩ (.field (.idx i)) :: expectedStmts (i + 1) rem := rfl

/-- the walker on a pattern that is not the last: arm 3 of `__priv_next_ai_access`, whatever the field token -/
theorem assignTuple_cons_cons (f : Tok) (fs : List Tok) (pos : Nat) (p q : PatKind) (rem : List PatKind) :
    assignTuple (f :: fs) pos (p :: q :: rem) =
      (assignTuple fs (pos + 1) (q :: rem)).map fun rest =>
        (if p = .typedPlace then [Stmt.assertTy pos] else []) ++ .assign ⟨pos, p⟩ (.field f) :: rest := by
  rcases f with (_ | _) | _ | _ <;> rfl

def fieldsFrom (i m : Nat) : List Tok := (List.range' i m).map Tok.idx

theorem fieldsFrom_succ (i m : Nat) : fieldsFrom i (m + 1) = Tok.idx i :: fieldsFrom (i + 1) m := rfl

/-- started at a tuple index other than 0, the walker emits one field assignment per pattern, in order, as
    long as field tokens are left -/
theorem assignTuple_fieldsFrom_succ (pats : List PatKind) (i m : Nat) (hne : pats ≠ []) (h : pats.length ≤ m) :
    assignTuple (fieldsFrom (i + 1) m) (i + 1) pats = some (expectedStmts (i + 1) pats) := by
  induction pats generalizing i m with
  | nil => exact absurd rfl hne
  | cons p rem ih =>
    cases m with
    | zero => exact absurd h (Nat.not_succ_le_zero _)
    | succ m =>
      cases rem with
      | nil => rfl
      | cons q rem =>
        rw [fieldsFrom_succ, assignTuple_cons_cons,
          ih (i + 1) m (List.cons_ne_nil _ _) (Nat.le_of_succ_le_succ h)]
        rfl

/-- more patterns than field tokens: no macro arm matches -/
theorem assignTuple_too_many (pats : List PatKind) (fields : List Tok) (i : Nat)
    (h : fields.length < pats.length) : assignTuple fields i pats = none := by
  induction pats generalizing fields i with
  | nil => cases h
  | cons p rem ih =>
    cases fields with
    | nil => cases rem <;> rfl
    | cons f fs =>
      cases rem with
      | nil => exact absurd h (Nat.not_lt.2 (Nat.succ_le_succ (Nat.zero_le _)))
      | cons q rem =>
        rw [assignTuple_cons_cons, ih fs (i + 1) (Nat.lt_of_succ_lt_succ h)]
        rfl

/-- every expected statement type-checks against an `n`-tuple that has a component for each pattern
    (typed places: if their annotation is right) -/
theorem expectedStmts_ok (n : Nat) (annot : Bool) (pats : List PatKind) (i : Nat) (hn : 2 ≤ n)
    (hlen : i + pats.length ≤ n) (hty : PatKind.typedPlace ∉ pats ∨ annot = true) :
    (expectedStmts i pats).all (stmtOk n annot) = true := by
  induction pats generalizing i with
  | nil => rfl
  | cons p rem ih =>
    have hi : i < n := Nat.lt_of_lt_of_le (Nat.lt_add_of_pos_right (Nat.succ_pos _)) hlen
    have hrec := ih (i + 1) (Nat.le_trans (Nat.le_of_eq (Nat.add_right_comm i 1 rem.length)) hlen)
      (hty.imp_left fun h hm => h (List.mem_cons_of_mem _ hm))
    have hpre : (if p = .typedPlace then [Stmt.assertTy i] else []).all (stmtOk n annot) = true := by
      split
      · next hp =>
        have : annot = true := hty.resolve_left fun h => h (hp ▸ List.mem_cons_self ..)
        simp [stmtOk, this]
      · rfl
    rw [expectedStmts_cons, List.all_append, List.all_cons, hrec, hpre]
    simp [stmtOk, hn, hi]

theorem exec_append_assert (vs : List Int) (b : Prop) [Decidable b] (i : Nat) (rest : List Stmt) :
    exec vs ((if b then [Stmt.assertTy i] else []) ++ rest) = exec vs rest := by
  split <;> rfl

theorem exec_expectedStmts (vs : List Int) (pats : List PatKind) (i : Nat) (hn : 2 ≤ vs.length)
    (hlen : i + pats.length ≤ vs.length) :
    exec vs (expectedStmts i pats) =
      some ((pats.zipIdx i).map fun (p, j) => ((⟨j, p⟩ : Lhs), Val.scalar (vs.getD j 0))) := by
  induction pats generalizing i with
  | nil => rfl
  | cons p rem ih =>
    have hi : i < vs.length := Nat.lt_of_lt_of_le (Nat.lt_add_of_pos_right (Nat.succ_pos _)) hlen
    have hrhs : evalRhs vs (.field (.idx i)) = some (Val.scalar (vs.getD i 0)) := by
      rw [evalRhs, if_pos hn, List.getD_eq_getElem?_getD, List.getElem?_eq_getElem hi]
      rfl
    rw [expectedStmts_cons, exec_append_assert, exec, hrhs,
      ih (i + 1) (Nat.le_trans (Nat.le_of_eq (Nat.add_right_comm i 1 rem.length)) hlen)]
    rfl

def targets (pats : List PatKind) : List Lhs := pats.zipIdx.map fun (p, j) => ⟨j, p⟩

theorem zip_targets (vs : List Int) (pats : List PatKind) (i : Nat) (hlen : i + pats.length = vs.length) :
    ((pats.zipIdx i).map fun (p, j) => ((⟨j, p⟩ : Lhs))).zip ((vs.drop i).map Val.scalar) =
      (pats.zipIdx i).map fun (p, j) => ((⟨j, p⟩ : Lhs), Val.scalar (vs.getD j 0)) := by
  induction pats generalizing i with
  | nil => rfl
  | cons p rem ih =>
    have hi : i < vs.length := hlen ▸ Nat.lt_add_of_pos_right (Nat.succ_pos _)
    have hget : vs.getD i 0 = vs[i] := by
      rw [List.getD_eq_getElem?_getD, List.getElem?_eq_getElem hi]
      rfl
    rw [List.drop_eq_getElem_cons hi, ← hget]
    exact congrArg (_ :: ·) (ih (i + 1) ((Nat.add_right_comm i 1 rem.length).trans hlen))

theorem destructure_targets (vs : List Int) (p q : PatKind) (rem : List PatKind)
    (hlen : vs.length = (p :: q :: rem).length) :
    Spec.OptRes.destructure payloadVal Val.scalar (targets (p :: q :: rem)) vs =
      (p :: q :: rem).zipIdx.map fun (p, j) => ((⟨j, p⟩ : Lhs), Val.scalar (vs.getD j 0)) :=
  zip_targets vs (p :: q :: rem) 0 ((Nat.zero_add _).trans hlen.symm)

theorem assignOrder_expectedStmts (pats : List PatKind) (i : Nat) :
    assignOrder (expectedStmts i pats) = List.range' i pats.length := by
  induction pats generalizing i with
  | nil => rfl
  | cons p rem ih =>
    rw [expectedStmts_cons, List.length_cons, List.range'_succ, ← ih (i + 1)]
    split <;> rfl

theorem runWrites_zip {σ : Type} (write : σ → Lhs → Val → σ) (ts : List Lhs) (s : σ) (vs : List Int) :
    runWrites write s (ts.zip (vs.map Val.scalar)) =
      Spec.OptRes.assignInOrder write Val.scalar s ts vs := by
  induction ts generalizing s vs with
  | nil => rfl
  | cons t ts ih =>
    cases vs with
    | nil => rfl
    | cons v vs => exact ih (write s t (Val.scalar v)) vs

theorem runWrites_destructure {σ : Type} (write : σ → Lhs → Val → σ) (s : σ) (ts : List Lhs)
    (vs : List Int) :
    runWrites write s (Spec.OptRes.destructure payloadVal Val.scalar ts vs) =
      Spec.OptRes.assignSeq write payloadVal Val.scalar s ts vs := by
  match ts with
  | [] => rfl
  | [t] => rfl
  | t :: t' :: rest => exact runWrites_zip write (t :: t' :: rest) s vs

end Konst.Lemmas.OptRes
