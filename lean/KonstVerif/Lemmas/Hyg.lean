import KonstVerif.Model.ArrayEval
/-
  What `Hyg.transparent` / `ArrayEval.transparentD` test, for an arbitrary skeleton: three name lists of the
  skeleton — the declarations in scope at the holes of the fragment, its identifier patterns, its free generic
  arguments. For a concrete expansion these lists are closed terms; its reserved names are read off them.
-/
namespace Konst.Concat.Hyg

mutual
/-- every hole of the skeleton, with the expansion-declared names in scope there (`holes` for all fragments at once) -/
def scopes (env : List (Ns × String)) : Sk → List (String × List (Ns × String))
  | .block body => scopesL (body.flatMap decl ++ env) body
  | .item _ _ gens inner => scopesL (gens ++ env) inner
  | .bind _ => []
  | .hole f => [(f, env)]
  | .garg _ => []
def scopesL (env : List (Ns × String)) : List Sk → List (String × List (Ns × String))
  | [] => []
  | s :: r => scopes env s ++ scopesL env r
end

mutual
theorem holes_eq_scopes (frag : String) (env : List (Ns × String)) :
    ∀ sk, holes frag env sk = ((scopes env sk).filter (·.1 = frag)).map (·.2)
  | .block body => by rw [holes, scopes, holesL_eq_scopesL]
  | .item _ _ gens inner => by rw [holes, scopes, holesL_eq_scopesL]
  | .bind _ => rfl
  | .hole f => by
    rw [holes, scopes]
    by_cases h : f = frag <;> simp [h]
  | .garg _ => rfl
theorem holesL_eq_scopesL (frag : String) (env : List (Ns × String)) :
    ∀ l, holesL frag env l = ((scopesL env l).filter (·.1 = frag)).map (·.2)
  | [] => rfl
  | s :: r => by
    rw [holesL, scopesL, List.filter_append, List.map_append, holes_eq_scopes, holesL_eq_scopesL]
end

theorem holes_flatten_of_scopes (sk : Sk) (h : ∀ p ∈ scopes [] sk, p.2 = []) (frag : String) :
    (holes frag [] sk).flatten = [] := by
  rw [holes_eq_scopes, List.flatten_eq_nil_iff]
  intro env henv
  obtain ⟨p, hp, rfl⟩ := List.mem_map.mp henv
  exact h p (List.mem_filter.mp hp).1

theorem captured_iff (sk : Sk) (frag : String) (d : UserDecl) (n : String) :
    captured sk frag d n = true ↔ (d.ns, n) ∈ (holes frag [] sk).flatten := by
  simp only [captured, List.any_eq_true, List.contains_iff_mem, List.mem_flatten]

theorem binderClash_iff (sk : Sk) (d : UserDecl) (n : String) :
    binderClash sk d n = true ↔ d.shadowable = false ∧ n ∈ binders sk := by
  simp only [binderClash, Bool.and_eq_true, Bool.not_eq_true', List.contains_iff_mem]

theorem gargClash_iff (sk : Sk) (d : UserDecl) (n : String) :
    gargClash sk d n = true ↔ d.ns = .ty ∧ n ∈ gargsFree [] sk := by
  simp only [gargClash, Bool.and_eq_true, beq_iff_eq, List.contains_iff_mem]

/-- the names an expansion reserves: what a hole of the fragment sees declared, in the namespace of the caller's
    item; the identifier patterns, against an item that cannot be shadowed; the free generic arguments, against a
    caller type -/
theorem transparent_iff (sk : Sk) (frag : String) (d : UserDecl) (n : String) :
    transparent sk frag d n = true ↔
      ¬ ((d.ns, n) ∈ (holes frag [] sk).flatten ∨ (d.shadowable = false ∧ n ∈ binders sk) ∨
         (d.ns = .ty ∧ n ∈ gargsFree [] sk)) := by
  simp only [transparent, Bool.and_eq_true, Bool.not_eq_true', ← Bool.not_eq_true, captured_iff,
    binderClash_iff, gargClash_iff, not_or]
  exact and_assoc

end Konst.Concat.Hyg

namespace Konst.ArrayEval
open Konst.Concat.Hyg

theorem transparentD_item (sk : Sk) (frag : Option String) (d : UserDecl) (n : String) :
    transparentD sk frag (.item d) n = true ↔
      ¬ ((∃ f ∈ frag, (d.ns, n) ∈ (holes f [] sk).flatten) ∨ (d.shadowable = false ∧ n ∈ binders sk) ∨
         (d.ns = .ty ∧ n ∈ gargsFree [] sk)) := by
  cases frag <;>
    simp [transparentD, ← Bool.not_eq_true, captured_iff, binderClash_iff, gargClash_iff, and_assoc]

theorem transparentD_ustruct (sk : Sk) (frag : Option String) (n : String) :
    transparentD sk frag .ustruct n = transparentD sk frag (.item .const) n := by
  simp [transparentD, binderClash, gargClash, UserDecl.shadowable, UserDecl.ns]

theorem transparentD_mod (sk : Sk) (frag : Option String) (n : String) :
    transparentD sk frag .mod n = transparentD sk frag (.item .tyAlias) n := by
  simp [transparentD, binderClash, UserDecl.shadowable]

/-- a variable of the caller meets the expansion only as a PATTERN, where a constant of that name is in scope -/
theorem transparentD_var (sk : Sk) (frag : Option String) (n : String) :
    transparentD sk frag .var n = true ↔
      ¬ (n ∈ constItems ∧ ∃ f ∈ frag, (Ns.val, n) ∈ (holes f [] sk).flatten) := by
  cases frag with
  | none => simp [transparentD]
  | some f =>
    simp only [transparentD, Option.all_some, Bool.not_eq_true', ← Bool.not_eq_true, List.any_eq_true,
      Bool.and_eq_true, List.contains_iff_mem, Option.mem_def, Option.some.injEq, exists_eq_left',
      List.mem_flatten]
    constructor
    · rintro h ⟨hc, env, henv, hn⟩
      exact h ⟨env, henv, hn, hc⟩
    · rintro h ⟨env, henv, hn, hc⟩
      exact h ⟨hc, env, henv, hn⟩

/-- an expansion that declares no item and passes no bare generic argument reserves only its identifier
    patterns, against a caller item that cannot be shadowed -/
theorem transparentD_iff_binders (sk : Sk) (hs : ∀ p ∈ scopes [] sk, p.2 = []) (hg : gargsFree [] sk = [])
    (frag : Option String) (d : Decl) (n : String) :
    transparentD sk frag d n = true ↔ ¬ (d.shadowable = false ∧ n ∈ binders sk) := by
  have item (d : UserDecl) :
      transparentD sk frag (.item d) n = true ↔ ¬ (d.shadowable = false ∧ n ∈ binders sk) := by
    simp [transparentD_item, holes_flatten_of_scopes sk hs, hg]
  cases d with
  | var => simp [transparentD_var, holes_flatten_of_scopes sk hs, Decl.shadowable]
  | item d => exact item d
  | ustruct => rw [transparentD_ustruct]; exact item .const
  | mod => rw [transparentD_mod]; exact item .tyAlias

/-! ### the identifier patterns of the array expansions (none of them declares an item or passes a generic argument) -/

theorem binders_arrayMapSk (arm : ClosureArm) :
    binders (arrayMapSk arm) = ["__konst_am_array", "__konst_am_array"] ++ bindersL (fnArmBinders arm) ++
      ["__konst_am_len", "__konst_am_out", "__konst_am_i"] := by
  cases arm <;> rfl

theorem binders_arrayFromFnSk (arm : ClosureArm) :
    binders (arrayFromFnSk arm) = ["__konst_am_input", "__konst_am_arr"] ++ bindersL (fnArmBinders arm) ++
      ["__konst_am_len", "__konst_am_out", "__konst_am_i"] := by
  cases arm <;> rfl

theorem bindersL_byValBody :
    bindersL byValBody = ["__konst_am_consumer", "__konst_am_builder", "__konst_am_elem", "__konst_am_elem",
      "__konst_am_mapped"] := rfl

theorem binders_arrayMapByValSk (arm : ClosureArm) :
    binders (arrayMapByValSk arm) = ["__konst_am_array"] ++ bindersL (fnArmBinders arm) ++ bindersL byValBody := by
  cases arm <;> rfl

theorem binders_arrayFromFnByValSk (arm : ClosureArm) :
    binders (arrayFromFnByValSk arm) =
      ["__konst_am_i", "__konst_am_arr"] ++ bindersL (fnArmBinders arm) ++ bindersL byValBody := by
  cases arm <;> rfl

/-- `arrayBinders` = the patterns of the macro itself, then those of the `expr` arm of `__parse_closure_1!` -/
theorem arrayBinders_eq (mac : String) (arm : ClosureArm) :
    arrayBinders mac arm = arrayBinders mac .literal ++ bindersL (fnArmBinders arm) := by
  cases arm
  · exact (List.append_nil _).symm
  · simp only [arrayBinders, List.append_nil]
    rfl

/-! ### the name lists of the `collect_const!` expansion, seen from the iterator arguments -/

theorem holes_rem_collectConstSk :
    (holes "rem" [] collectConstSk).flatten =
      [(.ty, "Ret_KO9Y329U2U"), (.val, "CAP_KO9Y329U2U"), (.val, "__func_zxe7hgbnjs"),
       (.val, "__COUNT81608BFNA5"), (.val, "__ARR81608BFNA5")] := rfl

theorem binders_collectConstSk :
    binders collectConstSk = ["cmd", "array", "length", "iter", "elem_phantom_ty", "item", "elem_", "next_", "item",
      "teq", "teq", "teq", "array"] := rfl

theorem gargsFree_collectConstSk : gargsFree [] collectConstSk = ["CAP_KO9Y329U2U", "CAP_KO9Y329U2U"] := rfl

end Konst.ArrayEval
