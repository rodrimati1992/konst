import KonstVerif.Lemmas.Parser
import KonstVerif.Spec.ParserSplit
/-
  Helper lemmas for the split protocols of C14: the exact result of one `split` / `rsplit` /
  `split_terminator` / `rsplit_terminator` call on a parser whose remainder is a `&str`, in terms of
  the first / last occurrence of the delimiter (`Spec.Bytes.findSpec/rfindSpec`), and what repeating
  the call yields.
-/
namespace Konst.Lemmas.ParserSplit
open Konst Konst.Parser Konst.Spec.Utf8 Konst.Spec.Bytes Konst.Lemmas.Utf8 Konst.Lemmas.Parser
open Konst.Lemmas.Bytes (findSpec_nil_hay rfindSpec_nil_hay)
open Konst.Lemmas.Slice (whole_apply)

theorem findSpec_le {h d : List Nat} {i : Nat} (hf : findSpec h d = some i) : i + d.length ≤ h.length := by
  rw [← Props.C04.find_eq_spec] at hf
  have h1 := (Props.C04.find_least h d i).mp hf
  have := h1.1.length_le
  rw [List.length_drop] at this
  have := h1.2.1
  omega

theorem rfindSpec_le {h d : List Nat} (hne : d ≠ []) {i : Nat} (hf : rfindSpec h d = some i) :
    i + d.length ≤ h.length := by
  rw [← Props.C04.rfind_eq_spec h d hne] at hf
  have h1 := (Props.C04.rfind_greatest h d hne i).mp hf
  have := h1.1.length_le
  rw [List.length_drop] at this
  have := h1.2.1
  omega

/-! ### one call on a `&str` remainder, flag not set -/

theorem split_step (p : Parser) (d : List Nat) (hv : Valid p.str) (hd : Valid d)
    (hfl : p.yieldedLastSplit = false) :
    match findSpec p.str d with
    | none => step (.split d) p = okFront p true [] (.piece ⟨0, p.str.length⟩)
    | some i => ∃ a, a.apply p.str = p.str.take i ∧
        step (.split d) p = okFront p false (p.str.drop (i + d.length)) (.piece a) := by
  have hc := splitOnce_cut hv hd
  rw [show step (.split d) p = _ from split_eq p d, hfl]
  cases hf : findSpec p.str d with
  | none =>
    rw [hf] at hc
    rw [hc]
    rfl
  | some i =>
    rw [hf] at hc
    obtain ⟨a, b, hr, ha, hb⟩ := hc
    rw [hr]
    exact ⟨a, ha, by rw [← hb]; rfl⟩

theorem rsplit_step (p : Parser) (d : List Nat) (hv : Valid p.str) (hd : Valid d)
    (hfl : p.yieldedLastSplit = false) :
    match rfindSpec p.str d with
    | none => step (.rsplit d) p = okBack p true [] (.piece ⟨0, p.str.length⟩)
    | some i => ∃ b, b.apply p.str = p.str.drop (i + d.length) ∧
        step (.rsplit d) p = okBack p false (p.str.take i) (.piece b) := by
  have hc := rsplitOnce_cut hv hd
  rw [show step (.rsplit d) p = _ from rsplit_eq p d, hfl]
  cases hf : rfindSpec p.str d with
  | none =>
    rw [hf] at hc
    rw [hc, strUpTo_of_bnd (bnd_zero hv)]
    rfl
  | some i =>
    rw [hf] at hc
    obtain ⟨a, b, hr, ha, hb⟩ := hc
    rw [hr]
    exact ⟨b, hb, by rw [← ha]; rfl⟩

theorem splitTerminator_empty (p : Parser) (d : List Nat) (hfl : p.yieldedLastSplit = false) (he : p.str = []) :
    step (.splitTerminator d) p = failed p .fromStart .delimiterNotFound := by
  rw [show step (.splitTerminator d) p = _ from splitTerminator_eq p d, hfl, he]
  rfl

theorem rsplitTerminator_empty (p : Parser) (d : List Nat) (hfl : p.yieldedLastSplit = false) (he : p.str = []) :
    step (.rsplitTerminator d) p = failed p .fromEnd .delimiterNotFound := by
  rw [show step (.rsplitTerminator d) p = _ from rsplitTerminator_eq p d, hfl, he]
  rfl

theorem splitTerminator_step (p : Parser) (d : List Nat) (hv : Valid p.str) (hd : Valid d)
    (hfl : p.yieldedLastSplit = false) (hne : p.str ≠ []) :
    match findSpec p.str d with
    | none => step (.splitTerminator d) p = failed p .fromStart .delimiterNotFound
    | some i => ∃ a, a.apply p.str = p.str.take i ∧ step (.splitTerminator d) p =
        okFront p (p.str.drop (i + d.length)).isEmpty (p.str.drop (i + d.length)) (.piece a) := by
  have hc := splitOnce_cut hv hd
  rw [show step (.splitTerminator d) p = _ from splitTerminator_eq p d, hfl,
    List.isEmpty_eq_false_iff.mpr hne]
  cases hf : findSpec p.str d with
  | none =>
    rw [hf] at hc
    rw [hc]
    rfl
  | some i =>
    rw [hf] at hc
    obtain ⟨a, b, hr, ha, hb⟩ := hc
    rw [hr]
    exact ⟨a, ha, by rw [← hb]; rfl⟩

theorem rsplitTerminator_step (p : Parser) (d : List Nat) (hv : Valid p.str) (hd : Valid d)
    (hfl : p.yieldedLastSplit = false) (hne : p.str ≠ []) :
    match rfindSpec p.str d with
    | none => step (.rsplitTerminator d) p = failed p .fromEnd .delimiterNotFound
    | some i => ∃ b, b.apply p.str = p.str.drop (i + d.length) ∧ step (.rsplitTerminator d) p =
        okBack p (p.str.take i).isEmpty (p.str.take i) (.piece b) := by
  have hc := rsplitOnce_cut hv hd
  rw [show step (.rsplitTerminator d) p = _ from rsplitTerminator_eq p d, hfl,
    List.isEmpty_eq_false_iff.mpr hne]
  cases hf : rfindSpec p.str d with
  | none =>
    rw [hf] at hc
    rw [hc]
    rfl
  | some i =>
    rw [hf] at hc
    obtain ⟨a, b, hr, ha, hb⟩ := hc
    rw [hr]
    exact ⟨b, hb, by rw [← ha]; rfl⟩

theorem exhausted_fails (op : Op) (p : Parser) (hsf : op.isSplitFamily = true) (hfl : p.yieldedLastSplit = true) :
    ∃ e, step op p = .err e ∧ e.kind = .splitExhausted ∧ e.dir = op.direction := by
  cases op with
  | split d => exact ⟨_, by rw [show step (.split d) p = _ from split_eq p d, hfl]; rfl, rfl, rfl⟩
  | rsplit d => exact ⟨_, by rw [show step (.rsplit d) p = _ from rsplit_eq p d, hfl]; rfl, rfl, rfl⟩
  | splitKeep d => exact ⟨_, by rw [show step (.splitKeep d) p = _ from splitKeep_eq p d, hfl]; rfl, rfl, rfl⟩
  | splitTerminator d =>
    exact ⟨_, by rw [show step (.splitTerminator d) p = _ from splitTerminator_eq p d, hfl]; rfl, rfl, rfl⟩
  | rsplitTerminator d =>
    exact ⟨_, by rw [show step (.rsplitTerminator d) p = _ from rsplitTerminator_eq p d, hfl]; rfl, rfl, rfl⟩
  | _ => cases hsf

/-! ### the protocols: iterating one method until it fails -/
open Konst.Spec.ParserSplit

theorem iterate_ok {op : Op} {p p' : Parser} {a : View} (fuel : Nat) (h : step op p = .ok p' (.piece a)) :
    iterate op (fuel + 1) p = (a.apply p.str :: (iterate op fuel p').1, (iterate op fuel p').2) := by
  rw [iterate, h]

theorem iterate_err {op : Op} {p : Parser} {e : ParseError} (fuel : Nat) (h : step op p = .err e) :
    iterate op (fuel + 1) p = ([], some e.kind) := by
  rw [iterate, h]

theorem iterate_exhausted {op : Op} (hsf : op.isSplitFamily = true) (fuel : Nat) (dir : ParseDirection)
    (start : Nat) (s : List Nat) : iterate op (fuel + 1) ⟨dir, true, start, s⟩ = ([], some .splitExhausted) := by
  obtain ⟨e, he, hk, _⟩ := exhausted_fails op ⟨dir, true, start, s⟩ hsf rfl
  rw [iterate_err fuel he, hk]

theorem split_last (d : List Nat) (hd : Valid d) (fuel : Nat) (p : Parser) (hfl : p.yieldedLastSplit = false)
    (hv : Valid p.str) (hf : findSpec p.str d = none) :
    iterate (.split d) (fuel + 2) p = (splitGo d (fuel + 1) p.str, some .splitExhausted) := by
  have h1 := split_step p d hv hd hfl
  rw [hf] at h1
  rw [iterate_ok _ h1, iterate_exhausted rfl, splitGo, hf, whole_apply]

theorem split_iterate (d : List Nat) (hd : Valid d) (hne : d ≠ []) : ∀ (n : Nat) (p : Parser),
    p.str.length ≤ n → p.yieldedLastSplit = false → Valid p.str →
    iterate (.split d) (n + 2) p = (splitGo d (n + 1) p.str, some .splitExhausted) := by
  have hdl : 0 < d.length := List.length_pos_iff.mpr hne
  intro n
  induction n with
  | zero =>
    intro p hlen hfl hv
    cases hf : findSpec p.str d with
    | some i => have := findSpec_le hf; omega
    | none => exact split_last d hd 0 p hfl hv hf
  | succ m ih =>
    intro p hlen hfl hv
    cases hf : findSpec p.str d with
    | none => exact split_last d hd (m + 1) p hfl hv hf
    | some i =>
      have h1 := split_step p d hv hd hfl
      rw [hf] at h1
      obtain ⟨a, ha, h1⟩ := h1
      have hle := findSpec_le hf
      rw [iterate_ok _ h1, ha,
        ih _ (by show (p.str.drop (i + d.length)).length ≤ m; rw [List.length_drop]; omega) rfl
          (valid_drop hv (findSpec_bnd hv hd hf).2)]
      conv => rhs; rw [splitGo, hf]

theorem rsplit_last (d : List Nat) (hd : Valid d) (fuel : Nat) (p : Parser) (hfl : p.yieldedLastSplit = false)
    (hv : Valid p.str) (hf : rfindSpec p.str d = none) :
    iterate (.rsplit d) (fuel + 2) p = (rsplitGo d (fuel + 1) p.str, some .splitExhausted) := by
  have h1 := rsplit_step p d hv hd hfl
  rw [hf] at h1
  rw [iterate_ok _ h1, iterate_exhausted rfl, rsplitGo, hf, whole_apply]

theorem rsplit_iterate (d : List Nat) (hd : Valid d) (hne : d ≠ []) : ∀ (n : Nat) (p : Parser),
    p.str.length ≤ n → p.yieldedLastSplit = false → Valid p.str →
    iterate (.rsplit d) (n + 2) p = (rsplitGo d (n + 1) p.str, some .splitExhausted) := by
  have hdl : 0 < d.length := List.length_pos_iff.mpr hne
  intro n
  induction n with
  | zero =>
    intro p hlen hfl hv
    cases hf : rfindSpec p.str d with
    | some i => have := rfindSpec_le hne hf; omega
    | none => exact rsplit_last d hd 0 p hfl hv hf
  | succ m ih =>
    intro p hlen hfl hv
    cases hf : rfindSpec p.str d with
    | none => exact rsplit_last d hd (m + 1) p hfl hv hf
    | some i =>
      have h1 := rsplit_step p d hv hd hfl
      rw [hf] at h1
      obtain ⟨b, hb, h1⟩ := h1
      have hle := rfindSpec_le hne hf
      rw [iterate_ok _ h1, hb,
        ih _ (by show (p.str.take i).length ≤ m; rw [List.length_take]; omega) rfl
          (valid_take hv (rfindSpec_bnd hv hd hf).1)]
      conv => rhs; rw [rsplitGo, hf]

theorem splitGo_ne_nil (d : List Nat) (n : Nat) (h : List Nat) : splitGo d n h ≠ [] := by
  cases n with
  | zero => exact List.cons_ne_nil _ _
  | succ n => unfold splitGo; cases findSpec h d <;> exact List.cons_ne_nil _ _

theorem rsplitGo_ne_nil (d : List Nat) (n : Nat) (h : List Nat) : rsplitGo d n h ≠ [] := by
  cases n with
  | zero => exact List.cons_ne_nil _ _
  | succ n => unfold rsplitGo; cases rfindSpec h d <;> exact List.cons_ne_nil _ _

theorem splitGo_nil_hay {d : List Nat} (hne : d ≠ []) (n : Nat) : splitGo d n [] = [[]] := by
  cases n with
  | zero => rfl
  | succ n => rw [splitGo, findSpec_nil_hay hne]

theorem rsplitGo_nil_hay {d : List Nat} (hne : d ≠ []) (n : Nat) : rsplitGo d n [] = [[]] := by
  cases n with
  | zero => rfl
  | succ n => rw [rsplitGo, rfindSpec_nil_hay hne]

theorem splitTerminator_iterate (d : List Nat) (hd : Valid d) (hne : d ≠ []) : ∀ (n : Nat) (p : Parser),
    p.str.length ≤ n → p.yieldedLastSplit = false → Valid p.str →
    ∃ k, iterate (.splitTerminator d) (n + 1) p = ((splitGo d n p.str).dropLast, some k) ∧ (k = .splitExhausted ∨ k = .delimiterNotFound) := by
  have hdl : 0 < d.length := List.length_pos_iff.mpr hne
  intro n
  induction n with
  | zero =>
    intro p hlen hfl hv
    have hemp : p.str = [] := List.eq_nil_of_length_eq_zero (Nat.le_zero.mp hlen)
    exact ⟨.delimiterNotFound, by rw [iterate_err 0 (splitTerminator_empty p d hfl hemp), hemp]; rfl, Or.inr rfl⟩
  | succ m ih =>
    intro p hlen hfl hv
    by_cases hemp : p.str = []
    · refine ⟨.delimiterNotFound, ?_, Or.inr rfl⟩
      rw [iterate_err _ (splitTerminator_empty p d hfl hemp), hemp, splitGo_nil_hay hne]
      rfl
    · have h1 := splitTerminator_step p d hv hd hfl hemp
      cases hf : findSpec p.str d with
      | none =>
        rw [hf] at h1
        refine ⟨.delimiterNotFound, ?_, Or.inr rfl⟩
        rw [iterate_err _ h1, splitGo, hf]
        rfl
      | some i =>
        rw [hf] at h1
        obtain ⟨a, ha, h1⟩ := h1
        have hle := findSpec_le hf
        rw [iterate_ok _ h1, ha, splitGo, hf, List.dropLast_cons_of_ne_nil (splitGo_ne_nil d m _)]
        by_cases hrest : p.str.drop (i + d.length) = []
        · -- the delimiter ends the string: the flag is set, the next call reports SplitExhausted
          refine ⟨.splitExhausted, ?_, Or.inl rfl⟩
          rw [hrest]
          cases m with
          | zero => rfl
          | succ m' =>
            rw [show ([] : List Nat).isEmpty = true from rfl, iterate_exhausted rfl, splitGo_nil_hay hne]
            rfl
        · obtain ⟨k, hk, htk⟩ := ih ⟨.fromStart, (p.str.drop (i + d.length)).isEmpty, _, p.str.drop (i + d.length)⟩
            (by show (p.str.drop (i + d.length)).length ≤ m; rw [List.length_drop]; omega)
            (by simpa using hrest) (valid_drop hv (findSpec_bnd hv hd hf).2)
          exact ⟨k, by rw [hk], htk⟩

theorem rsplitTerminator_iterate (d : List Nat) (hd : Valid d) (hne : d ≠ []) : ∀ (n : Nat) (p : Parser),
    p.str.length ≤ n → p.yieldedLastSplit = false → Valid p.str →
    ∃ k, iterate (.rsplitTerminator d) (n + 1) p = ((rsplitGo d n p.str).dropLast, some k) ∧ (k = .splitExhausted ∨ k = .delimiterNotFound) := by
  have hdl : 0 < d.length := List.length_pos_iff.mpr hne
  intro n
  induction n with
  | zero =>
    intro p hlen hfl hv
    have hemp : p.str = [] := List.eq_nil_of_length_eq_zero (Nat.le_zero.mp hlen)
    exact ⟨.delimiterNotFound, by rw [iterate_err 0 (rsplitTerminator_empty p d hfl hemp), hemp]; rfl, Or.inr rfl⟩
  | succ m ih =>
    intro p hlen hfl hv
    by_cases hemp : p.str = []
    · refine ⟨.delimiterNotFound, ?_, Or.inr rfl⟩
      rw [iterate_err _ (rsplitTerminator_empty p d hfl hemp), hemp, rsplitGo_nil_hay hne]
      rfl
    · have h1 := rsplitTerminator_step p d hv hd hfl hemp
      cases hf : rfindSpec p.str d with
      | none =>
        rw [hf] at h1
        refine ⟨.delimiterNotFound, ?_, Or.inr rfl⟩
        rw [iterate_err _ h1, rsplitGo, hf]
        rfl
      | some i =>
        rw [hf] at h1
        obtain ⟨b, hb, h1⟩ := h1
        have hle := rfindSpec_le hne hf
        rw [iterate_ok _ h1, hb, rsplitGo, hf, List.dropLast_cons_of_ne_nil (rsplitGo_ne_nil d m _)]
        by_cases hrest : p.str.take i = []
        · refine ⟨.splitExhausted, ?_, Or.inl rfl⟩
          rw [hrest]
          cases m with
          | zero => rfl
          | succ m' =>
            rw [show ([] : List Nat).isEmpty = true from rfl, iterate_exhausted rfl, rsplitGo_nil_hay hne]
            rfl
        · obtain ⟨k, hk, htk⟩ := ih ⟨.fromEnd, (p.str.take i).isEmpty, _, p.str.take i⟩
            (by show (p.str.take i).length ≤ m; rw [List.length_take]; omega)
            (by simpa using hrest) (valid_take hv (rfindSpec_bnd hv hd hf).1)
          exact ⟨k, by rw [hk], htk⟩

end Konst.Lemmas.ParserSplit
