import KonstVerif.Lemmas.Parser
import KonstVerif.Model.ParserMethod
/-
  The `skip` / `skip_back` of the small `PState` model used for `parser_method!` (C18,
  Model/ParserMethod.lean) agree with `Parser::skip` / `Parser::skip_back` of the full model (used by `Props/C13.lean`).
-/
namespace Konst.Lemmas.ParserPM
open Konst Konst.Parser Konst.Spec.Utf8 Konst.Lemmas.Parser

theorem skipUp_eq_pm (p : PM.PState) : ∀ (fuel n : Nat), skipUp p.rem fuel n = PM.skip.up p fuel n := by
  intro fuel
  induction fuel with
  | zero => intro n; rfl
  | succ f ih => intro n; simp only [skipUp, PM.skip.up, ih]

/-- the downward search of Model/Parser.lean (`none` = the `pos -= 1` underflow panic) finds what the
    total search of Model/ParserMethod.lean finds, as soon as position 0 or the start position is a char
    boundary -/
theorem skipDown_eq_pm (p : PM.PState) (pos : Nat) (h : Bnd p.rem 0 ∨ Bnd p.rem pos) :
    skipDown p.rem pos = some (PM.skipBack.down p pos) := by
  induction pos with
  | zero =>
    have h0 : Utf8.isCharBoundaryBytes p.rem 0 = true := h.elim id id
    simp [skipDown, PM.skipBack.down, h0]
  | succ pos ih =>
    by_cases ht : Utf8.isCharBoundaryBytes p.rem (pos + 1) = true
    · simp [skipDown, PM.skipBack.down, ht]
    · simp [skipDown, PM.skipBack.down, ht, ih (Or.inl (h.resolve_right ht))]

theorem skip_agrees (p : Parser) (n : Nat) :
    ∃ p', skip p n = .ok p' .unit ∧ PM.skip ⟨p.startOffset, p.str⟩ n = ⟨p'.startOffset, p'.str⟩ := by
  refine ⟨_, skip_eq p n, ?_⟩
  simp only [PM.skip, skipCount, ← skipUp_eq_pm ⟨p.startOffset, p.str⟩]

theorem skipBack_agrees (p : Parser) (n : Nat) (hv : Valid p.str) :
    ∃ p', skipBack p n = .ok p' .unit ∧ PM.skipBack ⟨p.startOffset, p.str⟩ n = ⟨p'.startOffset, p'.str⟩ := by
  have h0 := bnd_zero hv
  obtain ⟨k, hk, _, hb⟩ := skipDown_spec p.str h0 (p.str.length - n)
  have hpm := skipDown_eq_pm ⟨p.startOffset, p.str⟩ (p.str.length - n) (Or.inl h0)
  rw [show skipDown p.str (p.str.length - n) = some k from hk] at hpm
  rw [skipBack_eq, hk]
  dsimp only
  rw [strUpTo_of_bnd hb]
  exact ⟨_, rfl, by rw [Option.some.inj hpm]; rfl⟩

end Konst.Lemmas.ParserPM
