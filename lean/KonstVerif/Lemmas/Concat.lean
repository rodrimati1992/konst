import KonstVerif.Model.Concat
import KonstVerif.Spec.Concat
import KonstVerif.Lemmas.Utf8
import KonstVerif.Lemmas.Bytes
/-
  C20, concatenation half: every fill loop is one `writeBytes` of the concatenated
  pieces, every length pass one checked sum; `encode_utf8` is the copy of `Model/Chr.lean`;
  `from_utf8` accepts exactly the valid strings.
-/
namespace Konst.Concat
open Konst.Spec Konst.Spec.Concat

/-! ### vocabulary of the C20 statements -/

/-- the bytes `concat_strs` is going to write: each element through `as_bytesable().as_bytes()` -/
def written (arg : ConcatArg) : List Nat := (arg.elems.map Elem.bytes).flatten

def ConcatArg.WF : ConcatArg → Prop
  | .chars cs => ∀ c ∈ cs, Utf8.isScalar c = true
  | .strs ss => ∀ s ∈ ss, Utf8.Valid s

/-- what std produces for the same argument: `<[&str]>::concat` / `chars.iter().collect::<String>()` -/
def stdOfArg : ConcatArg → List Nat
  | .chars cs => stdCollectChars cs
  | .strs ss => stdConcat ss

def stdSep : SepArg → List Nat
  | .chr c => Utf8.enc c
  | .str s => s

def SepArg.WF : SepArg → Prop
  | .chr c => Utf8.isScalar c = true
  | .str s => Utf8.Valid s

end Konst.Concat

namespace Konst.Lemmas.Concat
open Konst Konst.Concat Konst.Spec Konst.Spec.Concat
open Konst.Lemmas.Utf8 (isScalar_lt enc_ne_nil decodeOne_enc decodeOne_sound valid_nil valid_append
  valid_enc valid_flatten)

theorem written_strs (ss : List (List Nat)) : written (.strs ss) = ss.flatten := by
  simp [written, ConcatArg.elems, Elem.bytes, Function.comp_def]

/-! ### the fill loops -/

theorem writeBytes_append {α : Type} (a b out : List α) (i : Nat) :
    writeBytes (a ++ b) out i = (writeBytes a out i >>= fun r => writeBytes b r.1 r.2) := by
  induction a generalizing out i with
  | nil => rfl
  | cons x a ih =>
    simp only [List.cons_append, writeBytes]
    split
    · exact ih _ _
    · rfl

/-- writing `bs` at the end of the written prefix `pre` of a buffer `pre ++ fil`: succeeds iff the
    unwritten part `fil` is long enough, and then overwrites exactly its first `bs.length` slots -/
theorem writeBytes_eq {α : Type} (bs pre fil : List α) :
    writeBytes bs (pre ++ fil) pre.length =
      if bs.length ≤ fil.length then .ok (pre ++ bs ++ fil.drop bs.length, pre.length + bs.length)
      else .panic .index := by
  induction bs generalizing pre fil with
  | nil => simp [writeBytes]
  | cons b bs ih =>
    cases fil with
    | nil => simp [writeBytes]
    | cons f fil =>
      have h : pre.length < (pre ++ f :: fil).length := by simp
      have hs : (pre ++ f :: fil).set pre.length b = (pre ++ [b]) ++ fil := by
        simp
      rw [writeBytes, if_pos h, hs]
      have := ih (pre ++ [b]) fil
      simp only [List.length_append, List.length_cons, List.length_nil, Nat.zero_add] at this
      rw [this]
      by_cases hl : bs.length ≤ fil.length
      · simp [hl, Nat.add_assoc, Nat.add_comm 1]
      · simp [hl]

theorem write_fresh {α : Type} (bs : List α) (n : Nat) (x : α) :
    (writeBytes bs (List.replicate n x) 0 >>= fun r => pure r.1) =
      if bs.length ≤ n then .ok (bs ++ List.replicate (n - bs.length) x) else .panic .index := by
  have := writeBytes_eq bs [] (List.replicate n x)
  simp only [List.nil_append, List.length_nil, Nat.zero_add, List.length_replicate] at this
  rw [this]
  split
  · simp
  · rfl

theorem sliceFillLoop_eq_write {α : Type} (ss : List (List α)) (out : List α) (i : Nat) :
    sliceFillLoop ss out i = writeBytes ss.flatten out i := by
  induction ss generalizing out i with
  | nil => rfl
  | cons s ss ih =>
    rw [List.flatten_cons, writeBytes_append, sliceFillLoop]
    cases writeBytes s out i with
    | panic p => rfl
    | ok r => exact ih r.1 r.2

theorem fillLoop_eq_write (es : List Elem) (out : List Nat) (i : Nat) :
    fillLoop es out i = writeBytes (es.map Elem.bytes).flatten out i := by
  induction es generalizing out i with
  | nil => rfl
  | cons e es ih =>
    rw [List.map_cons, List.flatten_cons, writeBytes_append, fillLoop]
    cases writeBytes e.bytes out i with
    | panic p => rfl
    | ok r => exact ih r.1 r.2

theorem joinRemLoop_eq_write (sep : List Nat) (ss : List (List Nat)) (out : List Nat) (i : Nat) :
    joinRemLoop sep ss out i = writeBytes (ss.flatMap (sep ++ ·)) out i := by
  induction ss generalizing out i with
  | nil => rfl
  | cons s ss ih =>
    rw [List.flatMap_cons, List.append_assoc, writeBytes_append, joinRemLoop]
    cases writeBytes sep out i with
    | panic p => rfl
    | ok r =>
      obtain ⟨o, k⟩ := r
      simp only [Out.ok_bind, writeBytes_append]
      cases writeBytes s o k with
      | panic p => rfl
      | ok r => exact ih r.1 r.2

/-! ### `encode_utf8` -/

theorem lenUtf8_eq_clen (c : Nat) : lenUtf8 c = Utf8.clen c := rfl

/-- `Model/Chr.lean` holds the copy of `encode_utf8` that C07 is about: the same record, field by field -/
theorem encodeUtf8_eq_chr (c : Nat) :
    encodeUtf8 c = ⟨(Chr.encodeUtf8 c).encoded, (Chr.encodeUtf8 c).len⟩ := by
  unfold encodeUtf8 Chr.encodeUtf8
  by_cases h1 : c ≤ 127
  · rw [if_pos h1, if_pos h1]
    rfl
  rw [if_neg h1, if_neg h1]
  by_cases h2 : c ≤ 0x7FF
  · rw [if_pos h2, if_pos h2]
    rfl
  rw [if_neg h2, if_neg h2]
  by_cases h3 : c ≤ 0xFFFF
  · rw [if_pos h3, if_pos h3]
    rfl
  · rw [if_neg h3, if_neg h3]
    rfl

theorem asBytes_eq_chr (c : Nat) : (encodeUtf8 c).asBytes = (Chr.encodeUtf8 c).asBytes := by
  rw [encodeUtf8_eq_chr]
  exact (Lemmas.Slice.sliceUpTo_apply _ _).symm

theorem encodeUtf8_eq_enc (c : Nat) (hc : c < 0x200000) : (encodeUtf8 c).asBytes = Utf8.enc c := by
  rw [asBytes_eq_chr, Lemmas.Utf8.encodeUtf8_eq_enc c hc]

theorem encodeUtf8_scalar {c : Nat} (h : Utf8.isScalar c = true) : (encodeUtf8 c).asBytes = Utf8.enc c :=
  encodeUtf8_eq_enc c (Nat.lt_trans (isScalar_lt c h) (by decide))

theorem enc_length (c : Nat) : (Utf8.enc c).length = Utf8.clen c := Lemmas.Utf8.enc_length c

theorem asBytes_length (c : Nat) : (encodeUtf8 c).asBytes.length = lenUtf8 c := by
  unfold encodeUtf8 lenUtf8
  by_cases h1 : c < 0x80
  · rw [if_pos h1, if_pos (Nat.le_of_lt_succ h1)]
    rfl
  rw [if_neg h1, if_neg (fun h => h1 (Nat.lt_succ_of_le h))]
  by_cases h2 : c < 0x800
  · rw [if_pos h2, if_pos (Nat.le_of_lt_succ h2)]
    rfl
  rw [if_neg h2, if_neg (fun h => h2 (Nat.lt_succ_of_le h))]
  by_cases h3 : c < 0x10000
  · rw [if_pos h3, if_pos (Nat.le_of_lt_succ h3)]
    rfl
  · rw [if_neg h3, if_neg (fun h => h3 (Nat.lt_succ_of_le h))]
    rfl

/-- `__ElemDispatch::len` is the length of what `as_bytesable().as_bytes()` yields -/
theorem _root_.Konst.Concat.Elem.len_eq (e : Elem) : e.len = e.bytes.length := by
  cases e with
  | str s => rfl
  | chr c => exact (asBytes_length c).symm

theorem _root_.Konst.Concat.SepArg.len_eq (e : SepArg) : e.len = e.bytes.length := by
  cases e with
  | str s => rfl
  | chr c => exact (asBytes_length c).symm

/-! ### the length passes -/

theorem sliceSumLoop_eq {α : Type} (ss : List (List α)) (s : Nat) (hs : s < USIZE) :
    sliceSumLoop ss s =
      if s + ss.flatten.length < USIZE then .ok (s + ss.flatten.length) else .panic .overflow := by
  induction ss generalizing s with
  | nil => simp [sliceSumLoop, hs]
  | cons x ss ih =>
    rw [sliceSumLoop, List.flatten_cons, List.length_append]
    generalize hF : ss.flatten.length = F at ih
    simp only [ckAdd]
    by_cases h : s + x.length < USIZE
    · rw [if_pos h]; simp only [Out.ok_bind]; rw [ih _ h, Nat.add_assoc]
    · rw [if_neg h]
      have : ¬ s + (x.length + F) < USIZE := by omega
      rw [if_neg this]; rfl

theorem sumLoop_eq_slice (es : List Elem) (s : Nat) : sumLoop es s = sliceSumLoop (es.map Elem.bytes) s := by
  induction es generalizing s with
  | nil => rfl
  | cons e es ih =>
    rw [sumLoop, List.map_cons, sliceSumLoop, Elem.len_eq]
    cases ckAdd s e.bytes.length with
    | panic p => rfl
    | ok n => exact ih n

/-! ### `join` -/

/-- `join` written as the loop writes it: the first piece, then separator + piece for the rest -/
theorem intercalate_cons {α : Type} (sep first : List α) (rem : List (List α)) :
    List.intercalate sep (first :: rem) = first ++ rem.flatMap (sep ++ ·) := by
  induction rem generalizing first with
  | nil => simp [List.intercalate]
  | cons r rem ih =>
    have := ih r
    simp only [List.intercalate] at this ⊢
    rw [List.intersperse_cons_cons, List.flatten_cons, List.flatten_cons, this]
    simp [List.flatMap_cons]

theorem valid_intercalate {sep : List Nat} {ss : List (List Nat)} (hsep : Utf8.Valid sep)
    (h : ∀ s ∈ ss, Utf8.Valid s) : Utf8.Valid (List.intercalate sep ss) := by
  cases ss with
  | nil => exact valid_nil
  | cons first rem =>
    rw [intercalate_cons, List.flatMap_def]
    refine valid_append (h first (by simp)) (valid_flatten ?_)
    intro t ht
    obtain ⟨s, hs, rfl⟩ := List.mem_map.mp ht
    exact valid_append hsep (h s (by simp [hs]))

/-! ### `core::str::from_utf8` accepts exactly the valid strings -/

theorem utf8Scan_encs (cs : List Nat) (h : ∀ c ∈ cs, Utf8.isScalar c = true) (fuel pos : Nat)
    (hf : (Utf8.encs cs).length ≤ fuel) : utf8Scan fuel (Utf8.encs cs) pos = none := by
  induction cs generalizing fuel pos with
  | nil => simp [Utf8.encs, utf8Scan]
  | cons c cs ih =>
    have hc : Utf8.encs (c :: cs) = Utf8.enc c ++ Utf8.encs cs := by simp [Utf8.encs]
    rw [hc] at hf ⊢
    have hd := decodeOne_enc c (h c (by simp)) (Utf8.encs cs)
    cases hx : Utf8.enc c ++ Utf8.encs cs with
    | nil => simp [enc_ne_nil c] at hx
    | cons x xs =>
      rw [hx] at hd hf
      cases fuel with
      | zero => simp at hf
      | succ f =>
        simp only [utf8Scan, hd]
        apply ih (fun d hd => h d (by simp [hd]))
        have : (x :: xs).length = (Utf8.enc c).length + (Utf8.encs cs).length := by
          rw [← hx, List.length_append]
        have : 0 < (Utf8.enc c).length := List.length_pos_iff.mpr (enc_ne_nil c)
        simp only [List.length_cons] at *
        omega

/-- the re-validation of the macros cannot fail -/
theorem stdFromUtf8_of_valid {s : List Nat} (h : Utf8.Valid s) : stdFromUtf8 s = .ok s := by
  obtain ⟨cs, hcs, rfl⟩ := h
  simp only [stdFromUtf8, utf8Scan_encs cs hcs _ 0 (Nat.le_refl _)]

theorem utf8Scan_sound (fuel : Nat) (s : List Nat) (pos : Nat) (h : utf8Scan fuel s pos = none) :
    Utf8.Valid s := by
  induction fuel generalizing s pos with
  | zero =>
    cases s with
    | nil => exact valid_nil
    | cons x xs => simp [utf8Scan] at h
  | succ f ih =>
    cases s with
    | nil => exact valid_nil
    | cons x xs =>
      simp only [utf8Scan] at h
      cases hd : Utf8.decodeOne (x :: xs) with
      | none => simp [hd] at h
      | some cr =>
        obtain ⟨c, r⟩ := cr
        simp only [hd] at h
        obtain ⟨hs, he⟩ := decodeOne_sound _ _ _ hd
        rw [he]
        exact valid_append (valid_enc hs) (ih r _ h)

theorem stdFromUtf8_ok_iff (s : List Nat) : stdFromUtf8 s = .ok s ↔ Utf8.Valid s := by
  constructor
  · intro h
    simp only [stdFromUtf8] at h
    cases hs : utf8Scan s.length s 0 with
    | none => exact utf8Scan_sound _ _ _ hs
    | some p => simp [hs] at h
  · exact stdFromUtf8_of_valid

/-! ### `str_from_iter!` passes -/

theorem initElem_eq_write (bs : List Nat) (arr : List (Option Nat)) (i : Nat) :
    initElem bs arr i = (writeBytes (bs.map some) arr i >>= fun r => pure r.1) := by
  induction bs generalizing arr i with
  | nil => rfl
  | cons b bs ih =>
    simp only [initElem, List.map_cons, writeBytes]
    by_cases h : i < arr.length
    · rw [if_pos h, if_pos h]; exact ih _ _
    · rw [if_neg h, if_neg h]; rfl

theorem collectLoop_false (es : List Elem) (arr : List (Option Nat)) (s : Nat) :
    collectLoop false es arr s = (sumLoop es s >>= fun n => pure (arr, n)) := by
  induction es generalizing s with
  | nil => rfl
  | cons e es ih =>
    simp only [collectLoop, sumLoop, Bool.false_eq_true, if_false, Out.pure_eq, Out.ok_bind]
    cases ckAdd s e.len with
    | panic p => rfl
    | ok n => simp only [Out.ok_bind]; exact ih n

/-- the fill pass on a buffer whose first `pre.length` slots are written: every item lands right
    after the previous one, and the checked `length += elem_length` cannot overflow before the write
    is out of bounds -/
theorem collectLoop_true (es : List Elem) (pre fil : List (Option Nat))
    (hcap : pre.length + fil.length < USIZE) :
    collectLoop true es (pre ++ fil) pre.length =
      writeBytes ((es.map Elem.bytes).flatten.map some) (pre ++ fil) pre.length := by
  induction es generalizing pre fil with
  | nil => rfl
  | cons e es ih =>
    rw [List.map_cons, List.flatten_cons, List.map_append, writeBytes_append, collectLoop, if_pos rfl,
      initElem_eq_write, writeBytes_eq, List.length_map]
    split
    · have := ih (pre ++ e.bytes.map some) (fil.drop e.bytes.length)
        (by simp only [List.length_append, List.length_map, List.length_drop]; omega)
      simp only [List.length_append, List.length_map] at this
      simp only [Out.ok_bind, Out.pure_eq, ckAdd, Elem.len_eq]
      rw [if_pos (by omega)]
      exact this
    · rfl

theorem assumeInit_map_some (l : List Nat) : assumeInit (l.map some) = .ok l := by
  induction l with
  | nil => rfl
  | cons b l ih => simp [assumeInit, ih]

end Konst.Lemmas.Concat
