import KonstVerif.Model.Basic
import KonstVerif.Model.Slice
import KonstVerif.Spec.Utf8
import KonstVerif.Lemmas.Utf8
/-
  Vocabulary of C01 ("every returned string is valid UTF-8 that begins and ends on character
  boundaries of the argument") and the ways a cut is seen to lie on a boundary: next to an
  occurrence of whole characters, next to a run of ASCII bytes, next to repetitions of a needle.
-/
namespace Konst.Lemmas.StrValid
open Konst Konst.Spec.Utf8 Konst.Lemmas.Utf8

def OnBoundaries (cs : List Nat) (v : View) : Prop :=
  IsBoundary cs v.off ∧ IsBoundary cs (v.off + v.len)

/-- C01's conclusion for one returned `&str`, a view into the `&str` argument `encs cs` -/
def GoodStr (cs : List Nat) (v : View) : Prop :=
  v.InBounds (encs cs).length ∧ OnBoundaries cs v ∧ Valid (v.apply (encs cs))

theorem goodStr_of_boundaries (cs : List Nat) (hs : ∀ c ∈ cs, isScalar c = true) (v : View)
    (h : OnBoundaries cs v) : GoodStr cs v := by
  refine ⟨boundary_le cs _ h.2, h, ?_⟩
  have := cut_valid cs hs v.off (v.off + v.len) h.1 h.2
  rwa [Nat.add_sub_cancel_left] at this

theorem onB_whole (cs : List Nat) : OnBoundaries cs ⟨0, (encs cs).length⟩ :=
  ⟨boundary_zero cs, by simpa using boundary_len cs⟩

theorem onB_empty (cs : List Nat) : OnBoundaries cs ⟨0, 0⟩ :=
  ⟨boundary_zero cs, boundary_zero cs⟩

theorem onB_suffix (cs : List Nat) (x : Nat) (hx : IsBoundary cs x) :
    OnBoundaries cs ⟨x, (encs cs).length - x⟩ := by
  have hle := boundary_le cs x hx
  refine ⟨hx, ?_⟩
  show IsBoundary cs (x + ((encs cs).length - x))
  have : x + ((encs cs).length - x) = (encs cs).length := by omega
  rw [this]; exact boundary_len cs

theorem onB_prefix (cs : List Nat) (x : Nat) (hx : IsBoundary cs x) : OnBoundaries cs ⟨0, x⟩ :=
  ⟨boundary_zero cs, by simpa using hx⟩

theorem encs_ne_nil {ps : List Nat} (h : ps ≠ []) : encs ps ≠ [] :=
  fun e => h (encs_eq_nil_iff.mp e)

theorem occurrence_boundaries (cs ps : List Nat) (hps : ps ≠ []) (A r : List Nat)
    (h : encs cs = A ++ encs ps ++ r) :
    IsBoundary cs A.length ∧ IsBoundary cs (A.length + (encs ps).length) := by
  apply match_on_boundaries cs ps hps A.length
  rw [h, List.append_assoc, List.drop_left]
  exact List.prefix_append _ _

theorem encs_ascii : ∀ (w : List Nat), (∀ b ∈ w, b < 128) → encs w = w := by
  intro w
  induction w with
  | nil => intro _; rfl
  | cons b w ih =>
    intro hw
    have hb : b < 0x80 := hw b (by simp)
    rw [encs_cons, ih (fun x hx => hw x (List.mem_cons_of_mem _ hx))]
    simp [enc, hb]

theorem ascii_prefix_boundary (cs w r : List Nat) (hw : ∀ b ∈ w, b < 128)
    (h : encs cs = w ++ r) : IsBoundary cs w.length := by
  by_cases hn : w = []
  · subst hn; exact boundary_zero cs
  · have := (occurrence_boundaries cs w hn [] r (by rw [encs_ascii w hw]; simpa using h)).2
    rw [encs_ascii w hw] at this
    simpa using this

theorem ascii_suffix_boundary (cs r w : List Nat) (hw : ∀ b ∈ w, b < 128)
    (h : encs cs = r ++ w) : IsBoundary cs r.length := by
  by_cases hn : w = []
  · subst hn
    have : r.length = (encs cs).length := by rw [h]; simp
    rw [this]; exact boundary_len cs
  · exact (occurrence_boundaries cs w hn r [] (by rw [encs_ascii w hw]; simpa using h)).1

theorem reps_prefix_boundary (cs ps : List Nat) (k : Nat) (r : List Nat)
    (h : encs cs = (List.replicate k (encs ps)).flatten ++ r) :
    IsBoundary cs (List.replicate k (encs ps)).flatten.length := by
  cases k with
  | zero => simpa using boundary_zero cs
  | succ k =>
    by_cases hps : ps = []
    · subst hps
      have : (List.replicate (k + 1) (encs [])).flatten = [] := by simp
      rw [this]; exact boundary_zero cs
    · have h2 := (occurrence_boundaries cs ps hps (List.replicate k (encs ps)).flatten r (by
        rw [h, List.replicate_succ', List.flatten_append]; simp)).2
      rw [List.replicate_succ', List.flatten_append, List.length_append]
      simpa using h2

theorem reps_suffix_boundary (cs ps : List Nat) (k : Nat) (r : List Nat)
    (h : encs cs = r ++ (List.replicate k (encs ps)).flatten) : IsBoundary cs r.length := by
  cases k with
  | zero =>
    have : r.length = (encs cs).length := by rw [h]; simp
    rw [this]; exact boundary_len cs
  | succ k =>
    by_cases hps : ps = []
    · subst hps
      have e : (List.replicate (k + 1) (encs [])).flatten = [] := by simp
      have : r.length = (encs cs).length := by rw [h, e]; simp
      rw [this]; exact boundary_len cs
    · exact (occurrence_boundaries cs ps hps r (List.replicate k (encs ps)).flatten (by
        rw [h, List.replicate_succ, List.flatten_cons]; simp)).1

end Konst.Lemmas.StrValid
