import KonstVerif.Model.ArrayMacros
import KonstVerif.Lemmas.ArrayBuilder
import KonstVerif.Lemmas.ArrayConsumer
import KonstVerif.Spec.ArrayStd
/-
  The loops of the array macros (C11/C15): `mapLoop` (by reference), `byValLoop` (consumer + builder, reduced to
  `byValRef` on the lists they own), `ccLoop` (`collect_const!`).
-/
namespace Konst.ArrayMacros
open Konst.ArrayBuilder (readInit_map_some Builder)
open Konst.ArrayConsumer (Consumer)
variable {α β : Type}

/-- the `out` array after `done` has been written to its first slots -/
def outOf (len : Nat) (done : List β) : List (Option β) :=
  done.map some ++ List.replicate (len - done.length) none

theorem outOf_set {len : Nat} {done : List β} (v : β) (h : done.length < len) :
    (outOf len done).set done.length (some v) = outOf len (done ++ [v]) := by
  unfold outOf
  rw [show len - done.length = (len - (done ++ [v]).length) + 1 by simp; omega,
    ArrayBuilder.set_map_some_replicate]

theorem assumeInit_outOf {n : Nat} {done : List β} (h : done.length ≤ n) :
    assumeInit (outOf n done) = if done.length = n then .array done else .ub := by
  unfold assumeInit outOf
  by_cases he : done.length = n
  · simp [he, readInit_map_some]
  · rw [show n - done.length = (n - done.length - 1) + 1 by omega, List.replicate_succ,
      ArrayBuilder.readInit_none_mem, if_neg he]

theorem outOf_full {len : Nat} {done : List β} (h : done.length = len) :
    assumeInit (outOf len done) = .array done := by
  rw [assumeInit_outOf (Nat.le_of_eq h), if_pos h]

theorem outOf_length {cap : Nat} {done : List β} (h : done.length ≤ cap) : (outOf cap done).length = cap := by
  simp [outOf]; omega

theorem outOf_nil (len : Nat) : outOf len ([] : List β) = List.replicate len none := by
  simp [outOf]

/-- hostile result of the by-reference loop for the first non-value outcome -/
def hostileRes : Outcome β → Res β
  | .brk => .panic
  | .cont => .diverge
  | .ret => .returned
  | .panic => .panic
  | .value _ => .ub           -- not used: the hypothesis excludes `value`

/-- for ANY closure (stateful, hostile): the loop never reaches `assume_init` with an unwritten slot, and
    an array result extends what was written by values the closure returned for the following indices -/
theorem mapLoop_sound (len : Nat) (get : Nat → Option α) (c : Nat → α → Outcome β) :
    ∀ (fuel t : Nat) (done : List β), done.length ≤ len →
      mapLoop len get c fuel t done.length (outOf len done) ≠ .ub ∧
      ∀ l, mapLoop len get c fuel t done.length (outOf len done) = .array l →
        l.length = len ∧ ∃ vs, l = done ++ vs ∧
          ∀ j v, vs[j]? = some v → ∃ t' a, get (done.length + j) = some a ∧ c t' a = .value v := by
  intro fuel
  induction fuel with
  | zero => intro t done _; simp [mapLoop]
  | succ f ih =>
    intro t done hi
    by_cases hil : done.length < len
    · simp only [mapLoop, hil, if_true]
      cases hg : get done.length with
      | none => simp
      | some a =>
        simp only []
        cases hc : c t a with
        | value v =>
          simp only []
          rw [outOf_set v hil]
          have := ih (t + 1) (done ++ [v]) (by simp; omega)
          simp only [List.length_append, List.length_cons, List.length_nil, Nat.zero_add] at this
          refine ⟨this.1, fun l hl => ?_⟩
          obtain ⟨h1, vs, rfl, h3⟩ := this.2 l hl
          refine ⟨h1, v :: vs, by simp, fun j w hw => ?_⟩
          cases j with
          | zero => cases hw; exact ⟨t, a, hg, hc⟩
          | succ j =>
            rw [← Nat.add_assoc, Nat.add_right_comm]
            exact h3 j w hw
        | cont => exact ih (t + 1) done hi
        | brk => simp [afterLoop, Nat.ne_of_lt hil]
        | ret => simp
        | panic => simp
    · have hil' : done.length = len := by omega
      have hr : mapLoop len get c (f + 1) t done.length (outOf len done) = .array done := by
        simp only [mapLoop, afterLoop, hil', beq_self_eq_true, if_true, Nat.lt_irrefl, if_false]
        exact outOf_full hil'
      rw [hr]
      refine ⟨nofun, fun l hl => ?_⟩
      cases hl
      exact ⟨hil', [], by simp, nofun⟩

/-- the first non-value outcome is at index `k` (for every call), earlier indices yield values -/
theorem mapLoop_hostile (len : Nat) (get : Nat → Option α) (c : Nat → α → Outcome β) (k : Nat) (o : Outcome β)
    (hk : k < len)
    (hget : ∀ i, i < len → ∃ a, get i = some a)
    (hpre : ∀ i, i < k → ∀ t a, get i = some a → ∃ v, c t a = .value v)
    (hat : ∀ t a, get k = some a → c t a = o) (ho : ∀ v, o ≠ .value v) :
    ∀ (fuel t i : Nat) (out : List (Option β)), i ≤ k →
      mapLoop len get c fuel t i out = if k - i < fuel then hostileRes o else .diverge := by
  intro fuel
  induction fuel with
  | zero => intro t i out _; simp [mapLoop]
  | succ f ih =>
    intro t i out hik
    have hil : i < len := by omega
    obtain ⟨a, hg⟩ := hget i hil
    simp only [mapLoop, hil, if_true, hg]
    by_cases hlt : i < k
    · obtain ⟨v, hv⟩ := hpre i hlt t a hg
      simp only [hv]
      rw [ih (t + 1) (i + 1) _ (by omega)]
      have : (k - (i + 1) < f) = (k - i < f + 1) := by
        apply propext; constructor <;> intro <;> omega
      simp only [this]
    · have hik' : i = k := by omega
      subst hik'
      have hc := hat t a hg
      rw [hc]
      cases o with
      | value v => exact absurd rfl (ho v)
      | brk => simp [afterLoop, Nat.ne_of_lt hil, hostileRes]
      | cont =>
        simp only []
        rw [ih (t + 1) i out (Nat.le_refl _)]
        simp [hostileRes]
      | ret => simp [hostileRes]
      | panic => simp [hostileRes]

theorem hostileRes_ne_array {o : Outcome β} (ho : ∀ v, o ≠ .value v) (b : Prop) [Decidable b] (l : List β) :
    (if b then hostileRes o else .diverge) ≠ .array l := by
  cases o with
  | value v => exact absurd rfl (ho v)
  | _ => split <;> simp [hostileRes]

/-! ### by-value loop -/

theorem byValFinish_eq {calls : List α} {cons : Consumer α} {bld : Builder β} {rem : List α} {acc : List β}
    (hc : ArrayConsumer.Wf cons rem) (hb : ArrayBuilder.Wf bld acc) :
    byValFinish calls cons bld =
      if acc.length = bld.n then ⟨.array acc, calls, [], [], rem⟩ else ⟨.panic, calls, acc, [], rem⟩ := by
  unfold byValFinish
  rw [ArrayConsumer.wf_asSlice hc, ArrayBuilder.wf_build hb]
  by_cases h : acc.length = bld.n
  · simp [h]
  · simp [h, ArrayBuilder.wf_dropped hb]

theorem byValUnwind_eq (r : Res β) {calls : List α} {cons : Consumer α} {bld : Builder β} {rem : List α}
    {acc : List β} (hc : ArrayConsumer.Wf cons rem) (hb : ArrayBuilder.Wf bld acc) :
    byValUnwind r calls cons bld = ⟨r, calls, acc, rem, []⟩ := by
  simp [byValUnwind, ArrayConsumer.wf_dropped hc, ArrayBuilder.wf_dropped hb]

/-- the by-value loop in terms of what consumer and builder own: `rem` is still to come, `acc` has been pushed,
    `n` is the capacity (`acc.length + rem.length ≤ n`, so `push` finds room) -/
def byValRef (c : Nat → α → Outcome β) (n : Nat) : Nat → List α → List α → List β → ByVal α β
  | _, calls, [], acc => if acc.length = n then ⟨.array acc, calls, [], [], []⟩ else ⟨.panic, calls, acc, [], []⟩
  | t, calls, x :: r, acc =>
    match c t x with
    | .value v => byValRef c n (t + 1) (calls ++ [x]) r (acc ++ [v])
    | .cont => byValRef c n (t + 1) (calls ++ [x]) r acc
    | .brk => ⟨.panic, calls ++ [x], acc, [], r⟩
    | .ret => ⟨.returned, calls ++ [x], acc, r, []⟩
    | .panic => ⟨.panic, calls ++ [x], acc, r, []⟩

theorem byValLoop_eq_ref (c : Nat → α → Outcome β) :
    ∀ (rem : List α) (fuel t : Nat) (calls : List α) (cons : Consumer α) (bld : Builder β) (acc : List β),
      ArrayConsumer.Wf cons rem → ArrayBuilder.Wf bld acc → acc.length + rem.length ≤ bld.n →
      rem.length < fuel → byValLoop c fuel t calls cons bld = byValRef c bld.n t calls rem acc := by
  intro rem
  induction rem with
  | nil =>
    intro fuel t calls cons bld acc hc hb _ hf
    obtain ⟨fu, rfl⟩ : ∃ fu, fuel = fu + 1 := ⟨fuel - 1, by omega⟩
    rw [byValLoop, ArrayConsumer.wf_next_nil hc]
    exact byValFinish_eq hc hb
  | cons x r ih =>
    intro fuel t calls cons bld acc hc hb hn hf
    obtain ⟨fu, rfl⟩ : ∃ fu, fuel = fu + 1 := ⟨fuel - 1, by omega⟩
    obtain ⟨hnx, hc'⟩ := ArrayConsumer.wf_next_cons hc
    rw [List.length_cons] at hn hf
    simp only [byValLoop, hnx, byValRef]
    cases c t x with
    | value v =>
      obtain ⟨bld', hp, hb', hn'⟩ := ArrayBuilder.wf_push_ok hb v (by omega)
      simp only [hp]
      rw [← hn']
      exact ih fu (t + 1) _ _ bld' _ hc' hb' (by rw [List.length_append, hn']; simp; omega) (by omega)
    | cont => exact ih fu (t + 1) _ _ bld acc hc' hb (by omega) (by omega)
    | brk => simp only [byValFinish_eq hc' hb, if_neg (show acc.length ≠ bld.n by omega)]
    | _ => exact byValUnwind_eq _ hc' hb

/-- an all-values run: the array of the values, every input handed to the closure, nothing dropped or leaked -/
theorem byValRef_value (c : Nat → α → Outcome β) (n : Nat) :
    ∀ (rem : List α) (vs : List β) (t : Nat) (calls : List α) (acc : List β),
      acc.length + rem.length = n → vs.length = rem.length →
      (∀ j a v, rem[j]? = some a → vs[j]? = some v → c (t + j) a = .value v) →
      byValRef c n t calls rem acc = ⟨.array (acc ++ vs), calls ++ rem, [], [], []⟩ := by
  intro rem
  induction rem with
  | nil =>
    intro vs t calls acc hn hvl _
    have : vs = [] := List.eq_nil_of_length_eq_zero hvl
    subst this
    rw [byValRef, if_pos (by simpa using hn), List.append_nil, List.append_nil]
  | cons x r ih =>
    intro vs t calls acc hn hvl hv
    cases vs with
    | nil => simp at hvl
    | cons v vs' =>
      have hcx : c t x = .value v := hv 0 x v rfl rfl
      simp only [List.length_cons] at hn hvl
      rw [byValRef, hcx]
      simp only []
      rw [ih vs' (t + 1) (calls ++ [x]) (acc ++ [v]) (by simp; omega) (by omega)
        (fun j a w hj hw => by
          rw [Nat.add_assoc, Nat.add_comm 1 j]
          exact hv (j + 1) a w hj hw)]
      rw [List.append_assoc, List.append_assoc]
      rfl

/-- ANY closure: never `ub`, never `diverge`; calls, drops and leaks partition the input in order; a leak only with a
    panic -/
theorem byValRef_ledger (c : Nat → α → Outcome β) (n : Nat) :
    ∀ (rem : List α) (t : Nat) (calls : List α) (acc : List β),
      (byValRef c n t calls rem acc).res ≠ .ub ∧
      (byValRef c n t calls rem acc).res ≠ .diverge ∧
      (byValRef c n t calls rem acc).calls ++ (byValRef c n t calls rem acc).droppedIn ++
          (byValRef c n t calls rem acc).leakedIn = calls ++ rem ∧
      ((byValRef c n t calls rem acc).leakedIn ≠ [] → (byValRef c n t calls rem acc).res = .panic) := by
  intro rem
  induction rem with
  | nil =>
    intro t calls acc
    rw [byValRef]
    split <;> simp
  | cons x r ih =>
    intro t calls acc
    rw [byValRef]
    cases c t x with
    | value v => simpa using ih (t + 1) (calls ++ [x]) (acc ++ [v])
    | cont => simpa using ih (t + 1) (calls ++ [x]) acc
    | _ => simp

/-- an array only from an all-values run (whose ledger is then `byValRef_value`) -/
theorem byValRef_array (c : Nat → α → Outcome β) (n : Nat) :
    ∀ (rem : List α) (t : Nat) (calls : List α) (acc : List β) (l : List β), acc.length + rem.length ≤ n →
      (byValRef c n t calls rem acc).res = .array l →
      ∃ vs, l = acc ++ vs ∧ acc.length + rem.length = n ∧ vs.length = rem.length ∧
        ∀ j a v, rem[j]? = some a → vs[j]? = some v → c (t + j) a = .value v := by
  intro rem
  induction rem with
  | nil =>
    intro t calls acc l _ hl
    rw [byValRef] at hl
    split at hl
    · cases hl
      exact ⟨[], by simp, by simpa, rfl, nofun⟩
    · cases hl
  | cons x r ih =>
    intro t calls acc l hn hl
    rw [List.length_cons] at hn
    rw [byValRef] at hl
    cases hcx : c t x with
    | value v =>
      rw [hcx] at hl
      obtain ⟨vs, g6, gn, g7, g8⟩ := ih (t + 1) _ (acc ++ [v]) l (by simp; omega) hl
      refine ⟨v :: vs, by simp [g6], by simp at gn ⊢; omega, by simp [g7], ?_⟩
      intro j a w hj hw
      cases j with
      | zero => cases hj; cases hw; exact hcx
      | succ j =>
        rw [← Nat.add_assoc, Nat.add_right_comm]
        exact g8 j a w hj hw
    | cont =>
      rw [hcx] at hl
      obtain ⟨vs, _, gn, _⟩ := ih (t + 1) _ acc l (by omega) hl
      omega
    | _ =>
      rw [hcx] at hl
      cases hl

/-- `map_!` from its initial state -/
theorem arrayMapByVal_eq_ref (xs : List α) (c : Nat → α → Outcome β) (fuel : Nat) (hf : xs.length < fuel) :
    arrayMapByVal fuel xs c = byValRef c xs.length 0 [] xs [] :=
  byValLoop_eq_ref c xs fuel 0 [] _ _ [] (ArrayConsumer.wf_new xs) (ArrayBuilder.wf_new _)
    (by simp [ArrayBuilder.new]) hf

/-- all-values run of `map_!` with its ledger: the closure gets each element once, in order, nothing is dropped or
    leaked -/
theorem arrayMapByVal_values (xs : List α) (vs : List β) (c : Nat → α → Outcome β) (fuel : Nat)
    (hf : xs.length < fuel) (hvl : vs.length = xs.length)
    (hv : ∀ j a v, xs[j]? = some a → vs[j]? = some v → c j a = .value v) :
    arrayMapByVal fuel xs c = ⟨.array vs, xs, [], [], []⟩ := by
  rw [arrayMapByVal_eq_ref xs c fuel hf, byValRef_value c _ xs vs 0 [] [] (Nat.zero_add _) hvl
    (by simpa only [Nat.zero_add] using hv)]
  rfl

theorem arrayMapByVal_map (xs : List α) (f : α → β) (c : Nat → α → Outcome β) (fuel : Nat)
    (hf : xs.length < fuel) (hc : ∀ i a, xs[i]? = some a → c i a = .value (f a)) :
    arrayMapByVal fuel xs c = ⟨.array (xs.map f), xs, [], [], []⟩ := by
  refine arrayMapByVal_values xs _ c fuel hf (List.length_map f) fun j a v hj hv => ?_
  rw [List.getElem?_map, hj] at hv
  cases hv
  exact hc j a hj

/-! ### collect_const! -/
open Konst.Spec.ArrayStd (yielded)

theorem ccLoop_count (src : List (Outcome β)) :
    ∀ (arr : List (Option β)) (len : Nat),
      ccLoop .computeLength src arr len = (yielded src).map (fun l => (arr, len + l.length)) := by
  induction src with
  | nil => intro arr len; simp [ccLoop, yielded, Except.map]
  | cons o r ih =>
    intro arr len
    cases o with
    | value v =>
      simp only [ccLoop, yielded, ih]
      cases yielded r <;> simp [Except.map]; omega
    | cont => simp only [ccLoop, yielded, ih]
    | brk => simp [ccLoop, yielded, Except.map]
    | ret => simp [ccLoop, yielded, Except.map]
    | panic => simp [ccLoop, yielded, Except.map]

theorem ccLoop_build_ok (cap : Nat) (src : List (Outcome β)) :
    ∀ (done l : List β), yielded src = .ok l → done.length + l.length ≤ cap →
      ccLoop .buildArray src (outOf cap done) done.length =
        .ok (outOf cap (done ++ l), done.length + l.length) := by
  induction src with
  | nil => intro done l h _; simp [yielded] at h; subst h; simp [ccLoop]
  | cons o r ih =>
    intro done l h hlen
    cases o with
    | value v =>
      simp only [yielded] at h
      cases hy : yielded r with
      | error e => simp [hy, Except.map] at h
      | ok l' =>
        simp [hy, Except.map] at h
        subst h
        simp only [List.length_cons] at hlen
        simp only [ccLoop, outOf_length (show done.length ≤ cap by omega),
          show done.length < cap by omega, if_true]
        rw [outOf_set v (by omega)]
        have := ih (done ++ [v]) l' hy (by simp; omega)
        simp only [List.length_append, List.length_cons, List.length_nil] at this
        rw [this]
        simp; omega
    | cont => simp only [yielded] at h; simp only [ccLoop]; exact ih done l h hlen
    | brk => simp [yielded] at h; subst h; simp [ccLoop]
    | ret => simp [yielded] at h
    | panic => simp [yielded] at h

theorem ccLoop_build_inv (cap : Nat) (src : List (Outcome β)) :
    ∀ (done : List β) (arr' : List (Option β)) (len' : Nat), done.length ≤ cap →
      ccLoop .buildArray src (outOf cap done) done.length = .ok (arr', len') →
      ∃ l, yielded src = .ok l ∧ arr' = outOf cap (done ++ l) ∧ len' = done.length + l.length ∧ len' ≤ cap := by
  induction src with
  | nil =>
    intro done arr' len' hd h
    simp [ccLoop] at h
    exact ⟨[], rfl, by simp [h.1], by simp [h.2], by omega⟩
  | cons o r ih =>
    intro done arr' len' hd h
    cases o with
    | value v =>
      simp only [ccLoop, outOf_length hd] at h
      by_cases hlt : done.length < cap
      · simp only [hlt, if_true] at h
        rw [outOf_set v hlt] at h
        have h' : ccLoop .buildArray r (outOf cap (done ++ [v])) (done ++ [v]).length = .ok (arr', len') := by
          simpa using h
        obtain ⟨l, h1, h2, h3, h4⟩ := ih (done ++ [v]) arr' len' (by simp; omega) h'
        exact ⟨v :: l, by simp [yielded, h1, Except.map], by simpa using h2, by simp at h3 ⊢; omega, h4⟩
      · simp [hlt] at h
    | cont => simp only [ccLoop] at h; simpa [yielded] using ih done arr' len' hd h
    | brk =>
      simp [ccLoop] at h
      exact ⟨[], rfl, by simp [h.1], by simp [h.2], by omega⟩
    | ret => simp [ccLoop] at h
    | panic => simp [ccLoop] at h

end Konst.ArrayMacros
