import KonstVerif.Model.Cmp
import KonstVerif.Spec.Cmp
/-
  Lemmas for C16.  The std orders of `Spec/Cmp.lean` are total orders (`IsTotalOrder`), preserved by the
  lexicographic and `Option` constructions; the loops of `Model/Cmp.lean` compute `lexCmp` / `listEqBy`.
-/
namespace Konst.Lemmas.Cmp
open Konst.Cmp Konst.Spec.Cmp

theorem then_eq_eq (x y : Ordering) : x.then y = .eq ↔ x = .eq ∧ y = .eq := by
  cases x <;> cases y <;> decide

theorem then_eq_lt (x y : Ordering) : x.then y = .lt ↔ x = .lt ∨ (x = .eq ∧ y = .lt) := by
  cases x <;> cases y <;> decide

theorem swap_then (x y : Ordering) : (x.then y).swap = x.swap.then y.swap := by
  cases x <;> cases y <;> rfl

theorem swap_eq_lt (x : Ordering) : x.swap = .lt ↔ x = .gt := by cases x <;> decide
theorem swap_eq_gt (x : Ordering) : x.swap = .gt ↔ x = .lt := by cases x <;> decide
theorem swap_eq_eq (x : Ordering) : x.swap = .eq ↔ x = .eq := by cases x <;> decide

theorem _root_.Konst.Spec.Cmp.IsTotalOrder.gt_iff {α : Type} {cmp : α → α → Ordering} (h : IsTotalOrder cmp) (a b : α) :
    cmp a b = .gt ↔ cmp b a = .lt := by
  rw [h.swap a b, swap_eq_lt]

theorem _root_.Konst.Spec.Cmp.IsTotalOrder.trans_gt {α : Type} {cmp : α → α → Ordering} (h : IsTotalOrder cmp) (a b c : α) :
    cmp a b = .gt → cmp b c = .gt → cmp a c = .gt := by
  intro h1 h2
  rw [h.gt_iff] at h1 h2 ⊢
  exact h.trans_lt c b a h2 h1

theorem _root_.Konst.Spec.Cmp.IsTotalOrder.total {α : Type} {cmp : α → α → Ordering} (h : IsTotalOrder cmp) (a b : α) :
    cmp a b = .lt ∨ a = b ∨ cmp b a = .lt := by
  cases hc : cmp a b
  · exact Or.inl rfl
  · exact Or.inr (Or.inl ((h.eq_iff a b).1 hc))
  · exact Or.inr (Or.inr ((h.gt_iff a b).1 hc))

/-- `cmp_int!`'s cascade `if l == r {Equal} else if l < r {Less} else {Greater}` is `compare` on `Int` -/
theorem cmpInt_eq_compare (a b : Int) : cmpInt a b = compare a b := by
  unfold cmpInt
  rcases Int.lt_trichotomy a b with h | h | h
  · rw [if_neg (Int.ne_of_lt h), if_pos h, Int.compare_eq_lt.2 h]
  · rw [if_pos h, Int.compare_eq_eq.2 h]
  · rw [if_neg (Int.ne_of_gt h), if_neg (Int.lt_asymm h), Int.compare_eq_gt.2 h]

theorem int_isTotalOrder : IsTotalOrder stdCmpScalar where
  eq_iff a b := by unfold stdCmpScalar; exact Int.compare_eq_eq
  swap a b := by
    unfold stdCmpScalar
    rcases Int.lt_trichotomy a b with h | h | h
    · rw [Int.compare_eq_lt.2 h, Int.compare_eq_gt.2 h]; rfl
    · subst h; rw [Int.compare_eq_eq.2 rfl]; rfl
    · rw [Int.compare_eq_gt.2 h, Int.compare_eq_lt.2 h]; rfl
  trans_lt a b c := by
    unfold stdCmpScalar
    rw [Int.compare_eq_lt, Int.compare_eq_lt, Int.compare_eq_lt]
    omega

theorem ordering_isTotalOrder : IsTotalOrder stdCmpOrdering where
  eq_iff a b := by cases a <;> cases b <;> decide
  swap a b := by cases a <;> cases b <;> decide
  trans_lt a b c := by cases a <;> cases b <;> cases c <;> decide

theorem lex_isTotalOrder {α : Type} {cmp : α → α → Ordering} (h : IsTotalOrder cmp) :
    IsTotalOrder (lexCmp cmp) where
  eq_iff l := by
    induction l with
    | nil => intro r; cases r <;> simp [lexCmp]
    | cons a as ih =>
      intro r
      cases r with
      | nil => simp [lexCmp]
      | cons b bs => simp only [lexCmp, then_eq_eq, h.eq_iff, ih bs, List.cons.injEq]
  swap l := by
    induction l with
    | nil => intro r; cases r <;> simp [lexCmp, Ordering.swap]
    | cons a as ih =>
      intro r
      cases r with
      | nil => simp [lexCmp, Ordering.swap]
      | cons b bs => simp only [lexCmp, swap_then, h.swap a b, ih bs]
  trans_lt l := by
    induction l with
    | nil =>
      intro m r h1 h2
      cases m with
      | nil => simp [lexCmp] at h1
      | cons b bs => cases r <;> simp_all [lexCmp]
    | cons a as ih =>
      intro m r h1 h2
      cases m with
      | nil => simp [lexCmp] at h1
      | cons b bs =>
        cases r with
        | nil => simp [lexCmp] at h2
        | cons c cs =>
          simp only [lexCmp, then_eq_lt] at h1 h2 ⊢
          rcases h1 with h1 | ⟨h1, h1'⟩ <;> rcases h2 with h2 | ⟨h2, h2'⟩
          · exact Or.inl (h.trans_lt a b c h1 h2)
          · have := (h.eq_iff b c).1 h2; subst this; exact Or.inl h1
          · have := (h.eq_iff a b).1 h1; subst this; exact Or.inl h2
          · have e1 := (h.eq_iff a b).1 h1; have e2 := (h.eq_iff b c).1 h2
            subst e1; subst e2
            exact Or.inr ⟨h1, ih bs cs h1' h2'⟩

theorem opt_isTotalOrder {α : Type} {cmp : α → α → Ordering} (h : IsTotalOrder cmp) :
    IsTotalOrder (optCmp cmp) where
  eq_iff a b := by
    cases a <;> cases b <;> simp [optCmp, h.eq_iff]
  swap a b := by
    cases a <;> cases b <;> simp only [optCmp, Ordering.swap]
    exact h.swap _ _
  trans_lt a b c := by
    cases a <;> cases b <;> cases c <;> simp [optCmp]
    exact h.trans_lt _ _ _

/-! ## the loops of `Model/Cmp.lean` -/

/-- induction for a loop that counts up to `m`: from `m` on nothing depends on later states, below
    `m` state `i` depends on state `i + 1` -/
theorem upTo_induction {P : Nat → Prop} (m : Nat) (stop : ∀ i, m ≤ i → P i)
    (step : ∀ i, i < m → P (i + 1) → P i) (i : Nat) : P i := by
  induction hn : m - i generalizing i with
  | zero => exact stop i (Nat.le_of_sub_eq_zero hn)
  | succ n ih => exact step i (Nat.lt_of_sub_eq_succ hn) (ih (i + 1) (by rw [Nat.sub_succ, hn]; rfl))

/-- the order of two lengths, written without `compare` -/
def lenOrd (a b : Nat) : Ordering := if a < b then .lt else if a = b then .eq else .gt

theorem lenOrd_eq_lt (a b : Nat) : lenOrd a b = .lt ↔ a < b := by
  unfold lenOrd; by_cases h : a < b <;> by_cases h2 : a = b <;> simp [h, h2]
theorem lenOrd_eq_eq (a b : Nat) : lenOrd a b = .eq ↔ a = b := by
  unfold lenOrd; by_cases h : a < b <;> by_cases h2 : a = b <;> simp [h, h2] <;> omega
theorem lenOrd_swap (a b : Nat) : lenOrd b a = (lenOrd a b).swap := by
  unfold lenOrd
  by_cases h : a < b
  · have h1 : ¬ b < a := by omega
    have h2 : b ≠ a := by omega
    simp [h, h1, h2, Ordering.swap]
  · by_cases h2 : a = b
    · subst h2; simp [Ordering.swap]
    · have h1 : b < a := by omega
      simp [h, h2, h1, Ordering.swap]

theorem lenOrd_succ (a b : Nat) : lenOrd (a + 1) (b + 1) = lenOrd a b := by
  simp only [lenOrd, Nat.add_lt_add_iff_right, Nat.add_right_cancel_iff]

theorem toOrdering_LESS : U8Ordering.LESS.toOrdering = .lt := by decide
theorem toOrdering_GREATER : U8Ordering.GREATER.toOrdering = .gt := by decide
theorem toOrdering_EQUAL : U8Ordering.EQUAL.toOrdering = .eq := by decide

section retIfNe
variable {α : Type} [DecidableEq α] [LT α] [DecidableLT α] {l r : α}

theorem retIfNe_self (a : α) : retIfNe a a = none := if_neg (fun h => h rfl)

theorem retIfNe_of_gt (hne : l ≠ r) (h : l > r) : retIfNe l r = some .GREATER := by
  unfold retIfNe
  rw [if_pos hne, decide_eq_true h]
  rfl

theorem retIfNe_of_not_gt (hne : l ≠ r) (h : ¬ l > r) : retIfNe l r = some .LESS := by
  unfold retIfNe
  rw [if_pos hne, decide_eq_false h]
  rfl
end retIfNe

theorem lenTail_toOrdering (a b : Nat) : (lenTail a b).toOrdering = lenOrd a b := by
  unfold lenTail lenOrd
  rcases Nat.lt_trichotomy a b with h | h | h
  · rw [retIfNe_of_not_gt (Nat.ne_of_lt h) (Nat.lt_asymm h), if_pos h]
    rfl
  · subst h
    rw [retIfNe_self, if_neg (Nat.lt_irrefl a), if_pos rfl]
    rfl
  · rw [retIfNe_of_gt (Nat.ne_of_gt h) h, if_neg (Nat.lt_asymm h), if_neg (Nat.ne_of_gt h)]
    rfl

/-- one `__priv_ret_if_ne!` on elements followed by code `x` that computes `c`: the std ordering
    of the two elements decides unless they are equal -/
theorem retIfNe_then (a b : Int) {x : Option U8Ordering} {c : Ordering}
    (hx : x.map U8Ordering.toOrdering = some c) :
    (match retIfNe a b with
      | some o => some o
      | none => x).map U8Ordering.toOrdering = some ((stdCmpScalar a b).then c) := by
  unfold stdCmpScalar
  rcases Int.lt_trichotomy a b with h | h | h
  · rw [retIfNe_of_not_gt (Int.ne_of_lt h) (Int.lt_asymm h), Int.compare_eq_lt.2 h]
    rfl
  · subst h
    rw [retIfNe_self, Int.compare_eq_eq.2 rfl]
    exact hx
  · rw [retIfNe_of_gt (Int.ne_of_gt h) h, Int.compare_eq_gt.2 h]
    rfl

theorem elemLoop_cons (a b : Int) (l r : List Int) (m : Nat) (tail : U8Ordering) (i : Nat) :
    elemLoop (a :: l) (b :: r) (m + 1) tail (i + 1) = elemLoop l r m tail i := by
  induction i using upTo_induction m with
  | stop i h =>
    rw [elemLoop.eq_1 (a :: l), elemLoop.eq_1 l, if_neg (Nat.not_lt.2 (Nat.succ_le_succ h)),
      if_neg (Nat.not_lt.2 h)]
  | step i _ ih =>
    rw [elemLoop.eq_1 (a :: l), elemLoop.eq_1 l]
    simp only [Nat.add_lt_add_iff_right, List.getElem?_cons_succ, ih]

/-- the element loop never panics and computes the lexicographic order, provided the code after
    the loop (`tail`) encodes the order of the lengths -/
theorem elemLoop_spec (l r : List Int) (m : Nat) (tail : U8Ordering)
    (hm : m = min l.length r.length) (htail : tail.toOrdering = lenOrd l.length r.length) :
    (elemLoop l r m tail 0).map U8Ordering.toOrdering = some (lexCmp stdCmpScalar l r) := by
  subst hm
  induction l generalizing r with
  | nil =>
    rw [elemLoop, List.length_nil, Nat.zero_min, if_neg (Nat.lt_irrefl 0), Option.map_some, htail]
    cases r <;> rfl
  | cons a l ih =>
    cases r with
    | nil =>
      rw [elemLoop, List.length_nil, Nat.min_zero, if_neg (Nat.lt_irrefl 0), Option.map_some, htail]
      rfl
    | cons b r =>
      rw [List.length_cons, List.length_cons, Nat.succ_min_succ, elemLoop, if_pos (Nat.succ_pos _)]
      simp only [List.getElem?_cons_zero, elemLoop_cons, lexCmp]
      exact retIfNe_then a b (ih r (by rw [htail, List.length_cons, List.length_cons, lenOrd_succ]))

theorem cmpSliceInner_spec (l r : List Int) :
    (cmpSliceInner l r).map U8Ordering.toOrdering = some (lexCmp stdCmpScalar l r) := by
  refine elemLoop_spec l r _ _ ?_ (lenTail_toOrdering _ _)
  by_cases h : l.length < r.length
  · rw [if_pos h, Nat.min_eq_left (Nat.le_of_lt h)]
  · rw [if_neg h, Nat.min_eq_right (Nat.not_lt.1 h)]

theorem cmpStrInner_spec (l r : List Int) :
    (cmpStrInner l r).map U8Ordering.toOrdering = some (lexCmp stdCmpScalar l r) := by
  unfold cmpStrInner
  by_cases hlt : l.length < r.length
  · simp only [hlt, if_true]
    refine elemLoop_spec l r _ _ (Nat.min_eq_left (Nat.le_of_lt hlt)).symm ?_
    rw [if_neg (Nat.ne_of_lt hlt), lenOrd, if_pos hlt]
    rfl
  · simp only [hlt, if_false]
    refine elemLoop_spec l r _ _ (Nat.min_eq_right (Nat.not_lt.1 hlt)).symm ?_
    rw [lenOrd, if_neg hlt]
    by_cases he : l.length = r.length
    · rw [if_pos he, if_pos he]
      rfl
    · rw [if_neg he, if_neg he]
      rfl


theorem listEqBy_of_length_ne {α : Type} (e : α → α → Bool) (l r : List α)
    (h : l.length ≠ r.length) : listEqBy e l r = false := by
  induction l generalizing r with
  | nil =>
    cases r with
    | nil => exact absurd rfl h
    | cons b bs => rfl
  | cons a as ih =>
    cases r with
    | nil => rfl
    | cons b bs =>
      rw [listEqBy, ih bs (fun hl => h (congrArg (· + 1) hl)), Bool.and_false]

theorem listEqBy_decide {α : Type} [DecidableEq α] (e : α → α → Bool)
    (he : ∀ a b, e a b = decide (a = b)) (l r : List α) : listEqBy e l r = decide (l = r) := by
  induction l generalizing r with
  | nil => cases r <;> rfl
  | cons a as ih =>
    cases r with
    | nil => rfl
    | cons b bs => simp only [listEqBy, ih bs, he, List.cons.injEq, Bool.decide_and]

/-! one iteration of the `const_eq_for!(slice; …)` loop -/

theorem constEqForLoop_stop {α : Type} (eq : α → α → Option Bool) {l r : List α} {i : Nat}
    (h : i = l.length) : constEqForLoop eq l r i = some true := by
  rw [constEqForLoop, if_pos h]

theorem constEqForLoop_step {α : Type} (eq : α → α → Option Bool) {l r : List α} {i : Nat}
    (hl : i < l.length) (hr : i < r.length) :
    constEqForLoop eq l r i =
      match eq l[i] r[i] with
      | some true => constEqForLoop eq l r (i + 1)
      | some false => some false
      | none => none := by
  rw [constEqForLoop, if_neg (Nat.ne_of_lt hl), dif_pos hl, List.getElem?_eq_getElem hr]
  rfl

theorem constEqForLoop_cons {α : Type} (eq : α → α → Option Bool) (a b : α) (l r : List α) (i : Nat) :
    constEqForLoop eq (a :: l) (b :: r) (i + 1) = constEqForLoop eq l r i := by
  induction i using upTo_induction l.length with
  | stop i h =>
    rw [constEqForLoop.eq_1 eq (a :: l), constEqForLoop.eq_1 eq l]
    simp only [List.length_cons, Nat.add_right_cancel_iff, Nat.add_lt_add_iff_right,
      Nat.not_lt.2 h, ↓reduceDIte]
  | step i _ ih =>
    rw [constEqForLoop.eq_1 eq (a :: l), constEqForLoop.eq_1 eq l]
    simp only [List.length_cons, Nat.add_right_cancel_iff, Nat.add_lt_add_iff_right,
      List.getElem?_cons_succ, List.getElem_cons_succ, ih]

/-- the loop of `const_eq_for!(slice; …)` with a non-panicking element test `e`, on slices of equal
    length -/
theorem constEqForLoop_spec {α : Type} (eq : α → α → Option Bool) (e : α → α → Bool)
    (he : ∀ a b, eq a b = some (e a b)) (l r : List α) (hlen : l.length = r.length) :
    constEqForLoop eq l r 0 = some (listEqBy e l r) := by
  induction l generalizing r with
  | nil =>
    cases r with
    | nil =>
      rw [constEqForLoop]
      rfl
    | cons b r => exact absurd hlen (Nat.succ_ne_zero _).symm
  | cons a l ih =>
    cases r with
    | nil => exact absurd hlen (Nat.succ_ne_zero _)
    | cons b r =>
      rw [constEqForLoop]
      simp only [List.length_cons, Nat.zero_ne_add_one, if_false, Nat.zero_lt_succ, dite_true,
        List.getElem?_cons_zero, List.getElem_cons_zero, he, constEqForLoop_cons,
        ih r (Nat.succ.inj hlen), listEqBy]
      cases e a b <;> rfl

theorem constEqForSlice_spec {α : Type} (eq : α → α → Option Bool) (e : α → α → Bool)
    (he : ∀ a b, eq a b = some (e a b)) (l r : List α) :
    constEqForSlice eq l r = some (listEqBy e l r) := by
  unfold constEqForSlice
  by_cases hlen : l.length = r.length
  · rw [if_pos hlen, constEqForLoop_spec eq e he l r hlen]
  · rw [if_neg hlen, listEqBy_of_length_ne e l r hlen]

/-- the loop of `eq_slice_*` / `eq_str` is the loop of `const_eq_for!(slice; …)` over `==` -/
theorem eqLoop_eq_constEqForLoop (l r : List Int) (i : Nat) :
    eqLoop l r i = constEqForLoop (fun a b => some (decide (a = b))) l r i := by
  induction i using upTo_induction l.length with
  | stop i h =>
    rw [eqLoop, constEqForLoop, dif_neg (Nat.not_lt.2 h), dif_neg (Nat.not_lt.2 h)]
  | step i h ih =>
    rw [eqLoop, constEqForLoop, ih]
    cases r[i]? with
    | none => rfl
    | some b =>
      by_cases hb : l[i] = b
      · simp only [hb, ne_eq, not_true_eq_false, if_false, decide_true]
      · simp only [hb, ne_eq, not_false_eq_true, if_true, decide_false]

theorem eqSlice_spec (l r : List Int) : eqSlice l r = some (decide (l = r)) := by
  unfold eqSlice
  rw [ite_not, eqLoop_eq_constEqForLoop]
  exact (constEqForSlice_spec _ _ (fun _ _ => rfl) l r).trans
    (congrArg some (listEqBy_decide _ (fun _ _ => rfl) l r))

theorem eqStr_spec (l r : List Int) : eqStr l r = some (decide (l = r)) := eqSlice_spec l r

end Konst.Lemmas.Cmp
