import KonstVerif.Model.Range
import KonstVerif.Spec.Range
import KonstVerif.Lemmas.RangeStep
/-
  What `Props/C09.lean` rests on:

  * the spec deque: reversal, "only the two ends matter";
  * `Refines`: a pair of by-value step functions that, inside an invariant, pop the front and the back of
    a list of remaining items answers every history like the spec deque over that list; the
    `iterator_shared!` wrapping preserves this;
  * lists of consecutive integers / scalar values;
  * the four blocks over the integer stepper (any `MIN`, `MAX`; the inclusive ones need `MIN < MAX`) and over the
    char stepper refine;
  * the driver's evaluation shortcuts; `RangeFromIter`.
-/
namespace Konst.Range.Lemmas
open Konst Konst.Range Konst.Spec.Range

/-! ### the spec deque -/

theorem dequeRun_nil {α : Type} : ∀ (h : List Dir), dequeRun ([] : List α) h = h.map fun _ => none := by
  intro h
  induction h with
  | nil => rfl
  | cons d h ih => cases d <;> simp [dequeRun, ih]

def flipDir : Dir → Dir
  | .f => .b
  | .b => .f

theorem dequeRun_reverse {α : Type} : ∀ (h : List Dir) (l : List α),
    dequeRun l.reverse h = dequeRun l (h.map flipDir) := by
  intro h
  induction h with
  | nil => intro l; rfl
  | cons d h ih =>
    intro l
    cases d with
    | f => simp only [dequeRun, List.map_cons, flipDir, List.head?_reverse, List.tail_reverse, ih]
    | b => simp only [dequeRun, List.map_cons, flipDir, List.getLast?_reverse, List.dropLast_reverse, ih]

theorem dequeRun_ends {α : Type} : ∀ (h : List Dir) (l1 mid l2 : List α),
    h.length ≤ l1.length → h.length ≤ l2.length →
    dequeRun (l1 ++ mid ++ l2) h = dequeRun (l1 ++ l2) h := by
  intro h
  induction h with
  | nil => intros; rfl
  | cons d h ih =>
    intro l1 mid l2 h1 h2
    cases d with
    | f =>
      cases l1 with
      | nil => exact absurd h1 (Nat.not_succ_le_zero _)
      | cons x l1 =>
        exact congrArg (some x :: ·) (ih l1 mid l2 (Nat.le_of_succ_le_succ h1) (Nat.le_of_succ_le h2))
    | b =>
      rcases List.eq_nil_or_concat l2 with rfl | ⟨l2, y, rfl⟩
      · exact absurd h2 (Nat.not_succ_le_zero _)
      · rw [List.length_concat] at h2
        rw [List.concat_eq_append, ← List.append_assoc, ← List.append_assoc, dequeRun, dequeRun,
          List.getLast?_concat, List.getLast?_concat, List.dropLast_concat, List.dropLast_concat,
          ih l1 mid l2 (Nat.le_of_succ_le h1) (Nat.le_of_succ_le_succ h2)]

/-! ### from one-step facts to every history -/

/-- what one front step must do relative to the list of remaining items `L` -/
def StepFront {α σ : Type} (L : σ → List α) (Inv : σ → Prop) (s : σ) : Outcome α σ → Prop
  | .panic => False
  | .done => L s = []
  | .item x s' => L s = x :: L s' ∧ Inv s'

def StepBack {α σ : Type} (L : σ → List α) (Inv : σ → Prop) (s : σ) : Outcome α σ → Prop
  | .panic => False
  | .done => L s = []
  | .item x s' => L s = L s' ++ [x] ∧ Inv s'

theorem stepBack_iff_front {α σ : Type} (L : σ → List α) (Inv : σ → Prop) (s : σ) (o : Outcome α σ) :
    StepBack L Inv s o ↔ StepFront (fun s => (L s).reverse) Inv s o := by
  cases o with
  | panic => exact Iff.rfl
  | done => exact List.reverse_eq_nil_iff.symm
  | item x s' =>
    refine and_congr_left fun _ => ?_
    rw [← List.reverse_inj, List.reverse_append]
    rfl

/-- inside `Inv`, `next` pops the front and `nextBack` the back of the remaining items `L` -/
structure Refines {α σ : Type} (next nextBack : σ → Outcome α σ) (L : σ → List α) (Inv : σ → Prop) : Prop where
  front : ∀ s, Inv s → StepFront L Inv s (next s)
  back : ∀ s, Inv s → StepBack L Inv s (nextBack s)

namespace Refines
variable {α σ : Type} {next nextBack : σ → Outcome α σ} {L : σ → List α} {Inv : σ → Prop}

theorem swap (R : Refines next nextBack L Inv) : Refines nextBack next (fun s => (L s).reverse) Inv where
  front s hi := (stepBack_iff_front L Inv s _).mp (R.back s hi)
  back s hi := by
    rw [stepBack_iff_front]
    simp only [List.reverse_reverse]
    exact R.front s hi

/-- every history is answered like the deque over `L s`, and no call panics -/
theorem history (R : Refines next nextBack L Inv) (h : List Dir) :
    ∀ (s : σ), Inv s → run next nextBack s h = some (dequeRun (L s) h) := by
  induction h with
  | nil => intro s _; rfl
  | cons d h ih =>
    intro s hi
    cases d with
    | f =>
      have hs := R.front s hi
      rw [run, dequeRun]
      revert hs
      cases next s with
      | panic => exact False.elim
      | done =>
        intro hs
        dsimp only
        rw [ih s hi, hs]
        rfl
      | item x s' =>
        intro hs
        dsimp only
        rw [ih s' hs.2, hs.1]
        rfl
    | b =>
      have hs := R.back s hi
      rw [run, dequeRun]
      revert hs
      cases nextBack s with
      | panic => exact False.elim
      | done =>
        intro hs
        dsimp only
        rw [ih s hi, hs]
        rfl
      | item x s' =>
        intro hs
        dsimp only
        rw [ih s' hs.2, hs.1, List.getLast?_concat, List.dropLast_concat]
        rfl

/-- the macro loop: draining from the front with enough fuel collects exactly the items -/
theorem drain_eq (R : Refines next nextBack L Inv) :
    ∀ (fuel : Nat) (s : σ), Inv s → (L s).length < fuel → drain next fuel s = some (L s) := by
  intro fuel
  induction fuel with
  | zero => intro s _ h; exact absurd h (Nat.not_lt_zero _)
  | succ n ih =>
    intro s hi hl
    have hs := R.front s hi
    rw [Konst.Range.drain]
    revert hs
    cases next s with
    | panic => exact False.elim
    | done =>
      intro hs
      rw [hs]
    | item x s' =>
      intro hs
      rw [hs.1] at hl ⊢
      dsimp only
      rw [ih s' hs.2 (Nat.lt_of_succ_lt_succ hl)]
      rfl

end Refines

/-- items an `Iter` still has to yield, in the order it yields them -/
def absIter {α : Type} (L : Fields α → List α) (it : Iter α) : List α :=
  if it.isForward then L it.fields else (L it.fields).reverse

def invIter {α : Type} (Inv : Fields α → Prop) (it : Iter α) : Prop := Inv it.fields

/-- `iterator_shared!`: `next` of the forward/reversed iterator from the two blocks -/
def mkNext {α : Type} (nb bb : Fields α → Outcome α (Fields α)) (it : Iter α) : Outcome α (Iter α) :=
  liftFields it.isForward (choose it.isForward (nb it.fields) (bb it.fields))

theorem RangeIter_next_eq_mkNext {α : Type} (S : Step α) :
    RangeIter.next S = mkNext (rangeNextBlock S) (rangeNextBackBlock S) := rfl

theorem RangeIter_nextBack_eq_mkNext {α : Type} (S : Step α) :
    RangeIter.nextBack S = mkNext (rangeNextBackBlock S) (rangeNextBlock S) := rfl

theorem RangeInclusiveIter_next_eq_mkNext {α : Type} (S : Step α) :
    RangeInclusiveIter.next S = mkNext (rangeIncNextBlock S) (rangeIncNextBackBlock S) := rfl

theorem RangeInclusiveIter_nextBack_eq_mkNext {α : Type} (S : Step α) :
    RangeInclusiveIter.nextBack S = mkNext (rangeIncNextBackBlock S) (rangeIncNextBlock S) := rfl

theorem stepFront_lift {α : Type} (L : Fields α → List α) (Inv : Fields α → Prop) (fwd : Bool) (f : Fields α)
    (o : Outcome α (Fields α)) (h : StepFront (fun f => absIter L ⟨fwd, f⟩) Inv f o) :
    StepFront (absIter L) (invIter Inv) ⟨fwd, f⟩ (liftFields fwd o) := by
  cases o <;> exact h

theorem stepBack_lift {α : Type} (L : Fields α → List α) (Inv : Fields α → Prop) (fwd : Bool) (f : Fields α)
    (o : Outcome α (Fields α)) (h : StepBack (fun f => absIter L ⟨fwd, f⟩) Inv f o) :
    StepBack (absIter L) (invIter Inv) ⟨fwd, f⟩ (liftFields fwd o) := by
  cases o <;> exact h

/-- the `iterator_shared!` wrapping: the forward iterator built from a `next` block and a `next_back` block
    pops the items at the same ends, the `Rev` iterator at the opposite ends -/
theorem Refines.iter {α : Type} {nb bb : Fields α → Outcome α (Fields α)} {L : Fields α → List α}
    {Inv : Fields α → Prop} (R : Refines nb bb L Inv) :
    Refines (mkNext nb bb) (mkNext bb nb) (absIter L) (invIter Inv) where
  front := fun ⟨fwd, f⟩ hi => by
    cases fwd
    · exact stepFront_lift L Inv false f _ (R.swap.front f hi)
    · exact stepFront_lift L Inv true f _ (R.front f hi)
  back := fun ⟨fwd, f⟩ hi => by
    cases fwd
    · exact stepBack_lift L Inv false f _ (R.swap.back f hi)
    · exact stepBack_lift L Inv true f _ (R.back f hi)

/-! ### lists of consecutive integers -/

theorem rangeFromList_length (a : Int) (n : Nat) : (rangeFromList a n).length = n := by simp [rangeFromList]

theorem rangeList_eq (a b : Int) : rangeList a b = rangeFromList a (b - a).toNat := rfl

theorem rangeIncList_eq (a b : Int) : rangeIncList a b = rangeFromList a (b + 1 - a).toNat := rfl

theorem rangeIncList_eq_rangeList (a b : Int) : rangeIncList a b = rangeList a (b + 1) := rfl

theorem rangeFromList_zero (a : Int) : rangeFromList a 0 = [] := rfl

theorem rangeFromList_succ (a : Int) (n : Nat) : rangeFromList a (n + 1) = a :: rangeFromList (a + 1) n := by
  simp only [rangeFromList, List.range_succ_eq_map, List.map_cons, List.map_map]
  refine congr (congrArg _ (by simp)) ?_
  apply List.map_congr_left
  intro i _
  simp only [Function.comp, Nat.succ_eq_add_one, Int.natCast_add, Int.natCast_one]
  omega

theorem rangeFromList_snoc (a : Int) (n : Nat) : rangeFromList a (n + 1) = rangeFromList a n ++ [a + (n : Int)] := by
  simp [rangeFromList, List.range_succ]

theorem rangeFromList_add (a : Int) (m n : Nat) :
    rangeFromList a (m + n) = rangeFromList a m ++ rangeFromList (a + (m : Int)) n := by
  simp only [rangeFromList, List.range_add, List.map_append, List.map_map]
  congr 1
  apply List.map_congr_left
  intro i _
  simp only [Function.comp, Int.natCast_add]
  omega

theorem rangeList_add (a : Int) (n : Nat) : rangeList a (a + n) = rangeFromList a n := by
  rw [rangeList, Int.add_comm a, Int.add_sub_cancel, Int.toNat_natCast]
  rfl

theorem rangeList_nil {a b : Int} (h : b ≤ a) : rangeList a b = [] := by
  rw [rangeList, Int.toNat_eq_zero.mpr (Int.sub_nonpos_of_le h)]
  rfl

theorem rangeList_split (a c b : Int) (h1 : a ≤ c) (h2 : c ≤ b) :
    rangeList a b = rangeList a c ++ rangeList c b := by
  obtain ⟨m, rfl⟩ := Int.le.dest h1
  obtain ⟨n, rfl⟩ := Int.le.dest h2
  rw [rangeList_add, rangeList_add, Int.add_assoc, ← Int.natCast_add, rangeList_add, rangeFromList_add]

theorem rangeList_cons {a b : Int} (h : a < b) : rangeList a b = a :: rangeList (a + 1) b := by
  obtain ⟨n, rfl⟩ := Int.le.dest (Int.add_one_le_of_lt h)
  rw [rangeList_add, Int.add_assoc, Int.add_comm 1, ← Int.natCast_succ, rangeList_add, rangeFromList_succ]

theorem rangeList_snoc {a b : Int} (h : a < b) : rangeList a b = rangeList a (b - 1) ++ [b - 1] := by
  obtain ⟨n, rfl⟩ := Int.le.dest (Int.add_one_le_of_lt h)
  rw [Int.add_right_comm, Int.add_sub_cancel, rangeList_add, Int.add_assoc, ← Int.natCast_succ, rangeList_add,
    rangeFromList_snoc]


/-! ### the integer stepper, any `MIN`, `MAX` -/

def IntInv (MIN MAX : Int) (f : Fields Int) : Prop :=
  MIN ≤ f.start ∧ f.start ≤ MAX ∧ MIN ≤ f.end_ ∧ f.end_ ≤ MAX

def intRangeL (f : Fields Int) : List Int := rangeList f.start f.end_
def intRangeIncL (f : Fields Int) : List Int := rangeIncList f.start f.end_

/-- the inclusive blocks are reasoned about through the lemmas on `rangeList` -/
theorem intRangeIncL_eq : intRangeIncL = fun f => rangeList f.start (f.end_ + 1) :=
  funext fun f => rangeIncList_eq_rangeList f.start f.end_

theorem int_range_next (MIN MAX : Int) (f : Fields Int) (hi : IntInv MIN MAX f) :
    StepFront intRangeL (IntInv MIN MAX) f (rangeNextBlock (intStep MIN MAX) f) := by
  obtain ⟨a, b⟩ := f
  obtain ⟨h1, h2, h3, h4⟩ : MIN ≤ a ∧ a ≤ MAX ∧ MIN ≤ b ∧ b ≤ MAX := hi
  simp only [rangeNextBlock, intStep, intIncrement_eq]
  by_cases hf : a < b
  · rw [if_neg (mt of_decide_eq_true (Int.not_le.mpr hf)), overflowingAdd1_lt (Int.lt_of_lt_of_le hf h4)]
    exact ⟨rangeList_cons hf, Int.le_trans h1 (Int.le_add_one (Int.le_refl a)),
      Int.add_one_le_of_lt (Int.lt_of_lt_of_le hf h4), h3, h4⟩
  · rw [if_pos (decide_eq_true (Int.not_lt.mp hf))]
    exact rangeList_nil (Int.not_lt.mp hf)

theorem int_range_nextBack (MIN MAX : Int) (f : Fields Int) (hi : IntInv MIN MAX f) :
    StepBack intRangeL (IntInv MIN MAX) f (rangeNextBackBlock (intStep MIN MAX) f) := by
  obtain ⟨a, b⟩ := f
  obtain ⟨h1, h2, h3, h4⟩ : MIN ≤ a ∧ a ≤ MAX ∧ MIN ≤ b ∧ b ≤ MAX := hi
  simp only [rangeNextBackBlock, intStep, intDecrement_eq]
  by_cases hf : a < b
  · rw [if_neg (mt of_decide_eq_true (Int.not_le.mpr hf)), overflowingSub1_gt (Int.lt_of_le_of_lt h1 hf), if_neg Bool.false_ne_true]
    exact ⟨rangeList_snoc hf, h1, h2, Int.le_sub_one_of_lt (Int.lt_of_le_of_lt h1 hf),
      Int.le_trans (Int.sub_le_self b (by decide)) h4⟩
  · rw [if_pos (decide_eq_true (Int.not_lt.mp hf))]
    exact rangeList_nil (Int.not_lt.mp hf)

/-- the step that yields `MAX` switches to the `(MAX, MIN)` exhausted encoding, which is empty when `MIN < MAX` -/
theorem int_rangeInc_next (MIN MAX : Int) (hmm : MIN < MAX) (f : Fields Int) (hi : IntInv MIN MAX f) :
    StepFront intRangeIncL (IntInv MIN MAX) f (rangeIncNextBlock (intStep MIN MAX) f) := by
  obtain ⟨a, b⟩ := f
  obtain ⟨h1, h2, h3, h4⟩ : MIN ≤ a ∧ a ≤ MAX ∧ MIN ≤ b ∧ b ≤ MAX := hi
  rw [intRangeIncL_eq]
  simp only [rangeIncNextBlock, intStep, intIncrement_eq]
  by_cases hf : a ≤ b
  · rw [if_neg (mt of_decide_eq_true (Int.not_lt.mpr hf))]
    have hc : rangeList a (b + 1) = a :: rangeList (a + 1) (b + 1) := rangeList_cons (Int.lt_add_one_of_le hf)
    by_cases hm : a < MAX
    · rw [overflowingAdd1_lt hm, if_neg Bool.false_ne_true]
      exact ⟨hc, Int.le_trans h1 (Int.le_add_one (Int.le_refl a)), Int.add_one_le_of_lt hm, h3, h4⟩
    · obtain rfl : a = MAX := Int.le_antisymm h2 (Int.not_lt.mp hm)
      have e1 : rangeList (a + 1) (b + 1) = [] := rangeList_nil (Int.add_le_add_right h4 1)
      have e2 : rangeList a (MIN + 1) = [] := rangeList_nil (Int.add_one_le_of_lt hmm)
      rw [overflowingAdd1_max, if_pos rfl]
      exact ⟨hc.trans (congrArg _ (e1.trans e2.symm)), h1, h2, Int.le_refl _, h1⟩
  · rw [if_pos (decide_eq_true (Int.not_le.mp hf))]
    exact rangeList_nil (Int.add_one_le_of_lt (Int.not_le.mp hf))

theorem int_rangeInc_nextBack (MIN MAX : Int) (hmm : MIN < MAX) (f : Fields Int) (hi : IntInv MIN MAX f) :
    StepBack intRangeIncL (IntInv MIN MAX) f (rangeIncNextBackBlock (intStep MIN MAX) f) := by
  obtain ⟨a, b⟩ := f
  obtain ⟨h1, h2, h3, h4⟩ : MIN ≤ a ∧ a ≤ MAX ∧ MIN ≤ b ∧ b ≤ MAX := hi
  rw [intRangeIncL_eq]
  simp only [rangeIncNextBackBlock, intStep, intDecrement_eq]
  by_cases hf : a ≤ b
  · rw [if_neg (mt of_decide_eq_true (Int.not_lt.mpr hf))]
    have hc : rangeList a (b + 1) = rangeList a b ++ [b] := by
      rw [rangeList_snoc (Int.lt_add_one_of_le hf), Int.add_sub_cancel]
    by_cases hm : MIN < b
    · rw [overflowingSub1_gt hm, if_neg Bool.false_ne_true]
      have e : rangeList a b = rangeList a (b - 1 + 1) := by rw [Int.sub_add_cancel]
      exact ⟨hc.trans (congrArg (· ++ [b]) e), h1, h2, Int.le_sub_one_of_lt hm,
        Int.le_trans (Int.sub_le_self b (by decide)) h4⟩
    · obtain rfl : b = MIN := Int.le_antisymm (Int.not_lt.mp hm) h3
      have e1 : rangeList a b = [] := rangeList_nil h1
      have e2 : rangeList MAX (b + 1) = [] := rangeList_nil (Int.add_one_le_of_lt hmm)
      rw [overflowingSub1_min, if_pos rfl]
      exact ⟨hc.trans (congrArg (· ++ [b]) (e1.trans e2.symm)), h4, Int.le_refl _, Int.le_refl _, h4⟩
  · rw [if_pos (decide_eq_true (Int.not_le.mp hf))]
    exact rangeList_nil (Int.add_one_le_of_lt (Int.not_le.mp hf))

theorem int_range (MIN MAX : Int) :
    Refines (rangeNextBlock (intStep MIN MAX)) (rangeNextBackBlock (intStep MIN MAX)) intRangeL (IntInv MIN MAX) :=
  ⟨int_range_next MIN MAX, int_range_nextBack MIN MAX⟩

theorem int_rangeInc (MIN MAX : Int) (hmm : MIN < MAX) :
    Refines (rangeIncNextBlock (intStep MIN MAX)) (rangeIncNextBackBlock (intStep MIN MAX)) intRangeIncL
      (IntInv MIN MAX) :=
  ⟨int_rangeInc_next MIN MAX hmm, int_rangeInc_nextBack MIN MAX hmm⟩

/-! ### lists of scalar values -/

theorem isScalar_iff (n : Nat) : isScalar n = true ↔ (n < 0xD800 ∨ (0xE000 ≤ n ∧ n ≤ 0x10FFFF)) := by
  simp [isScalar]

theorem charRangeIncList_eq (a b : Nat) : charRangeIncList a b = charRangeList a (b + 1) := rfl

theorem charRangeList_nil (a b : Nat) (h : b ≤ a) : charRangeList a b = [] := by
  rw [charRangeList, Nat.sub_eq_zero_of_le h]
  rfl

theorem charRangeList_split (a c b : Nat) (h1 : a ≤ c) (h2 : c ≤ b) :
    charRangeList a b = charRangeList a c ++ charRangeList c b := by
  obtain ⟨m, rfl⟩ := Nat.le.dest h1
  obtain ⟨n, rfl⟩ := Nat.le.dest h2
  simp only [charRangeList, Nat.add_assoc, Nat.add_sub_add_left, Nat.add_sub_cancel_left, ← List.filter_append,
    List.range'_append_1]

theorem charRangeList_single (a : Nat) (hs : isScalar a = true) : charRangeList a (a + 1) = [a] := by
  rw [charRangeList, Nat.add_sub_cancel_left]
  exact List.filter_cons_of_pos hs

theorem charRangeList_cons (a b : Nat) (h : a < b) (hs : isScalar a = true) :
    charRangeList a b = a :: charRangeList (a + 1) b := by
  rw [charRangeList_split a (a + 1) b (Nat.le_succ a) h, charRangeList_single a hs]
  rfl

theorem charRangeList_snoc (a b : Nat) (h : a ≤ b) (hs : isScalar b = true) :
    charRangeList a (b + 1) = charRangeList a b ++ [b] := by
  rw [charRangeList_split a b (b + 1) h (Nat.le_succ b), charRangeList_single b hs]

theorem charRangeList_gap_nil : charRangeList 0xD800 0xE000 = [] := by
  simp only [charRangeList, List.filter_eq_nil_iff, List.mem_range'_1]
  intro x hx
  simp only [isScalar_iff]
  omega

/-- the surrogates contribute nothing at the front … -/
theorem charRangeList_gap_front (b : Nat) (h : b ≤ 0xD800 ∨ 0xE000 ≤ b) :
    charRangeList 0xD800 b = charRangeList 0xE000 b := by
  rcases h with h | h
  · rw [charRangeList_nil _ _ h, charRangeList_nil _ _ (by omega)]
  · rw [charRangeList_split 0xD800 0xE000 b (by omega) h, charRangeList_gap_nil, List.nil_append]

/-- … nor at the back -/
theorem charRangeList_gap_back (a : Nat) (h : a ≤ 0xD800 ∨ 0xE000 ≤ a) :
    charRangeList a 0xE000 = charRangeList a 0xD800 := by
  rcases h with h | h
  · rw [charRangeList_split a 0xD800 0xE000 h (by omega), charRangeList_gap_nil, List.append_nil]
  · rw [charRangeList_nil _ _ h, charRangeList_nil _ _ (by omega)]

theorem charRangeList_succ (a b : Nat) (ha : a ≠ 0x10FFFF) (hb : b ≤ 0xD800 ∨ 0xE000 ≤ b) :
    charRangeList (charSucc a) b = charRangeList (a + 1) b := by
  unfold charSucc
  by_cases h1 : a = 0xD7FF
  · rw [if_pos h1, h1]
    exact (charRangeList_gap_front b hb).symm
  · rw [if_neg h1, if_neg ha]

theorem charRangeList_cons_succ (a b : Nat) (h : a < b) (hs : isScalar a = true) (ha : a ≠ 0x10FFFF)
    (hb : b ≤ 0xD800 ∨ 0xE000 ≤ b) : charRangeList a b = a :: charRangeList (charSucc a) b := by
  rw [charRangeList_succ a b ha hb]
  exact charRangeList_cons a b h hs

theorem charRangeList_pred (a b : Nat) (hb : b ≠ 0) (ha : a ≤ 0xD800 ∨ 0xE000 ≤ a) :
    charRangeList a (charPred b + 1) = charRangeList a b := by
  unfold charPred
  by_cases h1 : b = 0xE000
  · rw [if_neg hb, if_pos h1, h1]
    exact (charRangeList_gap_back a ha).symm
  · rw [if_neg hb, if_neg h1, Nat.sub_add_cancel (Nat.pos_of_ne_zero hb)]

/-! ### the char stepper -/

def CharInv (f : Fields Nat) : Prop := isScalar f.start = true ∧ isScalar f.end_ = true

def charRangeL (f : Fields Nat) : List Nat := charRangeList f.start f.end_
def charRangeIncL (f : Fields Nat) : List Nat := charRangeIncList f.start f.end_

theorem charRangeIncL_eq : charRangeIncL = fun f => charRangeList f.start (f.end_ + 1) :=
  funext fun f => charRangeIncList_eq f.start f.end_

theorem isScalar_charSucc {a : Nat} (ha : isScalar a = true) : isScalar (charSucc a) = true :=
  (isScalar_iff _).mpr (charSucc_scalar ((isScalar_iff a).mp ha))

theorem isScalar_charPred {b : Nat} (hb : isScalar b = true) : isScalar (charPred b) = true :=
  (isScalar_iff _).mpr (charPred_scalar ((isScalar_iff b).mp hb))

theorem le_charPred {a b : Nat} (ha : a < 0xD800 ∨ 0xE000 ≤ a) (h : a < b) : a ≤ charPred b := by
  unfold charPred
  split
  · omega
  · split <;> omega

theorem char_range_next (f : Fields Nat) (hi : CharInv f) :
    StepFront charRangeL CharInv f (rangeNextBlock charStep f) := by
  obtain ⟨a, b⟩ := f
  obtain ⟨hs, he⟩ : isScalar a = true ∧ isScalar b = true := hi
  simp only [rangeNextBlock, charStep, charIncrement_scalar a b ((isScalar_iff a).mp hs)]
  have hb := (isScalar_iff b).mp he
  by_cases hf : a < b
  · rw [if_neg (mt of_decide_eq_true (Nat.not_le.mpr hf))]
    exact ⟨charRangeList_cons_succ a b hf hs (by omega) (by omega), isScalar_charSucc hs, he⟩
  · rw [if_pos (decide_eq_true (Nat.not_lt.mp hf))]
    exact charRangeList_nil a b (Nat.not_lt.mp hf)

theorem char_range_nextBack (f : Fields Nat) (hi : CharInv f) :
    StepBack charRangeL CharInv f (rangeNextBackBlock charStep f) := by
  obtain ⟨a, b⟩ := f
  obtain ⟨hs, he⟩ : isScalar a = true ∧ isScalar b = true := hi
  simp only [rangeNextBackBlock, charStep, charDecrement_scalar a b ((isScalar_iff b).mp he)]
  have ha := (isScalar_iff a).mp hs
  by_cases hf : a < b
  · have h0 : b ≠ 0 := Nat.ne_of_gt (Nat.lt_of_le_of_lt (Nat.zero_le a) hf)
    rw [if_neg (mt of_decide_eq_true (Nat.not_le.mpr hf)), if_neg (mt of_decide_eq_true h0)]
    have hp := charRangeList_pred a b h0 (by omega)
    rw [charRangeList_snoc a (charPred b) (le_charPred (by omega) hf) (isScalar_charPred he)] at hp
    exact ⟨hp.symm, hs, isScalar_charPred he⟩
  · rw [if_pos (decide_eq_true (Nat.not_lt.mp hf))]
    exact charRangeList_nil a b (Nat.not_lt.mp hf)

/-- the step that yields `char::MAX` switches to the `(MAX, MIN)` exhausted encoding -/
theorem char_rangeInc_next (f : Fields Nat) (hi : CharInv f) :
    StepFront charRangeIncL CharInv f (rangeIncNextBlock charStep f) := by
  obtain ⟨a, b⟩ := f
  obtain ⟨hs, he⟩ : isScalar a = true ∧ isScalar b = true := hi
  rw [charRangeIncL_eq]
  simp only [rangeIncNextBlock, charStep, charIncrement_scalar a b ((isScalar_iff a).mp hs)]
  have hb := (isScalar_iff b).mp he
  by_cases hf : a ≤ b
  · rw [if_neg (mt of_decide_eq_true (Nat.not_lt.mpr hf))]
    by_cases hm : a = 0x10FFFF
    · rw [if_pos (decide_eq_true hm)]
      have e1 : charRangeList (a + 1) (b + 1) = [] := charRangeList_nil _ _ (by omega)
      exact ⟨(charRangeList_cons a (b + 1) (Nat.lt_succ_of_le hf) hs).trans (congrArg _ e1), rfl, rfl⟩
    · rw [if_neg (mt of_decide_eq_true hm)]
      exact ⟨charRangeList_cons_succ a (b + 1) (Nat.lt_succ_of_le hf) hs hm (by omega), isScalar_charSucc hs, he⟩
  · rw [if_pos (decide_eq_true (Nat.not_le.mp hf))]
    exact charRangeList_nil a (b + 1) (Nat.not_le.mp hf)

theorem char_rangeInc_nextBack (f : Fields Nat) (hi : CharInv f) :
    StepBack charRangeIncL CharInv f (rangeIncNextBackBlock charStep f) := by
  obtain ⟨a, b⟩ := f
  obtain ⟨hs, he⟩ : isScalar a = true ∧ isScalar b = true := hi
  rw [charRangeIncL_eq]
  simp only [rangeIncNextBackBlock, charStep, charDecrement_scalar a b ((isScalar_iff b).mp he)]
  have ha := (isScalar_iff a).mp hs
  by_cases hf : a ≤ b
  · rw [if_neg (mt of_decide_eq_true (Nat.not_lt.mpr hf))]
    have hc : charRangeList a (b + 1) = charRangeList a b ++ [b] := charRangeList_snoc a b hf he
    by_cases h0 : b = 0
    · rw [if_pos (decide_eq_true h0)]
      have e1 : charRangeList a b = [] := charRangeList_nil _ _ (by omega)
      exact ⟨hc.trans (congrArg (· ++ [b]) e1), rfl, rfl⟩
    · rw [if_neg (mt of_decide_eq_true h0)]
      rw [← charRangeList_pred a b h0 (by omega)] at hc
      exact ⟨hc, hs, isScalar_charPred he⟩
  · rw [if_pos (decide_eq_true (Nat.not_le.mp hf))]
    exact charRangeList_nil a (b + 1) (Nat.not_le.mp hf)

theorem char_range : Refines (rangeNextBlock charStep) (rangeNextBackBlock charStep) charRangeL CharInv :=
  ⟨char_range_next, char_range_nextBack⟩

theorem char_rangeInc :
    Refines (rangeIncNextBlock charStep) (rangeIncNextBackBlock charStep) charRangeIncL CharInv :=
  ⟨char_rangeInc_next, char_rangeInc_nextBack⟩

/-! ### the driver's evaluation shortcuts are the plain specification -/

theorem specRun_ends {α : Type} (rev : Bool) (l1 mid l2 : List α) (h : List Dir)
    (h1 : h.length ≤ l1.length) (h2 : h.length ≤ l2.length) :
    specRun rev (l1 ++ mid ++ l2) h = specRun rev (l1 ++ l2) h := by
  cases rev
  · exact dequeRun_ends h l1 mid l2 h1 h2
  · have := dequeRun_ends h l2.reverse mid.reverse l1.reverse (by rwa [List.length_reverse])
      (by rwa [List.length_reverse])
    simpa only [specRun, if_true, List.reverse_append, List.append_assoc] using this

/-- `go` on a deque `q` held as its items followed by junk, its reversal followed by junk, and its length -/
theorem dequeRunFast_go_eq {α : Type} : ∀ (h : List Dir) (q j1 j2 : List α),
    dequeRunFast.go (q ++ j1) (q.reverse ++ j2) q.length h = dequeRun q h := by
  intro h
  induction h with
  | nil => intro q j1 j2; cases q <;> rfl
  | cons d h ih =>
    intro q j1 j2
    cases d with
    | f =>
      cases q with
      | nil => exact congrArg (none :: ·) (ih [] j1 j2)
      | cons x q =>
        have := ih q j1 ([x] ++ j2)
        rw [← List.append_assoc, ← List.reverse_cons] at this
        exact congrArg (some x :: ·) this
    | b =>
      rcases List.eq_nil_or_concat q with rfl | ⟨q, y, rfl⟩
      · exact congrArg (none :: ·) (ih [] j1 j2)
      · have := ih q ([y] ++ j1) j2
        rw [← List.append_assoc] at this
        rw [List.concat_eq_append, List.reverse_append, List.length_append, dequeRun, List.getLast?_concat,
          List.dropLast_concat]
        exact congrArg (some y :: ·) this

theorem dequeRunFast_eq {α : Type} (l : List α) (h : List Dir) : dequeRunFast l h = dequeRun l h := by
  have := dequeRunFast_go_eq h l [] []
  rwa [List.append_nil, List.append_nil] at this


theorem specRunFast_eq {α : Type} (rev : Bool) (l : List α) (h : List Dir) :
    specRunFast rev l h = specRun rev l h :=
  dequeRunFast_eq _ h

theorem specRunEnds_eq {α : Type} (rev : Bool) (l1 mid l2 : List α) (full : Unit → List α) (h : List Dir)
    (hf : full () = l1 ++ mid ++ l2) : specRunEnds rev l1 l2 full h = specRun rev (full ()) h := by
  unfold specRunEnds
  split
  · rename_i hc
    rw [hf, specRunFast_eq, specRun_ends rev l1 mid l2 h hc.1 hc.2]
  · exact specRunFast_eq _ _ _

theorem specAnswer_eq {α : Type} (rev : Bool) (ends : Option (List α × List α)) (full : Unit → List α)
    (h : List Dir) (hs : ∀ l1 l2, ends = some (l1, l2) → ∃ mid, full () = l1 ++ mid ++ l2) :
    specAnswer rev ends full h = specRun rev (full ()) h := by
  unfold specAnswer
  cases ends with
  | none => exact specRunFast_eq _ _ _
  | some p =>
    obtain ⟨l1, l2⟩ := p
    obtain ⟨mid, hm⟩ := hs l1 l2 rfl
    exact specRunEnds_eq rev l1 mid l2 full h hm

theorem exists_mid {α : Type} {full rest l1 mid l2 : List α} (h1 : full = l1 ++ rest) (h2 : rest = mid ++ l2) :
    ∃ mid, full = l1 ++ mid ++ l2 :=
  ⟨mid, by rw [h1, h2, List.append_assoc]⟩

theorem rangeEnds_split (a b : Int) (d : Nat) (l1 l2 : List Int) (h : rangeEnds a b d = some (l1, l2)) :
    ∃ mid, rangeList a b = l1 ++ mid ++ l2 := by
  unfold rangeEnds at h
  split at h
  · rename_i hc
    obtain ⟨rfl, rfl⟩ := Prod.mk.inj (Option.some.inj h)
    exact exists_mid (rangeList_split a (a + d) b (by omega) (by omega))
      (rangeList_split (a + d) (b - d) b (by omega) (by omega))
  · exact nomatch h

theorem rangeIncEnds_split (a b : Int) (d : Nat) (l1 l2 : List Int) (h : rangeIncEnds a b d = some (l1, l2)) :
    ∃ mid, rangeIncList a b = l1 ++ mid ++ l2 := by
  unfold rangeIncEnds at h
  split at h
  · rename_i hc
    obtain ⟨rfl, rfl⟩ := Prod.mk.inj (Option.some.inj h)
    rw [rangeIncList_eq_rangeList, rangeIncList_eq_rangeList]
    exact exists_mid (rangeList_split a (a + d) (b + 1) (by omega) (by omega))
      (rangeList_split (a + d) (b - d) (b + 1) (by omega) (by omega))
  · exact nomatch h

theorem charRangeEndsW_split (a b w : Nat) (l1 l2 : List Nat) (h : charRangeEndsW a b w = some (l1, l2)) :
    ∃ mid, charRangeList a b = l1 ++ mid ++ l2 := by
  unfold charRangeEndsW at h
  split at h
  · rename_i hc
    obtain ⟨rfl, rfl⟩ := Prod.mk.inj (Option.some.inj h)
    exact exists_mid (charRangeList_split a (a + w) b (by omega) (by omega))
      (charRangeList_split (a + w) (b - w) b (by omega) (by omega))
  · exact nomatch h

theorem charRangeIncEndsW_split (a b w : Nat) (l1 l2 : List Nat) (h : charRangeIncEndsW a b w = some (l1, l2)) :
    ∃ mid, charRangeIncList a b = l1 ++ mid ++ l2 := by
  unfold charRangeIncEndsW at h
  split at h
  · rename_i hc
    obtain ⟨rfl, rfl⟩ := Prod.mk.inj (Option.some.inj h)
    rw [charRangeIncList_eq, charRangeIncList_eq]
    exact exists_mid (charRangeList_split a (a + w) (b + 1) (by omega) (by omega))
      (charRangeList_split (a + w) (b - w) (b + 1) (by omega) (by omega))
  · exact nomatch h

theorem charRangeEnds_split (a b d : Nat) (l1 l2 : List Nat) (h : charRangeEnds a b d = some (l1, l2)) :
    ∃ mid, charRangeList a b = l1 ++ mid ++ l2 := charRangeEndsW_split a b _ l1 l2 h

theorem charRangeIncEnds_split (a b d : Nat) (l1 l2 : List Nat) (h : charRangeIncEnds a b d = some (l1, l2)) :
    ∃ mid, charRangeIncList a b = l1 ++ mid ++ l2 := charRangeIncEndsW_split a b _ l1 l2 h

theorem charRangeFromFast_eq (a k : Nat) : charRangeFromFast a k = charRangeFromList a k := by
  simp only [charRangeFromFast]
  split
  · rename_i hc
    by_cases ha : a ≤ min (a + k + 2048) 0x110000
    · simp only [charRangeFromList]
      rw [charRangeList_split a (min (a + k + 2048) 0x110000) 0x110000 ha (by omega)]
      rw [List.take_append_of_le_length hc]
    · rw [charRangeList_nil _ _ (by omega)] at hc
      have : k = 0 := by simpa using hc
      subst this
      simp [charRangeFromList]
  · rfl

/-! ### `RangeFromIter` -/

theorem int_rf_next_lt (MIN MAX a : Int) (h : a < MAX) :
    RangeFromIter.next (intStep MIN MAX) a = .item a (a + 1) := by
  simp only [RangeFromIter.next, intStep, intIncrement_eq, overflowingAdd1_lt h]
  rfl

theorem int_rf_next_max (MIN MAX : Int) : RangeFromIter.next (intStep MIN MAX) MAX = .panic := by
  simp only [RangeFromIter.next, intStep, intIncrement_eq, overflowingAdd1_max]
  rfl

theorem char_rf_next_lt (a : Nat) (hs : isScalar a = true) (h : a ≠ 0x10FFFF) :
    RangeFromIter.next charStep a = .item a (charSucc a) := by
  simp only [RangeFromIter.next, charStep, charIncrement_scalar a _ ((isScalar_iff a).mp hs), decide_eq_false h]
  rfl

/-- `MIN ≤ a` is there only because `C09.rangeFrom_prefix` states it; the induction needs `a + k ≤ MAX` alone -/
theorem int_rangeFrom (MIN MAX : Int) : ∀ (k : Nat) (a : Int), MIN ≤ a → a + (k : Int) ≤ MAX →
    runRangeFrom (intStep MIN MAX) a k = some (rangeFromList a k) := by
  intro k
  induction k with
  | zero => intro a _ _; rfl
  | succ k ih =>
    intro a h1 h
    rw [runRangeFrom, int_rf_next_lt MIN MAX a (by omega)]
    dsimp only
    rw [ih (a + 1) (by omega) (by omega), rangeFromList_succ]
    rfl

theorem char_rangeFrom : ∀ (k : Nat) (a : Nat), isScalar a = true → k ≤ (charRangeList a 0x10FFFF).length →
    runRangeFrom charStep a k = some (charRangeFromList a k) := by
  intro k
  induction k with
  | zero => intro a _ _; rfl
  | succ k ih =>
    intro a hs hk
    have hlt : a < 0x10FFFF := by
      refine Nat.lt_of_not_le fun h => ?_
      rw [charRangeList_nil _ _ h] at hk
      exact Nat.not_succ_le_zero _ hk
    have hne : a ≠ 0x10FFFF := Nat.ne_of_lt hlt
    rw [charRangeList_cons_succ a _ hlt hs hne (by omega)] at hk
    rw [runRangeFrom, char_rf_next_lt a hs hne]
    dsimp only
    rw [ih (charSucc a) (isScalar_charSucc hs) (Nat.le_of_succ_le_succ hk)]
    simp only [charRangeFromList]
    rw [charRangeList_cons_succ a 0x110000 (by omega) hs hne (by omega)]
    rfl

/-! ### `a..` observed step by step, up to and past MAX -/

/-- the observation of `nth`/`next` as a consumer -/
def tokOfNth {α} : Option α → Tok α
  | some x => .v x
  | none => .panic

theorem rf_next_ne_done {α} (S : Step α) (a : α) : RangeFromIter.next S a ≠ .done := by
  unfold RangeFromIter.next
  split
  · simp
  · split <;> simp

theorem forEachBreak_eq_pulls {α σ} (next : σ → Outcome α σ) : ∀ (k : Nat) (s : σ),
    forEachBreak next s k = pulls next s k := by
  intro k
  induction k with
  | zero => intro s; rfl
  | succ k ih =>
    intro s
    rw [forEachBreak, pulls]
    cases next s with
    | panic => rfl
    | done => rfl
    | item x s' =>
      simp only
      by_cases hk : k = 0
      · subst hk; simp [pulls]
      · rw [if_neg hk, ih]

theorem zipInLoop_eq_pulls {α σ} (next : σ → Outcome α σ) : ∀ (k : Nat) (s : σ),
    zipInLoop next s k = pulls next s k := by
  intro k
  induction k with
  | zero => intro s; rfl
  | succ k ih =>
    intro s
    rw [zipInLoop, pulls]
    cases next s with
    | panic => rfl
    | done => rfl
    | item x s' => simp only; rw [ih]

/-- the guard at the top of the loop (`__cim_take_guard!`, commit 9827f8a) makes `take(k)` pull exactly `k` items,
    from any source -/
theorem takeLoop_eq_pulls {α σ} (next : σ → Outcome α σ) : ∀ (k : Nat) (s : σ),
    takeLoop next s k = pulls next s k := by
  intro k
  induction k with
  | zero => intro s; rw [takeLoop, pulls]; rfl
  | succ k ih =>
    intro s
    rw [takeLoop, pulls, if_neg (Nat.succ_ne_zero k)]
    cases next s with
    | panic => rfl
    | done => rfl
    | item x s' => simp only; rw [ih]

/-- `src, zip(other)` pulls the source before it asks `other`: what it observes is what `take(m)` observes, followed
    by the outcome of one more pull when all `m` items arrived — nothing if that pull yields an item or `None`,
    `panic` if it panics -/
theorem zipLoop_eq_takeLoop_append {α σ} (next : σ → Outcome α σ) : ∀ (m : Nat) (s : σ),
    ∃ t, zipLoop next s m = takeLoop next s m ++ t ∧ (t = [] ∨ t = [Tok.panic]) := by
  intro m
  induction m with
  | zero =>
    intro s
    rw [zipLoop, takeLoop, if_pos rfl]
    cases next s with
    | panic => exact ⟨[.panic], rfl, Or.inr rfl⟩
    | done => exact ⟨[], rfl, Or.inl rfl⟩
    | item x s' => exact ⟨[], rfl, Or.inl rfl⟩
  | succ m ih =>
    intro s
    rw [zipLoop, takeLoop]
    simp only [Nat.add_one_ne_zero, ↓reduceIte]
    cases next s with
    | panic => exact ⟨[], rfl, Or.inl rfl⟩
    | done => exact ⟨[], rfl, Or.inl rfl⟩
    | item x s' =>
      obtain ⟨t, ht, hc⟩ := ih s'
      exact ⟨t, by simp only [ht, List.cons_append], hc⟩

theorem pulls_no_end {α σ} (next : σ → Outcome α σ) (hn : ∀ s, next s ≠ .done) : ∀ (k : Nat) (s : σ),
    Tok.end_ ∉ pulls next s k := by
  intro k
  induction k with
  | zero => intro s; simp [pulls]
  | succ k ih =>
    intro s
    rw [pulls]
    have := hn s
    cases h : next s with
    | panic => simp
    | done => exact absurd h this
    | item x s' => simp only [List.mem_cons, not_or]; exact ⟨by simp, ih s'⟩

theorem takeLoop_no_end {α σ} (next : σ → Outcome α σ) (hn : ∀ s, next s ≠ .done) : ∀ (k : Nat) (s : σ),
    Tok.end_ ∉ takeLoop next s k := by
  intro k s
  rw [takeLoop_eq_pulls]
  exact pulls_no_end next hn k s

theorem zipLoop_no_end {α σ} (next : σ → Outcome α σ) (hn : ∀ s, next s ≠ .done) : ∀ (k : Nat) (s : σ),
    Tok.end_ ∉ zipLoop next s k := by
  intro k s
  obtain ⟨t, ht, hc⟩ := zipLoop_eq_takeLoop_append next k s
  rw [ht, List.mem_append, not_or]
  refine ⟨takeLoop_no_end next hn k s, ?_⟩
  rcases hc with h | h <;> simp [h]

theorem nthLoop_no_end {α σ} (next : σ → Outcome α σ) (hn : ∀ s, next s ≠ .done) : ∀ (n : Nat) (s : σ),
    nthLoop next s n ≠ Tok.end_ := by
  intro n
  induction n with
  | zero =>
    intro s
    rw [nthLoop]
    have := hn s
    cases h : next s with
    | panic => simp
    | done => exact absurd h this
    | item x s' => simp
  | succ n ih =>
    intro s
    rw [nthLoop]
    have := hn s
    cases h : next s with
    | panic => simp
    | done => exact absurd h this
    | item x s' => exact ih s'

theorem findLoop_no_end {α σ} (next : σ → Outcome α σ) (p : α → Bool) (hn : ∀ s, next s ≠ .done) :
    ∀ (fuel : Nat) (s : σ), findLoop next p s fuel ≠ Tok.end_ := by
  intro fuel
  induction fuel with
  | zero =>
    intro s
    rw [findLoop]
    have := hn s
    cases h : next s with
    | panic => simp
    | done => exact absurd h this
    | item x s' => simp
  | succ n ih =>
    intro s
    rw [findLoop]
    have := hn s
    cases h : next s with
    | panic => simp
    | done => exact absurd h this
    | item x s' =>
      simp only
      by_cases hp : p x = true
      · rw [if_pos hp]; simp
      · rw [if_neg hp]; exact ih s'

theorem ofRun_cons {α} (x : α) (l : List α) (p : Bool) : Tok.ofRun (x :: l, p) = .v x :: Tok.ofRun (l, p) := rfl

theorem rangeFromChecked_zero (MAX a : Int) : rangeFromChecked MAX a 0 = ([], false) := by
  simp [rangeFromChecked, rangeFromList_zero]

theorem rangeFromChecked_max (MAX : Int) (k : Nat) : rangeFromChecked MAX MAX k = ([], decide (0 < k)) := by
  simp [rangeFromChecked, rangeFromList_zero]

theorem toNat_sub_of_lt {MAX a : Int} (h : a < MAX) : (MAX - a).toNat = (MAX - (a + 1)).toNat + 1 := by
  have e : MAX - a = MAX - (a + 1) + 1 := by omega
  rw [e, Int.toNat_add (Int.sub_nonneg_of_le (Int.add_one_le_of_lt h)) (by decide)]
  rfl

theorem rangeFromChecked_succ (MAX a : Int) (k : Nat) (h : a < MAX) :
    rangeFromChecked MAX a (k + 1)
      = (a :: (rangeFromChecked MAX (a + 1) k).1, (rangeFromChecked MAX (a + 1) k).2) := by
  simp only [rangeFromChecked, toNat_sub_of_lt h, Nat.add_min_add_right, rangeFromList_succ, Nat.add_lt_add_iff_right]

theorem int_pulls (MIN MAX : Int) : ∀ (k : Nat) (a : Int), a ≤ MAX →
    pulls (RangeFromIter.next (intStep MIN MAX)) a k = Tok.ofRun (rangeFromChecked MAX a k) := by
  intro k
  induction k with
  | zero =>
    intro a _
    rw [rangeFromChecked_zero]
    rfl
  | succ k ih =>
    intro a ha
    rw [pulls]
    rcases Int.lt_or_eq_of_le ha with hlt | rfl
    · rw [int_rf_next_lt MIN MAX a hlt, rangeFromChecked_succ MAX a k hlt, ofRun_cons]
      dsimp only
      rw [ih (a + 1) (Int.add_one_le_of_lt hlt)]
    · rw [int_rf_next_max, rangeFromChecked_max]
      rfl

/-- `a.., take(k)` = std's `(a..).take(k)` in the checked profile, for EVERY `k` (exactly `k` pulls) -/
theorem int_takeLoop (MIN MAX : Int) (k : Nat) (a : Int) (ha : a ≤ MAX) :
    takeLoop (RangeFromIter.next (intStep MIN MAX)) a k = Tok.ofRun (rangeFromChecked MAX a k) := by
  rw [takeLoop_eq_pulls]
  exact int_pulls MIN MAX k a ha

/-- the boundary case `k = MAX - a`: all `k` values below MAX and no panic — the step at MAX is not taken -/
theorem int_takeLoop_at_max (MIN MAX : Int) (k : Nat) (a : Int) (ha : a ≤ MAX) (hk : k = (MAX - a).toNat) :
    takeLoop (RangeFromIter.next (intStep MIN MAX)) a k = (rangeFromList a k).map Tok.v := by
  rw [int_takeLoop MIN MAX k a ha]
  simp [rangeFromChecked, Tok.ofRun, ← hk]

theorem zipOfRun_int_succ (MAX a : Int) (k : Nat) (h : a < MAX) :
    zipOfRun (rangeFromChecked MAX a) (k + 1)
      = (a :: (zipOfRun (rangeFromChecked MAX (a + 1)) k).1, (zipOfRun (rangeFromChecked MAX (a + 1)) k).2) := by
  simp only [zipOfRun]
  rw [rangeFromChecked_succ MAX a (k + 1) h]
  dsimp only
  split <;> rfl

theorem int_zipLoop_max (MIN MAX : Int) (k : Nat) :
    zipLoop (RangeFromIter.next (intStep MIN MAX)) MAX k = Tok.ofRun (zipOfRun (rangeFromChecked MAX MAX) k) := by
  rw [zipLoop, int_rf_next_max]
  simp [zipOfRun, rangeFromChecked_max, Tok.ofRun]

theorem int_zipLoop (MIN MAX : Int) : ∀ (k : Nat) (a : Int), a ≤ MAX →
    zipLoop (RangeFromIter.next (intStep MIN MAX)) a k = Tok.ofRun (zipOfRun (rangeFromChecked MAX a) k) := by
  intro k
  induction k with
  | zero =>
    intro a ha
    rcases Int.lt_or_eq_of_le ha with hlt | rfl
    · rw [zipLoop, int_rf_next_lt MIN MAX a hlt]
      simp [zipOfRun, rangeFromChecked_succ MAX a 0 hlt, rangeFromChecked_zero, Tok.ofRun]
    · exact int_zipLoop_max MIN a 0
  | succ k ih =>
    intro a ha
    rcases Int.lt_or_eq_of_le ha with hlt | rfl
    · rw [zipLoop, int_rf_next_lt MIN MAX a hlt, zipOfRun_int_succ MAX a k hlt, ofRun_cons]
      dsimp only
      rw [ih (a + 1) (Int.add_one_le_of_lt hlt)]
    · exact int_zipLoop_max MIN a (k + 1)

/-- `zip` against `take` on `a..`: the same observations except at `k = MAX - a`, where the extra pull of `zip`
    (std's `Zip` makes it too) is the step at MAX and panics -/
theorem int_zipLoop_vs_takeLoop (MIN MAX : Int) : ∀ (k : Nat) (a : Int), a ≤ MAX →
    zipLoop (RangeFromIter.next (intStep MIN MAX)) a k
      = takeLoop (RangeFromIter.next (intStep MIN MAX)) a k ++ (if k = (MAX - a).toNat then [Tok.panic] else []) := by
  intro k
  induction k with
  | zero =>
    intro a ha
    rw [takeLoop_eq_pulls, zipLoop]
    rcases Int.lt_or_eq_of_le ha with hlt | rfl
    · rw [int_rf_next_lt MIN MAX a hlt, toNat_sub_of_lt hlt, if_neg (Nat.succ_ne_zero _).symm]
      rfl
    · rw [int_rf_next_max, Int.sub_self, if_pos rfl]
      rfl
  | succ k ih =>
    intro a ha
    rw [takeLoop_eq_pulls, zipLoop, pulls]
    rcases Int.lt_or_eq_of_le ha with hlt | rfl
    · rw [int_rf_next_lt MIN MAX a hlt, toNat_sub_of_lt hlt]
      dsimp only
      rw [ih (a + 1) (Int.add_one_le_of_lt hlt), takeLoop_eq_pulls]
      simp only [Nat.add_right_cancel_iff]
      rfl
    · rw [int_rf_next_max, Int.sub_self, if_neg (Nat.succ_ne_zero k)]
      rfl

theorem int_nthLoop_max (MIN MAX : Int) (n : Nat) :
    nthLoop (RangeFromIter.next (intStep MIN MAX)) MAX n = tokOfNth (nthOfRun (rangeFromChecked MAX MAX) n) := by
  rw [nthLoop, int_rf_next_max]
  simp [nthOfRun, rangeFromChecked_max, tokOfNth]

theorem int_nthLoop (MIN MAX : Int) : ∀ (n : Nat) (a : Int), a ≤ MAX →
    nthLoop (RangeFromIter.next (intStep MIN MAX)) a n = tokOfNth (nthOfRun (rangeFromChecked MAX a) n) := by
  intro n
  induction n with
  | zero =>
    intro a ha
    rcases Int.lt_or_eq_of_le ha with hlt | rfl
    · rw [nthLoop, int_rf_next_lt MIN MAX a hlt]
      simp [nthOfRun, rangeFromChecked_succ MAX a 0 hlt, rangeFromChecked_zero, tokOfNth]
    · exact int_nthLoop_max MIN a 0
  | succ n ih =>
    intro a ha
    rcases Int.lt_or_eq_of_le ha with hlt | rfl
    · rw [nthLoop, int_rf_next_lt MIN MAX a hlt]
      dsimp only
      rw [ih (a + 1) (Int.add_one_le_of_lt hlt)]
      simp only [nthOfRun]
      rw [rangeFromChecked_succ MAX a (n + 1) hlt]
      simp
    · exact int_nthLoop_max MIN a (n + 1)

theorem charRangeFromChecked_zero (a : Nat) : charRangeFromChecked a 0 = ([], false) := by
  simp [charRangeFromChecked, charRangeFromList]

theorem char_pulls : ∀ (k : Nat) (a : Nat), isScalar a = true →
    pulls (RangeFromIter.next charStep) a k = Tok.ofRun (charRangeFromChecked a k) := by
  intro k
  induction k with
  | zero =>
    intro a _
    rw [charRangeFromChecked_zero]
    rfl
  | succ k ih =>
    intro a hs
    rw [pulls]
    by_cases hm : a = 0x10FFFF
    · subst hm
      have e : charRangeList 0x10FFFF 0x110000 = [0x10FFFF] := charRangeList_single 0x10FFFF hs
      rw [show RangeFromIter.next charStep 0x10FFFF = .panic from rfl]
      simp [charRangeFromChecked, charRangeFromList, e, Tok.ofRun]
    · have hlt : a < 0x10FFFF := by
        have := (isScalar_iff a).mp hs
        omega
      have hl : charRangeFromList a (k + 1) = a :: charRangeFromList (charSucc a) k := by
        rw [charRangeFromList, charRangeList_cons_succ a _ (by omega) hs hm (by omega)]
        rfl
      rw [char_rf_next_lt a hs hm]
      dsimp only
      rw [ih (charSucc a) (isScalar_charSucc hs)]
      simp [charRangeFromChecked, hl, hlt, Tok.ofRun]

theorem char_takeLoop (k : Nat) (a : Nat) (hs : isScalar a = true) :
    takeLoop (RangeFromIter.next charStep) a k = Tok.ofRun (charRangeFromChecked a k) := by
  rw [takeLoop_eq_pulls]
  exact char_pulls k a hs

theorem charRangeFromCheckedFast_eq (a k : Nat) : charRangeFromCheckedFast a k = charRangeFromChecked a k := by
  simp only [charRangeFromCheckedFast, charRangeFromChecked, charRangeFromFast_eq]

end Konst.Range.Lemmas
