import KonstVerif.Model.Basic
/-
  A by-value double-ended iterator whose steps cannot fail refines a deque: `DE` packages the two steps
  with the list of remaining items and the four one-step facts, `refine` lifts them to every front/back
  history.  `runDeque` is the reference deque the history theorems of C07 (through Lemmas/DequeInv.lean,
  which treats steps that may panic and hold only under an invariant) are stated against; C08's own
  deque is shown equal to it in Lemmas/SliceIter.lean.
-/
namespace Konst.Deque
open Konst

structure DE (σ ι : Type) where
  next : σ → Option (ι × σ)
  nextBack : σ → Option (ι × σ)
  abs : σ → List ι
  next_none : ∀ s, next s = none → abs s = []
  next_some : ∀ s x s', next s = some (x, s') → abs s = x :: abs s'
  back_none : ∀ s, nextBack s = none → abs s = []
  back_some : ∀ s x s', nextBack s = some (x, s') → abs s = abs s' ++ [x]

def runImpl {σ ι} (I : DE σ ι) : σ → List Dir → List (Option ι)
  | _, [] => []
  | s, .f :: h => match I.next s with
      | none => none :: runImpl I s h
      | some (x, s') => some x :: runImpl I s' h
  | s, .b :: h => match I.nextBack s with
      | none => none :: runImpl I s h
      | some (x, s') => some x :: runImpl I s' h

def runDeque {ι} : List ι → List Dir → List (Option ι)
  | _, [] => []
  | [], _ :: h => none :: runDeque [] h
  | x :: xs, .f :: h => some x :: runDeque xs h
  | x :: xs, .b :: h => some ((x :: xs).getLast (by simp)) :: runDeque ((x :: xs).dropLast) h

theorem refine {σ ι} (I : DE σ ι) : ∀ (h : List Dir) (s : σ), runImpl I s h = runDeque (I.abs s) h := by
  intro h
  induction h with
  | nil => intro s; cases hs : I.abs s <;> simp [runImpl, runDeque]
  | cons d h ih =>
    intro s
    cases d with
    | f =>
      simp only [runImpl]
      cases hn : I.next s with
      | none =>
        have := I.next_none s hn
        simp only [this, runDeque]; rw [ih s, this]
      | some p =>
        obtain ⟨x, s'⟩ := p
        have := I.next_some s x s' hn
        simp only [this, runDeque]; rw [ih s']
    | b =>
      simp only [runImpl]
      cases hn : I.nextBack s with
      | none =>
        have := I.back_none s hn
        simp only [this, runDeque]; rw [ih s, this]
      | some p =>
        obtain ⟨x, s'⟩ := p
        have e := I.back_some s x s' hn
        dsimp only
        rw [ih s']
        cases ha : I.abs s with
        | nil => rw [ha] at e; simp at e
        | cons y ys =>
          simp only [runDeque]
          rw [ha] at e
          have h1 : (y :: ys).getLast (by simp) = x := by simp [e]
          have h2 : (y :: ys).dropLast = I.abs s' := by simp [e]
          rw [h1, h2]

end Konst.Deque
