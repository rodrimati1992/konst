import KonstVerif.Model.Bytes
import KonstVerif.Spec.Bytes
import KonstVerif.Lemmas.Slice
/-
  Helper lemmas for C04 / C05: the loops of Model/Bytes.lean in closed form.
-/
namespace Konst.Lemmas.Bytes
open Konst Konst.Bytes Konst.Spec.Bytes
open Konst.Lemmas.Slice (sliceFrom_apply sliceUpTo_apply eq_nil_or_snoc)

theorem sliceFromL_eq (l : List Nat) (i : Nat) : sliceFromL l i = l.drop i := sliceFrom_apply l i
theorem sliceUpToL_eq (l : List Nat) (n : Nat) : sliceUpToL l n = l.take n := sliceUpTo_apply l n

theorem suffixView_apply {h r : List Nat} (hs : r <:+ h) : (suffixView h r).apply h = r := by
  unfold suffixView View.apply
  rw [← List.suffix_iff_eq_drop.mp hs]
  exact List.take_of_length_le (Nat.le_refl _)

theorem prefixView_apply {h r : List Nat} (hp : r <+: h) : (prefixView r).apply h = r := by
  unfold prefixView View.apply
  simp only [List.drop_zero]
  exact (List.prefix_iff_eq_take.mp hp).symm

theorem suffixView_inBounds {h r : List Nat} (hs : r <:+ h) : (suffixView h r).InBounds h.length := by
  have := hs.length_le
  unfold suffixView View.InBounds; simp only; omega

theorem prefixView_inBounds {h r : List Nat} (hp : r <+: h) : (prefixView r).InBounds h.length := by
  have := hp.length_le
  unfold prefixView View.InBounds; simp only; omega

theorem stripPrefixLoop_eq : ∀ (l p : List Nat), p.length ≤ l.length →
    stripPrefixLoop l p = if p.isPrefixOf l then some (l.drop p.length) else none := by
  intro l p
  induction p generalizing l with
  | nil => intro _; cases l <;> simp [stripPrefixLoop]
  | cons b p ih =>
    intro h
    cases l with
    | nil => simp at h
    | cons a l =>
      simp only [List.length_cons, Nat.add_le_add_iff_right] at h
      simp only [stripPrefixLoop, List.isPrefixOf]
      by_cases hab : a = b
      · subst hab; simp [ih l h]
      · have hne : b ≠ a := fun e => hab e.symm
        simp [hab, hne]

theorem isPrefixOf_false_of_length_lt {p l : List Nat} (h : l.length < p.length) :
    p.isPrefixOf l = false := by
  cases hp : p.isPrefixOf l with
  | false => rfl
  | true =>
    have := List.IsPrefix.length_le (List.isPrefixOf_iff_prefix.mp hp)
    omega

theorem isSuffixOf_false_of_length_lt {p l : List Nat} (h : l.length < p.length) :
    p.isSuffixOf l = false := by
  cases hp : p.isSuffixOf l with
  | false => rfl
  | true =>
    have := List.IsSuffix.length_le (List.isSuffixOf_iff_suffix.mp hp)
    omega

theorem stripPrefixL_eq (l p : List Nat) : stripPrefixL l p = stripPrefixSpec l p := by
  unfold stripPrefixL stripPrefixSpec
  by_cases h : l.length < p.length
  · simp [h, isPrefixOf_false_of_length_lt h]
  · simp [h, stripPrefixLoop_eq l p (by omega)]

theorem startsWith_eq (l p : List Nat) : startsWith l p = p.isPrefixOf l := by
  unfold startsWith; rw [stripPrefixL_eq]; unfold stripPrefixSpec
  cases p.isPrefixOf l <;> simp

/-! ### strip_suffix / ends_with: the back-consuming loop is the mirror image -/

theorem stripSuffixLoop_mirror : ∀ (fuel : Nat) (l r : List Nat), l.length < fuel →
    stripSuffixLoop fuel l r = (stripPrefixLoop l.reverse r.reverse).map List.reverse := by
  intro fuel
  induction fuel with
  | zero => intro l r h; omega
  | succ fuel ih =>
    intro l r hlt
    rcases eq_nil_or_snoc l with rfl | ⟨l', a, rfl⟩
    · cases r <;> simp [stripSuffixLoop, stripPrefixLoop]
    · rcases eq_nil_or_snoc r with rfl | ⟨r', b, rfl⟩
      · simp [stripSuffixLoop, stripPrefixLoop]
      · simp only [stripSuffixLoop, List.getLast?_concat, List.dropLast_concat,
          List.reverse_append, List.reverse_cons, List.reverse_nil, List.nil_append,
          List.singleton_append, stripPrefixLoop]
        by_cases hab : a = b
        · subst hab
          simp only [bne_self_eq_false, Bool.false_eq_true, if_false]
          apply ih
          simp at hlt; omega
        · simp [hab]

theorem stripSuffixL_eq (l p : List Nat) : stripSuffixL l p = stripSuffixSpec l p := by
  unfold stripSuffixL stripSuffixSpec
  by_cases h : l.length < p.length
  · simp [h, isSuffixOf_false_of_length_lt h]
  · simp only [h, if_false]
    rw [stripSuffixLoop_mirror _ l p (by omega),
      stripPrefixLoop_eq l.reverse p.reverse (by simp; omega)]
    simp only [List.isSuffixOf]
    by_cases hp : p.reverse.isPrefixOf l.reverse = true
    · simp [hp, List.drop_reverse]
    · simp [hp]

theorem endsWith_eq (l p : List Nat) : endsWith l p = p.isSuffixOf l := by
  unfold endsWith; rw [stripSuffixL_eq]; unfold stripSuffixSpec
  cases p.isSuffixOf l <;> simp

theorem occursAt_false_of_short {h p : List Nat} {j : Nat} (hlen : h.length < j + p.length) (hp : p ≠ []) :
    occursAt h p j = false := by
  unfold occursAt
  apply isPrefixOf_false_of_length_lt
  have : 0 < p.length := List.length_pos_iff.mpr hp
  simp only [List.length_drop]; omega

theorem occursAt_nil (h : List Nat) (j : Nat) : occursAt h [] j = true := by
  unfold occursAt; simp

theorem findSpec_nil (h : List Nat) : findSpec h [] = some 0 := by
  rw [findSpec, List.range_succ_eq_map, List.find?_cons, occursAt_nil]

theorem rfindSpec_nil (h : List Nat) : rfindSpec h [] = some h.length := by
  rw [rfindSpec, List.range_succ, List.reverse_append, List.reverse_singleton, List.singleton_append,
    List.find?_cons, occursAt_nil]

theorem findSpec_nil_hay {d : List Nat} (hne : d ≠ []) : findSpec [] d = none := by
  cases d with
  | nil => exact absurd rfl hne
  | cons a t => rfl

theorem rfindSpec_nil_hay {d : List Nat} (hne : d ≠ []) : rfindSpec [] d = none := by
  cases d with
  | nil => exact absurd rfl hne
  | cons a t => rfl

theorem findLoop_spec (h p : List Nat) : ∀ (fuel i : Nat), h.length + 1 ≤ i + fuel →
    (∀ j, j < i → occursAt h p j = false) →
    (∀ k, findLoop h p fuel i = some k →
        occursAt h p k = true ∧ k ≤ h.length ∧ ∀ j, j < k → occursAt h p j = false) ∧
    (findLoop h p fuel i = none → ∀ j, j ≤ h.length → occursAt h p j = false) := by
  intro fuel
  induction fuel with
  | zero =>
    intro i hi hinv
    simp only [findLoop]
    refine ⟨(by intro k hk; cases hk), fun _ j hj => hinv j (by omega)⟩
  | succ fuel ih =>
    intro i hi hinv
    simp only [findLoop, sliceFromL_eq, startsWith_eq]
    by_cases hw : i + p.length ≤ h.length
    · simp only [hw, if_true]
      by_cases ho : p.isPrefixOf (h.drop i) = true
      · simp only [ho, if_true]
        refine ⟨?_, (by intro hk; cases hk)⟩
        intro k hk
        cases hk
        exact ⟨ho, by omega, hinv⟩
      · simp only [ho]
        apply ih (i + 1) (by omega)
        intro j hj
        by_cases hji : j < i
        · exact hinv j hji
        · have : j = i := by omega
          subst this
          exact Bool.eq_false_iff.mpr ho
    · simp only [hw, if_false]
      refine ⟨(by intro k hk; cases hk), ?_⟩
      intro _ j hj
      by_cases hji : j < i
      · exact hinv j hji
      · by_cases hp : p = []
        · subst hp; simp at hw; omega
        · exact occursAt_false_of_short (by omega) hp

theorem bytesFind_eq_spec (h p : List Nat) : bytesFind h p = findSpec h p := by
  have key := findLoop_spec h p (h.length + 1) 0 (by omega) (by intro j hj; omega)
  unfold bytesFind findSpec
  cases hr : findLoop h p (h.length + 1) 0 with
  | none =>
    symm
    rw [List.find?_range_eq_none]
    intro i hi
    simp [key.2 hr i (by omega)]
  | some k =>
    obtain ⟨h1, h2, h3⟩ := key.1 k hr
    symm
    rw [List.find?_range_eq_some]
    refine ⟨h1, by simp; omega, ?_⟩
    intro j hj
    simp [h3 j hj]

theorem revFind_range_some (q : Nat → Bool) : ∀ (n i : Nat),
    (List.range n).reverse.find? q = some i ↔ q i = true ∧ i < n ∧ ∀ j, i < j → j < n → q j = false := by
  intro n
  induction n with
  | zero => intro i; simp
  | succ n ih =>
    intro i
    rw [List.range_succ, List.reverse_append, List.reverse_cons, List.reverse_nil, List.nil_append,
      List.singleton_append, List.find?_cons]
    by_cases hq : q n = true
    · simp only [hq, Option.some.injEq]
      constructor
      · intro e; subst e
        exact ⟨hq, (by omega), (by intro j h1 h2; omega)⟩
      · intro ⟨h1, h2, h3⟩
        by_cases hin : i = n
        · exact hin.symm
        · have := h3 n (by omega) (by omega)
          simp [hq] at this
    · have hq' : q n = false := by simpa using hq
      simp only [hq', ih]
      constructor
      · intro ⟨h1, h2, h3⟩
        refine ⟨h1, by omega, ?_⟩
        intro j hj1 hj2
        by_cases hjn : j = n
        · subst hjn; exact hq'
        · exact h3 j hj1 (by omega)
      · intro ⟨h1, h2, h3⟩
        have hin : i ≠ n := by intro e; subst e; simp [hq'] at h1
        exact ⟨h1, by omega, fun j hj1 hj2 => h3 j hj1 (by omega)⟩

theorem revFind_range_none (q : Nat → Bool) (n : Nat) :
    (List.range n).reverse.find? q = none ↔ ∀ j, j < n → q j = false := by
  rw [List.find?_eq_none]
  simp only [List.mem_reverse, List.mem_range, Bool.not_eq_true]

theorem rfindLoop_eq (h p : List Nat) (n : Nat) :
    rfindLoop h p n = (List.range n).reverse.find? (occursAt h p) := by
  induction n with
  | zero => rfl
  | succ n ih =>
    rw [rfindLoop, sliceFromL_eq, startsWith_eq, ih, List.range_succ, List.reverse_append,
      List.reverse_singleton, List.singleton_append, List.find?_cons]
    cases hq : occursAt h p n
    · rw [occursAt] at hq
      rw [hq]; rfl
    · rw [occursAt] at hq
      rw [hq]; rfl

theorem revFind_range_shrink (q : Nat → Bool) (m : Nat) : ∀ (n : Nat), m ≤ n →
    (∀ j, m ≤ j → j < n → q j = false) →
    (List.range n).reverse.find? q = (List.range m).reverse.find? q := by
  intro n
  induction n with
  | zero => intro hmn _; rw [Nat.le_zero.mp hmn]
  | succ n ih =>
    intro hmn hq
    by_cases he : m = n + 1
    · rw [he]
    · have hmn : m ≤ n := by omega
      rw [List.range_succ, List.reverse_append, List.reverse_singleton, List.singleton_append,
        List.find?_cons, hq n hmn (Nat.lt_succ_self n)]
      exact ih hmn fun j h1 h2 => hq j h1 (Nat.lt_succ_of_lt h2)

theorem bytesRfind_eq_spec (h p : List Nat) (hp : p ≠ []) : bytesRfind h p = rfindSpec h p := by
  have hpos : 0 < p.length := List.length_pos_iff.mpr hp
  have short : ∀ j, h.length + 1 ≤ j + p.length → occursAt h p j = false :=
    fun j hj => occursAt_false_of_short (by omega) hp
  rw [bytesRfind, if_neg (by rw [List.isEmpty_eq_false_iff.mpr hp]; exact Bool.false_ne_true), rfindSpec]
  split
  · exact (revFind_range_shrink _ 0 _ (Nat.zero_le _) fun j _ _ => short j (by omega)).symm
  · rw [rfindLoop_eq]
    exact (revFind_range_shrink _ _ _ (by omega) fun j hj _ => short j (by omega)).symm

theorem trimStartInner_eq : ∀ (this m : List Nat),
    trimStartInner this m = if m.isPrefixOf this then some (this.drop m.length) else none := by
  intro this m
  induction m generalizing this with
  | nil => cases this <;> simp [trimStartInner]
  | cons bm remm ih =>
    cases this with
    | nil => simp [trimStartInner, List.isPrefixOf]
    | cons b rem =>
      simp only [trimStartInner, List.isPrefixOf, List.length_cons, List.drop_succ_cons]
      by_cases hb : b = bm
      · subst hb; simp [ih rem]
      · have : bm ≠ b := fun e => hb e.symm
        simp [hb, this]

theorem trimStartLoop_eq (needle : List Nat) (hn : needle ≠ []) : ∀ (fuel : Nat) (this : List Nat),
    this.length < fuel → trimStartLoop needle fuel this = trimStartSpec needle this := by
  intro fuel
  induction fuel with
  | zero => intro this h; omega
  | succ fuel ih =>
    intro this hlt
    obtain ⟨bm, remm, rfl⟩ : ∃ bm remm, needle = bm :: remm := by
      cases needle with
      | nil => exact absurd rfl hn
      | cons a b => exact ⟨a, b, rfl⟩
    cases this with
    | nil =>
      rw [trimStartSpec]
      simp [trimStartLoop, List.isPrefixOf]
    | cons b rem =>
      rw [trimStartSpec]
      simp only [trimStartLoop, List.isPrefixOf]
      by_cases hb : b = bm
      · subst hb
        simp only [beq_self_eq_true, if_true, trimStartInner_eq]
        by_cases hp : remm.isPrefixOf rem = true
        · have hlen := List.IsPrefix.length_le (List.isPrefixOf_iff_prefix.mp hp)
          simp only [hp, if_true, ne_eq, reduceCtorEq, not_false_eq_true,
            List.length_cons, List.drop_succ_cons]
          rw [dif_pos (by simp)]
          apply ih
          simp only [List.length_cons] at hlt
          simp only [List.length_drop]; omega
        · simp [hp]
      · have : bm ≠ b := fun e => hb e.symm
        simp [hb, this]

theorem trimStartMatchesL_eq (this needle : List Nat) :
    trimStartMatchesL this needle = trimStartSpec needle this := by
  unfold trimStartMatchesL
  by_cases he : needle = []
  · subst he; rw [trimStartSpec]; simp
  · have hemp : needle.isEmpty = false := List.isEmpty_eq_false_iff.mpr he
    simp only [hemp, Bool.false_eq_true, if_false]
    exact trimStartLoop_eq needle he _ this (by omega)

theorem trimStartSpec_suffix (p : List Nat) : ∀ (n : Nat) (h : List Nat), h.length = n →
    trimStartSpec p h <:+ h := by
  intro n
  induction n using Nat.strongRecOn with
  | _ n ih =>
    intro h hn
    rw [trimStartSpec]
    by_cases hp : p ≠ [] ∧ p.isPrefixOf h = true
    · simp only [hp, ne_eq, not_false_eq_true, and_self, dite_true]
      have hne : 0 < p.length := List.length_pos_iff.mpr hp.1
      have hle := List.IsPrefix.length_le (List.isPrefixOf_iff_prefix.mp hp.2)
      exact List.IsSuffix.trans (ih (h.drop p.length).length (by simp; omega) _ rfl) (List.drop_suffix _ _)
    · simp only [hp, dite_false]
      exact List.suffix_refl h

theorem trimEndSpec_prefix (p : List Nat) : ∀ (n : Nat) (h : List Nat), h.length = n →
    trimEndSpec p h <+: h := by
  intro n
  induction n using Nat.strongRecOn with
  | _ n ih =>
    intro h hn
    rw [trimEndSpec]
    by_cases hp : p ≠ [] ∧ p.isSuffixOf h = true
    · simp only [hp, ne_eq, not_false_eq_true, and_self, dite_true]
      have hne : 0 < p.length := List.length_pos_iff.mpr hp.1
      have hle := List.IsSuffix.length_le (List.isSuffixOf_iff_suffix.mp hp.2)
      exact List.IsPrefix.trans (ih (h.take (h.length - p.length)).length (by simp; omega) _ rfl)
        (List.take_prefix _ _)
    · simp only [hp, dite_false]
      exact List.prefix_refl h

theorem trimEndSpec_mirror (p h : List Nat) :
    trimEndSpec p h = (trimStartSpec p.reverse h.reverse).reverse := by
  generalize hn : h.length = n
  induction n using Nat.strongRecOn generalizing h with
  | _ n ih =>
    rw [trimEndSpec, trimStartSpec]
    have hiff : (p ≠ [] ∧ p.isSuffixOf h = true) ↔ (p.reverse ≠ [] ∧ p.reverse.isPrefixOf h.reverse = true) := by
      simp [List.isSuffixOf]
    by_cases hp : p ≠ [] ∧ p.isSuffixOf h = true
    · have hp' := hiff.mp hp
      rw [dif_pos hp, dif_pos hp']
      have hne : 0 < p.length := List.length_pos_iff.mpr hp.1
      have hle := List.IsSuffix.length_le (List.isSuffixOf_iff_suffix.mp hp.2)
      rw [ih (h.take (h.length - p.length)).length (by simp; omega) _ rfl, List.reverse_take]
      congr 2
      simp only [List.length_reverse]
      congr 1
      omega
    · have hp' := fun c => hp (hiff.mpr c)
      rw [dif_neg hp, dif_neg hp']
      simp

theorem trimEndInner_mirror : ∀ (fuel : Nat) (this m : List Nat), m.length < fuel →
    trimEndInner fuel this m = (trimStartInner this.reverse m.reverse).map List.reverse := by
  intro fuel
  induction fuel with
  | zero => intro this m h; omega
  | succ fuel ih =>
    intro this m hlt
    rcases eq_nil_or_snoc m with rfl | ⟨m', bm, rfl⟩
    · -- an exhausted needle: both loops hand back what is left
      have hL : trimEndInner (fuel + 1) this [] = some this := by
        unfold trimEndInner; cases this.getLast? <;> rfl
      have hR : trimStartInner this.reverse [] = some this.reverse := by
        cases this.reverse <;> rfl
      rw [List.reverse_nil, hL, hR, Option.map_some, List.reverse_reverse]
    · rcases eq_nil_or_snoc this with rfl | ⟨this', b, rfl⟩
      · simp [trimEndInner, trimStartInner]
      · simp only [trimEndInner, List.getLast?_concat, List.dropLast_concat,
          List.reverse_append, List.reverse_cons, List.reverse_nil, List.nil_append,
          List.singleton_append, trimStartInner]
        by_cases hab : b = bm
        · subst hab
          simp only [beq_self_eq_true, if_true]
          apply ih
          simp at hlt; omega
        · simp [hab]

theorem trimEndLoop_mirror (needle : List Nat) : ∀ (fuel : Nat) (this : List Nat),
    trimEndLoop needle fuel this = (trimStartLoop needle.reverse fuel this.reverse).reverse := by
  intro fuel
  induction fuel with
  | zero => intro this; simp [trimEndLoop, trimStartLoop]
  | succ fuel ih =>
    intro this
    rcases eq_nil_or_snoc this with rfl | ⟨this', b, rfl⟩
    · cases hn : needle.reverse <;> simp [trimEndLoop, trimStartLoop]
    · rcases eq_nil_or_snoc needle with rfl | ⟨n', bm, rfl⟩
      · simp [trimEndLoop, trimStartLoop]
      · simp only [trimEndLoop, List.getLast?_concat, List.dropLast_concat,
          List.reverse_append, List.reverse_cons, List.reverse_nil, List.nil_append,
          List.singleton_append, trimStartLoop]
        by_cases hab : b = bm
        · subst hab
          simp only [beq_self_eq_true, if_true]
          rw [trimEndInner_mirror _ this' n' (by simp only [List.length_append, List.length_cons, List.length_nil]; omega)]
          cases hin : trimStartInner this'.reverse n'.reverse with
          | none => simp
          | some r =>
            simp only [Option.map_some]
            rw [ih r.reverse]
            simp
        · simp [hab]

theorem trimEndMatchesL_eq (this needle : List Nat) :
    trimEndMatchesL this needle = trimEndSpec needle this := by
  unfold trimEndMatchesL
  by_cases he : needle = []
  · subst he; rw [trimEndSpec]; simp
  · have hemp : needle.isEmpty = false := List.isEmpty_eq_false_iff.mpr he
    simp only [hemp, Bool.false_eq_true, if_false]
    rw [trimEndLoop_mirror, trimEndSpec_mirror needle this,
      trimStartLoop_eq needle.reverse (by simpa using he) _ this.reverse (by simp)]

theorem matchesSpace_eq (b : Nat) : matchesSpace b = isAsciiWhitespace b := by
  simp only [matchesSpace, isAsciiWhitespace, List.contains_cons, List.contains_nil, Bool.or_false,
    Bool.or_assoc]

theorem bytesTrimStartL_eq : ∀ (h : List Nat), bytesTrimStartL h = trimAsciiStartSpec h := by
  intro h
  unfold trimAsciiStartSpec
  induction h with
  | nil => simp [bytesTrimStartL]
  | cons b rem ih =>
    simp only [bytesTrimStartL, List.dropWhile_cons, matchesSpace_eq]
    by_cases hb : isAsciiWhitespace b = true
    · simp [hb, ih]
    · simp [hb]

theorem bytesTrimEndLoop_mirror : ∀ (fuel : Nat) (this : List Nat), this.length < fuel →
    bytesTrimEndLoop fuel this = (bytesTrimStartL this.reverse).reverse := by
  intro fuel
  induction fuel with
  | zero => intro this h; omega
  | succ fuel ih =>
    intro this hlt
    rcases eq_nil_or_snoc this with rfl | ⟨this', b, rfl⟩
    · simp [bytesTrimEndLoop, bytesTrimStartL]
    · simp only [bytesTrimEndLoop, List.getLast?_concat, List.dropLast_concat,
        List.reverse_append, List.reverse_cons, List.reverse_nil, List.nil_append,
        List.singleton_append, bytesTrimStartL]
      by_cases hb : matchesSpace b = true
      · simp only [hb, if_true]
        apply ih
        simp at hlt; omega
      · simp [hb]

theorem bytesTrimEndL_eq (h : List Nat) : bytesTrimEndL h = trimAsciiEndSpec h := by
  unfold bytesTrimEndL trimAsciiEndSpec
  rw [bytesTrimEndLoop_mirror _ h (by omega), bytesTrimStartL_eq]
  rfl

theorem revDropWhile_cons (q : Nat → Bool) (a : Nat) (t : List Nat) :
    ((a :: t).reverse.dropWhile q).reverse =
      if (t.reverse.dropWhile q).reverse.isEmpty then [a].dropWhile q
      else a :: (t.reverse.dropWhile q).reverse := by
  rw [List.reverse_cons, List.dropWhile_append]
  by_cases he : (t.reverse.dropWhile q).isEmpty = true
  · have : (t.reverse.dropWhile q) = [] := by simpa using he
    simp only [this, List.isEmpty_nil, if_true, List.reverse_nil]
    by_cases hq : q a = true <;> simp [hq]
  · have hne : (t.reverse.dropWhile q) ≠ [] := by simpa using he
    simp [hne]

theorem trim_commute (q : Nat → Bool) : ∀ (h : List Nat),
    (h.reverse.dropWhile q).reverse.dropWhile q = ((h.dropWhile q).reverse.dropWhile q).reverse := by
  intro h
  induction h with
  | nil => simp
  | cons a t ih =>
    rw [revDropWhile_cons]
    by_cases hq : q a = true
    · simp only [List.dropWhile_cons, hq, if_true]
      rw [← ih]
      by_cases he : (t.reverse.dropWhile q).reverse.isEmpty = true
      · have : (t.reverse.dropWhile q).reverse = [] := by simpa using he
        simp [this]
      · simp [he, hq]
    · have hq' : q a = false := by simpa using hq
      rw [List.dropWhile_cons (x := a) (xs := t)]
      simp only [hq', Bool.false_eq_true, if_false]
      rw [revDropWhile_cons]
      by_cases he : (t.reverse.dropWhile q).reverse.isEmpty = true
      · simp [he, hq']
      · simp [he, hq']

theorem bytesTrim_eq (h : List Nat) :
    bytesTrimStartL (bytesTrimEndL h) = trimAsciiSpec h := by
  rw [bytesTrimEndL_eq, bytesTrimStartL_eq]
  unfold trimAsciiSpec trimAsciiStartSpec trimAsciiEndSpec
  exact trim_commute _ h

theorem dropWhile_suffix' (q : Nat → Bool) (h : List Nat) : h.dropWhile q <:+ h :=
  List.dropWhile_suffix q

theorem ws_lt (b : Nat) (h : isAsciiWhitespace b = true) : b < 128 := by
  unfold isAsciiWhitespace at h
  simp only [List.contains_cons, List.contains_nil, Bool.or_false, Bool.or_eq_true, beq_iff_eq] at h
  omega

theorem revDropWhile_prefix (q : Nat → Bool) (h : List Nat) : (h.reverse.dropWhile q).reverse <+: h := by
  have := List.dropWhile_suffix (l := h.reverse) q
  have := List.reverse_prefix.mpr this
  simpa using this

end Konst.Lemmas.Bytes
