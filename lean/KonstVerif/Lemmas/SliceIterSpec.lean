import KonstVerif.Spec.SliceIter
/-
  Facts about the std specification lists of Spec/SliceIter.lean: how each list decomposes at its
  front and at its back (these are what `next` / `next_back` of the model are compared with).
  The four chunk lists peel one full chunk off one end; such a function distributes over `a ++ b`
  when the cut falls on a chunk boundary (`peelFront_append`, `peelBack_append`), and the
  decompositions at the other end and the constructors' pre-splits are instances of that.
  No model definitions here.
-/
namespace Konst.Spec

variable {α : Type}

theorem sub_mod_self' (a n : Nat) (h : n ≤ a) : (a - n) % n = a % n :=
  (Nat.mod_eq_sub_mod h).symm

theorem le_of_mod_zero {a n : Nat} (hpos : 0 < a) (hm : a % n = 0) : n ≤ a :=
  Nat.le_of_dvd hpos (Nat.dvd_of_mod_eq_zero hm)

theorem sub_mod_eq_div_mul (a n : Nat) : a - a % n = a / n * n :=
  Nat.sub_eq_of_eq_add (Nat.div_add_mod' a n).symm

theorem eq_div_mul_of_mod_zero {a n : Nat} (hm : a % n = 0) : a = a / n * n :=
  (Nat.div_mul_cancel (Nat.dvd_of_mod_eq_zero hm)).symm

/-- what is left after the full chunks before the last one (`Chunks::next_back`) fits in a chunk -/
theorem sub_pred_div_mul_le (a : Nat) {n : Nat} (hn : 0 < n) : a - (a - 1) / n * n ≤ n := by
  have h := Nat.lt_mul_div_succ (a - 1) hn
  rw [Nat.mul_add, Nat.mul_one, Nat.mul_comm, Nat.add_comm] at h
  exact Nat.sub_le_iff_le_add.mpr (Nat.le_of_pred_lt h)

/-! ### cutting at a chunk boundary -/

/-- `f` takes a full chunk off the front whenever there is one -/
theorem peelFront_append (n : Nat) (f : List α → List (List α)) (hnil : f [] = [])
    (hcons : ∀ l, n ≤ l.length → f l = l.take n :: f (l.drop n)) (b : List α) :
    ∀ (k : Nat) (a : List α), a.length = k * n → f (a ++ b) = f a ++ f b := by
  intro k
  induction k with
  | zero =>
    intro a ha
    rw [Nat.zero_mul] at ha
    rw [List.eq_nil_of_length_eq_zero ha, hnil, List.nil_append, List.nil_append]
  | succ k ih =>
    intro a ha
    have hle : n ≤ a.length := ha ▸ Nat.succ_mul k n ▸ Nat.le_add_left n (k * n)
    have hd : (a.drop n).length = k * n := by
      rw [List.length_drop, ha, Nat.succ_mul, Nat.add_sub_cancel]
    have hab : n ≤ (a ++ b).length := List.length_append ▸ Nat.le_add_right_of_le hle
    rw [hcons (a ++ b) hab, hcons a hle, List.take_append_of_le_length hle,
      List.drop_append_of_le_length hle, ih _ hd, List.cons_append]

/-- `g` takes a full chunk off the back whenever there is one (and yields it first) -/
theorem peelBack_append (n : Nat) (g : List α → List (List α)) (hnil : g [] = [])
    (hcons : ∀ l, n ≤ l.length → g l = l.drop (l.length - n) :: g (l.take (l.length - n)))
    (a : List α) :
    ∀ (k : Nat) (b : List α), b.length = k * n → g (a ++ b) = g b ++ g a := by
  intro k
  induction k with
  | zero =>
    intro b hb
    rw [Nat.zero_mul] at hb
    rw [List.eq_nil_of_length_eq_zero hb, hnil, List.append_nil, List.nil_append]
  | succ k ih =>
    intro b hb
    have hle : n ≤ b.length := hb ▸ Nat.succ_mul k n ▸ Nat.le_add_left n (k * n)
    have ht : (b.take (b.length - n)).length = k * n := by
      rw [List.length_take_of_le (Nat.sub_le _ _), hb, Nat.succ_mul, Nat.add_sub_cancel]
    have hab : n ≤ (a ++ b).length := List.length_append ▸ Nat.le_add_left_of_le hle
    rw [hcons (a ++ b) hab, hcons b hle, List.length_append, Nat.add_sub_assoc hle,
      List.drop_length_add_append, List.take_length_add_append, ih _ ht, List.cons_append]

theorem chunksSpec_nil (n : Nat) : chunksSpec n ([] : List α) = [] := by
  rw [chunksSpec, dif_pos (Or.inl rfl)]

theorem chunksSpec_cons (n : Nat) (l : List α) (hl : l ≠ []) (hn : 0 < n) :
    chunksSpec n l = l.take n :: chunksSpec n (l.drop n) := by
  rw [chunksSpec, dif_neg (fun h => h.elim hl (Nat.ne_of_gt hn))]

theorem chunksSpec_single (n : Nat) (l : List α) (hl : l ≠ []) (hle : l.length ≤ n) :
    chunksSpec n l = [l] := by
  have hn : 0 < n := Nat.lt_of_lt_of_le (List.length_pos_iff.mpr hl) hle
  rw [chunksSpec_cons n l hl hn, List.take_of_length_le hle, List.drop_eq_nil_of_le hle,
    chunksSpec_nil]

theorem chunksSpec_append (n : Nat) (hn : 0 < n) (k : Nat) (a b : List α) (ha : a.length = k * n) :
    chunksSpec n (a ++ b) = chunksSpec n a ++ chunksSpec n b :=
  peelFront_append n (chunksSpec n) (chunksSpec_nil n)
    (fun l hl => chunksSpec_cons n l (List.ne_nil_of_length_pos (Nat.lt_of_lt_of_le hn hl)) hn)
    b k a ha

theorem chunksSpec_last (n : Nat) (hn : 0 < n) : ∀ (k : Nat) (l : List α), l.length = k → l ≠ [] →
    chunksSpec n l =
      chunksSpec n (l.take ((l.length - 1) / n * n)) ++ [l.drop ((l.length - 1) / n * n)] := by
  intro _ l _ hl
  have hlt : (l.length - 1) / n * n < l.length :=
    Nat.lt_of_le_of_lt (Nat.div_mul_le_self _ _) (Nat.sub_one_lt_of_lt (List.length_pos_iff.mpr hl))
  have hd : (l.drop ((l.length - 1) / n * n)).length ≤ n := by
    rw [List.length_drop]
    exact sub_pred_div_mul_le l.length hn
  have hd0 : l.drop ((l.length - 1) / n * n) ≠ [] := by
    apply List.ne_nil_of_length_pos
    rw [List.length_drop]
    exact Nat.sub_pos_of_lt hlt
  rw [← chunksSpec_single n _ hd0 hd,
    ← chunksSpec_append n hn _ _ _ (List.length_take_of_le (Nat.le_of_lt hlt)),
    List.take_append_drop]

theorem rchunksSpec_nil (n : Nat) : rchunksSpec n ([] : List α) = [] := by
  rw [rchunksSpec, dif_pos (Or.inl rfl)]

theorem rchunksSpec_cons (n : Nat) (l : List α) (hl : l ≠ []) (hn : 0 < n) :
    rchunksSpec n l = l.drop (l.length - n) :: rchunksSpec n (l.take (l.length - n)) := by
  rw [rchunksSpec, dif_neg (fun h => h.elim hl (Nat.ne_of_gt hn))]

theorem rchunksSpec_single (n : Nat) (l : List α) (hl : l ≠ []) (hle : l.length ≤ n) :
    rchunksSpec n l = [l] := by
  have hn : 0 < n := Nat.lt_of_lt_of_le (List.length_pos_iff.mpr hl) hle
  rw [rchunksSpec_cons n l hl hn, Nat.sub_eq_zero_of_le hle, List.take_zero, List.drop_zero,
    rchunksSpec_nil]

theorem rchunksSpec_append (n : Nat) (hn : 0 < n) (k : Nat) (a b : List α) (hb : b.length = k * n) :
    rchunksSpec n (a ++ b) = rchunksSpec n b ++ rchunksSpec n a :=
  peelBack_append n (rchunksSpec n) (rchunksSpec_nil n)
    (fun l hl => rchunksSpec_cons n l (List.ne_nil_of_length_pos (Nat.lt_of_lt_of_le hn hl)) hn)
    a k b hb

theorem rchunksSpec_snoc (n : Nat) (hn : 0 < n) (l : List α) (r k : Nat) (h0 : 0 < r) (hr : r ≤ n)
    (hk : l.length - r = k * n) (hrl : r ≤ l.length) :
    rchunksSpec n l = rchunksSpec n (l.drop r) ++ [l.take r] := by
  have ht : (l.take r).length = r := List.length_take_of_le hrl
  have ht0 : l.take r ≠ [] := List.ne_nil_of_length_pos (ht.symm ▸ h0)
  rw [← rchunksSpec_single n (l.take r) ht0 (ht.symm ▸ hr),
    ← rchunksSpec_append n hn k _ _ (List.length_drop.trans hk), List.take_append_drop]

/-- the item `rchunks` yields LAST is the front piece of length `len % n` (or `n` when that is 0);
    the items before it are the rchunks of the rest -/
theorem rchunksSpec_last (n : Nat) (hn : 0 < n) (l : List α) (hl : l ≠ []) :
    rchunksSpec n l =
      rchunksSpec n (l.drop (if l.length % n = 0 then n else l.length % n))
        ++ [l.take (if l.length % n = 0 then n else l.length % n)] := by
  have hpos : 0 < l.length := List.length_pos_iff.mpr hl
  by_cases hz : l.length % n = 0
  · have hle : n ≤ l.length := le_of_mod_zero hpos hz
    rw [if_pos hz]
    exact rchunksSpec_snoc n hn l n _ hn (Nat.le_refl n)
      (eq_div_mul_of_mod_zero ((sub_mod_self' _ _ hle).trans hz)) hle
  · rw [if_neg hz]
    exact rchunksSpec_snoc n hn l _ _ (Nat.pos_of_ne_zero hz) (Nat.le_of_lt (Nat.mod_lt _ hn))
      (sub_mod_eq_div_mul _ _) (Nat.mod_le _ _)

theorem chunksExact_of_lt (n : Nat) (l : List α) (h : l.length < n) : chunksExact n l = [] := by
  rw [chunksExact, dif_pos (Or.inr h)]

theorem chunksExact_nil (n : Nat) (hn : 0 < n) : chunksExact n ([] : List α) = [] :=
  chunksExact_of_lt n [] hn

theorem chunksExact_cons (n : Nat) (l : List α) (hn : 0 < n) (h : n ≤ l.length) :
    chunksExact n l = l.take n :: chunksExact n (l.drop n) := by
  rw [chunksExact, dif_neg (fun h' => h'.elim (Nat.ne_of_gt hn) (Nat.not_lt.mpr h))]

theorem chunksExact_single (n : Nat) (hn : 0 < n) (l : List α) (h : l.length = n) :
    chunksExact n l = [l] := by
  rw [chunksExact_cons n l hn (Nat.le_of_eq h.symm), List.take_of_length_le (Nat.le_of_eq h),
    List.drop_eq_nil_of_le (Nat.le_of_eq h), chunksExact_nil n hn]

theorem chunksExact_append (n : Nat) (hn : 0 < n) (k : Nat) (a b : List α) (ha : a.length = k * n) :
    chunksExact n (a ++ b) = chunksExact n a ++ chunksExact n b :=
  peelFront_append n (chunksExact n) (chunksExact_nil n hn) (fun l => chunksExact_cons n l hn) b k a ha

theorem chunksExact_last (n : Nat) (hn : 0 < n) (l : List α) (hm : l.length % n = 0)
    (hle : n ≤ l.length) :
    chunksExact n l = chunksExact n (l.take (l.length - n)) ++ [l.drop (l.length - n)] := by
  have hd : (l.drop (l.length - n)).length = n := List.length_drop.trans (Nat.sub_sub_self hle)
  have ht : (l.take (l.length - n)).length = (l.length - n) / n * n :=
    (List.length_take_of_le (Nat.sub_le _ _)).trans
      (eq_div_mul_of_mod_zero ((sub_mod_self' _ _ hle).trans hm))
  rw [← chunksExact_single n hn _ hd, ← chunksExact_append n hn _ _ _ ht, List.take_append_drop]

theorem chunksExact_take_full (n : Nat) (hn : 0 < n) (l : List α) :
    chunksExact n (l.take (l.length - l.length % n)) = chunksExact n l := by
  have ht : (l.take (l.length - l.length % n)).length = l.length / n * n :=
    (List.length_take_of_le (Nat.sub_le _ _)).trans (sub_mod_eq_div_mul _ _)
  have hd : (l.drop (l.length - l.length % n)).length < n := by
    rw [List.length_drop, Nat.sub_sub_self (Nat.mod_le _ _)]
    exact Nat.mod_lt _ hn
  conv => rhs; rw [← List.take_append_drop (l.length - l.length % n) l]
  rw [chunksExact_append n hn _ _ _ ht, chunksExact_of_lt n _ hd, List.append_nil]

theorem rchunksExactSpec_of_lt (n : Nat) (l : List α) (h : l.length < n) : rchunksExactSpec n l = [] := by
  rw [rchunksExactSpec, dif_pos (Or.inr h)]

theorem rchunksExactSpec_nil (n : Nat) (hn : 0 < n) : rchunksExactSpec n ([] : List α) = [] :=
  rchunksExactSpec_of_lt n [] hn

theorem rchunksExactSpec_cons (n : Nat) (l : List α) (hn : 0 < n) (h : n ≤ l.length) :
    rchunksExactSpec n l = l.drop (l.length - n) :: rchunksExactSpec n (l.take (l.length - n)) := by
  rw [rchunksExactSpec, dif_neg (fun h' => h'.elim (Nat.ne_of_gt hn) (Nat.not_lt.mpr h))]

theorem rchunksExactSpec_single (n : Nat) (hn : 0 < n) (l : List α) (h : l.length = n) :
    rchunksExactSpec n l = [l] := by
  rw [rchunksExactSpec_cons n l hn (Nat.le_of_eq h.symm), Nat.sub_eq_zero_of_le (Nat.le_of_eq h),
    List.take_zero, List.drop_zero, rchunksExactSpec_nil n hn]

theorem rchunksExactSpec_append (n : Nat) (hn : 0 < n) (k : Nat) (a b : List α)
    (hb : b.length = k * n) :
    rchunksExactSpec n (a ++ b) = rchunksExactSpec n b ++ rchunksExactSpec n a :=
  peelBack_append n (rchunksExactSpec n) (rchunksExactSpec_nil n hn)
    (fun l => rchunksExactSpec_cons n l hn) a k b hb

/-- back decomposition (the item yielded last is the first `n` elements) when `n ∣ len` -/
theorem rchunksExactSpec_last (n : Nat) (hn : 0 < n) (l : List α) (hm : l.length % n = 0)
    (hle : n ≤ l.length) :
    rchunksExactSpec n l = rchunksExactSpec n (l.drop n) ++ [l.take n] := by
  have hd : (l.drop n).length = (l.length - n) / n * n :=
    List.length_drop.trans (eq_div_mul_of_mod_zero ((sub_mod_self' _ _ hle).trans hm))
  rw [← rchunksExactSpec_single n hn _ (List.length_take_of_le hle),
    ← rchunksExactSpec_append n hn _ _ _ hd, List.take_append_drop]

theorem rchunksExactSpec_drop_rem (n : Nat) (hn : 0 < n) (l : List α) :
    rchunksExactSpec n (l.drop (l.length % n)) = rchunksExactSpec n l := by
  have hd : (l.drop (l.length % n)).length = l.length / n * n :=
    List.length_drop.trans (sub_mod_eq_div_mul _ _)
  have ht : (l.take (l.length % n)).length < n := by
    rw [List.length_take_of_le (Nat.mod_le _ _)]
    exact Nat.mod_lt _ hn
  conv => rhs; rw [← List.take_append_drop (l.length % n) l]
  rw [rchunksExactSpec_append n hn _ _ _ hd, rchunksExactSpec_of_lt n _ ht, List.append_nil]

theorem windowsSpec_of_pos (n : Nat) (l : List α) (hn : 0 < n) :
    windowsSpec n l = (List.range (l.length + 1 - n)).map fun i => (l.drop i).take n :=
  if_neg (Nat.ne_of_gt hn)

theorem windowsSpec_of_lt (n : Nat) (l : List α) (h : l.length < n) : windowsSpec n l = [] := by
  rw [windowsSpec, Nat.sub_eq_zero_of_le h, List.range_zero, List.map_nil, ite_self]

theorem windowsSpec_cons (n : Nat) (l : List α) (hn : 0 < n) (h : n ≤ l.length) :
    windowsSpec n l = l.take n :: windowsSpec n (l.drop 1) := by
  have h1 : (l.drop 1).length + 1 = l.length := by
    rw [List.length_drop]
    exact Nat.sub_add_cancel (Nat.le_trans hn h)
  rw [windowsSpec_of_pos n l hn, windowsSpec_of_pos n _ hn, h1, Nat.sub_add_comm h,
    List.range_succ_eq_map, List.map_cons, List.map_map, List.drop_zero]
  congr 1
  apply List.map_congr_left
  intro i _
  rw [Function.comp_apply, List.drop_drop, Nat.succ_eq_add_one, Nat.add_comm]

theorem windowsSpec_last (n : Nat) (l : List α) (hn : 0 < n) (h : n ≤ l.length) :
    windowsSpec n l = windowsSpec n (l.take (l.length - 1)) ++ [l.drop (l.length - n)] := by
  have h1 : (l.take (l.length - 1)).length + 1 = l.length := by
    rw [List.length_take_of_le (Nat.sub_le _ _)]
    exact Nat.sub_add_cancel (Nat.le_trans hn h)
  have hd : (l.drop (l.length - n)).length ≤ n :=
    Nat.le_of_eq (List.length_drop.trans (Nat.sub_sub_self h))
  rw [windowsSpec_of_pos n l hn, windowsSpec_of_pos n _ hn, h1, Nat.sub_add_comm h, List.range_succ,
    List.map_append, List.map_singleton, List.take_of_length_le hd]
  congr 1
  apply List.map_congr_left
  intro i hi
  have hin : n ≤ l.length - 1 - i :=
    Nat.le_sub_of_add_le' (Nat.le_sub_one_of_lt (Nat.add_lt_of_lt_sub (List.mem_range.mp hi)))
  rw [List.drop_take, List.take_take, Nat.min_eq_left hin]

end Konst.Spec
