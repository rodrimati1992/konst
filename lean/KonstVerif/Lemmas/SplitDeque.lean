import KonstVerif.Lemmas.Split
/-
  C06, mixed front/back histories: for a non-empty delimiter whose occurrences cannot overlap
  (no border; every `char` delimiter is one) the pieces of `split` form a deque — taking the LAST
  occurrence off the back leaves the pieces of the rest (`split_snoc`).
-/
namespace Konst.Lemmas.SplitDeque
open Konst Konst.Utf8 Konst.Split Konst.Spec.Bytes Konst.Spec.Utf8 Konst.Spec.Split Konst.Lemmas.Utf8
open Konst.Lemmas.Split

theorem occ_take (h p : List Nat) (j q : Nat) :
    p <+: (h.take j).drop q ↔ p <+: h.drop q ∧ p.length ≤ j - q := by
  rw [List.drop_take, List.prefix_take_iff]

theorem occ_drop (h p : List Nat) (a q : Nat) : p <+: (h.drop a).drop q ↔ p <+: h.drop (a + q) := by
  rw [List.drop_drop]

/-- no proper non-empty prefix of `d` is a suffix of `d` -/
def Borderless (d : List Nat) : Prop :=
  ∀ k, 0 < k → k < d.length → d.take k ≠ d.drop (d.length - k)

theorem borderless_of_hasBorder {d : List Nat} (h : hasBorder d = false) : Borderless d := by
  intro k hk hkl he
  unfold hasBorder at h
  rw [List.any_eq_false] at h
  have := h k (List.mem_range.mpr hkl)
  simp only [Bool.and_eq_true, bne_iff_ne, ne_eq, beq_iff_eq, not_and] at this
  exact this (by omega) he

/-- occurrences of a borderless delimiter do not overlap: the overlap of two occurrences would be
    both a suffix (of the first) and a prefix (of the second) -/
theorem no_overlap (d : List Nat) (hb : Borderless d) (s : List Nat) (i j : Nat)
    (hi : d <+: s.drop i) (hj : d <+: s.drop j) (hij : i < j) : i + d.length ≤ j := by
  refine Nat.le_of_not_lt fun hlt => ?_
  obtain ⟨t, ht⟩ := hi
  have hm : j - i ≤ d.length := by omega
  have e : s.drop j = d.drop (j - i) ++ t := by
    rw [← List.drop_append_of_le_length hm, ht, List.drop_drop, Nat.add_sub_cancel' (Nat.le_of_lt hij)]
  have hp : d.drop (j - i) <+: d :=
    List.prefix_of_prefix_length_le ⟨t, e.symm⟩ hj (List.length_drop ▸ Nat.sub_le _ _)
  have hp := List.prefix_iff_eq_take.mp hp
  rw [List.length_drop] at hp
  refine hb (d.length - (j - i)) (by omega) (by omega) ?_
  rw [Nat.sub_sub_self hm]
  exact hp.symm

/-- the encoding of a `char` has no border: it starts with a non-continuation byte and goes on
    with continuation bytes only -/
theorem enc_borderless (c : Nat) : Borderless (enc c) := by
  obtain ⟨b, t, he, hb, ht, _⟩ := enc_ok c
  intro k hk hkl heq
  rw [he] at hkl heq
  -- the prefix starts with `b`, the suffix is a suffix of `t`
  obtain ⟨k, rfl⟩ : ∃ k', k = k' + 1 := ⟨k - 1, by omega⟩
  obtain ⟨m, hm⟩ : ∃ m, (b :: t).length - (k + 1) = m + 1 := ⟨t.length - (k + 1), by
    rw [List.length_cons] at hkl ⊢; omega⟩
  rw [hm, List.take_succ_cons, List.drop_succ_cons] at heq
  have hbt : b ∈ t := List.mem_of_mem_drop (heq ▸ List.mem_cons_self)
  rw [ht b hbt] at hb
  cases hb

/-! ### `split` as a deque -/

theorem findSpec_take {s d : List Nat} {i j : Nat} (hf : findSpec s d = some i)
    (hij : i + d.length ≤ j) : findSpec (s.take j) d = some i := by
  obtain ⟨oi, hil, himin⟩ := (findSpec_iff s d i).mp hf
  refine (findSpec_iff _ _ _).mpr ⟨(occ_take _ _ _ _).mpr ⟨oi, Nat.le_sub_of_add_le' hij⟩, ?_,
    fun q hq ho => himin q hq ((occ_take _ _ _ _).mp ho).1⟩
  rw [List.length_take]
  exact Nat.le_min.mpr ⟨Nat.le_trans (Nat.le_add_right _ _) hij, hil⟩

theorem findSpec_take_none {s d : List Nat} (hne : d ≠ []) {i : Nat} (hf : findSpec s d = some i) :
    findSpec (s.take i) d = none := by
  obtain ⟨_, _, himin⟩ := (findSpec_iff s d i).mp hf
  have hdl := List.length_pos_iff.mpr hne
  refine (findSpec_none_iff _ _).mpr fun q ho => ?_
  obtain ⟨ho, hl⟩ := (occ_take _ _ _ _).mp ho
  exact himin q (by omega) ho

theorem findSpec_drop_none {s d : List Nat} (hne : d ≠ []) {j : Nat} (hr : rfindSpec s d = some j) :
    findSpec (s.drop (j + d.length)) d = none := by
  obtain ⟨_, _, hjmax⟩ := (rfindSpec_iff s d hne j).mp hr
  have hdl := List.length_pos_iff.mpr hne
  exact (findSpec_none_iff _ _).mpr fun q ho => hjmax _ (by omega) ((occ_drop _ _ _ _).mp ho)

theorem rfindSpec_drop {s d : List Nat} (hne : d ≠ []) {j a : Nat} (hr : rfindSpec s d = some j)
    (ha : a ≤ j) : rfindSpec (s.drop a) d = some (j - a) := by
  obtain ⟨oj, hjl, hjmax⟩ := (rfindSpec_iff s d hne j).mp hr
  refine (rfindSpec_iff _ _ hne _).mpr ⟨?_, ?_, fun q hq ho => hjmax (a + q) (by omega) ((occ_drop _ _ _ _).mp ho)⟩
  · rw [occ_drop, Nat.add_sub_cancel' ha]; exact oj
  · rw [List.length_drop]; exact Nat.sub_le_sub_right hjl a

theorem split_snoc (d : List Nat) (hne : d ≠ []) (hb : Borderless d) :
    ∀ (n : Nat) (s : List Nat) (j : Nat), s.length ≤ n → rfindSpec s d = some j →
      splitAux d n s = splitAux d n (s.take j) ++ [s.drop (j + d.length)] := by
  have hdl : 0 < d.length := List.length_pos_iff.mpr hne
  intro n
  induction n with
  | zero =>
    intro s j hl hr
    obtain rfl : s = [] := List.eq_nil_of_length_eq_zero (Nat.le_zero.mp hl)
    rw [Lemmas.Bytes.rfindSpec_nil_hay hne] at hr; cases hr
  | succ n ih =>
    intro s j hl hr
    have oj := rfindSpec_some hne hr
    cases hf : findSpec s d with
    | none => exact absurd oj ((findSpec_none_iff s d).mp hf j)
    | some i =>
      have oi := findSpec_some hf
      have hij : i ≤ j := Nat.le_of_not_lt fun h => ((findSpec_iff s d i).mp hf).2.2 j h oj
      rw [splitAux_some d n s i hf]
      rcases Nat.lt_or_eq_of_le hij with hlt | rfl
      · -- the first piece is the same; the last occurrence of the rest is the same one
        have hno := no_overlap d hb s i j oi oj hlt
        have e : i + d.length + (j - (i + d.length) + d.length) = j + d.length := by omega
        rw [splitAux_some d n _ i (findSpec_take hf hno), List.take_take, Nat.min_eq_left hij,
          List.drop_take, ih _ _ (length_drop_occ hl hdl (occ_le hne oi)) (rfindSpec_drop hne hr hno),
          List.drop_drop, e]
        rfl
      · -- the only occurrence: nothing before, nothing after
        rw [splitAux_none d n _ (findSpec_drop_none hne hr),
          splitAux_none d _ _ (findSpec_take_none hne hf)]
        rfl

def toObs (x : Option PStr × PStr) : Obs :=
  match x.1 with
  | some p => .item (ofP p) (ofP x.2)
  | none => .none (ofP x.2)

/-- the other end: what a step of an `RSplit` is on the underlying `Split` -/
def flipDir : Dir → Dir
  | .f => .b
  | .b => .f

/-- the history as seen by the underlying `Split`: an `RSplit`'s `next` is the back step -/
def orient (f : Bool) (h : List Dir) : List Dir := if f then h else h.map flipDir

theorem orient_cons (f : Bool) (x : Dir) (h : List Dir) :
    orient f (x :: h) = (if f then x else flipDir x) :: orient f h := by
  cases f <;> rfl

theorem map_const_orient {β : Type} (f : Bool) (h : List Dir) (c : β) :
    (orient f h).map (fun _ => c) = h.map (fun _ => c) := by
  cases f <;> simp [orient, List.map_map, Function.comp_def]

theorem histSpec_nil (dl o : Nat) (cur : List Nat) :
    ∀ h : List Dir, (histSpec dl o cur [] h).map toObs = h.map (fun _ => Obs.none (Str.mk o cur).norm) := by
  intro h
  induction h with
  | nil => rfl
  | cons x h ih => rw [histSpec, List.map_cons, ih, List.map_cons, toObs, norm_mk]

theorem runHist_finished (f : Bool) : ∀ h : List Dir,
    runHist ⟨f, Str.lit, .finished⟩ h = h.map (fun _ => Obs.none Str.lit) := by
  intro h
  induction h with
  | nil => rfl
  | cons x h ih =>
    have e : runHist ⟨f, Str.lit, .finished⟩ (x :: h) =
        Obs.none Str.lit :: runHist ⟨f, Str.lit, .finished⟩ h := by
      cases x <;> cases f <;> rfl
    rw [e, ih, List.map_cons]

theorem runHist_some {it it' : Iter} {p : Str} (x : Dir) (h : List Dir)
    (hs : (match x with | .f => it.copy.next | .b => it.copy.nextBack) = .ok (some (p, it'))) :
    runHist it (x :: h) = .item p.norm it'.remainder.norm :: runHist it' h := by
  cases x <;> (simp only at hs; simp only [runHist, hs])

theorem histSpec_front (dl o : Nat) (cur p : List Nat) (ps : List (List Nat)) (h : List Dir) :
    (histSpec dl o cur (p :: ps) (.f :: h)).map toObs =
      .item (Str.mk o p).norm (Str.mk (o + (p.length + dl)) (cur.drop (p.length + dl))).norm ::
        (histSpec dl (o + (p.length + dl)) (cur.drop (p.length + dl)) ps h).map toObs := by
  rw [histSpec, List.map_cons, toObs, norm_mk, norm_mk]

theorem histSpec_back (dl o : Nat) (cur x : List Nat) (A : List (List Nat)) (h : List Dir) :
    (histSpec dl o cur (A ++ [x]) (.b :: h)).map toObs =
      .item (Str.mk (o + (cur.length - x.length)) x).norm
          (Str.mk o (cur.take (cur.length - (x.length + dl)))).norm ::
        (histSpec dl o (cur.take (cur.length - (x.length + dl))) A h).map toObs := by
  cases A with
  | nil => rw [List.nil_append, histSpec, List.map_cons, toObs, norm_mk, norm_mk]; rfl
  | cons a A =>
    have e1 : (a :: (A ++ [x])).getLast (List.cons_ne_nil _ _) = x := by
      rw [List.getLast_cons (by simp), List.getLast_concat]
    have e2 : (a :: (A ++ [x])).dropLast = a :: A := by
      rw [← List.cons_append, List.dropLast_concat]
    rw [List.cons_append, histSpec, List.map_cons, toObs, norm_mk, norm_mk]
    simp only [e1, e2]

private theorem front_step (f : Bool) (d : List Nat) (hd : Valid d) (hne : d ≠ [])
    (h : List Dir) (n : Nat)
    (ih : ∀ (n : Nat) (cur : List Nat) (o : Nat), cur.length ≤ n → Valid cur →
      runHist ⟨f, ⟨o, cur⟩, .normal d⟩ h = (histSpec d.length o cur (splitAux d n cur) (orient f h)).map toObs)
    (cur : List Nat) (o : Nat) (hl : cur.length ≤ n) (hv : Valid cur) (x : Dir)
    (hx : (match x with
      | .f => (Iter.mk f ⟨o, cur⟩ (.normal d)).copy.next
      | .b => (Iter.mk f ⟨o, cur⟩ (.normal d)).copy.nextBack) = nextBlock ⟨f, ⟨o, cur⟩, .normal d⟩) :
    runHist ⟨f, ⟨o, cur⟩, .normal d⟩ (x :: h) =
      (histSpec d.length o cur (splitAux d n cur) (.f :: orient f h)).map toObs := by
  have hdl : 0 < d.length := List.length_pos_iff.mpr hne
  cases hf : findSpec cur d with
  | none =>
    rw [runHist_some x h (hx.trans (nextBlock_none f ⟨o, cur⟩ d hf)), runHist_finished,
      splitAux_none d n cur hf, histSpec_front, List.drop_of_length_le (Nat.le_add_right _ _),
      histSpec_nil, map_const_orient]
    rfl
  | some i =>
    obtain ⟨_, _, hle, _, hvd⟩ := occ_boundaries cur d hv hd hne i (findSpec_some hf)
    cases n with
    | zero =>
      exact absurd (List.eq_nil_of_length_eq_zero (Nat.le_zero.mp hl)) (occ_ne_nil hne (findSpec_some hf))
    | succ n =>
      rw [runHist_some x h (hx.trans (nextBlock_found f o cur d hv hd hne i hf)),
        ih n _ _ (length_drop_occ hl hdl hle) hvd, splitAux_some d n cur i hf, histSpec_front,
        List.length_take_of_le (Nat.le_trans (Nat.le_add_right _ _) hle)]
      rfl

private theorem back_step (f : Bool) (d : List Nat) (hd : Valid d) (hne : d ≠ []) (hb : Borderless d)
    (h : List Dir) (n : Nat)
    (ih : ∀ (n : Nat) (cur : List Nat) (o : Nat), cur.length ≤ n → Valid cur →
      runHist ⟨f, ⟨o, cur⟩, .normal d⟩ h = (histSpec d.length o cur (splitAux d n cur) (orient f h)).map toObs)
    (cur : List Nat) (o : Nat) (hl : cur.length ≤ n) (hv : Valid cur) (x : Dir)
    (hx : (match x with
      | .f => (Iter.mk f ⟨o, cur⟩ (.normal d)).copy.next
      | .b => (Iter.mk f ⟨o, cur⟩ (.normal d)).copy.nextBack) = nextBackBlock ⟨f, ⟨o, cur⟩, .normal d⟩) :
    runHist ⟨f, ⟨o, cur⟩, .normal d⟩ (x :: h) =
      (histSpec d.length o cur (splitAux d n cur) (.b :: orient f h)).map toObs := by
  have hdl : 0 < d.length := List.length_pos_iff.mpr hne
  cases hr : rfindSpec cur d with
  | none =>
    have hf : findSpec cur d = none := (findSpec_none_iff cur d).mpr ((rfindSpec_none_iff cur d hne).mp hr)
    rw [runHist_some x h (hx.trans (nextBackBlock_none f ⟨o, cur⟩ d hne hr)), runHist_finished,
      splitAux_none d n cur hf, ← List.nil_append [cur], histSpec_back, Nat.sub_self,
      Nat.sub_eq_zero_of_le (Nat.le_add_right _ _), histSpec_nil, map_const_orient]
    rfl
  | some j =>
    obtain ⟨_, _, hle, hvt, _⟩ := occ_boundaries cur d hv hd hne j (rfindSpec_some hne hr)
    cases n with
    | zero =>
      exact absurd (List.eq_nil_of_length_eq_zero (Nat.le_zero.mp hl))
        (occ_ne_nil hne (rfindSpec_some hne hr))
    | succ n =>
      rw [runHist_some x h (hx.trans (nextBackBlock_found f o cur d hv hd hne j hr)),
        ih (n + 1) _ _ (Nat.le_succ_of_le (length_take_occ hl hdl hle)) hvt,
        split_snoc d hne hb _ cur j hl hr, histSpec_back, (length_sub_drop hle).1,
        (length_sub_drop hle).2]
      rfl

/-- EVERY front/back history on a `Split` (`f = true`) or `RSplit` (`f = false`) whose delimiter is
    non-empty and borderless, started in state Normal on any valid string at any offset, is the
    history on the deque of `split`'s pieces (an `RSplit` takes from the back on `next`) -/
theorem hist_normal (f : Bool) (d : List Nat) (hd : Valid d) (hne : d ≠ []) (hb : Borderless d) :
    ∀ (h : List Dir) (n : Nat) (cur : List Nat) (o : Nat), cur.length ≤ n → Valid cur →
      runHist ⟨f, ⟨o, cur⟩, .normal d⟩ h =
        (histSpec d.length o cur (splitAux d n cur) (orient f h)).map toObs := by
  intro h
  induction h with
  | nil => intro n cur o _ _; cases f <;> rfl
  | cons x h ih =>
    intro n cur o hl hv
    rw [orient_cons]
    cases x <;> cases f
    · exact back_step false d hd hne hb h n ih cur o hl hv .f rfl
    · exact front_step true d hd hne h n ih cur o hl hv .f rfl
    · exact front_step false d hd hne h n ih cur o hl hv .b rfl
    · exact back_step true d hd hne hb h n ih cur o hl hv .b rfl

end Konst.Lemmas.SplitDeque
