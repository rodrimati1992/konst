import KonstVerif.Model.ArrayBuilder
/-
  Helper lemmas for C11/C15: the refinement relation between the `ArrayBuilder` state machine and
  "the accepted pushes, in order".
-/
namespace Konst.ArrayBuilder
variable {α : Type}

theorem readInit_map_some (l : List α) : readInit (l.map some) = some l := by
  induction l with
  | nil => rfl
  | cons x r ih => simp [readInit, ih]

theorem readInit_eq_some {out : List (Option α)} {l : List α} (h : readInit out = some l) :
    out = l.map some := by
  induction out generalizing l with
  | nil => simp [readInit] at h; subst h; rfl
  | cons o r ih =>
    cases o with
    | none => simp [readInit] at h
    | some v =>
      simp only [readInit, Option.map_eq_some_iff] at h
      obtain ⟨l', hl', rfl⟩ := h
      simp [ih hl']

theorem readInit_none_mem {pre : List α} {suf : List (Option α)} :
    readInit (pre.map some ++ none :: suf) = none := by
  induction pre with
  | nil => rfl
  | cons x r ih => simp [readInit, ih]

@[simp] theorem mapFrom_length (fresh : Nat → α → α) (i : Nat) (l : List α) :
    (mapFrom fresh i l).length = l.length := by
  induction l generalizing i with
  | nil => rfl
  | cons x r ih => simp [mapFrom, ih]

theorem mapFrom_id (i : Nat) (l : List α) : mapFrom (fun _ x => x) i l = l := by
  induction l generalizing i with
  | nil => rfl
  | cons x r ih => simp [mapFrom, ih]

theorem set_map_some_replicate (done : List α) (v : α) (m : Nat) :
    (done.map some ++ List.replicate (m + 1) none).set done.length (some v) =
      (done ++ [v]).map some ++ List.replicate m none := by
  rw [List.replicate_succ, List.set_append_right _ _ (by simp)]
  simp

/-- the builder `b` holds exactly the accepted pushes `acc`, in order, in its first slots; every other
    slot is unwritten -/
def Wf (b : Builder α) (acc : List α) : Prop :=
  acc.length ≤ b.n ∧ b.inited = acc.length ∧
    b.slots = acc.map some ++ List.replicate (b.n - acc.length) none

theorem wf_new (n : Nat) : Wf (new n : Builder α) [] := by
  simp [Wf, new]

theorem wf_push_ok {b : Builder α} {acc : List α} (h : Wf b acc) (v : α) (hlt : acc.length < b.n) :
    ∃ b', push b v = .ok b' ∧ Wf b' (acc ++ [v]) ∧ b'.n = b.n := by
  obtain ⟨_, hi, hs⟩ := h
  refine ⟨{ b with slots := b.slots.set b.inited (some v), inited := b.inited + 1 }, ?_, ?_, rfl⟩
  · simp [push, hi, hlt]
  · refine ⟨by simp; omega, by simp [hi], ?_⟩
    simp only [hs, hi, List.length_append, List.length_cons, List.length_nil, Nat.zero_add]
    rw [show b.n - acc.length = (b.n - (acc.length + 1)) + 1 by omega, set_map_some_replicate]

theorem wf_push_full {b : Builder α} {acc : List α} (h : Wf b acc) (v : α) (hfull : acc.length = b.n) :
    push b v = .panic := by
  obtain ⟨_, hi, _⟩ := h
  simp [push, hi, hfull]

theorem wf_asSlice {b : Builder α} {acc : List α} (h : Wf b acc) : asSlice b = some acc := by
  obtain ⟨_, hi, hs⟩ := h
  unfold asSlice
  rw [hs, hi, List.take_left' (by simp)]
  exact readInit_map_some acc

theorem wf_dropped {b : Builder α} {acc : List α} (h : Wf b acc) : dropped b = some acc :=
  wf_asSlice h

theorem wf_build {b : Builder α} {acc : List α} (h : Wf b acc) :
    build b = if acc.length = b.n then .array acc else .panic := by
  obtain ⟨_, hi, hs⟩ := h
  unfold build isFull
  by_cases hf : acc.length = b.n
  · simp [hi, hf, hs, readInit_map_some]
  · simp [hi, hf]

theorem wf_isFull {b : Builder α} {acc : List α} (h : Wf b acc) :
    isFull b = decide (acc.length = b.n) := by
  obtain ⟨_, hi, _⟩ := h
  by_cases hf : acc.length = b.n <;> simp [isFull, hi, hf]

theorem wf_cloneLoop (fresh : Nat → α → α) (l : List α) :
    ∀ (i : Nat) (this : Builder α) (done : List α), Wf this done → done.length + l.length ≤ this.n →
      ∃ c, cloneLoop fresh l i this = some c ∧ Wf c (done ++ mapFrom fresh i l) ∧ c.n = this.n := by
  induction l with
  | nil => intro i this done h _; exact ⟨this, rfl, by simpa [mapFrom] using h, rfl⟩
  | cons x r ih =>
    intro i this done h hlen
    simp only [List.length_cons] at hlen
    obtain ⟨b', hp, hw, hn⟩ := wf_push_ok h (fresh i x) (by omega)
    obtain ⟨c, hc, hwc, hcn⟩ := ih (i + 1) b' (done ++ [fresh i x]) hw (by simp; omega)
    refine ⟨c, ?_, ?_, by omega⟩
    · simp [cloneLoop, hp, hc]
    · simpa [mapFrom] using hwc

theorem wf_clone (fresh : Nat → α → α) {b : Builder α} {acc : List α} (h : Wf b acc) :
    ∃ c, clone fresh b = some c ∧ Wf c (mapFrom fresh 0 acc) ∧ c.n = b.n := by
  obtain ⟨c, hc, hw, hn⟩ := wf_cloneLoop fresh acc 0 (new b.n) [] (wf_new b.n) (by simpa [new] using h.1)
  refine ⟨c, ?_, by simpa using hw, by simpa [new] using hn⟩
  simp [clone, wf_asSlice h, hc]

/-- `clone_from` (the provided `*self = source.clone()`): whatever the target held, it ends up holding
    exactly the numbered clones of the source's elements; exactly its old elements are dropped -/
theorem wf_cloneFrom (fresh : Nat → α → α) {t s : Builder α} {tacc sacc : List α}
    (ht : Wf t tacc) (hs : Wf s sacc) :
    ∃ c, cloneFrom fresh t s = some (c, tacc) ∧ Wf c (mapFrom fresh 0 sacc) ∧ c.n = s.n := by
  obtain ⟨c, hc, hw, hn⟩ := wf_clone fresh hs
  exact ⟨c, by simp [cloneFrom, hc, wf_dropped ht], hw, hn⟩

/-- a run of caught pushes: the builder accepts values while there is room and rejects the rest -/
theorem wf_pushAll (vs : List α) :
    ∀ {b : Builder α} {acc : List α}, Wf b acc →
      Wf (pushAll b vs).1 (acc ++ vs.take (b.n - acc.length)) ∧
      (pushAll b vs).2 = vs.drop (b.n - acc.length) ∧ (pushAll b vs).1.n = b.n := by
  induction vs with
  | nil => intro b acc h; simpa [pushAll] using h
  | cons v r ih =>
    intro b acc h
    by_cases hlt : acc.length < b.n
    · obtain ⟨b', hp, hw, hn⟩ := wf_push_ok h v hlt
      obtain ⟨g1, g2, g3⟩ := ih hw
      have e : b.n - acc.length = (b'.n - (acc ++ [v]).length) + 1 := by simp [hn]; omega
      simp only [pushAll, hp]
      rw [e, List.take_succ_cons, List.drop_succ_cons]
      exact ⟨by simpa using g1, g2, by omega⟩
    · have hfull : acc.length = b.n := by have := h.1; omega
      obtain ⟨g1, g2, g3⟩ := ih h
      have e : b.n - acc.length = 0 := by omega
      simp only [pushAll, wf_push_full h v hfull]
      rw [e] at g1 g2 ⊢
      simp only [List.take_zero, List.drop_zero, List.append_nil] at g1 g2 ⊢
      exact ⟨g1, by rw [g2], g3⟩

theorem wf_pushAll_new (n : Nat) (vs : List α) :
    Wf (pushAll (new n) vs).1 (vs.take n) ∧ (pushAll (new n) vs).2 = vs.drop n ∧
      (pushAll (new n : Builder α) vs).1.n = n := by
  have := wf_pushAll vs (wf_new (α := α) n)
  simpa [new] using this

end Konst.ArrayBuilder
