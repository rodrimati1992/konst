import KonstVerif.Model.ArrayConsumer
import KonstVerif.Lemmas.ArrayBuilder
/-
  Helper lemmas for C15: the refinement relation between the `ArrayConsumer` state machine and
  "the elements it still owns, in order" (a deque). (`wf_clone` is in Lemmas/ArrayHistories: it is the no-panic
  case of the panic-aware clone proved there.)
-/
namespace Konst.ArrayConsumer
open Konst.ArrayBuilder (readInit_map_some)
variable {α : Type}

/-- the consumer owns exactly `rem`, stored in `slots[taken_front .. N - taken_back]`; the slots before
    and after are never looked at again (their content is irrelevant) -/
def Wf (c : Consumer α) (rem : List α) : Prop :=
  ∃ pre post : List (Option α),
    c.slots = pre ++ rem.map some ++ post ∧ pre.length = c.takenFront ∧ post.length = c.takenBack ∧
    c.n = pre.length + rem.length + post.length

theorem wf_new (xs : List α) : Wf (new xs) xs :=
  ⟨[], [], by simp [new], rfl, rfl, by simp [new]⟩

theorem wf_empty (n : Nat) : Wf (empty n : Consumer α) [] :=
  ⟨List.replicate n none, [], by simp [empty], by simp [empty], rfl, by simp [empty]⟩

theorem wf_sliceLen {c : Consumer α} {rem : List α} (h : Wf c rem) : sliceLen c = rem.length := by
  obtain ⟨pre, post, _, hp, hq, hn⟩ := h
  unfold sliceLen; omega

theorem wf_slots_window {c : Consumer α} {rem : List α} (h : Wf c rem) :
    (c.slots.drop c.takenFront).take (sliceLen c) = rem.map some := by
  rw [wf_sliceLen h]
  obtain ⟨pre, post, hs, hp, _, _⟩ := h
  rw [hs, ← hp, List.append_assoc, List.drop_left, List.take_left' (by simp)]

theorem wf_asSlice {c : Consumer α} {rem : List α} (h : Wf c rem) : asSlice c = some rem := by
  unfold asSlice; rw [wf_slots_window h]; exact readInit_map_some rem

theorem wf_dropped {c : Consumer α} {rem : List α} (h : Wf c rem) : dropped c = some rem :=
  wf_asSlice h

theorem wf_next_nil {c : Consumer α} (h : Wf c []) : next c = .none := by
  simp [next, isEmpty, wf_sliceLen h]

theorem wf_nextBack_nil {c : Consumer α} (h : Wf c []) : nextBack c = .none := by
  simp [nextBack, isEmpty, wf_sliceLen h]

theorem wf_next_cons {c : Consumer α} {x : α} {rem : List α} (h : Wf c (x :: rem)) :
    next c = .some x { c with takenFront := c.takenFront + 1 } ∧
      Wf { c with takenFront := c.takenFront + 1 } rem := by
  have hl := wf_sliceLen h
  obtain ⟨pre, post, hs, hp, hq, hn⟩ := h
  constructor
  · have : c.slots[c.takenFront]? = some (some x) := by
      rw [hs, ← hp]; simp
    simp [next, isEmpty, hl, this]
  · exact ⟨pre ++ [some x], post, by simp [hs], by simp [hp], hq, by simp at hn ⊢; omega⟩

theorem wf_nextBack_snoc {c : Consumer α} {x : α} {rem : List α} (h : Wf c (rem ++ [x])) :
    nextBack c = .some x { c with takenBack := c.takenBack + 1 } ∧
      Wf { c with takenBack := c.takenBack + 1 } rem := by
  have hl := wf_sliceLen h
  obtain ⟨pre, post, hs, hp, hq, hn⟩ := h
  constructor
  · have hidx : c.n - c.takenBack - 1 = (pre ++ rem.map some).length := by
      simp at hn ⊢; omega
    have : c.slots[c.n - c.takenBack - 1]? = some (some x) := by
      rw [hs, hidx]
      have : pre ++ List.map some (rem ++ [x]) ++ post = (pre ++ rem.map some) ++ (some x :: post) := by
        simp
      rw [this, List.getElem?_append_right (Nat.le_refl _)]
      simp
    simp [nextBack, isEmpty, hl, this]
  · exact ⟨pre, some x :: post, by simp [hs], hp, by simp [hq], by simp at hn ⊢; omega⟩

/-- one step of `Clone::clone` on the half-built clone (`taken_front = 0`): writing the slot after the copies made so
    far and giving one slot back from `taken_back` makes it own one copy more -/
theorem wf_cloneStep {c : Consumer α} {done : List α} (h : Wf c done) (hf : c.takenFront = 0)
    (hb : 0 < c.takenBack) (v : α) :
    Wf { c with slots := c.slots.set done.length (some v), takenBack := c.takenBack - 1 } (done ++ [v]) := by
  obtain ⟨pre, post, hs, hp, hq, hn⟩ := h
  have hpre : pre = [] := List.eq_nil_of_length_eq_zero (hp.trans hf)
  subst hpre
  cases post with
  | nil => simp at hq; omega
  | cons p post =>
    refine ⟨[], post, ?_, hf.symm, by simp at hq ⊢; omega, by simp at hn ⊢; omega⟩
    simp [hs, List.set_append_right]

end Konst.ArrayConsumer
