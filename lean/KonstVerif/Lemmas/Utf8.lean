import KonstVerif.Model.Utf8
import KonstVerif.Model.Chr
import KonstVerif.Spec.Utf8
/-
  UTF-8 for the string properties.  First the part that only needs self-synchronisation (`Sync`:
  a lead byte that fixes the length, then continuation bytes): the byte test finds exactly the prefix
  sums of the code-word lengths, and a byte-wise match of whole characters starts and ends on them.
  Then RFC 3629 itself (`Spec.Utf8`) as such a code, the byte layout of its four length classes in
  base-64 digits, and through it the model's encoder, decoders and char-boundary functions.
-/
namespace Konst.Lemmas.Utf8

/-- a variable-length code whose first byte is never a continuation byte, whose other bytes all
    are, and whose first byte determines the length -/
structure Code where
  enc  : Nat → List Nat
  cont : Nat → Bool
  clen : Nat → Nat
  ok   : ∀ c, ∃ b t, enc c = b :: t ∧ cont b = false ∧ (∀ x ∈ t, cont x = true) ∧ t.length + 1 = clen b

namespace Sync
variable (K : Code)

def encs (cs : List Nat) : List Nat := cs.flatMap K.enc

@[simp] theorem encs_nil : encs K [] = [] := rfl
@[simp] theorem encs_cons (c : Nat) (cs : List Nat) : encs K (c :: cs) = K.enc c ++ encs K cs := by
  simp [encs]

theorem encs_append (as bs : List Nat) : encs K (as ++ bs) = encs K as ++ encs K bs := by
  simp [encs]

theorem enc_ne_nil (c : Nat) : K.enc c ≠ [] := by
  obtain ⟨b, t, he, _⟩ := K.ok c
  simp [he]

def Boundary (cs : List Nat) (i : Nat) : Prop := ∃ k, i = (encs K (cs.take k)).length

theorem boundary_zero (cs) : Boundary K cs 0 := ⟨0, by simp⟩
theorem boundary_len (cs) : Boundary K cs (encs K cs).length := ⟨cs.length, by simp⟩

theorem boundary_nil (i : Nat) : Boundary K [] i ↔ i = 0 := by
  simp [Boundary]

theorem boundary_cons (c : Nat) (cs : List Nat) (i : Nat) :
    Boundary K (c :: cs) i ↔ i = 0 ∨ ∃ j, Boundary K cs j ∧ i = (K.enc c).length + j := by
  constructor
  · rintro ⟨k, hk⟩
    cases k with
    | zero => exact Or.inl hk
    | succ k => exact Or.inr ⟨_, ⟨k, rfl⟩, by rw [hk, List.take_succ_cons, encs_cons, List.length_append]⟩
  · rintro (rfl | ⟨j, ⟨k, rfl⟩, rfl⟩)
    · exact boundary_zero K _
    · exact ⟨k + 1, by rw [List.take_succ_cons, encs_cons, List.length_append]⟩

/-- the byte test used by konst/std -/
def ByteTest (s : List Nat) (i : Nat) : Prop := i = s.length ∨ ∃ b, s[i]? = some b ∧ K.cont b = false

theorem byteTest_nil (i : Nat) : ByteTest K [] i ↔ i = 0 := by
  simp [ByteTest]

theorem byteTest_cons_zero (b : Nat) (s : List Nat) : ByteTest K (b :: s) 0 ↔ K.cont b = false := by
  simp [ByteTest]

theorem byteTest_cons_succ (b : Nat) (s : List Nat) (i : Nat) :
    ByteTest K (b :: s) (i + 1) ↔ ByteTest K s i := by
  simp [ByteTest]

theorem byteTest_conts_append (t s : List Nat) (ht : ∀ x ∈ t, K.cont x = true) (i : Nat) :
    ByteTest K (t ++ s) i ↔ ∃ j, ByteTest K s j ∧ i = t.length + j := by
  induction t generalizing i with
  | nil => simp
  | cons x t ih =>
    cases i with
    | zero =>
      rw [List.cons_append, byteTest_cons_zero, ht x List.mem_cons_self, List.length_cons]
      exact ⟨fun h => Bool.noConfusion h, fun ⟨j, _, e⟩ => by omega⟩
    | succ i =>
      rw [List.cons_append, byteTest_cons_succ, ih (fun y hy => ht y (List.mem_cons_of_mem _ hy))]
      refine exists_congr fun j => and_congr_right fun _ => ?_
      rw [List.length_cons]
      omega

theorem byteTest_enc_append (c : Nat) (s : List Nat) (i : Nat) :
    ByteTest K (K.enc c ++ s) i ↔ i = 0 ∨ ∃ j, ByteTest K s j ∧ i = (K.enc c).length + j := by
  obtain ⟨b, t, he, hb, ht, _⟩ := K.ok c
  rw [he, List.cons_append]
  cases i with
  | zero => simp [byteTest_cons_zero, hb]
  | succ i =>
    rw [byteTest_cons_succ, byteTest_conts_append K t s ht, List.length_cons]
    refine ⟨fun ⟨j, h, e⟩ => Or.inr ⟨j, h, by omega⟩, ?_⟩
    rintro (h | ⟨j, h, e⟩)
    · omega
    · exact ⟨j, h, by omega⟩

/-- at every `i`: positions beyond the end fail both sides -/
theorem boundary_iff_byteTest (cs : List Nat) (i : Nat) :
    Boundary K cs i ↔ ByteTest K (encs K cs) i := by
  induction cs generalizing i with
  | nil => rw [boundary_nil, encs_nil, byteTest_nil]
  | cons c cs ih =>
    rw [boundary_cons, encs_cons, byteTest_enc_append]
    exact or_congr Iff.rfl (exists_congr fun j => and_congr_left' (ih j))

theorem boundary_iff : ∀ (cs : List Nat) (i : Nat), i ≤ (encs K cs).length →
    (Boundary K cs i ↔ ByteTest K (encs K cs) i) :=
  fun cs i _ => boundary_iff_byteTest K cs i

theorem prefix_chars : ∀ (ps ds : List Nat), encs K ps <+: encs K ds →
    ∃ m, encs K ps = encs K (ds.take m) := by
  intro ps
  induction ps with
  | nil => intro ds _; exact ⟨0, by simp⟩
  | cons p ps ih =>
    intro ds h
    obtain ⟨b, t, hep, hb, _, hlen⟩ := K.ok p
    cases ds with
    | nil =>
      exfalso
      have := List.IsPrefix.length_le h
      simp [hep] at this
    | cons d ds =>
      obtain ⟨b', t', hed, _, _, hlen'⟩ := K.ok d
      simp only [encs_cons] at h
      have hbb : b = b' := by
        obtain ⟨r, hr⟩ := h
        rw [hep, hed] at hr
        simp only [List.cons_append, List.cons.injEq] at hr
        exact hr.1
      subst hbb
      have hl : (K.enc p).length = (K.enc d).length := by
        rw [hep, hed]; simp only [List.length_cons]; omega
      have hpd : K.enc p = K.enc d := by
        obtain ⟨r, hr⟩ := h
        have h1 := congrArg (List.take (K.enc p).length) hr
        rw [List.append_assoc, List.take_left' rfl, hl, List.take_left' rfl] at h1
        exact h1
      have hrest : encs K ps <+: encs K ds := by
        rw [hpd] at h
        exact (List.prefix_append_right_inj _).mp h
      obtain ⟨m, hm⟩ := ih ds hrest
      exact ⟨m + 1, by simp [encs_cons, hpd, hm]⟩

theorem encs_take_append_drop (cs : List Nat) (k : Nat) :
    encs K (cs.take k) ++ encs K (cs.drop k) = encs K cs := by
  rw [← encs_append, List.take_append_drop]

theorem drop_encs_take (cs : List Nat) (k : Nat) :
    (encs K cs).drop (encs K (cs.take k)).length = encs K (cs.drop k) := by
  conv => lhs; arg 2; rw [← encs_take_append_drop K cs k]
  exact List.drop_left' rfl

theorem take_encs_take (cs : List Nat) (k : Nat) :
    (encs K cs).take (encs K (cs.take k)).length = encs K (cs.take k) := by
  conv => lhs; arg 2; rw [← encs_take_append_drop K cs k]
  exact List.take_left' rfl

theorem match_on_boundaries (cs ps : List Nat) (hps : ps ≠ []) (i : Nat)
    (hm : encs K ps <+: (encs K cs).drop i) :
    Boundary K cs i ∧ Boundary K cs (i + (encs K ps).length) := by
  -- first byte of the needle is a lead byte sitting at position i of the haystack
  obtain ⟨p, ps', rfl⟩ : ∃ p ps', ps = p :: ps' := by
    cases ps with
    | nil => exact absurd rfl hps
    | cons a b => exact ⟨a, b, rfl⟩
  obtain ⟨b, t, hep, hb, _, _⟩ := K.ok p
  have hget : (encs K cs)[i]? = some b := by
    obtain ⟨r, hr⟩ := hm
    have : ((encs K cs).drop i)[0]? = some b := by
      rw [← hr]; simp [encs_cons, hep]
    simpa using this
  have hbi : Boundary K cs i :=
    (boundary_iff_byteTest K cs i).mpr (Or.inr ⟨b, hget, hb⟩)
  refine ⟨hbi, ?_⟩
  obtain ⟨k, hk⟩ := hbi
  subst hk
  rw [drop_encs_take] at hm
  obtain ⟨m, hm'⟩ := prefix_chars K (p :: ps') (cs.drop k) hm
  refine ⟨k + m, ?_⟩
  rw [hm']
  have : cs.take (k + m) = cs.take k ++ (cs.drop k).take m := by
    rw [List.take_add]
  rw [this, encs_append, List.length_append]

end Sync

open Konst Konst.Spec.Utf8 Konst.Utf8 Konst.Chr

def leadLen (b : Nat) : Nat :=
  if b < 0x80 then 1 else if b < 0xE0 then 2 else if b < 0xF0 then 3 else 4

theorem isCont_iff (b : Nat) : isCont b = true ↔ 0x80 ≤ b ∧ b < 0xC0 := by
  simp [isCont]

theorem isCont_false_iff (b : Nat) : isCont b = false ↔ b < 0x80 ∨ 0xC0 ≤ b := by
  rw [← Bool.not_eq_true, isCont_iff]; omega

theorem isCont_cont (y : Nat) (h : y < 64) : isCont (0x80 + y) = true :=
  (isCont_iff _).mpr ⟨Nat.le_add_right _ _, Nat.add_lt_add_left h 0x80⟩

theorem isScalar_iff (c : Nat) : isScalar c = true ↔ c < 0xD800 ∨ (0xE000 ≤ c ∧ c < 0x110000) := by
  simp [isScalar]

theorem isScalar_lt (c : Nat) (h : isScalar c = true) : c < 0x110000 := by
  rcases (isScalar_iff c).mp h with h | h <;> omega

/-! ### the four length classes -/

theorem enc1 (c : Nat) (h : c < 0x80) : enc c = [c] := by
  unfold enc; rw [if_pos h]

theorem enc2 (c : Nat) (h1 : 0x80 ≤ c) (h2 : c < 0x800) : enc c = [0xC0 + c / 64, 0x80 + c % 64] := by
  unfold enc; rw [if_neg (Nat.not_lt.mpr h1), if_pos h2]

theorem enc3 (c : Nat) (h1 : 0x800 ≤ c) (h2 : c < 0x10000) :
    enc c = [0xE0 + c / 4096, 0x80 + c / 64 % 64, 0x80 + c % 64] := by
  unfold enc
  rw [if_neg (Nat.not_lt.mpr (Nat.le_trans (by decide) h1)), if_neg (Nat.not_lt.mpr h1), if_pos h2]

theorem enc4 (c : Nat) (h1 : 0x10000 ≤ c) :
    enc c = [0xF0 + c / 262144, 0x80 + c / 4096 % 64, 0x80 + c / 64 % 64, 0x80 + c % 64] := by
  unfold enc
  rw [if_neg (Nat.not_lt.mpr (Nat.le_trans (by decide) h1)),
    if_neg (Nat.not_lt.mpr (Nat.le_trans (by decide) h1)), if_neg (Nat.not_lt.mpr h1)]

private theorem div64 (q d : Nat) (hd : d < 64) : (q * 64 + d) / 64 = q := by
  rw [Nat.add_comm, Nat.add_mul_div_right _ _ (by decide), Nat.div_eq_of_lt hd, Nat.zero_add]

private theorem mod64 (q d : Nat) (hd : d < 64) : (q * 64 + d) % 64 = d := by
  rw [Nat.mul_add_mod_self_right, Nat.mod_eq_of_lt hd]

/-- the encoding of a value given by its base-64 digits, one lemma per length class: a lead byte
    `tag + x` and continuation bytes `0x80 + digit`.  The decoders below are treated on such bytes. -/
theorem enc_digits2 (x y : Nat) (hy : y < 64) (h : 0x80 ≤ x * 64 + y) (hx : x < 32) :
    enc (x * 64 + y) = [0xC0 + x, 0x80 + y] := by
  rw [enc2 _ h (by omega), div64 _ _ hy, mod64 _ _ hy]

theorem enc_digits3 (x y z : Nat) (hy : y < 64) (hz : z < 64) (h : 0x800 ≤ x * 4096 + y * 64 + z)
    (hx : x < 16) : enc (x * 4096 + y * 64 + z) = [0xE0 + x, 0x80 + y, 0x80 + z] := by
  have hv : x * 4096 + y * 64 + z = (x * 64 + y) * 64 + z := by omega
  rw [enc3 _ h (by omega), hv, show 4096 = 64 * 64 from rfl, ← Nat.div_div_eq_div_mul,
    div64 _ _ hz, div64 _ _ hy, mod64 _ _ hz, mod64 _ _ hy]

theorem enc_digits4 (x y z w : Nat) (hy : y < 64) (hz : z < 64) (hw : w < 64)
    (h : 0x10000 ≤ x * 262144 + y * 4096 + z * 64 + w) :
    enc (x * 262144 + y * 4096 + z * 64 + w) = [0xF0 + x, 0x80 + y, 0x80 + z, 0x80 + w] := by
  have hv : x * 262144 + y * 4096 + z * 64 + w = ((x * 64 + y) * 64 + z) * 64 + w := by omega
  rw [enc4 _ h, hv, show 262144 = 64 * 64 * 64 from rfl, show 4096 = 64 * 64 from rfl,
    ← Nat.div_div_eq_div_mul, ← Nat.div_div_eq_div_mul,
    div64 _ _ hw, div64 _ _ hz, div64 _ _ hy, mod64 _ _ hw, mod64 _ _ hz, mod64 _ _ hy]

private theorem digits3 (c : Nat) : c = c / 4096 * 4096 + c / 64 % 64 * 64 + c % 64 :=
  calc c = c / 64 * 64 + c % 64 := (Nat.div_add_mod' c 64).symm
    _ = (c / 64 / 64 * 64 + c / 64 % 64) * 64 + c % 64 := by rw [Nat.div_add_mod' (c / 64) 64]
    _ = c / 4096 * 4096 + c / 64 % 64 * 64 + c % 64 := by
      rw [Nat.add_mul, Nat.mul_assoc, Nat.div_div_eq_div_mul]

private theorem digits4 (c : Nat) :
    c = c / 262144 * 262144 + c / 4096 % 64 * 4096 + c / 64 % 64 * 64 + c % 64 :=
  calc c = c / 4096 * 4096 + c / 64 % 64 * 64 + c % 64 := digits3 c
    _ = (c / 4096 / 64 * 64 + c / 4096 % 64) * 4096 + c / 64 % 64 * 64 + c % 64 := by
      rw [Nat.div_add_mod' (c / 4096) 64]
    _ = c / 262144 * 262144 + c / 4096 % 64 * 4096 + c / 64 % 64 * 64 + c % 64 := by
      rw [Nat.add_mul, Nat.mul_assoc, Nat.div_div_eq_div_mul]

/-- every value is the value of its digits, so it falls into one of the four classes of
    `enc_digits*` (the lead digit of the last class is not bounded: `x < 8` iff `c < 0x200000`) -/
theorem enc_layout (c : Nat) :
    (c < 0x80 ∧ enc c = [c]) ∨
    (∃ x y, x < 32 ∧ y < 64 ∧ 0x80 ≤ c ∧ c = x * 64 + y ∧ enc c = [0xC0 + x, 0x80 + y]) ∨
    (∃ x y z, x < 16 ∧ y < 64 ∧ z < 64 ∧ 0x800 ≤ c ∧ c = x * 4096 + y * 64 + z ∧
      enc c = [0xE0 + x, 0x80 + y, 0x80 + z]) ∨
    (∃ x y z w, y < 64 ∧ z < 64 ∧ w < 64 ∧ 0x10000 ≤ c ∧ c = x * 262144 + y * 4096 + z * 64 + w ∧
      enc c = [0xF0 + x, 0x80 + y, 0x80 + z, 0x80 + w]) := by
  have m (n : Nat) : n % 64 < 64 := Nat.mod_lt n (by decide)
  by_cases h1 : c < 0x80
  · exact Or.inl ⟨h1, enc1 c h1⟩
  have h1 := Nat.le_of_not_lt h1
  by_cases h2 : c < 0x800
  · have d := (Nat.div_add_mod' c 64).symm
    have e := enc_digits2 (c / 64) (c % 64) (m c) (d ▸ h1) (Nat.div_lt_of_lt_mul h2)
    rw [← d] at e
    exact Or.inr (Or.inl ⟨_, _, Nat.div_lt_of_lt_mul h2, m c, h1, d, e⟩)
  have h2 := Nat.le_of_not_lt h2
  by_cases h3 : c < 0x10000
  · have e := enc_digits3 (c / 4096) (c / 64 % 64) (c % 64) (m _) (m c) (digits3 c ▸ h2)
      (Nat.div_lt_of_lt_mul h3)
    rw [← digits3 c] at e
    exact Or.inr (Or.inr (Or.inl ⟨_, _, _, Nat.div_lt_of_lt_mul h3, m _, m c, h2, digits3 c, e⟩))
  have h3 := Nat.le_of_not_lt h3
  have e := enc_digits4 (c / 262144) (c / 4096 % 64) (c / 64 % 64) (c % 64) (m _) (m _) (m c)
    (digits4 c ▸ h3)
  rw [← digits4 c] at e
  exact Or.inr (Or.inr (Or.inr ⟨_, _, _, _, m _, m _, m c, h3, digits4 c, e⟩))

theorem isCont_lead (tag x : Nat) (h : 0xC0 ≤ tag) : isCont (tag + x) = false :=
  (isCont_false_iff _).mpr (Or.inr (Nat.le_trans h (Nat.le_add_right _ x)))

private theorem lead_not_lt {tag k : Nat} (x : Nat) (hk : k ≤ tag) : ¬ tag + x < k :=
  Nat.not_lt.mpr (Nat.le_trans hk (Nat.le_add_right _ x))

theorem leadLen_C0 (x : Nat) (hx : x < 32) : leadLen (0xC0 + x) = 2 := by
  rw [leadLen, if_neg (lead_not_lt x (by decide)), if_pos (Nat.add_lt_add_left hx 0xC0)]

theorem leadLen_E0 (x : Nat) (hx : x < 16) : leadLen (0xE0 + x) = 3 := by
  rw [leadLen, if_neg (lead_not_lt x (by decide)), if_neg (lead_not_lt x (by decide)),
    if_pos (Nat.add_lt_add_left hx 0xE0)]

theorem leadLen_F0 (x : Nat) : leadLen (0xF0 + x) = 4 := by
  rw [leadLen, if_neg (lead_not_lt x (by decide)), if_neg (lead_not_lt x (by decide)),
    if_neg (lead_not_lt x (by decide))]

theorem enc_ok (c : Nat) : ∃ b t, enc c = b :: t ∧ isCont b = false ∧
    (∀ x ∈ t, isCont x = true) ∧ t.length + 1 = leadLen b := by
  rcases enc_layout c with ⟨h, e⟩ | ⟨x, y, hx, hy, _, _, e⟩ | ⟨x, y, z, hx, hy, hz, _, _, e⟩ |
    ⟨x, y, z, w, hy, hz, hw, _, _, e⟩
  · exact ⟨c, [], e, (isCont_false_iff c).mpr (Or.inl h), fun _ hx => (List.not_mem_nil hx).elim,
      by rw [leadLen, if_pos h]; rfl⟩
  · refine ⟨_, _, e, isCont_lead _ x (by decide), ?_, (leadLen_C0 x hx).symm⟩
    simp only [List.mem_cons, List.not_mem_nil, or_false, forall_eq, isCont_cont y hy]
  · refine ⟨_, _, e, isCont_lead _ x (by decide), ?_, (leadLen_E0 x hx).symm⟩
    simp only [List.mem_cons, List.not_mem_nil, or_false, forall_eq_or_imp, forall_eq, isCont_cont y hy,
      isCont_cont z hz, and_self]
  · refine ⟨_, _, e, isCont_lead _ x (by decide), ?_, (leadLen_F0 x).symm⟩
    simp only [List.mem_cons, List.not_mem_nil, or_false, forall_eq_or_imp, forall_eq, isCont_cont y hy,
      isCont_cont z hz, isCont_cont w hw, and_self]

/-- UTF-8 as a self-synchronising code (holds for every `Nat`, scalar value or not) -/
def utf8Code : Code := ⟨enc, isCont, leadLen, enc_ok⟩

theorem sync_encs (cs : List Nat) : Sync.encs utf8Code cs = encs cs := rfl
theorem sync_boundary (cs : List Nat) (i : Nat) : Sync.Boundary utf8Code cs i ↔ IsBoundary cs i := Iff.rfl

@[simp] theorem encs_nil : encs [] = [] := rfl
@[simp] theorem encs_cons (c : Nat) (cs : List Nat) : encs (c :: cs) = enc c ++ encs cs := by
  simp [encs]
theorem encs_append (as bs : List Nat) : encs (as ++ bs) = encs as ++ encs bs := by
  simp [encs]

theorem enc_length (c : Nat) : (enc c).length = clen c := by
  unfold enc clen
  by_cases h1 : c < 0x80
  · rw [if_pos h1, if_pos h1]; rfl
  rw [if_neg h1, if_neg h1]
  by_cases h2 : c < 0x800
  · rw [if_pos h2, if_pos h2]; rfl
  rw [if_neg h2, if_neg h2]
  by_cases h3 : c < 0x10000
  · rw [if_pos h3, if_pos h3]; rfl
  · rw [if_neg h3, if_neg h3]; rfl

theorem enc_ne_nil (c : Nat) : enc c ≠ [] := Sync.enc_ne_nil utf8Code c

theorem clen_pos (c : Nat) : 0 < clen c := by
  rw [← enc_length]; exact List.length_pos_iff.mpr (enc_ne_nil c)

theorem clen_le_four (c : Nat) : clen c ≤ 4 := by
  rw [← enc_length]
  rcases enc_layout c with ⟨_, e⟩ | ⟨_, _, _, _, _, _, e⟩ | ⟨_, _, _, _, _, _, _, _, e⟩ |
    ⟨_, _, _, _, _, _, _, _, _, e⟩ <;> rw [e] <;> exact Nat.le_of_ble_eq_true rfl

theorem enc_lt_256 (c : Nat) (h : c < 0x200000) : ∀ b ∈ enc c, b < 256 := by
  rcases enc_layout c with ⟨h, e⟩ | ⟨x, y, hx, hy, _, _, e⟩ | ⟨x, y, z, hx, hy, hz, _, _, e⟩ |
    ⟨x, y, z, w, hy, hz, hw, _, hv, e⟩
  all_goals
    rw [e]
    simp only [List.mem_cons, List.not_mem_nil, or_false, forall_eq_or_imp, forall_eq]
    omega

/-- the chars of a `&str` (the hypothesis spelt out in the statements of this file) -/
abbrev Scalars (cs : List Nat) : Prop := ∀ c ∈ cs, isScalar c = true

theorem Scalars.tail {c : Nat} {cs : List Nat} (h : Scalars (c :: cs)) : Scalars cs :=
  fun x hx => h x (List.mem_cons_of_mem _ hx)

theorem Scalars.init {c : Nat} {cs : List Nat} (h : Scalars (cs ++ [c])) : Scalars cs :=
  fun x hx => h x (List.mem_append_left _ hx)

theorem encs_lt_256 (cs : List Nat) (hs : ∀ c ∈ cs, isScalar c = true) : ∀ b ∈ encs cs, b < 256 := by
  intro b hb
  simp only [encs, List.mem_flatMap] at hb
  obtain ⟨c, hc, hb⟩ := hb
  exact enc_lt_256 c (by have := isScalar_lt c (hs c hc); omega) b hb

theorem valid_lt_256 {l : List Nat} (h : Valid l) : ∀ b ∈ l, b < 256 := by
  obtain ⟨cs, hs, rfl⟩ := h
  exact encs_lt_256 cs hs

theorem encs_eq_nil_iff {cs : List Nat} : encs cs = [] ↔ cs = [] := by
  refine ⟨fun h => ?_, fun h => by rw [h, encs_nil]⟩
  cases cs with
  | nil => rfl
  | cons c cs => rw [encs_cons] at h; exact absurd (List.append_eq_nil_iff.mp h).1 (enc_ne_nil c)

/-! ### `Valid` is closed under the string operations -/

theorem valid_encs {cs : List Nat} (h : ∀ c ∈ cs, isScalar c = true) : Valid (encs cs) := ⟨cs, h, rfl⟩

theorem valid_nil : Valid [] := valid_encs (cs := []) (fun _ h => (List.not_mem_nil h).elim)

theorem valid_enc {c : Nat} (h : isScalar c = true) : Valid (enc c) :=
  ⟨[c], fun _ hd => List.eq_of_mem_singleton hd ▸ h, (List.append_nil _).symm⟩

theorem valid_append {a b : List Nat} (ha : Valid a) (hb : Valid b) : Valid (a ++ b) := by
  obtain ⟨as, has, rfl⟩ := ha
  obtain ⟨bs, hbs, rfl⟩ := hb
  exact ⟨as ++ bs, fun c hc => (List.mem_append.mp hc).elim (has c) (hbs c), (encs_append as bs).symm⟩

theorem valid_flatten {ss : List (List Nat)} (h : ∀ s ∈ ss, Valid s) : Valid ss.flatten := by
  induction ss with
  | nil => exact valid_nil
  | cons s ss ih =>
    exact valid_append (h s List.mem_cons_self) (ih fun t ht => h t (List.mem_cons_of_mem _ ht))

/-- `(b as i8) >= -0x40` says "not a continuation byte" -/
theorem byteIsCharBoundary_eq (b : Nat) : byteIsCharBoundary b = !isCont b := by
  rw [Bool.eq_iff_iff, Bool.not_eq_true', isCont_false_iff, byteIsCharBoundary, decide_eq_true_eq, asI8]
  split <;> omega

theorem encs_take_append_drop (cs : List Nat) (k : Nat) :
    encs (cs.take k) ++ encs (cs.drop k) = encs cs :=
  Sync.encs_take_append_drop utf8Code cs k

theorem boundary_zero (cs : List Nat) : IsBoundary cs 0 := ⟨0, by simp⟩
theorem boundary_len (cs : List Nat) : IsBoundary cs (encs cs).length := ⟨cs.length, by simp⟩

theorem boundary_split (cs : List Nat) (i : Nat) (h : IsBoundary cs i) :
    ∃ k, i = (encs (cs.take k)).length ∧ (encs cs).take i = encs (cs.take k) ∧
      (encs cs).drop i = encs (cs.drop k) := by
  obtain ⟨k, hk⟩ := h
  exact ⟨k, hk, by rw [hk]; exact Sync.take_encs_take utf8Code cs k,
    by rw [hk]; exact Sync.drop_encs_take utf8Code cs k⟩

theorem boundary_le (cs : List Nat) (i : Nat) (h : IsBoundary cs i) : i ≤ (encs cs).length := by
  obtain ⟨k, hk⟩ := h
  rw [← encs_take_append_drop cs k, List.length_append]; omega

theorem isBoundary_nil (i : Nat) : IsBoundary [] i ↔ i = 0 := Sync.boundary_nil utf8Code i

theorem isBoundary_cons (c : Nat) (cs : List Nat) (i : Nat) :
    IsBoundary (c :: cs) i ↔ i = 0 ∨ ∃ j, IsBoundary cs j ∧ i = (enc c).length + j :=
  Sync.boundary_cons utf8Code c cs i

theorem mem_boundaries_iff : ∀ (cs : List Nat) (i : Nat), i ∈ boundaries cs ↔ IsBoundary cs i := by
  intro cs
  induction cs with
  | nil =>
    intro i
    rw [boundaries, List.mem_singleton, isBoundary_nil]
  | cons c cs ih =>
    intro i
    rw [boundaries, List.mem_cons, List.mem_map, isBoundary_cons]
    exact or_congr Iff.rfl (exists_congr fun j => and_congr (ih j) ⟨fun h => by omega, fun h => by omega⟩)

theorem isCharBoundaryBytes_iff (s : List Nat) (i : Nat) :
    isCharBoundaryBytes s i = true ↔ Sync.ByteTest utf8Code s i := by
  simp only [isCharBoundaryBytes, Sync.ByteTest, Bool.or_eq_true, beq_iff_eq, Bool.and_eq_true,
    decide_eq_true_eq, byteIsCharBoundary_eq, Bool.not_eq_true']
  refine or_congr Iff.rfl ⟨?_, ?_⟩
  · rintro ⟨h, hc⟩
    refine ⟨s[i], List.getElem?_eq_getElem h, ?_⟩
    rwa [List.getD_eq_getElem?_getD, List.getElem?_eq_getElem h] at hc
  · rintro ⟨b, hb, hc⟩
    obtain ⟨h, rfl⟩ := List.getElem?_eq_some_iff.mp hb
    refine ⟨h, ?_⟩
    rwa [List.getD_eq_getElem?_getD, hb]

/-- for ANY list of numbers and every index: only self-synchronisation is used -/
theorem isCharBoundary_encs_iff (cs : List Nat) (i : Nat) :
    isCharBoundary (encs cs) i = true ↔ IsBoundary cs i :=
  (isCharBoundaryBytes_iff (encs cs) i).trans (Sync.boundary_iff_byteTest utf8Code cs i).symm

/-- `hs` is not used: this is `isCharBoundary_encs_iff` -/
theorem boundary_iff (cs : List Nat) (hs : ∀ c ∈ cs, isScalar c = true) (i : Nat) :
    isCharBoundary (encs cs) i = true ↔ IsBoundary cs i :=
  isCharBoundary_encs_iff cs i

theorem forgiving_eq (s : List Nat) (i : Nat) :
    isCharBoundaryForgiving s i = (decide (i ≥ s.length) || isCharBoundaryBytes s i) := by
  unfold isCharBoundaryForgiving isCharBoundaryBytes
  by_cases h1 : i ≥ s.length
  · simp [h1]
  · have h2 : i < s.length := by omega
    have h3 : ¬ i = s.length := by omega
    simp [h1, h2, h3]

theorem forgiving_iff (cs : List Nat) (hs : ∀ c ∈ cs, isScalar c = true) (i : Nat) :
    isCharBoundaryForgiving (encs cs) i = true ↔ i ≥ (encs cs).length ∨ IsBoundary cs i := by
  rw [forgiving_eq, Bool.or_eq_true, decide_eq_true_eq, ← boundary_iff cs hs]; rfl

theorem strFrom_ok (s : List Nat) (i : Nat) (h : isCharBoundaryForgiving s i = true) :
    strFrom s i = .ok (Slice.sliceFrom s.length i) := by
  rw [strFrom, if_pos h]

theorem strUpTo_ok (s : List Nat) (i : Nat) (h : isCharBoundaryForgiving s i = true) :
    strUpTo s i = .ok (Slice.sliceUpTo s.length i) := by
  rw [strUpTo, if_pos h]

/-! ### cutting at boundaries -/

theorem take_valid (cs : List Nat) (hs : ∀ c ∈ cs, isScalar c = true) (i : Nat)
    (h : IsBoundary cs i) : Valid ((encs cs).take i) := by
  obtain ⟨k, _, ht, _⟩ := boundary_split cs i h
  exact ⟨cs.take k, fun c hc => hs c (List.mem_of_mem_take hc), ht⟩

theorem drop_valid (cs : List Nat) (hs : ∀ c ∈ cs, isScalar c = true) (i : Nat)
    (h : IsBoundary cs i) : Valid ((encs cs).drop i) := by
  obtain ⟨k, _, _, hd⟩ := boundary_split cs i h
  exact ⟨cs.drop k, fun c hc => hs c (List.mem_of_mem_drop hc), hd⟩

theorem encs_take_length_mono (cs : List Nat) {m k : Nat} (h : m ≤ k) :
    (encs (cs.take m)).length ≤ (encs (cs.take k)).length := by
  have : cs.take m = (cs.take k).take m := by rw [List.take_take, Nat.min_eq_left h]
  rw [this, ← encs_take_append_drop (cs.take k) m, List.length_append]; omega

theorem cut_chars (cs : List Nat) (i j : Nat) (hi : IsBoundary cs i) (hj : IsBoundary cs j) :
    ∃ ds, (∀ c ∈ ds, c ∈ cs) ∧ ((encs cs).drop i).take (j - i) = encs ds := by
  obtain ⟨k, hk, _, hd⟩ := boundary_split cs i hi
  obtain ⟨m, hm⟩ := hj
  rw [hd]
  by_cases hkm : k ≤ m
  · have ht : cs.take m = cs.take k ++ (cs.drop k).take (m - k) := by
      have : m = k + (m - k) := by omega
      conv => lhs; rw [this, List.take_add]
    have hb : IsBoundary (cs.drop k) (j - i) := ⟨m - k, by
      rw [hm, hk, ht, encs_append, List.length_append]; omega⟩
    obtain ⟨n, _, ht2, _⟩ := boundary_split (cs.drop k) (j - i) hb
    exact ⟨(cs.drop k).take n, fun c hc => List.mem_of_mem_drop (List.mem_of_mem_take hc), ht2⟩
  · have := encs_take_length_mono cs (m := m) (k := k) (by omega)
    have h0 : j - i = 0 := by omega
    exact ⟨[], by simp, by simp [h0]⟩

/-- the empty string when `j < i` -/
theorem cut_valid (cs : List Nat) (hs : ∀ c ∈ cs, isScalar c = true) (i j : Nat)
    (hi : IsBoundary cs i) (hj : IsBoundary cs j) : Valid (((encs cs).drop i).take (j - i)) := by
  obtain ⟨ds, hds, h⟩ := cut_chars cs i j hi hj
  exact ⟨ds, fun c hc => hs c (hds c hc), h⟩

/-! ### a match of whole characters lies on boundaries -/

/-- the safety comment of `konst/src/string.rs` as a theorem; no scalar-value hypothesis is needed -/
theorem match_on_boundaries (cs ps : List Nat) (hps : ps ≠ []) (i : Nat)
    (hm : encs ps <+: (encs cs).drop i) :
    IsBoundary cs i ∧ IsBoundary cs (i + (encs ps).length) :=
  Sync.match_on_boundaries utf8Code cs ps hps i hm

/-! ### bit arithmetic of `encode_utf8` / `string_to_usv` -/

theorem or_eq_add (a y n : Nat) (ha : a % 2 ^ n = 0) (hy : y < 2 ^ n) : a ||| y = a + y := by
  have h : a = (a / 2 ^ n) <<< n := by
    rw [Nat.shiftLeft_eq]
    have := Nat.div_add_mod a (2 ^ n)
    rw [ha, Nat.add_zero, Nat.mul_comm] at this
    exact this.symm
  rw [h, ← Nat.shiftLeft_add_eq_or_of_lt hy]

theorem add_and_mask (a x n : Nat) (ha : a % 2 ^ n = 0) (hx : x < 2 ^ n) : (a + x) &&& (2 ^ n - 1) = x := by
  rw [Nat.and_two_pow_sub_one_eq_mod, Nat.add_mod, ha, Nat.zero_add, Nat.mod_mod, Nat.mod_eq_of_lt hx]

private theorem shr6 (c : Nat) : c >>> 6 = c / 64 := Nat.shiftRight_eq_div_pow c 6
private theorem shr12 (c : Nat) : c >>> 12 = c / 4096 := Nat.shiftRight_eq_div_pow c 12
private theorem shr18 (c : Nat) : c >>> 18 = c / 262144 := Nat.shiftRight_eq_div_pow c 18
private theorem shl6 (x : Nat) : x <<< 6 = x * 64 := Nat.shiftLeft_eq x 6
private theorem shl12 (x : Nat) : x <<< 12 = x * 4096 := Nat.shiftLeft_eq x 12
private theorem shl18 (x : Nat) : x <<< 18 = x * 262144 := Nat.shiftLeft_eq x 18

/-- a continuation byte as `encode_utf8` writes it -/
theorem cont_byte (x : Nat) : 0x80 ||| asU8 (x &&& 0x3F) = 0x80 + x % 64 := by
  have h : x % 64 < 64 := Nat.mod_lt x (by decide)
  rw [show x &&& 0x3F = x % 64 from Nat.and_two_pow_sub_one_eq_mod x 6, asU8,
    Nat.mod_eq_of_lt (Nat.lt_trans h (by decide))]
  exact or_eq_add 0x80 _ 6 rfl h

/-- a lead byte as `encode_utf8` writes it: tag `a` above `n` payload bits -/
theorem lead_byte (a x n : Nat) (ha : a % 2 ^ n = 0) (hx : x < 2 ^ n) (hn : 2 ^ n ≤ 256) :
    a ||| asU8 x = a + x := by
  rw [asU8, Nat.mod_eq_of_lt (Nat.lt_of_lt_of_le hx hn)]
  exact or_eq_add a x n ha hx

theorem encodeUtf8_1 (c : Nat) (h : c < 0x80) : encodeUtf8 c = ⟨[c, 0, 0, 0], 1⟩ := by
  rw [encodeUtf8, if_pos (Nat.le_of_lt_succ h), asU8, Nat.mod_eq_of_lt (Nat.lt_trans h (by decide))]

theorem encodeUtf8_2 (c : Nat) (h1 : 0x80 ≤ c) (h2 : c < 0x800) :
    encodeUtf8 c = ⟨[0xC0 + c / 64, 0x80 + c % 64, 0, 0], 2⟩ := by
  rw [encodeUtf8, if_neg (Nat.not_le.mpr h1), if_pos (Nat.le_of_lt_succ h2)]
  simp only [cont_byte, shr6]
  rw [lead_byte 0xC0 _ 5 rfl (Nat.div_lt_of_lt_mul h2) (by decide)]

theorem encodeUtf8_3 (c : Nat) (h1 : 0x800 ≤ c) (h2 : c < 0x10000) :
    encodeUtf8 c = ⟨[0xE0 + c / 4096, 0x80 + c / 64 % 64, 0x80 + c % 64, 0], 3⟩ := by
  rw [encodeUtf8, if_neg (Nat.not_le.mpr (Nat.lt_of_lt_of_le (by decide) h1)), if_neg (Nat.not_le.mpr h1),
    if_pos (Nat.le_of_lt_succ h2)]
  simp only [cont_byte, shr6, shr12]
  rw [lead_byte 0xE0 _ 4 rfl (Nat.div_lt_of_lt_mul h2) (by decide)]

theorem encodeUtf8_4 (c : Nat) (h1 : 0x10000 ≤ c) (h2 : c < 0x200000) :
    encodeUtf8 c = ⟨[0xF0 + c / 262144, 0x80 + c / 4096 % 64, 0x80 + c / 64 % 64, 0x80 + c % 64], 4⟩ := by
  rw [encodeUtf8, if_neg (Nat.not_le.mpr (Nat.lt_of_lt_of_le (by decide) h1)),
    if_neg (Nat.not_le.mpr (Nat.lt_of_lt_of_le (by decide) h1)), if_neg (Nat.not_le.mpr h1)]
  simp only [cont_byte, shr6, shr12, shr18]
  rw [lead_byte 0xF0 _ 3 rfl (Nat.div_lt_of_lt_mul h2) (by decide)]

/-- `encode_utf8` with its shifts, masks, `|` and `as u8` truncations produces the RFC 3629
    bytes, for every value below 2^21 — in particular for every `char` -/
theorem encodeUtf8_eq_enc (c : Nat) (hc : c < 0x200000) : (encodeUtf8 c).asBytes = enc c := by
  by_cases h1 : c < 0x80
  · rw [encodeUtf8_1 c h1, enc1 c h1]; rfl
  have h1 := Nat.le_of_not_lt h1
  by_cases h2 : c < 0x800
  · rw [encodeUtf8_2 c h1 h2, enc2 c h1 h2]; rfl
  have h2 := Nat.le_of_not_lt h2
  by_cases h3 : c < 0x10000
  · rw [encodeUtf8_3 c h2 h3, enc3 c h2 h3]; rfl
  have h3 := Nat.le_of_not_lt h3
  rw [encodeUtf8_4 c h3 hc, enc4 c h3]; rfl

private theorem add_mod_zero {a b k : Nat} (ha : a % k = 0) (hb : b % k = 0) : (a + b) % k = 0 := by
  rw [Nat.add_mod, ha, hb, Nat.zero_add, Nat.zero_mod]

private theorem mul_mod_zero (x : Nat) {m k : Nat} (h : m % k = 0) : x * m % k = 0 := by
  rw [Nat.mul_mod, h, Nat.mul_zero, Nat.zero_mod]

theorem stringToUsv_2 (x y : Nat) (hx : x < 32) (hy : y < 64) :
    stringToUsv [0xC0 + x, 0x80 + y] = x * 64 + y := by
  rw [stringToUsv, add_and_mask 0xC0 x 5 rfl hx, add_and_mask 0x80 y 7 rfl (Nat.lt_trans hy (by decide)),
    shl6, or_eq_add _ y 6 (mul_mod_zero x rfl) hy]

theorem stringToUsv_3 (x y z : Nat) (hx : x < 16) (hy : y < 64) (hz : z < 64) :
    stringToUsv [0xE0 + x, 0x80 + y, 0x80 + z] = x * 4096 + y * 64 + z := by
  have hy' : y * 64 < 2 ^ 12 := by omega
  rw [stringToUsv, add_and_mask 0xE0 x 4 rfl hx, add_and_mask 0x80 y 6 rfl hy, add_and_mask 0x80 z 6 rfl hz,
    shl12, shl6, or_eq_add _ (y * 64) 12 (mul_mod_zero x rfl) hy',
    or_eq_add _ z 6 (add_mod_zero (mul_mod_zero x rfl) (mul_mod_zero y rfl)) hz]

theorem stringToUsv_4 (x y z w : Nat) (hx : x < 8) (hy : y < 64) (hz : z < 64) (hw : w < 64) :
    stringToUsv [0xF0 + x, 0x80 + y, 0x80 + z, 0x80 + w] = x * 262144 + y * 4096 + z * 64 + w := by
  have hy' : y * 4096 < 2 ^ 18 := by omega
  have hz' : z * 64 < 2 ^ 12 := by omega
  rw [stringToUsv, add_and_mask 0xF0 x 3 rfl hx, add_and_mask 0x80 y 6 rfl hy, add_and_mask 0x80 z 6 rfl hz,
    add_and_mask 0x80 w 6 rfl hw, shl18, shl12, shl6,
    or_eq_add _ (y * 4096) 18 (mul_mod_zero x rfl) hy',
    or_eq_add _ (z * 64) 12 (add_mod_zero (mul_mod_zero x rfl) (mul_mod_zero y rfl)) hz',
    or_eq_add _ w 6
      (add_mod_zero (add_mod_zero (mul_mod_zero x rfl) (mul_mod_zero y rfl)) (mul_mod_zero z rfl)) hw]

theorem stringToUsv_enc (c : Nat) (hc : c < 0x200000) : stringToUsv (enc c) = c := by
  rcases enc_layout c with ⟨_, e⟩ | ⟨x, y, hx, hy, _, hv, e⟩ | ⟨x, y, z, hx, hy, hz, _, hv, e⟩ |
    ⟨x, y, z, w, hy, hz, hw, _, hv, e⟩
  · rw [e]; rfl
  · rw [e, stringToUsv_2 x y hx hy, hv]
  · rw [e, stringToUsv_3 x y z hx hy hz, hv]
  · rw [e, stringToUsv_4 x y z w (by omega) hy hz hw, hv]

theorem enc_injective (c d : Nat) (hc : c < 0x200000) (hd : d < 0x200000) (h : enc c = enc d) :
    c = d := by
  rw [← stringToUsv_enc c hc, ← stringToUsv_enc d hd, h]

theorem decodeOne_1 (a : Nat) (r : List Nat) (h : a < 0x80) : decodeOne (a :: r) = some (a, r) := by
  unfold decodeOne
  exact if_pos h

theorem decodeOne_2 (x y : Nat) (r : List Nat) (hx : x < 32) (hy : y < 64) (hv : 0x80 ≤ x * 64 + y) :
    decodeOne ((0xC0 + x) :: (0x80 + y) :: r) = some (x * 64 + y, r) := by
  unfold decodeOne
  dsimp only
  rw [if_neg (lead_not_lt x (by decide)), if_neg (lead_not_lt x (by decide)), if_pos (Nat.add_lt_add_left hx _)]
  simp only [isCont_cont y hy, if_true, Nat.add_sub_cancel_left, hv]

theorem decodeOne_3 (x y z : Nat) (r : List Nat) (hx : x < 16) (hy : y < 64) (hz : z < 64)
    (hv : 0x800 ≤ x * 4096 + y * 64 + z) (hs : isScalar (x * 4096 + y * 64 + z) = true) :
    decodeOne ((0xE0 + x) :: (0x80 + y) :: (0x80 + z) :: r) = some (x * 4096 + y * 64 + z, r) := by
  unfold decodeOne
  dsimp only
  rw [if_neg (lead_not_lt x (by decide)), if_neg (lead_not_lt x (by decide)), if_neg (lead_not_lt x (by decide)),
    if_pos (Nat.add_lt_add_left hx _)]
  simp only [isCont_cont y hy, isCont_cont z hz, Bool.and_self, if_true, Nat.add_sub_cancel_left, hv, hs,
    decide_true]

theorem decodeOne_4 (x y z w : Nat) (r : List Nat) (hx : x < 8) (hy : y < 64) (hz : z < 64) (hw : w < 64)
    (hv : 0x10000 ≤ x * 262144 + y * 4096 + z * 64 + w)
    (hs : isScalar (x * 262144 + y * 4096 + z * 64 + w) = true) :
    decodeOne ((0xF0 + x) :: (0x80 + y) :: (0x80 + z) :: (0x80 + w) :: r)
      = some (x * 262144 + y * 4096 + z * 64 + w, r) := by
  unfold decodeOne
  dsimp only
  rw [if_neg (lead_not_lt x (by decide)), if_neg (lead_not_lt x (by decide)), if_neg (lead_not_lt x (by decide)),
    if_neg (lead_not_lt x (by decide)), if_pos (Nat.add_lt_add_left hx _)]
  simp only [isCont_cont y hy, isCont_cont z hz, isCont_cont w hw, Bool.and_self, if_true,
    Nat.add_sub_cancel_left, hv, hs, decide_true]

theorem decodeOne_enc (c : Nat) (hc : isScalar c = true) (r : List Nat) :
    decodeOne (enc c ++ r) = some (c, r) := by
  have hlt := isScalar_lt c hc
  rcases enc_layout c with ⟨h, e⟩ | ⟨x, y, hx, hy, h, hv, e⟩ | ⟨x, y, z, hx, hy, hz, h, hv, e⟩ |
    ⟨x, y, z, w, hy, hz, hw, h, hv, e⟩
  · rw [e]; exact decodeOne_1 c r h
  · rw [e]; subst hv; exact decodeOne_2 x y r hx hy h
  · rw [e]; subst hv; exact decodeOne_3 x y z r hx hy hz h hc
  · rw [e]; subst hv; exact decodeOne_4 x y z w r (by omega) hy hz hw h hc

theorem isCont_digit {b : Nat} (h : isCont b = true) : b - 0x80 < 64 ∧ 0x80 + (b - 0x80) = b := by
  have := (isCont_iff b).mp h
  omega

private theorem of_ite_some {α : Type} {p : Prop} [Decidable p] {o : Option α} {a : α}
    (h : (if p then o else none) = some a) : p ∧ o = some a := by
  by_cases hp : p
  · exact ⟨hp, by rwa [if_pos hp] at h⟩
  · rw [if_neg hp] at h; cases h

theorem decodeOne_sound (s : List Nat) (c : Nat) (r : List Nat)
    (h : decodeOne s = some (c, r)) : isScalar c = true ∧ s = enc c ++ r := by
  cases s with
  | nil => cases h
  | cons a t =>
    unfold decodeOne at h
    dsimp only at h
    by_cases h80 : a < 0x80
    · rw [if_pos h80] at h
      cases h
      exact ⟨(isScalar_iff _).mpr (by omega), by rw [enc1 _ h80]; rfl⟩
    rw [if_neg h80] at h
    by_cases hC0 : a < 0xC0
    · rw [if_pos hC0] at h
      cases h
    rw [if_neg hC0] at h
    by_cases hE0 : a < 0xE0
    · rw [if_pos hE0] at h
      rcases t with _ | ⟨b, r'⟩
      · cases h
      · dsimp only at h
        obtain ⟨hb, h⟩ := of_ite_some h
        obtain ⟨hv, h⟩ := of_ite_some h
        obtain ⟨rfl, rfl⟩ := Prod.mk.inj (Option.some.inj h)
        obtain ⟨hb1, hb2⟩ := isCont_digit hb
        refine ⟨(isScalar_iff _).mpr (by omega), ?_⟩
        rw [enc_digits2 _ _ hb1 hv (by omega), Nat.add_sub_cancel' (Nat.le_of_not_lt hC0), hb2]
        rfl
    rw [if_neg hE0] at h
    by_cases hF0 : a < 0xF0
    · rw [if_pos hF0] at h
      rcases t with _ | ⟨b, _ | ⟨d, r'⟩⟩
      · cases h
      · cases h
      · dsimp only at h
        obtain ⟨hbd, h⟩ := of_ite_some h
        obtain ⟨hv, h⟩ := of_ite_some h
        obtain ⟨rfl, rfl⟩ := Prod.mk.inj (Option.some.inj h)
        obtain ⟨hb, hd⟩ := Bool.and_eq_true_iff.mp hbd
        obtain ⟨hv, hs⟩ := Bool.and_eq_true_iff.mp hv
        obtain ⟨hb1, hb2⟩ := isCont_digit hb
        obtain ⟨hd1, hd2⟩ := isCont_digit hd
        refine ⟨hs, ?_⟩
        rw [enc_digits3 _ _ _ hb1 hd1 (of_decide_eq_true hv) (by omega),
          Nat.add_sub_cancel' (Nat.le_of_not_lt hE0), hb2, hd2]
        rfl
    rw [if_neg hF0] at h
    by_cases hF8 : a < 0xF8
    · rw [if_pos hF8] at h
      rcases t with _ | ⟨b, _ | ⟨d, _ | ⟨e, r'⟩⟩⟩
      · cases h
      · cases h
      · cases h
      · dsimp only at h
        obtain ⟨hbde, h⟩ := of_ite_some h
        obtain ⟨hv, h⟩ := of_ite_some h
        obtain ⟨rfl, rfl⟩ := Prod.mk.inj (Option.some.inj h)
        obtain ⟨hbd, he⟩ := Bool.and_eq_true_iff.mp hbde
        obtain ⟨hb, hd⟩ := Bool.and_eq_true_iff.mp hbd
        obtain ⟨hv, hs⟩ := Bool.and_eq_true_iff.mp hv
        obtain ⟨hb1, hb2⟩ := isCont_digit hb
        obtain ⟨hd1, hd2⟩ := isCont_digit hd
        obtain ⟨he1, he2⟩ := isCont_digit he
        refine ⟨hs, ?_⟩
        rw [enc_digits4 _ _ _ _ hb1 hd1 he1 (of_decide_eq_true hv),
          Nat.add_sub_cancel' (Nat.le_of_not_lt hF0), hb2, hd2, he2]
        rfl
    · rw [if_neg hF8] at h
      cases h

theorem decodeAll_go_encs : ∀ (cs : List Nat) (_ : ∀ c ∈ cs, isScalar c = true) (fuel : Nat)
    (acc : List Nat), (encs cs).length ≤ fuel →
    decodeAll.go fuel (encs cs) acc = some (acc.reverse ++ cs) := by
  intro cs
  induction cs with
  | nil => intro _ fuel acc _; cases fuel <;> simp [decodeAll.go]
  | cons c cs ih =>
    intro hs fuel acc hf
    have hne : enc c ++ encs cs ≠ [] := by simp [enc_ne_nil]
    have hl : 0 < (enc c).length := List.length_pos_iff.mpr (enc_ne_nil c)
    rw [encs_cons] at hf ⊢
    rw [List.length_append] at hf
    cases fuel with
    | zero => omega
    | succ fuel =>
      cases hE : enc c ++ encs cs with
      | nil => exact absurd hE hne
      | cons x xs =>
        rw [← hE]
        unfold decodeAll.go
        rw [hE]
        simp only []
        rw [← hE, decodeOne_enc c (hs c (by simp))]
        simp only []
        rw [ih (fun d hd => hs d (by simp [hd])) fuel (c :: acc) (by omega)]
        simp

theorem decodeAll_encs (cs : List Nat) (hs : ∀ c ∈ cs, isScalar c = true) :
    decodeAll (encs cs) = some cs := by
  unfold decodeAll
  rw [decodeAll_go_encs cs hs _ [] (Nat.le_refl _)]; simp

theorem encs_injective (cs ds : List Nat) (hs : ∀ c ∈ cs, isScalar c = true)
    (hd : ∀ c ∈ ds, isScalar c = true) (h : encs cs = encs ds) : cs = ds := by
  have := decodeAll_encs cs hs
  rw [h, decodeAll_encs ds hd] at this
  exact (Option.some.inj this).symm

theorem encs_snoc (cs : List Nat) (c : Nat) : encs (cs ++ [c]) = encs cs ++ enc c := by
  rw [encs_append, encs_cons, encs_nil, List.append_nil]

/-- the `if this.isEmpty` guard of the char iterators on a string that starts / ends with a character -/
theorem enc_append_isEmpty (c : Nat) (t : List Nat) : (enc c ++ t).isEmpty = false :=
  List.isEmpty_eq_false_iff.mpr (List.append_ne_nil_of_left_ne_nil (enc_ne_nil c) t)

theorem append_enc_isEmpty (t : List Nat) (c : Nat) : (t ++ enc c).isEmpty = false :=
  List.isEmpty_eq_false_iff.mpr (List.append_ne_nil_of_right_ne_nil t (enc_ne_nil c))

/-! ### next / previous char boundary -/

/-- the `loop` of `__find_next_char_boundary` stops at the first position after `p` that passes
    the forgiving test -/
theorem findNext_eq (s : List Nat) : ∀ (n p q : Nat), q = p + 1 + n →
    (∀ j, p < j → j < q → isCharBoundaryForgiving s j = false) →
    isCharBoundaryForgiving s q = true → findNextCharBoundary s p = q := by
  intro n
  induction n with
  | zero =>
    intro p q hq _ ht
    subst hq
    rw [findNextCharBoundary, dif_pos ht]
  | succ n ih =>
    intro p q hq hf ht
    have h1 : isCharBoundaryForgiving s (p + 1) = false := hf (p + 1) (by omega) (by omega)
    rw [findNextCharBoundary, dif_neg (by simp [h1])]
    exact ih (p + 1) q (by omega) (fun j hj hjq => hf j (by omega) hjq) ht

/-- the `while` loop of `__find_prev_char_boundary` stops at the last position `≤ p` that passes -/
theorem findPrevLoop_eq (s : List Nat) (q : Nat) (ht : isCharBoundaryForgiving s q = true) :
    ∀ (p : Nat), q ≤ p → (∀ j, q < j → j ≤ p → isCharBoundaryForgiving s j = false) →
    findPrevLoop s p = some q := by
  intro p
  induction p with
  | zero =>
    intro hq _
    have : q = 0 := by omega
    subst this
    simp [findPrevLoop, ht]
  | succ p ih =>
    intro hq hf
    by_cases he : q = p + 1
    · subst he; simp [findPrevLoop, ht]
    · have h1 : isCharBoundaryForgiving s (p + 1) = false := hf (p + 1) (by omega) (by omega)
      simp only [findPrevLoop, h1, Bool.false_eq_true, if_false]
      exact ih (by omega) (fun j hj hjp => hf j hj (by omega))

theorem boundary_cons_cases (c : Nat) (cs : List Nat) (j : Nat) (h : IsBoundary (c :: cs) j) :
    j = 0 ∨ (enc c).length ≤ j :=
  ((isBoundary_cons c cs j).mp h).imp id fun ⟨_, _, e⟩ => e ▸ Nat.le_add_right _ _

theorem boundary_snoc_cases (cs : List Nat) (c : Nat) (j : Nat) (h : IsBoundary (cs ++ [c]) j) :
    j = (encs (cs ++ [c])).length ∨ j ≤ (encs cs).length := by
  obtain ⟨k, hk⟩ := h
  by_cases hkl : k ≤ cs.length
  · right
    rw [List.take_append_of_le_length hkl] at hk
    rw [hk, ← encs_take_append_drop cs k, List.length_append]; omega
  · left
    rw [List.take_of_length_le (by simp; omega)] at hk
    exact hk

theorem findNext_first (c : Nat) (cs : List Nat) (hs : ∀ d ∈ c :: cs, isScalar d = true) :
    findNextCharBoundary (enc c ++ encs cs) 0 = (enc c).length := by
  have hl : 0 < (enc c).length := List.length_pos_iff.mpr (enc_ne_nil c)
  rw [← encs_cons]
  refine findNext_eq _ ((enc c).length - 1) 0 _ (by omega) ?_ ?_
  · intro j hj hjq
    rw [← Bool.not_eq_true, forgiving_iff _ hs]
    rintro (hge | hb)
    · rw [encs_cons, List.length_append] at hge; omega
    · rcases boundary_cons_cases c cs j hb with h | h <;> omega
  · exact (forgiving_iff _ hs _).mpr (Or.inr ⟨1, by simp⟩)

theorem findPrev_last (cs : List Nat) (c : Nat) (hs : ∀ d ∈ cs ++ [c], isScalar d = true) :
    findPrevCharBoundary (encs cs ++ enc c) (encs cs ++ enc c).length = some (encs cs).length := by
  have hl : 0 < (enc c).length := List.length_pos_iff.mpr (enc_ne_nil c)
  unfold findPrevCharBoundary
  rw [← encs_snoc]
  have hlen : (encs (cs ++ [c])).length = (encs cs).length + (enc c).length := by
    rw [encs_snoc, List.length_append]
  refine findPrevLoop_eq _ _ ?_ _ (by omega) ?_
  · exact (forgiving_iff _ hs _).mpr (Or.inr ⟨cs.length, by simp⟩)
  · intro j hj hjp
    rw [← Bool.not_eq_true, forgiving_iff _ hs]
    rintro (hge | hb)
    · omega
    · rcases boundary_snoc_cases cs c j hb with h | h <;> omega

end Konst.Lemmas.Utf8
