import KonstVerif.Model.Split
import KonstVerif.Spec.Split
import KonstVerif.Lemmas.Utf8
import KonstVerif.Lemmas.Bytes
import KonstVerif.Props.C04
/-
  What the split iterators of `Model/Split.lean` do on valid strings, step by step and iterated to
  exhaustion, against the positioned piece lists `stepsFwd` / `stepsBwd` of `Spec/Split.lean` (C06).
  No step panics because an occurrence of a valid delimiter in a valid string lies on character
  boundaries (`match_on_boundaries`).
-/
namespace Konst.Lemmas.Split
open Konst Konst.Utf8 Konst.Split Konst.Spec.Bytes Konst.Spec.Utf8 Konst.Spec.Split Konst.Lemmas.Utf8
open Konst.Lemmas.Slice (sliceFrom_apply sliceUpTo_apply sliceFrom_of_le sliceUpTo_of_le sliceUpTo_of_gt)

def ofP (x : PStr) : Str := ⟨x.1, x.2⟩
def ofP2 (x : PStr × PStr) : Str × Str := (ofP x.1, ofP x.2)

theorem ofP_pnorm (x : PStr) : ofP (pnorm x) = (ofP x).norm := by
  unfold pnorm Str.norm ofP Str.lit
  by_cases h : x.2.isEmpty <;> simp [h]

theorem pnorm_snd (x : PStr) : (pnorm x).2 = x.2 := by
  unfold pnorm
  by_cases h : x.2.isEmpty
  · simp only [h, if_true]; exact (List.isEmpty_iff.mp h).symm
  · simp [h]

theorem norm_mk (o : Nat) (b : List Nat) : (Str.mk o b).norm = ofP (pnorm (o, b)) := by
  rw [ofP_pnorm]; rfl

theorem norm_lit : Str.lit.norm = Str.lit := rfl
theorem lit_eq (o : Nat) : ofP (pnorm (o, [])) = Str.lit := rfl
theorem norm_nil (o : Nat) : (Str.mk o []).norm = Str.lit := rfl

theorem cut_from (o : Nat) (b : List Nat) (i : Nat) (hi : i ≤ b.length) :
    (Str.mk o b).cut (Slice.sliceFrom b.length i) = ⟨o + i, b.drop i⟩ := by
  unfold Str.cut
  rw [sliceFrom_apply, sliceFrom_of_le hi]

theorem cut_upto (o : Nat) (b : List Nat) (i : Nat) :
    (Str.mk o b).cut (Slice.sliceUpTo b.length i) = ⟨o, b.take i⟩ := by
  unfold Str.cut
  rw [sliceUpTo_apply]
  by_cases hi : i ≤ b.length
  · rw [sliceUpTo_of_le hi]; rfl
  · rw [sliceUpTo_of_gt (Nat.lt_of_not_le hi)]; rfl

theorem forgiving_beyond (s : List Nat) (i : Nat) (h : s.length ≤ i) :
    isCharBoundaryForgiving s i = true := by
  unfold isCharBoundaryForgiving; simp [h]

theorem splitAtStr_ok (o : Nat) (b : List Nat) (i : Nat) (hi : i ≤ b.length)
    (h : isCharBoundaryForgiving b i = true) :
    splitAtStr ⟨o, b⟩ i = .ok (⟨o, b.take i⟩, ⟨o + i, b.drop i⟩) := by
  unfold splitAtStr Utf8.splitAt
  rw [strUpTo_ok _ _ h, strFrom_ok _ _ h]
  show Except.ok (Str.cut _ _, Str.cut _ _) = _
  rw [cut_upto, cut_from o b i hi]

theorem encs_eq_nil {cs : List Nat} (h : encs cs = []) : cs = [] := encs_eq_nil_iff.mp h

theorem valid_nil : Valid [] := Lemmas.Utf8.valid_nil

theorem length_le_encs : ∀ (cs : List Nat), cs.length ≤ (encs cs).length := by
  intro cs
  induction cs with
  | nil => exact Nat.le_refl 0
  | cons c t ih =>
    rw [encs_cons, List.length_append, List.length_cons]
    have := List.length_pos_iff.mpr (enc_ne_nil c)
    omega

theorem occ_le {h p : List Nat} {i : Nat} (hp : p ≠ []) (ho : p <+: h.drop i) :
    i + p.length ≤ h.length := by
  have := ho.length_le
  have := List.length_pos_iff.mpr hp
  rw [List.length_drop] at *
  omega

theorem occ_ne_nil {h p : List Nat} {i : Nat} (hp : p ≠ []) (ho : p <+: h.drop i) : h ≠ [] := by
  intro e
  rw [e, List.drop_nil] at ho
  exact hp (List.prefix_nil.mp ho)

theorem occ_boundaries (cur d : List Nat) (hv : Valid cur) (hd : Valid d) (hne : d ≠ []) (i : Nat)
    (ho : d <+: cur.drop i) :
    isCharBoundaryForgiving cur i = true ∧ isCharBoundaryForgiving cur (i + d.length) = true ∧
    i + d.length ≤ cur.length ∧ Valid (cur.take i) ∧ Valid (cur.drop (i + d.length)) := by
  obtain ⟨cs, hs, rfl⟩ := hv
  obtain ⟨ps, _, rfl⟩ := hd
  have hps : ps ≠ [] := by
    intro h; subst h; exact hne rfl
  obtain ⟨b1, b2⟩ := match_on_boundaries cs ps hps i ho
  refine ⟨(forgiving_iff cs hs i).mpr (Or.inr b1), (forgiving_iff cs hs _).mpr (Or.inr b2),
    boundary_le cs _ b2, take_valid cs hs i b1, drop_valid cs hs _ b2⟩

theorem findSpec_iff (h p : List Nat) (i : Nat) :
    findSpec h p = some i ↔ (p <+: h.drop i ∧ i ≤ h.length ∧ ∀ j, j < i → ¬ p <+: h.drop j) := by
  rw [← Konst.Props.C04.find_eq_spec]; exact Konst.Props.C04.find_least h p i

theorem rfindSpec_iff (h p : List Nat) (hp : p ≠ []) (i : Nat) :
    rfindSpec h p = some i ↔ (p <+: h.drop i ∧ i ≤ h.length ∧ ∀ j, i < j → ¬ p <+: h.drop j) := by
  rw [← Konst.Props.C04.rfind_eq_spec h p hp]; exact Konst.Props.C04.rfind_greatest h p hp i

theorem findSpec_none_iff (h p : List Nat) : findSpec h p = none ↔ ∀ i, ¬ p <+: h.drop i := by
  rw [← Konst.Props.C04.find_eq_spec]; exact (Konst.Props.C04.absent_iff h p).1

theorem rfindSpec_none_iff (h p : List Nat) (hp : p ≠ []) :
    rfindSpec h p = none ↔ ∀ i, ¬ p <+: h.drop i := by
  rw [← Konst.Props.C04.rfind_eq_spec h p hp]; exact (Konst.Props.C04.absent_iff h p).2 hp

theorem findSpec_some {h p : List Nat} {i : Nat} (hf : findSpec h p = some i) : p <+: h.drop i :=
  ((findSpec_iff h p i).mp hf).1

theorem rfindSpec_some {h p : List Nat} (hp : p ≠ []) {i : Nat} (hf : rfindSpec h p = some i) :
    p <+: h.drop i :=
  ((rfindSpec_iff h p hp i).mp hf).1

theorem forgiving_zero (cur : List Nat) (hv : Valid cur) : isCharBoundaryForgiving cur 0 = true := by
  obtain ⟨cs, hs, rfl⟩ := hv
  exact (forgiving_iff cs hs 0).mpr (Or.inr (boundary_zero cs))

/-! ### the specification's piece lists -/

theorem splitAux_none (d : List Nat) (n : Nat) (s : List Nat) (h : findSpec s d = none) :
    splitAux d n s = [s] := by
  cases n with
  | zero => rfl
  | succ n => simp only [splitAux, h]

theorem rsplitAux_none (d : List Nat) (n : Nat) (s : List Nat) (h : rfindSpec s d = none) :
    rsplitAux d n s = [s] := by
  cases n with
  | zero => rfl
  | succ n => simp only [rsplitAux, h]

theorem splitAux_some (d : List Nat) (n : Nat) (s : List Nat) (i : Nat) (h : findSpec s d = some i) :
    splitAux d (n + 1) s = s.take i :: splitAux d n (s.drop (i + d.length)) := by
  simp only [splitAux, h]

theorem rsplitAux_some (d : List Nat) (n : Nat) (s : List Nat) (i : Nat) (h : rfindSpec s d = some i) :
    rsplitAux d (n + 1) s = s.drop (i + d.length) :: rsplitAux d n (s.take i) := by
  simp only [rsplitAux, h]

theorem splitAux_nil (d : List Nat) (hne : d ≠ []) (n : Nat) : splitAux d n [] = [[]] :=
  splitAux_none d n [] (Lemmas.Bytes.findSpec_nil_hay hne)

theorem rsplitAux_nil (d : List Nat) (hne : d ≠ []) (n : Nat) : rsplitAux d n [] = [[]] :=
  rsplitAux_none d n [] (Lemmas.Bytes.rfindSpec_nil_hay hne)

theorem splitAux_ne_nil (d : List Nat) (n : Nat) (s : List Nat) : splitAux d n s ≠ [] := by
  cases n with
  | zero => exact List.cons_ne_nil _ _
  | succ n => unfold splitAux; split <;> exact List.cons_ne_nil _ _

theorem rsplitAux_ne_nil (d : List Nat) (n : Nat) (s : List Nat) : rsplitAux d n s ≠ [] := by
  cases n with
  | zero => exact List.cons_ne_nil _ _
  | succ n => unfold rsplitAux; split <;> exact List.cons_ne_nil _ _

theorem splitAux_length (d : List Nat) : ∀ (n : Nat) (s : List Nat), (splitAux d n s).length ≤ n + 1 := by
  intro n
  induction n with
  | zero => intro s; exact Nat.le_refl 1
  | succ n ih =>
    intro s
    cases hf : findSpec s d with
    | none => rw [splitAux_none d _ s hf]; exact Nat.le_add_left 1 _
    | some i => rw [splitAux_some d n s i hf]; exact Nat.succ_le_succ (ih _)

theorem rsplitAux_length (d : List Nat) : ∀ (n : Nat) (s : List Nat), (rsplitAux d n s).length ≤ n + 1 := by
  intro n
  induction n with
  | zero => intro s; exact Nat.le_refl 1
  | succ n ih =>
    intro s
    cases hf : rfindSpec s d with
    | none => rw [rsplitAux_none d _ s hf]; exact Nat.le_add_left 1 _
    | some i => rw [rsplitAux_some d n s i hf]; exact Nat.succ_le_succ (ih _)

/-- a full split uses up the whole input and one delimiter more -/
theorem splitAux_total (d : List Nat) (hne : d ≠ []) : ∀ (n : Nat) (s : List Nat),
    ((splitAux d n s).map (fun p => p.length + d.length)).sum = s.length + d.length := by
  intro n
  induction n with
  | zero => intro s; exact Nat.add_zero _
  | succ n ih =>
    intro s
    cases hf : findSpec s d with
    | none => rw [splitAux_none d _ s hf]; exact Nat.add_zero _
    | some i =>
      have hle := occ_le hne (findSpec_some hf)
      rw [splitAux_some d n s i hf, List.map_cons, List.sum_cons, ih, List.length_drop,
        List.length_take_of_le (Nat.le_trans (Nat.le_add_right i _) hle)]
      omega

theorem rsplitAux_total (d : List Nat) (hne : d ≠ []) : ∀ (n : Nat) (s : List Nat),
    ((rsplitAux d n s).map (fun p => p.length + d.length)).sum = s.length + d.length := by
  intro n
  induction n with
  | zero => intro s; exact Nat.add_zero _
  | succ n ih =>
    intro s
    cases hf : rfindSpec s d with
    | none => rw [rsplitAux_none d _ s hf]; exact Nat.add_zero _
    | some i =>
      have hle := occ_le hne (rfindSpec_some hne hf)
      rw [rsplitAux_some d n s i hf, List.map_cons, List.sum_cons, ih, List.length_drop,
        List.length_take_of_le (Nat.le_trans (Nat.le_add_right i _) hle)]
      omega

theorem charPieces_encs (cs : List Nat) (hs : Scalars cs) : charPieces (encs cs) = cs.map enc := by
  unfold charPieces; rw [decodeAll_encs cs hs]; rfl

theorem splitSpec_nil (cs : List Nat) (hs : Scalars cs) :
    splitSpec (encs cs) [] = [] :: cs.map enc ++ [[]] := by
  unfold splitSpec; rw [charPieces_encs cs hs]; rfl

theorem rsplitSpec_nil (cs : List Nat) (hs : Scalars cs) :
    rsplitSpec (encs cs) [] = [] :: (cs.map enc).reverse ++ [[]] := by
  unfold rsplitSpec; rw [charPieces_encs cs hs]; rfl

theorem splitSpec_of_ne (s : List Nat) {d : List Nat} (hne : d ≠ []) :
    splitSpec s d = splitAux d s.length s := by
  unfold splitSpec; rw [List.isEmpty_eq_false_iff.mpr hne]; rfl

theorem rsplitSpec_of_ne (s : List Nat) {d : List Nat} (hne : d ≠ []) :
    rsplitSpec s d = rsplitAux d s.length s := by
  unfold rsplitSpec; rw [List.isEmpty_eq_false_iff.mpr hne]; rfl

theorem splitSpec_ne_nil (s d : List Nat) : splitSpec s d ≠ [] := by
  unfold splitSpec; split
  · exact List.cons_ne_nil _ _
  · exact splitAux_ne_nil _ _ _

theorem rsplitSpec_ne_nil (s d : List Nat) : rsplitSpec s d ≠ [] := by
  unfold rsplitSpec; split
  · exact List.cons_ne_nil _ _
  · exact rsplitAux_ne_nil _ _ _

theorem stepsFwd_cons (dl o : Nat) (cur p : List Nat) (ps : List (List Nat)) :
    (stepsFwd dl o cur (p :: ps)).map ofP2 =
      ((Str.mk o p).norm, (Str.mk (o + (p.length + dl)) (cur.drop (p.length + dl))).norm) ::
        (stepsFwd dl (o + (p.length + dl)) (cur.drop (p.length + dl)) ps).map ofP2 := by
  simp only [stepsFwd, List.map_cons, ofP2, norm_mk]

theorem stepsBwd_cons (dl o : Nat) (cur p : List Nat) (ps : List (List Nat)) :
    (stepsBwd dl o cur (p :: ps)).map ofP2 =
      ((Str.mk (o + (cur.length - p.length)) p).norm,
          (Str.mk o (cur.take (cur.length - (p.length + dl)))).norm) ::
        (stepsBwd dl o (cur.take (cur.length - (p.length + dl))) ps).map ofP2 := by
  simp only [stepsBwd, List.map_cons, ofP2, norm_mk]

theorem stepsFwd_take (dl o : Nat) (cur : List Nat) (i : Nat) (hi : i ≤ cur.length)
    (ps : List (List Nat)) :
    (stepsFwd dl o cur (cur.take i :: ps)).map ofP2 =
      ((Str.mk o (cur.take i)).norm, (Str.mk (o + (i + dl)) (cur.drop (i + dl))).norm) ::
        (stepsFwd dl (o + (i + dl)) (cur.drop (i + dl)) ps).map ofP2 := by
  rw [stepsFwd_cons, List.length_take_of_le hi]

theorem length_sub_drop {cur : List Nat} {i dl : Nat} (hi : i + dl ≤ cur.length) :
    cur.length - (cur.drop (i + dl)).length = i + dl ∧
    cur.length - ((cur.drop (i + dl)).length + dl) = i := by
  have e : cur.length - (i + dl) + dl = cur.length - i := by
    rw [Nat.sub_add_eq, Nat.sub_add_cancel (Nat.le_sub_of_add_le' hi)]
  rw [List.length_drop, e]
  exact ⟨Nat.sub_sub_self hi, Nat.sub_sub_self (Nat.le_trans (Nat.le_add_right i dl) hi)⟩

theorem stepsBwd_drop (dl o : Nat) (cur : List Nat) (i : Nat) (hi : i + dl ≤ cur.length)
    (ps : List (List Nat)) :
    (stepsBwd dl o cur (cur.drop (i + dl) :: ps)).map ofP2 =
      ((Str.mk (o + (i + dl)) (cur.drop (i + dl))).norm, (Str.mk o (cur.take i)).norm) ::
        (stepsBwd dl o (cur.take i) ps).map ofP2 := by
  rw [stepsBwd_cons, (length_sub_drop hi).1, (length_sub_drop hi).2]

theorem stepsFwd_append (o : Nat) (p rest : List Nat) (ps : List (List Nat)) :
    (stepsFwd 0 o (p ++ rest) (p :: ps)).map ofP2 =
      ((Str.mk o p).norm, (Str.mk (o + p.length) rest).norm) ::
        (stepsFwd 0 (o + p.length) rest ps).map ofP2 := by
  rw [stepsFwd_cons, Nat.add_zero, List.drop_left' rfl]

theorem stepsBwd_append (o : Nat) (init p : List Nat) (ps : List (List Nat)) :
    (stepsBwd 0 o (init ++ p) (p :: ps)).map ofP2 =
      ((Str.mk (o + init.length) p).norm, (Str.mk o init).norm) :: (stepsBwd 0 o init ps).map ofP2 := by
  rw [stepsBwd_cons, Nat.add_zero, List.length_append, Nat.add_sub_cancel, List.take_left' rfl]

theorem stepsFwd_nil_cons (o : Nat) (cur : List Nat) (ps : List (List Nat)) :
    (stepsFwd 0 o cur ([] :: ps)).map ofP2 =
      (Str.lit, (Str.mk o cur).norm) :: (stepsFwd 0 o cur ps).map ofP2 :=
  stepsFwd_append o [] cur ps

theorem stepsBwd_nil_cons (o : Nat) (cur : List Nat) (ps : List (List Nat)) :
    (stepsBwd 0 o cur ([] :: ps)).map ofP2 =
      (Str.lit, (Str.mk o cur).norm) :: (stepsBwd 0 o cur ps).map ofP2 := by
  have e := stepsBwd_append o cur [] ps
  rwa [List.append_nil] at e

section collect
variable {σ : Type} {next : σ → E (Option (Str × σ))} {rem : σ → Str}

theorem collect_none (n : Nat) {st : σ} (h : next st = .ok none) :
    collect next rem (n + 1) st = .done [] := by
  rw [collect, h]

theorem collect_some (n : Nat) {st st' : σ} {p : Str} {l : List (Str × Str)}
    (h : next st = .ok (some (p, st'))) (ht : collect next rem n st' = .done l) :
    collect next rem (n + 1) st = .done ((p.norm, (rem st').norm) :: l) := by
  rw [collect, h]; simp only [ht]

theorem collect_mono : ∀ {n : Nat} {st : σ} {l : List (Str × Str)}, collect next rem n st = .done l →
    ∀ {m : Nat}, n ≤ m → collect next rem m st = .done l := by
  intro n
  induction n with
  | zero => intro st l h; cases h
  | succ n ih =>
    intro st l h m hm
    obtain ⟨m, rfl⟩ : ∃ m', m = m' + 1 := ⟨m - 1, by omega⟩
    rw [collect] at h ⊢
    cases hn : next st with
    | error e => rw [hn] at h; cases h
    | ok r =>
      rw [hn] at h
      cases r with
      | none => exact h
      | some q =>
        obtain ⟨p, st'⟩ := q
        cases ht : collect next rem n st' with
        | done l' => simp only [ht, ih ht (Nat.le_of_succ_le_succ hm)] at h ⊢; exact h
        | panic => simp only [ht] at h; cases h
        | fuel => simp only [ht] at h; cases h

end collect

/-! ### one step, non-empty delimiter -/

theorem nextBlock_found (f : Bool) (o : Nat) (cur d : List Nat) (hv : Valid cur) (hd : Valid d)
    (hne : d ≠ []) (i : Nat) (hf : findSpec cur d = some i) :
    nextBlock ⟨f, ⟨o, cur⟩, .normal d⟩ =
      .ok (some (⟨o, cur.take i⟩, ⟨f, ⟨o + (i + d.length), cur.drop (i + d.length)⟩, .normal d⟩)) := by
  obtain ⟨b1, b2, hle, _, _⟩ := occ_boundaries cur d hv hd hne i (findSpec_some hf)
  unfold nextBlock
  simp only [StrFns.find, Lemmas.Bytes.bytesFind_eq_spec, hf, strFrom_ok _ _ b2, strUpTo_ok _ _ b1,
    bind, Except.bind, pure, Except.pure, cut_upto, cut_from _ _ _ hle]

theorem nextBlock_none (f : Bool) (x : Str) (d : List Nat) (hf : findSpec x.bytes d = none) :
    nextBlock ⟨f, x, .normal d⟩ = .ok (some (x, ⟨f, Str.lit, .finished⟩)) := by
  unfold nextBlock
  simp only [StrFns.find, Lemmas.Bytes.bytesFind_eq_spec, hf]

theorem nextBackBlock_found (f : Bool) (o : Nat) (cur d : List Nat) (hv : Valid cur) (hd : Valid d)
    (hne : d ≠ []) (i : Nat) (hf : rfindSpec cur d = some i) :
    nextBackBlock ⟨f, ⟨o, cur⟩, .normal d⟩ =
      .ok (some (⟨o + (i + d.length), cur.drop (i + d.length)⟩, ⟨f, ⟨o, cur.take i⟩, .normal d⟩)) := by
  obtain ⟨b1, b2, hle, _, _⟩ := occ_boundaries cur d hv hd hne i (rfindSpec_some hne hf)
  unfold nextBackBlock
  simp only [StrFns.rfind, Lemmas.Bytes.bytesRfind_eq_spec _ _ hne, hf, strFrom_ok _ _ b2,
    strUpTo_ok _ _ b1, bind, Except.bind, pure, Except.pure, cut_upto, cut_from _ _ _ hle]

theorem nextBackBlock_none (f : Bool) (x : Str) (d : List Nat) (hne : d ≠ [])
    (hf : rfindSpec x.bytes d = none) :
    nextBackBlock ⟨f, x, .normal d⟩ = .ok (some (x, ⟨f, Str.lit, .finished⟩)) := by
  unfold nextBackBlock
  simp only [StrFns.rfind, Lemmas.Bytes.bytesRfind_eq_spec _ _ hne, hf]

theorem nextBlock_finished (f : Bool) (x : Str) : nextBlock ⟨f, x, .finished⟩ = .ok none := rfl
theorem nextBackBlock_finished (f : Bool) (x : Str) : nextBackBlock ⟨f, x, .finished⟩ = .ok none := rfl

/-! ### iterating to exhaustion, non-empty delimiter

  `n` bounds the length of what is left (the fuel of `splitAux`); `n + 2` calls of `next` suffice. -/

theorem length_drop_occ {cur : List Nat} {n i dl : Nat} (hl : cur.length ≤ n + 1) (hdl : 0 < dl)
    (hle : i + dl ≤ cur.length) : (cur.drop (i + dl)).length ≤ n := by
  rw [List.length_drop]; omega

theorem length_take_occ {cur : List Nat} {n i dl : Nat} (hl : cur.length ≤ n + 1) (hdl : 0 < dl)
    (hle : i + dl ≤ cur.length) : (cur.take i).length ≤ n := by
  rw [List.length_take]; omega

/-- forward, Normal state: `next` = the `next` block (true for `Split::next`, `RSplit::next_back`) -/
theorem collect_fwd_normal (next : Iter → E (Option (Str × Iter))) (f : Bool)
    (hnext : ∀ t st, next ⟨f, t, st⟩ = nextBlock ⟨f, t, st⟩)
    (d : List Nat) (hd : Valid d) (hne : d ≠ []) :
    ∀ (n : Nat) (cur : List Nat) (o : Nat), cur.length ≤ n → Valid cur →
      collect next Iter.remainder (n + 2) ⟨f, ⟨o, cur⟩, .normal d⟩ =
        .done ((stepsFwd d.length o cur (splitAux d n cur)).map ofP2) := by
  have hdl : 0 < d.length := List.length_pos_iff.mpr hne
  -- the "no further delimiter" step followed by `None`
  have last : ∀ (n : Nat) (cur : List Nat) (o k : Nat), findSpec cur d = none →
      collect next Iter.remainder (k + 2) ⟨f, ⟨o, cur⟩, .normal d⟩ =
        .done ((stepsFwd d.length o cur (splitAux d n cur)).map ofP2) := by
    intro n cur o k hf
    rw [splitAux_none d n cur hf, stepsFwd_cons, List.drop_of_length_le (Nat.le_add_right _ _)]
    exact collect_some _ ((hnext _ _).trans (nextBlock_none f ⟨o, cur⟩ d hf))
      (collect_none k ((hnext _ _).trans (nextBlock_finished f _)))
  intro n
  induction n with
  | zero =>
    intro cur o hl _
    obtain rfl : cur = [] := List.eq_nil_of_length_eq_zero (Nat.le_zero.mp hl)
    exact last 0 [] o 0 (Lemmas.Bytes.findSpec_nil_hay hne)
  | succ n ih =>
    intro cur o hl hv
    cases hf : findSpec cur d with
    | none => exact last _ cur o _ hf
    | some i =>
      obtain ⟨_, _, hle, _, hvd⟩ := occ_boundaries cur d hv hd hne i (findSpec_some hf)
      rw [splitAux_some d n cur i hf, stepsFwd_take _ _ _ _ (Nat.le_trans (Nat.le_add_right i _) hle)]
      exact collect_some _ ((hnext _ _).trans (nextBlock_found f o cur d hv hd hne i hf))
        (ih (cur.drop (i + d.length)) (o + (i + d.length)) (length_drop_occ hl hdl hle) hvd)

/-- backward, Normal state: `next` = the `next_back` block (`RSplit::next`, `Split::next_back`) -/
theorem collect_bwd_normal (next : Iter → E (Option (Str × Iter))) (f : Bool)
    (hnext : ∀ t st, next ⟨f, t, st⟩ = nextBackBlock ⟨f, t, st⟩)
    (d : List Nat) (hd : Valid d) (hne : d ≠ []) :
    ∀ (n : Nat) (cur : List Nat) (o : Nat), cur.length ≤ n → Valid cur →
      collect next Iter.remainder (n + 2) ⟨f, ⟨o, cur⟩, .normal d⟩ =
        .done ((stepsBwd d.length o cur (rsplitAux d n cur)).map ofP2) := by
  have hdl : 0 < d.length := List.length_pos_iff.mpr hne
  have last : ∀ (n : Nat) (cur : List Nat) (o k : Nat), rfindSpec cur d = none →
      collect next Iter.remainder (k + 2) ⟨f, ⟨o, cur⟩, .normal d⟩ =
        .done ((stepsBwd d.length o cur (rsplitAux d n cur)).map ofP2) := by
    intro n cur o k hf
    rw [rsplitAux_none d n cur hf, stepsBwd_cons, Nat.sub_self,
      Nat.sub_eq_zero_of_le (Nat.le_add_right _ _)]
    exact collect_some _ ((hnext _ _).trans (nextBackBlock_none f ⟨o, cur⟩ d hne hf))
      (collect_none k ((hnext _ _).trans (nextBackBlock_finished f _)))
  intro n
  induction n with
  | zero =>
    intro cur o hl _
    obtain rfl : cur = [] := List.eq_nil_of_length_eq_zero (Nat.le_zero.mp hl)
    exact last 0 [] o 0 (Lemmas.Bytes.rfindSpec_nil_hay hne)
  | succ n ih =>
    intro cur o hl hv
    cases hf : rfindSpec cur d with
    | none => exact last _ cur o _ hf
    | some i =>
      obtain ⟨_, _, hle, hvt, _⟩ := occ_boundaries cur d hv hd hne i (rfindSpec_some hne hf)
      rw [rsplitAux_some d n cur i hf, stepsBwd_drop _ _ _ _ hle]
      exact collect_some _ ((hnext _ _).trans (nextBackBlock_found f o cur d hv hd hne i hf))
        (ih (cur.take i) o (length_take_occ hl hdl hle) hvt)

/-! ### one step, empty delimiter -/

theorem nextBlock_start (f : Bool) (x : Str) :
    nextBlock ⟨f, x, .empty .start⟩ = .ok (some (Str.lit, ⟨f, x, .empty .cont⟩)) := rfl
theorem nextBackBlock_start (f : Bool) (x : Str) :
    nextBackBlock ⟨f, x, .empty .start⟩ = .ok (some (Str.lit, ⟨f, x, .empty .cont⟩)) := rfl

theorem findNext_nil : findNextCharBoundary [] 0 = 1 :=
  findNext_eq [] 0 0 1 rfl (fun j h1 h2 => by omega) (forgiving_beyond [] 1 (by simp))

/-- the char-walking step of `next_from_empty` (also the `Empty(Continue)` arm of
    `SplitTerminator::next`) on a non-empty valid string: the first character is split off -/
theorem walk_fwd (o c : Nat) (cs : List Nat) (hs : Scalars (c :: cs)) :
    splitAtStr ⟨o, enc c ++ encs cs⟩ (findNextCharBoundary (enc c ++ encs cs) 0) =
      .ok (⟨o, enc c⟩, ⟨o + (enc c).length, encs cs⟩) := by
  have hf : isCharBoundaryForgiving (encs (c :: cs)) (enc c).length = true :=
    (forgiving_iff _ hs _).mpr (Or.inr ⟨1, by simp⟩)
  rw [encs_cons] at hf
  rw [findNext_first c cs hs, splitAtStr_ok o _ _ (List.length_append ▸ Nat.le_add_right _ _) hf,
    List.take_left' rfl, List.drop_left' rfl]

/-- the char-walking step of `next_back_from_empty` / `RSplitTerminator::next`: the last character
    is split off, `__find_prev_char_boundary` does not underflow -/
theorem walk_bwd (o : Nat) (cs : List Nat) (c : Nat) (hs : Scalars (cs ++ [c])) :
    findPrevCharBoundary (encs cs ++ enc c) (encs cs ++ enc c).length = some (encs cs).length ∧
    splitAtStr ⟨o, encs cs ++ enc c⟩ (encs cs).length =
      .ok (⟨o, encs cs⟩, ⟨o + (encs cs).length, enc c⟩) := by
  have hf : isCharBoundaryForgiving (encs (cs ++ [c])) (encs cs).length = true :=
    (forgiving_iff _ hs _).mpr (Or.inr ⟨cs.length, by simp⟩)
  rw [encs_snoc] at hf
  refine ⟨findPrev_last cs c hs, ?_⟩
  rw [splitAtStr_ok o _ _ (List.length_append ▸ Nat.le_add_right _ _) hf,
    List.take_left' rfl, List.drop_left' rfl]

theorem nextBlock_cont_cons (f : Bool) (o c : Nat) (cs : List Nat) (hs : Scalars (c :: cs)) :
    nextBlock ⟨f, ⟨o, enc c ++ encs cs⟩, .empty .cont⟩ =
      .ok (some (⟨o, enc c⟩, ⟨f, ⟨o + (enc c).length, encs cs⟩, .empty .cont⟩)) := by
  unfold nextBlock nextFromEmpty
  simp only [enc_append_isEmpty, Bool.false_eq_true, if_false, walk_fwd o c cs hs,
    bind, Except.bind, pure, Except.pure]

theorem nextBlock_cont_nil (f : Bool) (o : Nat) :
    nextBlock ⟨f, ⟨o, []⟩, .empty .cont⟩ = .ok (some (⟨o, []⟩, ⟨f, ⟨o, []⟩, .finished⟩)) := by
  unfold nextBlock nextFromEmpty
  simp only [findNext_nil]
  rfl

theorem nextBackBlock_cont_snoc (f : Bool) (o : Nat) (cs : List Nat) (c : Nat) (hs : Scalars (cs ++ [c])) :
    nextBackBlock ⟨f, ⟨o, encs cs ++ enc c⟩, .empty .cont⟩ =
      .ok (some (⟨o + (encs cs).length, enc c⟩, ⟨f, ⟨o, encs cs⟩, .empty .cont⟩)) := by
  unfold nextBackBlock nextBackFromEmpty
  simp only [append_enc_isEmpty, Bool.false_eq_true, if_false, walk_bwd o cs c hs,
    bind, Except.bind, pure, Except.pure]

theorem nextBackBlock_cont_nil (f : Bool) (o : Nat) :
    nextBackBlock ⟨f, ⟨o, []⟩, .empty .cont⟩ = .ok (some (⟨o, []⟩, ⟨f, ⟨o, []⟩, .finished⟩)) := rfl

/-! ### iterating to exhaustion, empty delimiter -/

theorem collect_fwd_empty (next : Iter → E (Option (Str × Iter))) (f : Bool)
    (hnext : ∀ t st, next ⟨f, t, st⟩ = nextBlock ⟨f, t, st⟩) :
    ∀ (cs : List Nat) (o : Nat), Scalars cs →
      collect next Iter.remainder (cs.length + 2) ⟨f, ⟨o, encs cs⟩, .empty .cont⟩ =
        .done ((stepsFwd 0 o (encs cs) (cs.map enc ++ [[]])).map ofP2) := by
  intro cs
  induction cs with
  | nil =>
    intro o _
    exact collect_some _ ((hnext _ _).trans (nextBlock_cont_nil f o))
      (collect_none 0 ((hnext _ _).trans (nextBlock_finished f _)))
  | cons c cs ih =>
    intro o hs
    rw [encs_cons, List.map_cons, List.cons_append, stepsFwd_append]
    exact collect_some _ ((hnext _ _).trans (nextBlock_cont_cons f o c cs hs))
      (ih (o + (enc c).length) hs.tail)

theorem collect_bwd_empty (next : Iter → E (Option (Str × Iter))) (f : Bool)
    (hnext : ∀ t st, next ⟨f, t, st⟩ = nextBackBlock ⟨f, t, st⟩) :
    ∀ (n : Nat) (cs : List Nat) (o : Nat), cs.length = n → Scalars cs →
      collect next Iter.remainder (n + 2) ⟨f, ⟨o, encs cs⟩, .empty .cont⟩ =
        .done ((stepsBwd 0 o (encs cs) (cs.reverse.map enc ++ [[]])).map ofP2) := by
  intro n
  induction n with
  | zero =>
    intro cs o hl _
    obtain rfl : cs = [] := List.eq_nil_of_length_eq_zero hl
    exact collect_some _ ((hnext _ _).trans (nextBackBlock_cont_nil f o))
      (collect_none 0 ((hnext _ _).trans (nextBackBlock_finished f _)))
  | succ n ih =>
    intro cs o hl hs
    obtain ⟨cs, c, rfl⟩ : ∃ cs' c, cs = cs' ++ [c] := by
      rcases Konst.Lemmas.Slice.eq_nil_or_snoc cs with h | h
      · subst h; cases hl
      · exact h
    rw [encs_snoc, List.reverse_append, List.reverse_singleton, List.singleton_append, List.map_cons,
      List.cons_append, stepsBwd_append]
    exact collect_some _ ((hnext _ _).trans (nextBackBlock_cont_snoc f o cs c hs))
      (ih cs o (by simpa using hl) hs.init)

/-- from the initial state of an empty delimiter: `""` first, then the characters, then `""` -/
theorem collect_fwd_start (next : Iter → E (Option (Str × Iter))) (f : Bool)
    (hnext : ∀ t st, next ⟨f, t, st⟩ = nextBlock ⟨f, t, st⟩)
    (cs : List Nat) (o : Nat) (hs : Scalars cs) :
    collect next Iter.remainder (cs.length + 3) ⟨f, ⟨o, encs cs⟩, .empty .start⟩ =
      .done ((stepsFwd 0 o (encs cs) ([] :: cs.map enc ++ [[]])).map ofP2) := by
  rw [List.cons_append, stepsFwd_nil_cons]
  exact collect_some _ ((hnext _ _).trans (nextBlock_start f _)) (collect_fwd_empty next f hnext cs o hs)

theorem collect_bwd_start (next : Iter → E (Option (Str × Iter))) (f : Bool)
    (hnext : ∀ t st, next ⟨f, t, st⟩ = nextBackBlock ⟨f, t, st⟩)
    (cs : List Nat) (o : Nat) (hs : Scalars cs) :
    collect next Iter.remainder (cs.length + 3) ⟨f, ⟨o, encs cs⟩, .empty .start⟩ =
      .done ((stepsBwd 0 o (encs cs) ([] :: (cs.map enc).reverse ++ [[]])).map ofP2) := by
  rw [List.cons_append, stepsBwd_nil_cons, ← List.map_reverse]
  exact collect_some _ ((hnext _ _).trans (nextBackBlock_start f _))
    (collect_bwd_empty next f hnext cs.length cs o rfl hs)

/-! ### split_terminator / rsplit_terminator: one step -/

theorem tnext_nil (o : Nat) (d : List Nat) : TIter.next ⟨⟨o, []⟩, .normal d⟩ = .ok none := rfl
theorem trnext_nil (o : Nat) (d : List Nat) : TIter.rnext ⟨⟨o, []⟩, .normal d⟩ = .ok none := rfl
theorem tnext_cont_nil (o : Nat) : TIter.next ⟨⟨o, []⟩, .empty .cont⟩ = .ok none := rfl
theorem trnext_cont_nil (o : Nat) : TIter.rnext ⟨⟨o, []⟩, .empty .cont⟩ = .ok none := rfl
theorem tnext_start (x : Str) :
    TIter.next ⟨x, .empty .start⟩ = .ok (some (Str.lit, ⟨x, .empty .cont⟩)) := rfl
theorem trnext_start (x : Str) :
    TIter.rnext ⟨x, .empty .start⟩ = .ok (some (Str.lit, ⟨x, .empty .cont⟩)) := rfl

theorem tnext_found (o : Nat) (cur d : List Nat) (hv : Valid cur) (hd : Valid d)
    (hne : d ≠ []) (i : Nat) (hf : findSpec cur d = some i) :
    TIter.next ⟨⟨o, cur⟩, .normal d⟩ =
      .ok (some (⟨o, cur.take i⟩, ⟨⟨o + (i + d.length), cur.drop (i + d.length)⟩, .normal d⟩)) := by
  obtain ⟨b1, b2, hle, _, _⟩ := occ_boundaries cur d hv hd hne i (findSpec_some hf)
  have hc : cur ≠ [] := occ_ne_nil hne (findSpec_some hf)
  unfold TIter.next
  simp only [List.isEmpty_eq_false_iff.mpr hc, Bool.false_eq_true, if_false, StrFns.find,
    Lemmas.Bytes.bytesFind_eq_spec, hf, strFrom_ok _ _ b2, strUpTo_ok _ _ b1,
    bind, Except.bind, pure, Except.pure, cut_upto, cut_from _ _ _ hle]

theorem tnext_none (o : Nat) (cur d : List Nat) (hc : cur ≠ []) (hf : findSpec cur d = none) :
    TIter.next ⟨⟨o, cur⟩, .normal d⟩ =
      .ok (some (⟨o, cur⟩, ⟨⟨o + cur.length, []⟩, .normal d⟩)) := by
  unfold TIter.next
  have hb := forgiving_beyond cur _ (Nat.le_refl _)
  simp only [List.isEmpty_eq_false_iff.mpr hc, Bool.false_eq_true, if_false, StrFns.find,
    Lemmas.Bytes.bytesFind_eq_spec, hf, strFrom_ok _ _ hb, strUpTo_ok _ _ hb, bind, Except.bind, pure,
    Except.pure, cut_upto, cut_from _ _ _ (Nat.le_refl _), List.take_length, List.drop_length]

theorem trnext_found (o : Nat) (cur d : List Nat) (hv : Valid cur) (hd : Valid d)
    (hne : d ≠ []) (i : Nat) (hf : rfindSpec cur d = some i) :
    TIter.rnext ⟨⟨o, cur⟩, .normal d⟩ =
      .ok (some (⟨o + (i + d.length), cur.drop (i + d.length)⟩, ⟨⟨o, cur.take i⟩, .normal d⟩)) := by
  obtain ⟨b1, b2, hle, _, _⟩ := occ_boundaries cur d hv hd hne i (rfindSpec_some hne hf)
  have hc : cur ≠ [] := occ_ne_nil hne (rfindSpec_some hne hf)
  unfold TIter.rnext
  simp only [List.isEmpty_eq_false_iff.mpr hc, Bool.false_eq_true, if_false, StrFns.rfind,
    Lemmas.Bytes.bytesRfind_eq_spec _ _ hne, hf, strFrom_ok _ _ b2, strUpTo_ok _ _ b1,
    bind, Except.bind, pure, Except.pure, cut_upto, cut_from _ _ _ hle]

theorem trnext_none (o : Nat) (cur d : List Nat) (hv : Valid cur) (hne : d ≠ []) (hc : cur ≠ [])
    (hf : rfindSpec cur d = none) :
    TIter.rnext ⟨⟨o, cur⟩, .normal d⟩ =
      .ok (some (⟨o, cur⟩, ⟨⟨o, []⟩, .normal d⟩)) := by
  unfold TIter.rnext
  have hb := forgiving_zero cur hv
  simp only [List.isEmpty_eq_false_iff.mpr hc, Bool.false_eq_true, if_false, StrFns.rfind,
    Lemmas.Bytes.bytesRfind_eq_spec _ _ hne, hf, strFrom_ok _ _ hb, strUpTo_ok _ _ hb, bind, Except.bind,
    pure, Except.pure, cut_upto, cut_from _ _ _ (Nat.zero_le _)]
  rfl

theorem tnext_cont_cons (o c : Nat) (cs : List Nat) (hs : Scalars (c :: cs)) :
    TIter.next ⟨⟨o, enc c ++ encs cs⟩, .empty .cont⟩ =
      .ok (some (⟨o, enc c⟩, ⟨⟨o + (enc c).length, encs cs⟩, .empty .cont⟩)) := by
  unfold TIter.next
  simp only [enc_append_isEmpty, Bool.false_eq_true, if_false, walk_fwd o c cs hs,
    bind, Except.bind, pure, Except.pure]

theorem trnext_cont_snoc (o : Nat) (cs : List Nat) (c : Nat) (hs : Scalars (cs ++ [c])) :
    TIter.rnext ⟨⟨o, encs cs ++ enc c⟩, .empty .cont⟩ =
      .ok (some (⟨o + (encs cs).length, enc c⟩, ⟨⟨o, encs cs⟩, .empty .cont⟩)) := by
  unfold TIter.rnext
  simp only [append_enc_isEmpty, Bool.false_eq_true, if_false, walk_bwd o cs c hs,
    bind, Except.bind, pure, Except.pure]

/-! ### split_terminator / rsplit_terminator: iterating to exhaustion -/

theorem dropLastEmpty_cons (x : List Nat) (l : List (List Nat)) (h : l ≠ []) :
    dropLastEmpty (x :: l) = x :: dropLastEmpty l := by
  cases l with
  | nil => exact absurd rfl h
  | cons y t =>
    unfold dropLastEmpty
    rw [List.getLast?_cons_cons, List.dropLast_cons_cons]
    by_cases hl : (y :: t).getLast? = some [] <;> simp [hl]

theorem dropLastEmpty_single (c : List Nat) (h : c ≠ []) : dropLastEmpty [c] = [c] := by
  unfold dropLastEmpty; simp [h]

theorem dropLastEmpty_nil_single : dropLastEmpty [[]] = [] := rfl

theorem dropLastEmpty_snoc (l : List (List Nat)) : dropLastEmpty (l ++ [[]]) = l := by
  unfold dropLastEmpty; simp

theorem dropLastEmpty_length (l : List (List Nat)) : (dropLastEmpty l).length ≤ l.length := by
  unfold dropLastEmpty
  split
  · rw [List.length_dropLast]; exact Nat.sub_le _ _
  · exact Nat.le_refl _

theorem collectT_fwd_normal (d : List Nat) (hd : Valid d) (hne : d ≠ []) :
    ∀ (n : Nat) (cur : List Nat) (o : Nat), cur.length ≤ n → Valid cur →
      collect TIter.next TIter.remainder (n + 2) ⟨⟨o, cur⟩, .normal d⟩ =
        .done ((stepsFwd d.length o cur (dropLastEmpty (splitAux d n cur))).map ofP2) := by
  have hdl : 0 < d.length := List.length_pos_iff.mpr hne
  have stop : ∀ (n o k : Nat), collect TIter.next TIter.remainder (k + 1) ⟨⟨o, []⟩, .normal d⟩ =
      .done ((stepsFwd d.length o [] (dropLastEmpty (splitAux d n []))).map ofP2) := by
    intro n o k
    rw [splitAux_nil d hne]
    exact collect_none k (tnext_nil o d)
  intro n
  induction n with
  | zero =>
    intro cur o hl _
    obtain rfl : cur = [] := List.eq_nil_of_length_eq_zero (Nat.le_zero.mp hl)
    exact stop 0 o _
  | succ n ih =>
    intro cur o hl hv
    by_cases hc : cur = []
    · subst hc; exact stop _ o _
    cases hf : findSpec cur d with
    | none =>
      rw [splitAux_none d _ cur hf, dropLastEmpty_single cur hc, stepsFwd_cons,
        List.drop_of_length_le (Nat.le_add_right _ _)]
      exact collect_some _ (tnext_none o cur d hc hf) (collect_none _ (tnext_nil _ d))
    | some i =>
      obtain ⟨_, _, hle, _, hvd⟩ := occ_boundaries cur d hv hd hne i (findSpec_some hf)
      rw [splitAux_some d n cur i hf, dropLastEmpty_cons _ _ (splitAux_ne_nil _ _ _),
        stepsFwd_take _ _ _ _ (Nat.le_trans (Nat.le_add_right i _) hle)]
      exact collect_some _ (tnext_found o cur d hv hd hne i hf)
        (ih (cur.drop (i + d.length)) (o + (i + d.length)) (length_drop_occ hl hdl hle) hvd)

theorem collectT_bwd_normal (d : List Nat) (hd : Valid d) (hne : d ≠ []) :
    ∀ (n : Nat) (cur : List Nat) (o : Nat), cur.length ≤ n → Valid cur →
      collect TIter.rnext TIter.remainder (n + 2) ⟨⟨o, cur⟩, .normal d⟩ =
        .done ((stepsBwd d.length o cur (dropLastEmpty (rsplitAux d n cur))).map ofP2) := by
  have hdl : 0 < d.length := List.length_pos_iff.mpr hne
  have stop : ∀ (n o k : Nat), collect TIter.rnext TIter.remainder (k + 1) ⟨⟨o, []⟩, .normal d⟩ =
      .done ((stepsBwd d.length o [] (dropLastEmpty (rsplitAux d n []))).map ofP2) := by
    intro n o k
    rw [rsplitAux_nil d hne]
    exact collect_none k (trnext_nil o d)
  intro n
  induction n with
  | zero =>
    intro cur o hl _
    obtain rfl : cur = [] := List.eq_nil_of_length_eq_zero (Nat.le_zero.mp hl)
    exact stop 0 o _
  | succ n ih =>
    intro cur o hl hv
    by_cases hc : cur = []
    · subst hc; exact stop _ o _
    cases hf : rfindSpec cur d with
    | none =>
      rw [rsplitAux_none d _ cur hf, dropLastEmpty_single cur hc, stepsBwd_cons, Nat.sub_self,
        Nat.sub_eq_zero_of_le (Nat.le_add_right _ _)]
      exact collect_some _ (trnext_none o cur d hv hne hc hf) (collect_none _ (trnext_nil _ d))
    | some i =>
      obtain ⟨_, _, hle, hvt, _⟩ := occ_boundaries cur d hv hd hne i (rfindSpec_some hne hf)
      rw [rsplitAux_some d n cur i hf, dropLastEmpty_cons _ _ (rsplitAux_ne_nil _ _ _),
        stepsBwd_drop _ _ _ _ hle]
      exact collect_some _ (trnext_found o cur d hv hd hne i hf)
        (ih (cur.take i) o (length_take_occ hl hdl hle) hvt)

theorem collectT_fwd_empty :
    ∀ (cs : List Nat) (o : Nat), Scalars cs →
      collect TIter.next TIter.remainder (cs.length + 1) ⟨⟨o, encs cs⟩, .empty .cont⟩ =
        .done ((stepsFwd 0 o (encs cs) (cs.map enc)).map ofP2) := by
  intro cs
  induction cs with
  | nil => intro o _; exact collect_none 0 (tnext_cont_nil o)
  | cons c cs ih =>
    intro o hs
    rw [encs_cons, List.map_cons, stepsFwd_append]
    exact collect_some _ (tnext_cont_cons o c cs hs) (ih (o + (enc c).length) hs.tail)

theorem collectT_bwd_empty :
    ∀ (n : Nat) (cs : List Nat) (o : Nat), cs.length = n → Scalars cs →
      collect TIter.rnext TIter.remainder (n + 1) ⟨⟨o, encs cs⟩, .empty .cont⟩ =
        .done ((stepsBwd 0 o (encs cs) (cs.reverse.map enc)).map ofP2) := by
  intro n
  induction n with
  | zero =>
    intro cs o hl _
    obtain rfl : cs = [] := List.eq_nil_of_length_eq_zero hl
    exact collect_none 0 (trnext_cont_nil o)
  | succ n ih =>
    intro cs o hl hs
    obtain ⟨cs, c, rfl⟩ : ∃ cs' c, cs = cs' ++ [c] := by
      rcases Konst.Lemmas.Slice.eq_nil_or_snoc cs with h | h
      · subst h; cases hl
      · exact h
    rw [encs_snoc, List.reverse_append, List.reverse_singleton, List.singleton_append, List.map_cons,
      stepsBwd_append]
    exact collect_some _ (trnext_cont_snoc o cs c hs) (ih cs o (by simpa using hl) hs.init)

theorem collectT_fwd_start (cs : List Nat) (o : Nat) (hs : Scalars cs) :
    collect TIter.next TIter.remainder (cs.length + 2) ⟨⟨o, encs cs⟩, .empty .start⟩ =
      .done ((stepsFwd 0 o (encs cs) ([] :: cs.map enc)).map ofP2) := by
  rw [stepsFwd_nil_cons]
  exact collect_some _ (tnext_start _) (collectT_fwd_empty cs o hs)

theorem collectT_bwd_start (cs : List Nat) (o : Nat) (hs : Scalars cs) :
    collect TIter.rnext TIter.remainder (cs.length + 2) ⟨⟨o, encs cs⟩, .empty .start⟩ =
      .done ((stepsBwd 0 o (encs cs) ([] :: (cs.map enc).reverse)).map ofP2) := by
  rw [stepsBwd_nil_cons, ← List.map_reverse]
  exact collect_some _ (trnext_start _) (collectT_bwd_empty cs.length cs o rfl hs)

/-! ### pieces, closed form of the remainder, number of pieces -/

theorem stepsFwd_pieces (dl : Nat) : ∀ (ps : List (List Nat)) (o : Nat) (cur : List Nat),
    ((stepsFwd dl o cur ps).map ofP2).map (fun x => x.1.bytes) = ps := by
  intro ps
  induction ps with
  | nil => intro o cur; rfl
  | cons p ps ih =>
    intro o cur
    simp only [stepsFwd, List.map_cons, ofP2, ofP, pnorm_snd, ih]

theorem stepsBwd_pieces (dl o : Nat) : ∀ (ps : List (List Nat)) (cur : List Nat),
    ((stepsBwd dl o cur ps).map ofP2).map (fun x => x.1.bytes) = ps := by
  intro ps
  induction ps with
  | nil => intro cur; rfl
  | cons p ps ih =>
    intro cur
    simp only [stepsBwd, List.map_cons, ofP2, ofP, pnorm_snd, ih]

theorem stepsFwd_length (dl : Nat) (ps : List (List Nat)) (o : Nat) (cur : List Nat) :
    (stepsFwd dl o cur ps).length = ps.length := by
  have := congrArg List.length (stepsFwd_pieces dl ps o cur)
  rwa [List.length_map, List.length_map] at this

theorem stepsBwd_length (dl o : Nat) (ps : List (List Nat)) (cur : List Nat) :
    (stepsBwd dl o cur ps).length = ps.length := by
  have := congrArg List.length (stepsBwd_pieces dl o ps cur)
  rwa [List.length_map, List.length_map] at this

theorem consumed_zero (dl : Nat) (p : List Nat) (ps : List (List Nat)) :
    consumed dl (p :: ps) 0 = p.length + dl :=
  Nat.add_zero _

theorem consumed_succ (dl : Nat) (p : List Nat) (ps : List (List Nat)) (k : Nat) :
    consumed dl (p :: ps) (k + 1) = (p.length + dl) + consumed dl ps k := rfl

theorem stepsFwd_rem (dl : Nat) : ∀ (ps : List (List Nat)) (o : Nat) (cur : List Nat) (k : Nat),
    k < ps.length →
    (((stepsFwd dl o cur ps).map ofP2)[k]?).map (fun x => x.2) =
      some (Str.mk (o + consumed dl ps k) (cur.drop (consumed dl ps k))).norm := by
  intro ps
  induction ps with
  | nil => intro o cur k hk; cases hk
  | cons p ps ih =>
    intro o cur k hk
    rw [stepsFwd_cons]
    cases k with
    | zero => rw [consumed_zero]; rfl
    | succ k =>
      rw [List.getElem?_cons_succ, ih _ _ k (Nat.lt_of_succ_lt_succ hk), consumed_succ, List.drop_drop,
        Nat.add_assoc]

theorem stepsBwd_rem (dl o : Nat) : ∀ (ps : List (List Nat)) (cur : List Nat) (k : Nat),
    k < ps.length →
    (((stepsBwd dl o cur ps).map ofP2)[k]?).map (fun x => x.2) =
      some (Str.mk o (cur.take (cur.length - consumed dl ps k))).norm := by
  intro ps
  induction ps with
  | nil => intro cur k hk; cases hk
  | cons p ps ih =>
    intro cur k hk
    rw [stepsBwd_cons]
    cases k with
    | zero => rw [consumed_zero]; rfl
    | succ k =>
      rw [List.getElem?_cons_succ, ih _ k (Nat.lt_of_succ_lt_succ hk), consumed_succ,
        List.length_take_of_le (Nat.sub_le _ _), List.take_take, Nat.min_eq_left (Nat.sub_le _ _),
        Nat.sub_sub]

/-- number of pieces: at most `|s| + 2` (reached by the empty delimiter on ASCII text) -/
theorem spec_lengths (s d : List Nat) (hs : Valid s) :
    (splitSpec s d).length ≤ s.length + 2 ∧ (rsplitSpec s d).length ≤ s.length + 2 ∧
    (splitTerminatorSpec s d).length ≤ s.length + 2 ∧ (rsplitTerminatorSpec s d).length ≤ s.length + 2 := by
  have hc : (charPieces s).length ≤ s.length := by
    obtain ⟨cs, hcs, rfl⟩ := hs
    rw [charPieces_encs cs hcs, List.length_map]
    exact length_le_encs cs
  have h1 : (splitSpec s d).length ≤ s.length + 2 := by
    unfold splitSpec
    split
    · rw [List.length_append, List.length_cons]; exact Nat.succ_le_succ (Nat.succ_le_succ hc)
    · exact Nat.le_succ_of_le (splitAux_length d s.length s)
  have h2 : (rsplitSpec s d).length ≤ s.length + 2 := by
    unfold rsplitSpec
    split
    · rw [List.length_append, List.length_cons, List.length_reverse]
      exact Nat.succ_le_succ (Nat.succ_le_succ hc)
    · exact Nat.le_succ_of_le (rsplitAux_length d s.length s)
  exact ⟨h1, h2, Nat.le_trans (dropLastEmpty_length _) h1, Nat.le_trans (dropLastEmpty_length _) h2⟩

theorem consumed_last (dl : Nat) (ps : List (List Nat)) :
    consumed dl ps (ps.length - 1) = (ps.map (fun p => p.length + dl)).sum := by
  unfold consumed
  rw [List.take_of_length_le (by omega)]

theorem encs_length_sum : ∀ (cs : List Nat), ((cs.map enc).map (fun p => p.length + 0)).sum = (encs cs).length := by
  intro cs
  induction cs with
  | nil => rfl
  | cons c cs ih => rw [List.map_cons, List.map_cons, List.sum_cons, ih, encs_cons, List.length_append]; rfl

/-- `split` / `rsplit` use up the whole input: the closed-form remainder after the LAST piece is `""` -/
theorem consumed_all (s d : List Nat) (hs : Valid s) :
    s.length ≤ consumed d.length (splitSpec s d) ((splitSpec s d).length - 1) ∧
    s.length ≤ consumed d.length (rsplitSpec s d) ((rsplitSpec s d).length - 1) := by
  rw [consumed_last, consumed_last]
  by_cases hne : d = []
  · subst hne
    obtain ⟨cs, hcs, rfl⟩ := hs
    have := encs_length_sum cs
    have hr : (((cs.map enc).reverse).map (fun p => p.length + 0)).sum = (encs cs).length := by
      rw [List.map_reverse, List.sum_reverse]; exact this
    simp only [splitSpec_nil cs hcs, rsplitSpec_nil cs hcs, List.length_nil, List.map_cons,
      List.map_append, List.sum_cons, List.sum_append, List.map_nil, List.sum_nil, this, hr]
    omega
  · rw [splitSpec_of_ne s hne, rsplitSpec_of_ne s hne, splitAux_total d hne, rsplitAux_total d hne]
    exact ⟨Nat.le_add_right _ _, Nat.le_add_right _ _⟩

end Konst.Lemmas.Split
