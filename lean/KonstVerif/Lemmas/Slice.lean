import KonstVerif.Model.Slice
/-
  Closed forms of the slicing functions of `Model/Slice.lean` (the `overflowing_sub` guard read as
  `start ≤ len`), and views: what a view selects, its length, a view of a view, staying in bounds.
-/
namespace Konst.Lemmas.Slice
open Konst Konst.Slice

theorem eq_nil_or_snoc {α : Type} (l : List α) : l = [] ∨ ∃ l' a, l = l' ++ [a] := by
  rcases List.eq_nil_or_concat l with h | ⟨l', a, h⟩
  · exact Or.inl h
  · exact Or.inr ⟨l', a, by rw [h, List.concat_eq_append]⟩

theorem sliceFromImpl_eq (len start : Nat) :
    sliceFromImpl len start = if start ≤ len then some ⟨start, len - start⟩ else none := by
  unfold sliceFromImpl overflowingSub
  by_cases h : start ≤ len
  · rw [if_pos h, if_pos h]; rfl
  · rw [if_neg h, if_neg h]; rfl

theorem sliceUpToImpl_eq (slen len : Nat) :
    sliceUpToImpl slen len = if len ≤ slen then some ⟨0, len⟩ else none := by
  unfold sliceUpToImpl overflowingSub
  by_cases h : len ≤ slen
  · rw [if_pos h, if_pos h]; rfl
  · rw [if_neg h, if_neg h]; rfl

theorem sliceFrom_of_le {len x : Nat} (h : x ≤ len) : sliceFrom len x = ⟨x, len - x⟩ := by
  rw [sliceFrom, sliceFromImpl_eq, if_pos h]; rfl

theorem sliceFrom_of_gt {len x : Nat} (h : len < x) : sliceFrom len x = ⟨0, 0⟩ := by
  rw [sliceFrom, sliceFromImpl_eq, if_neg (Nat.not_le.mpr h)]; rfl

theorem sliceUpTo_of_le {len x : Nat} (h : x ≤ len) : sliceUpTo len x = ⟨0, x⟩ := by
  rw [sliceUpTo, sliceUpToImpl_eq, if_pos h]; rfl

theorem sliceUpTo_of_gt {len x : Nat} (h : len < x) : sliceUpTo len x = ⟨0, len⟩ := by
  rw [sliceUpTo, sliceUpToImpl_eq, if_neg (Nat.not_le.mpr h)]; rfl

theorem splitAt_of_le {len x : Nat} (h : x ≤ len) : splitAt len x = (⟨0, x⟩, ⟨x, len - x⟩) := by
  rw [splitAt, sliceUpTo_of_le h, sliceFrom_of_le h]

theorem getRange_eq (len a b : Nat) :
    getRange len a b = if a ≤ b ∧ b ≤ len then some ⟨a, b - a⟩ else none := by
  unfold getRange getUpTo getFrom
  rw [sliceUpToImpl_eq]
  by_cases hb : b ≤ len
  · rw [if_pos hb]
    dsimp only
    rw [sliceFromImpl_eq]
    by_cases ha : a ≤ b
    · rw [if_pos ha, if_pos ⟨ha, hb⟩, Option.map_some, View.comp, Nat.zero_add]
    · rw [if_neg ha, if_neg fun h => ha h.1]; rfl
  · rw [if_neg hb, if_neg fun h => hb h.2]

theorem sliceFrom_apply {α : Type} (l : List α) (i : Nat) : (sliceFrom l.length i).apply l = l.drop i := by
  by_cases h : i ≤ l.length
  · rw [sliceFrom_of_le h]
    exact List.take_of_length_le (by rw [List.length_drop]; exact Nat.le_refl _)
  · rw [sliceFrom_of_gt (Nat.lt_of_not_le h), List.drop_eq_nil_of_le (Nat.le_of_not_le h)]; rfl

theorem sliceUpTo_apply {α : Type} (l : List α) (n : Nat) : (sliceUpTo l.length n).apply l = l.take n := by
  by_cases h : n ≤ l.length
  · rw [sliceUpTo_of_le h]; rfl
  · rw [sliceUpTo_of_gt (Nat.lt_of_not_le h), List.take_of_length_le (Nat.le_of_not_le h)]
    exact List.take_of_length_le (Nat.le_refl _)

theorem sliceFrom_inBounds (n i : Nat) : (sliceFrom n i).InBounds n := by
  by_cases h : i ≤ n
  · rw [sliceFrom_of_le h]; exact Nat.le_of_eq (Nat.add_sub_cancel' h)
  · rw [sliceFrom_of_gt (Nat.lt_of_not_le h)]; exact Nat.zero_le n

theorem sliceUpTo_inBounds (n i : Nat) : (sliceUpTo n i).InBounds n := by
  by_cases h : i ≤ n
  · rw [sliceUpTo_of_le h]; exact Nat.le_trans (Nat.le_of_eq (Nat.zero_add i)) h
  · rw [sliceUpTo_of_gt (Nat.lt_of_not_le h)]; exact Nat.le_of_eq (Nat.zero_add n)

theorem sliceFromImpl_inBounds {len start : Nat} {v : View} (h : sliceFromImpl len start = some v) :
    v.InBounds len := by
  rw [sliceFromImpl_eq] at h
  split at h
  · cases h; exact Nat.le_of_eq (Nat.add_sub_cancel' ‹_›)
  · cases h

theorem sliceUpToImpl_inBounds {slen len : Nat} {v : View} (h : sliceUpToImpl slen len = some v) :
    v.InBounds slen := by
  rw [sliceUpToImpl_eq] at h
  split at h
  · cases h; exact Nat.le_trans (Nat.le_of_eq (Nat.zero_add len)) ‹_›
  · cases h

theorem whole_apply {α : Type} (s : List α) : (⟨0, s.length⟩ : View).apply s = s := by
  rw [View.apply, List.drop_zero, List.take_length]

theorem whole_inBounds (n : Nat) : (⟨0, n⟩ : View).InBounds n := Nat.le_of_eq (Nat.zero_add n)

theorem apply_length_le {α : Type} (v : View) (s : List α) : (v.apply s).length ≤ s.length := by
  rw [View.apply, List.length_take, List.length_drop]
  exact Nat.le_trans (Nat.min_le_right _ _) (Nat.sub_le _ _)

theorem apply_length {α : Type} {v : View} {s : List α} (h : v.InBounds s.length) : (v.apply s).length = v.len := by
  rw [View.apply, List.length_take, List.length_drop]
  exact Nat.min_eq_left (Nat.le_sub_of_add_le' h)

theorem comp_inBounds {v w : View} {n : Nat} (hv : v.InBounds n) (hw : w.InBounds v.len) :
    (v.comp w).InBounds n := by
  unfold View.InBounds at *
  show v.off + w.off + w.len ≤ n
  omega

theorem comp_apply {α : Type} (v w : View) (s : List α) (hw : w.InBounds v.len) :
    (v.comp w).apply s = w.apply (v.apply s) := by
  unfold View.comp View.apply
  unfold View.InBounds at hw
  simp only [List.drop_take, List.take_take, List.drop_drop]
  congr 1
  omega

end Konst.Lemmas.Slice
