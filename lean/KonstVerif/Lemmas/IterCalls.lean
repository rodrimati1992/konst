import KonstVerif.Lemmas.IterDsl
/-
  C10, closure calls: the emitted loop nest with its call log and its take guards (`feedKL`,
  Model/IterDsl) against
  (1) the loop nest without log and guards (`feedK`): the values are the same (erasure);
  (2) the event semantics of the std chain (Spec/IterDsl: `stdEvalE`, `consumeCalls`): forward chains
      directly (`runLoopKL_fwd`), chains with a reversing method through the normalised chain `fwd c d`
      (`runLoopKL_dir`, chains without `flatten`).
-/
namespace Konst.Iter.Lemmas
open Konst.Iter Konst.Iter.Spec

/-! ## the logged loop nest, one adapter at a time -/

/-- the closure of `a` is evaluated on the item (`skip_while`: only while its flag `c` is set) -/
def called : Ad → Cell → Bool
  | .filter _, _ => true
  | .filterMap _, _ => true
  | .flatMap _, _ => true
  | .map _, _ => true
  | .takeWhile _, _ => true
  | .skipWhile _, .flag s => s
  | _, _ => false

/-- the call adapter `a` (method `pos`) logs for item `x` -/
def logOf (pos : Nat) (a : Ad) (c : Cell) (x : Val) : Log := if called a c then [(pos, x)] else []

def outer (c : Cell) (pre : Log) (R : St × CAcc × Log × Bool) : St × CAcc × Log × Bool :=
  (c :: R.1, R.2.1, pre ++ R.2.2.1, R.2.2.2)

theorem feedKL_cons_nil (cons : Cons) (a : Ad) (r : List Ad) (pos : Nat) (d : Bool) (acc : CAcc) (x : Val) :
    feedKL cons (a :: r) pos d [] acc x = ([], acc, [], true) := by
  cases a <;> rfl

theorem feedKL_cons (cons : Cons) (a : Ad) (r : List Ad) (pos : Nat) (d : Bool) (c : Cell) (st : St)
    (acc : CAcc) (x : Val) :
    feedKL cons (a :: r) pos d (c :: st) acc x =
      match act a d c x with
      | .pass c' y => outer c' (logOf pos a c x) (feedKL cons r (pos + 1) (dirAfter a d) st acc y)
      | .halt c' b => (c' :: st, acc, logOf pos a c x, b)
      | .nest c' ys => outer c' (logOf pos a c x)
          (foldItemsKL (takeGuard r) (feedKL cons r (pos + 1) (dirAfter a d)) st acc ys) := by
  cases a with
  | copied => rfl
  | rev => rfl
  | map f => rfl
  | flatMap f => rfl
  | flatten => rfl
  | filter p => simp only [feedKL, act]; cases p x <;> rfl
  | takeWhile p => simp only [feedKL, act]; cases p x <;> rfl
  | filterMap f => simp only [feedKL, act]; cases f x <;> rfl
  | enumerate => cases c <;> rfl
  | skip n =>
    cases c with
    | nat k => cases k <;> rfl
    | _ => rfl
  | take n =>
    cases c with
    | nat k => cases k <;> rfl
    | _ => rfl
  | skipWhile p =>
    cases c with
    | flag s => simp only [feedKL, act]; cases s <;> cases p x <;> rfl
    | _ => rfl
  | zip l =>
    cases c with
    | lst l0 => simp only [feedKL, act]; cases pop d l0 <;> rfl
    | _ => rfl

def cellGuard : Ad → Cell → Bool
  | .take _, .nat k => k == 0
  | _, _ => false

theorem takeGuard_cons (a : Ad) (r : List Ad) (c : Cell) (st : St) :
    takeGuard (a :: r) (c :: st) = (cellGuard a c || takeGuard r st) := by
  cases a <;> first | rfl | (cases c <;> rfl)

theorem takeGuard_cons_of_tail (ad : Ad) (k : Cell) {r : List Ad} {s : St} (h : takeGuard r s = true) :
    takeGuard (ad :: r) (k :: s) = true := by
  rw [takeGuard_cons, h, Bool.or_true]

theorem act_of_cellGuard {a : Ad} {c : Cell} (h : cellGuard a c = true) (d : Bool) (x : Val) :
    act a d c x = .halt c true := by
  cases a with
  | take n =>
    cases c with
    | nat k =>
      obtain rfl : k = 0 := by simpa [cellGuard] using h
      rfl
    | _ => exact Bool.noConfusion h
  | _ => exact Bool.noConfusion h

/-! ## erasure: the logged, guarded loop nest computes the values of the plain one

`feedK` has neither the log nor the take guards at the loop tops: where `feedKL` leaves the nest
at a guard, `feedK` goes on pulling items, but a `take` whose counter is 0 stays at 0 and lets
nothing through, so the consumer's variables never change again (`feedK_guard`). -/

def Kept (c : List Ad) (a : CAcc) (res : St × CAcc × Bool) : Prop :=
  res.2.1 = a ∧ takeGuard c res.1 = true

theorem kept_onSt {r : List Ad} {a : CAcc} (ad : Ad) (k' : Cell) {res : St × CAcc × Bool}
    (h : Kept r a res) : Kept (ad :: r) a (onSt (k' :: ·) res) :=
  ⟨h.1, takeGuard_cons_of_tail ad k' h.2⟩

theorem foldItemsK_guard (G : St → Prop) (step : St → CAcc → Val → St × CAcc × Bool)
    (h : ∀ st a x, G st → (step st a x).2.1 = a ∧ G (step st a x).1) :
    ∀ ys st a, G st → (foldItemsK step st a ys).2.1 = a ∧ G (foldItemsK step st a ys).1 := by
  intro ys
  induction ys with
  | nil => intro st a hg; exact ⟨rfl, hg⟩
  | cons y ys ih =>
    intro st a hg
    simp only [foldItemsK]
    obtain ⟨h1, h2⟩ := h st a y hg
    rcases hs : step st a y with ⟨s1, a1, b1⟩
    rw [hs] at h1 h2
    simp only at h1 h2
    subst h1
    cases b1 with
    | true => exact ⟨rfl, h2⟩
    | false => exact ih s1 a1 h2

theorem feedK_guard (cons : Cons) : ∀ (c : List Ad) (d : Bool) (st : St) (a : CAcc) (x : Val),
    takeGuard c st = true → Kept c a (feedK cons c d st a x) := by
  intro c
  induction c with
  | nil => intro d st a x h; exact Bool.noConfusion h
  | cons ad r ih =>
    intro d st a x h
    cases st with
    | nil => exact Bool.noConfusion h
    | cons k st =>
      rw [feedK_cons]
      rw [takeGuard_cons, Bool.or_eq_true] at h
      rcases h with h | h
      · rw [act_of_cellGuard h]
        exact ⟨rfl, by rw [takeGuard_cons, h]; rfl⟩
      · cases act ad d k x with
        | pass c' y => exact kept_onSt ad c' (ih _ st a y h)
        | halt c' b => exact ⟨rfl, takeGuard_cons_of_tail ad c' h⟩
        | nest c' ys =>
          exact kept_onSt ad c' (foldItemsK_guard (fun s => takeGuard r s = true) _ (fun s a' y => ih _ s a' y) ys st a h)

theorem runLoopK_guard (c : List Ad) (d : Bool) (cons : Cons) :
    ∀ (xs : List Val) (st : St) (a : CAcc), takeGuard c st = true → runLoopK c d cons st a xs = a := by
  intro xs
  induction xs with
  | nil => intro st a _; rfl
  | cons x xs ih =>
    intro st a h
    simp only [runLoopK]
    obtain ⟨h1, h2⟩ := feedK_guard cons c d st a x h
    rcases hs : feedK cons c d st a x with ⟨s1, a1, b1⟩
    rw [hs] at h1 h2
    simp only at h1 h2
    subst h1
    cases b1 with
    | true => rfl
    | false => exact ih s1 a1 h2

/-- the guarded/logged result against the plain one: same accumulator; if the guarded nest goes on,
    so does the plain one, in the same state; if it leaves the nest, the plain one does too or is
    stuck behind a `take` at 0 -/
def Sim (c : List Ad) (rl : St × CAcc × Log × Bool) (rk : St × CAcc × Bool) : Prop :=
  rl.2.1 = rk.2.1 ∧ (rl.2.2.2 = false → rk.2.2 = false ∧ rl.1 = rk.1) ∧
    (rl.2.2.2 = true → rk.2.2 = true ∨ takeGuard c rk.1 = true)

theorem sim_same (c : List Ad) (s : St) (a : CAcc) (l : Log) (b : Bool) : Sim c (s, a, l, b) (s, a, b) :=
  ⟨rfl, fun h => ⟨h, rfl⟩, fun h => Or.inl h⟩

theorem sim_outer {r : List Ad} (ad : Ad) (k' : Cell) (pre : Log)
    {rl : St × CAcc × Log × Bool} {rk : St × CAcc × Bool} (h : Sim r rl rk) :
    Sim (ad :: r) (outer k' pre rl) (onSt (k' :: ·) rk) :=
  ⟨h.1, fun hb => ⟨(h.2.1 hb).1, congrArg (k' :: ·) (h.2.1 hb).2⟩,
    fun hb => (h.2.2 hb).imp id (takeGuard_cons_of_tail ad k')⟩

theorem foldItemsKL_sim (r : List Ad) (stepL : St → CAcc → Val → St × CAcc × Log × Bool)
    (step : St → CAcc → Val → St × CAcc × Bool)
    (hs : ∀ st a x, Sim r (stepL st a x) (step st a x))
    (hz : ∀ st a x, takeGuard r st = true → (step st a x).2.1 = a ∧ takeGuard r (step st a x).1 = true) :
    ∀ ys st a, Sim r (foldItemsKL (takeGuard r) stepL st a ys) (foldItemsK step st a ys) := by
  intro ys
  induction ys with
  | nil =>
    intro st a
    simp only [foldItemsKL, foldItemsK]
    by_cases hg : takeGuard r st = true
    · simp only [hg, if_true]; exact ⟨rfl, fun h => by simp at h, fun _ => Or.inr hg⟩
    · simp only [hg, if_false, Bool.false_eq_true]; exact sim_same r st a [] false
  | cons y ys ih =>
    intro st a
    by_cases hg : takeGuard r st = true
    · simp only [foldItemsKL, hg, if_true]
      obtain ⟨e1, e2⟩ := foldItemsK_guard (fun s => takeGuard r s = true) step hz (y :: ys) st a hg
      exact ⟨e1.symm, fun h => by simp at h, fun _ => Or.inr e2⟩
    · simp only [foldItemsKL, foldItemsK, hg, if_false, Bool.false_eq_true]
      have h := hs st a y
      rcases hl : stepL st a y with ⟨s1, a1, l1, b1⟩
      rcases hk : step st a y with ⟨s2, a2, b2⟩
      rw [hl, hk] at h
      obtain ⟨h1, h2, h3⟩ := h
      simp only at h1 h2 h3
      subst h1
      cases b1 with
      | true =>
        cases b2 with
        | true => exact ⟨rfl, fun h => by simp at h, fun _ => Or.inl rfl⟩
        | false =>
          have hg2 : takeGuard r s2 = true := by
            rcases h3 rfl with e | e
            · simp at e
            · exact e
          obtain ⟨e1, e2⟩ := foldItemsK_guard (fun s => takeGuard r s = true) step hz ys s2 a1 hg2
          exact ⟨e1.symm, fun h => by simp at h, fun _ => Or.inr e2⟩
      | false =>
        obtain ⟨e1, e2⟩ := h2 rfl
        subst e1
        subst e2
        have := ih s1 a1
        rcases foldItemsKL (takeGuard r) stepL s1 a1 ys with ⟨s3, a3, l3, b3⟩
        exact this

theorem feedKL_sim (cons : Cons) : ∀ (c : List Ad) (pos : Nat) (d : Bool) (st : St) (a : CAcc) (x : Val),
    Sim c (feedKL cons c pos d st a x) (feedK cons c d st a x) := by
  intro c
  induction c with
  | nil =>
    intro pos d st a x
    simp only [feedKL, feedK]
    exact sim_same [] _ _ _ _
  | cons ad r ih =>
    intro pos d st a x
    cases st with
    | nil => rw [feedKL_cons_nil, feedK_cons_nil]; exact sim_same _ _ _ _ _
    | cons k st =>
      rw [feedKL_cons, feedK_cons]
      cases act ad d k x with
      | pass c' y => exact sim_outer ad c' _ (ih _ _ st a y)
      | halt c' b => exact sim_same _ _ _ _ _
      | nest c' ys =>
        exact sim_outer ad c' _ (foldItemsKL_sim r _ _ (ih _ _) (fun s a' y => feedK_guard cons r _ s a' y) ys st a)

theorem runLoopKL_erase (c : List Ad) (d : Bool) (cons : Cons) :
    ∀ (xs : List Val) (st : St) (a : CAcc), (runLoopKL c d cons st a xs).1 = runLoopK c d cons st a xs := by
  intro xs
  induction xs with
  | nil => intro st a; rfl
  | cons x xs ih =>
    intro st a
    by_cases hg : takeGuard c st = true
    · simp only [runLoopKL, hg, if_true]
      exact (runLoopK_guard c d cons (x :: xs) st a hg).symm
    · simp only [runLoopKL, runLoopK, hg, if_false, Bool.false_eq_true]
      have h := feedKL_sim cons c 0 d st a x
      rcases hl : feedKL cons c 0 d st a x with ⟨s1, a1, l1, b1⟩
      rcases hk : feedK cons c d st a x with ⟨s2, a2, b2⟩
      rw [hl, hk] at h
      obtain ⟨h1, h2, h3⟩ := h
      simp only at h1 h2 h3
      subst h1
      cases b1 with
      | true =>
        cases b2 with
        | true => rfl
        | false =>
          have hg2 : takeGuard c s2 = true := by
            rcases h3 rfl with e | e
            · simp at e
            · exact e
          exact (runLoopK_guard c d cons xs s2 a1 hg2).symm
      | false =>
        obtain ⟨e1, e2⟩ := h2 rfl
        subst e1
        subst e2
        simp only
        rw [← ih s1 a1]

theorem konstEvalL_fst (c : List Ad) (cons : Cons) (src : List Val) :
    (konstEvalL c cons src).1 = konstEvalK c cons src := by
  unfold konstEvalL konstEvalK
  simp only []
  rw [← runLoopKL_erase]


/-! ## forward fusion of the calls

For a rev-free chain driven by `next`, the calls made while one source item is pushed through the
guarded loop nest are exactly the next stretch of the calls that happen when the std chain
(Spec/IterDsl: `stdEvalE`, lazy `takeE`) is driven by the consumer; and when a guard leaves the nest,
the std chain has nothing more to say either (a `take` at 0 answers `None` without asking). -/

/-- event semantics of adapter `a` (method `pos`) whose hoisted variable currently holds `c` -/
def applyCellE (pos : Nat) : Ad → Cell → List Ev → List Ev
  | .enumerate, .nat i, e => enumE i e
  | .skip _, .nat k, e => skipE k e
  | .take _, .nat k, e => takeE k e
  | .skipWhile p, .flag s, e => skipWhileE pos p s e
  | .zip _, .lst l, e => zipE l e
  | a, _, e => applyAdE pos a e

def stdEvalStE : Nat → List Ad → St → List Ev → List Ev
  | _, [], _, e => e
  | pos, a :: r, [], e => stdEvalStE (pos + 1) r [] (applyAdE pos a e)
  | pos, a :: r, c :: st, e => stdEvalStE (pos + 1) r st (applyCellE pos a c e)

theorem applyCellE_init (pos : Nat) (a : Ad) (E : List Ev) : applyCellE pos a (initCell a) E = applyAdE pos a E := by
  cases a <;> rfl

theorem stdEvalStE_init : ∀ (c : List Ad) (pos : Nat) (E : List Ev),
    stdEvalStE pos c (initSt c) E = stdEvalE pos c E := by
  intro c
  induction c with
  | nil => intro pos E; rfl
  | cons a r ih => intro pos E; rw [initSt_cons]; simp only [stdEvalStE, stdEvalE, applyCellE_init, ih]

theorem skipE_call (k : Nat) (c : Call) (r : List Ev) : skipE k (.call c :: r) = .call c :: skipE k r := by
  cases k <;> rfl
theorem zipE_call (l : List Val) (c : Call) (r : List Ev) : zipE l (.call c :: r) = .call c :: zipE l r := by
  cases l <;> rfl
theorem skipWhileE_call (pos : Nat) (p : Val → Bool) (s : Bool) (c : Call) (r : List Ev) :
    skipWhileE pos p s (.call c :: r) = .call c :: skipWhileE pos p s r := by cases s <;> rfl
theorem takeE_nil (k : Nat) : takeE k [] = [] := by cases k <;> rfl
theorem skipE_nil (k : Nat) : skipE k [] = [] := by cases k <;> rfl
theorem zipE_nil (l : List Val) : zipE l [] = [] := by cases l <;> rfl
theorem skipWhileE_nil (pos : Nat) (p : Val → Bool) (s : Bool) : skipWhileE pos p s [] = [] := by cases s <;> rfl

/-- calls pass through every adapter — except a `take` that has nothing left to take -/
theorem applyCellE_call {a : Ad} {k : Cell} (hk : CellOK a k) (hg : cellGuard a k = false) (pos : Nat)
    (c : Call) (e : List Ev) :
    applyCellE pos a k (.call c :: e) = .call c :: applyCellE pos a k e := by
  cases a with
  | take n =>
    obtain ⟨i, rfl⟩ := hk
    cases i with
    | zero => exact Bool.noConfusion hg
    | succ j => rfl
  | enumerate => obtain ⟨i, rfl⟩ := hk; rfl
  | skip n => obtain ⟨i, rfl⟩ := hk; exact skipE_call _ _ _
  | skipWhile p => obtain ⟨s, rfl⟩ := hk; exact skipWhileE_call _ _ _ _ _
  | zip l => obtain ⟨l', rfl⟩ := hk; exact zipE_call _ _ _
  | _ => rfl

theorem applyCellE_cons {a : Ad} {c : Cell} (hk : CellOK a c) (pos : Nat) (x : Val) (E : List Ev) :
    applyCellE pos a c (.item x :: E) = (logOf pos a c x).map .call ++
      match act a false c x with
      | .pass c' y => .item y :: applyCellE pos a c' E
      | .halt c' b => if b then [] else applyCellE pos a c' E
      | .nest c' ys => ys.map .item ++ applyCellE pos a c' E := by
  cases a with
  | copied => rfl
  | rev => rfl
  | map f => rfl
  | flatMap f => rfl
  | flatten => rfl
  | filter p => simp only [applyCellE, applyAdE, filterE, act, logOf, called]; cases p x <;> rfl
  | takeWhile p => simp only [applyCellE, applyAdE, takeWhileE, act, logOf, called]; cases p x <;> rfl
  | filterMap f => simp only [applyCellE, applyAdE, filterMapE, act, logOf, called]; cases f x <;> rfl
  | enumerate => obtain ⟨i, rfl⟩ := hk; rfl
  | skip n => obtain ⟨i, rfl⟩ := hk; cases i <;> rfl
  | take n => obtain ⟨i, rfl⟩ := hk; cases i <;> rfl
  | skipWhile p =>
    obtain ⟨s, rfl⟩ := hk
    cases s with
    | false => rfl
    | true => simp only [applyCellE, skipWhileE, act, logOf, called]; cases p x <;> rfl
  | zip l => obtain ⟨l', rfl⟩ := hk; cases l' <;> rfl

theorem applyAdE_nil (pos : Nat) (a : Ad) : applyAdE pos a [] = [] := by
  cases a <;> simp [applyAdE, mapE, filterE, filterMapE, flatMapE, flattenE, enumE, skipE_nil,
    takeE_nil, takeWhileE, skipWhileE_nil, zipE_nil]

theorem applyCellE_nil (pos : Nat) (a : Ad) (k : Cell) : applyCellE pos a k [] = [] := by
  cases a <;> cases k <;> simp [applyCellE, applyAdE_nil, enumE, skipE_nil, takeE_nil,
    skipWhileE_nil, zipE_nil]

theorem stdEvalStE_nil : ∀ (c : List Ad) (pos : Nat) (st : St), stdEvalStE pos c st [] = [] := by
  intro c; induction c with
  | nil => intro pos st; rfl
  | cons a r ih =>
    intro pos st
    cases st with
    | nil => simp [stdEvalStE, applyAdE_nil, ih]
    | cons k st => simp [stdEvalStE, applyCellE_nil, ih]

theorem stdEvalStE_call : ∀ (c : List Ad) (pos : Nat) (st : St) (e : Call) (E : List Ev),
    WF c st → takeGuard c st = false →
    stdEvalStE pos c st (.call e :: E) = .call e :: stdEvalStE pos c st E := by
  intro c
  induction c with
  | nil => intro pos st e E _ _; rfl
  | cons a r ih =>
    intro pos st e E hw hg
    cases st with
    | nil => exact hw.elim
    | cons k st =>
      obtain ⟨hk, hwr⟩ := wf_cons.1 hw
      rw [takeGuard_cons, Bool.or_eq_false_iff] at hg
      simp only [stdEvalStE, applyCellE_call hk hg.1, ih _ _ _ _ hwr hg.2]

theorem stdEvalStE_calls (c : List Ad) (pos : Nat) (st : St) (hw : WF c st) (hg : takeGuard c st = false) :
    ∀ (pre : Log) (E : List Ev),
    stdEvalStE pos c st (pre.map .call ++ E) = pre.map .call ++ stdEvalStE pos c st E := by
  intro pre
  induction pre with
  | nil => intro E; rfl
  | cons e pre ih => intro E; simp only [List.map_cons, List.cons_append, stdEvalStE_call c pos st _ _ hw hg, ih]

theorem applyCellE_of_cellGuard {a : Ad} {k : Cell} (h : cellGuard a k = true) (pos : Nat) (E : List Ev) :
    applyCellE pos a k E = [] := by
  cases a with
  | take n =>
    cases k with
    | nat i =>
      obtain rfl : i = 0 := by simpa [cellGuard] using h
      simp only [applyCellE, takeE]
    | _ => exact Bool.noConfusion h
  | _ => exact Bool.noConfusion h

theorem stdEvalStE_guard : ∀ (c : List Ad) (pos : Nat) (st : St) (E : List Ev),
    takeGuard c st = true → stdEvalStE pos c st E = [] := by
  intro c
  induction c with
  | nil => intro pos st E h; exact Bool.noConfusion h
  | cons a r ih =>
    intro pos st E h
    cases st with
    | nil => exact Bool.noConfusion h
    | cons k st =>
      rw [takeGuard_cons, Bool.or_eq_true] at h
      rcases h with h | h
      · simp only [stdEvalStE, applyCellE_of_cellGuard h, stdEvalStE_nil]
      · exact ih _ _ _ h

theorem consumeCalls_call (P : Nat) (c : Cons) (e : Call) (E : List Ev) :
    consumeCalls P c (.call e :: E) = e :: consumeCalls P c E := by
  cases c <;> simp [consumeCalls]

theorem consumeCalls_calls (P : Nat) (c : Cons) : ∀ (pre : Log) (E : List Ev),
    consumeCalls P c (pre.map .call ++ E) = pre ++ consumeCalls P c E := by
  intro pre; induction pre with
  | nil => intro E; rfl
  | cons e pre ih => intro E; simp [consumeCalls_call, ih]

theorem consumeCalls_nil (P : Nat) (c : Cons) : consumeCalls P c [] = [] := by
  cases c <;> simp [consumeCalls]

/-- the consumer that remains to be run when the consumer's variables hold `a`:
    `fold` continues from the accumulated value, `nth` from its countdown -/
def resid : Cons → CAcc → Cons
  | .fold i f, a => (match a.ret with | .val acc => .fold acc f | _ => .fold i f)
  | .rfold i f, a => (match a.ret with | .val acc => .rfold acc f | _ => .rfold i f)
  | .nth _, a => .nth a.k
  | c, _ => c

def CWF : Cons → CAcc → Prop
  | .fold _ _, a => ∃ acc, a.ret = .val acc
  | .rfold _ _, a => ∃ acc, a.ret = .val acc
  | _, _ => True

theorem cwf_init (c : Cons) : CWF c (consInit c) := by
  cases c <;> simp [CWF, consInit]

theorem resid_init (c : Cons) : resid c (consInit c) = c := by
  cases c <;> simp [resid, consInit]

theorem consStep_calls (P : Nat) (cons : Cons) (a : CAcc) (x : Val) (hw : CWF cons a) :
    CWF cons (consStep cons a x).1 ∧ ∀ E, consumeCalls P (resid cons a) (.item x :: E) =
      consCall P cons a x ++ (if (consStep cons a x).2 then [] else consumeCalls P (resid cons (consStep cons a x).1) E) := by
  cases cons with
  | forEach => exact ⟨trivial, fun E => rfl⟩
  | collect => exact ⟨trivial, fun E => rfl⟩
  | count => exact ⟨trivial, fun E => rfl⟩
  | next => exact ⟨trivial, fun E => rfl⟩
  | all p => refine ⟨trivial, fun E => ?_⟩; by_cases hp : p x = true <;> simp [resid, consumeCalls, consCall, consStep, hp]
  | any p => refine ⟨trivial, fun E => ?_⟩; by_cases hp : p x = true <;> simp [resid, consumeCalls, consCall, consStep, hp]
  | find p => refine ⟨trivial, fun E => ?_⟩; by_cases hp : p x = true <;> simp [resid, consumeCalls, consCall, consStep, hp]
  | rfind p => refine ⟨trivial, fun E => ?_⟩; by_cases hp : p x = true <;> simp [resid, consumeCalls, consCall, consStep, hp]
  | position p => refine ⟨trivial, fun E => ?_⟩; by_cases hp : p x = true <;> simp [resid, consumeCalls, consCall, consStep, hp]
  | rposition p => refine ⟨trivial, fun E => ?_⟩; by_cases hp : p x = true <;> simp [resid, consumeCalls, consCall, consStep, hp]
  | findMap f => refine ⟨trivial, fun E => ?_⟩; cases hf : f x <;> simp [resid, consumeCalls, consCall, consStep, hf]
  | fold i f =>
    obtain ⟨acc, hacc⟩ := hw
    simp only [consStep, resid, consCall, hacc]
    exact ⟨⟨_, rfl⟩, fun E => rfl⟩
  | rfold i f =>
    obtain ⟨acc, hacc⟩ := hw
    simp only [consStep, resid, consCall, hacc]
    exact ⟨⟨_, rfl⟩, fun E => rfl⟩
  | nth n =>
    refine ⟨trivial, fun E => ?_⟩
    simp only [resid, consCall, consStep]
    by_cases hk : a.k = 0
    · simp [hk, consumeCalls]
    · obtain ⟨j, hj⟩ : ∃ j, a.k = j + 1 := ⟨a.k - 1, by omega⟩
      simp [hj, consumeCalls]
/-- the calls `R` reports are those of the consumer (method `P`) driving the residual chain over the
    events `I`; the rest of the stream goes on from the state and the consumer variables of `R` -/
def LOK (cons : Cons) (c : List Ad) (pos P : Nat) (st : St) (a : CAcc) (I : List Ev)
    (R : St × CAcc × Log × Bool) : Prop :=
  WF c R.1 ∧ CWF cons R.2.1 ∧ ∀ E, consumeCalls P (resid cons a) (stdEvalStE pos c st (I ++ E)) =
    R.2.2.1 ++ (if R.2.2.2 then [] else consumeCalls P (resid cons R.2.1) (stdEvalStE pos c R.1 E))

/-- one pushed item against the event semantics of the residual chain; `P` = the consumer's position -/
def StepLOK (cons : Cons) (c : List Ad) (pos P : Nat) : Prop :=
  ∀ st a x, WF c st → takeGuard c st = false → CWF cons a →
    LOK cons c pos P st a [.item x] (feedKL cons c pos false st a x)

theorem manyL_of_step (cons : Cons) (c : List Ad) (pos P : Nat) (h : StepLOK cons c pos P) :
    ∀ ys st a, WF c st → CWF cons a →
      LOK cons c pos P st a (ys.map .item)
        (foldItemsKL (takeGuard c) (feedKL cons c pos false) st a ys) := by
  have stop : ∀ st a I, WF c st → CWF cons a → takeGuard c st = true → LOK cons c pos P st a I (st, a, [], true) :=
    fun st a I hw hc hg => ⟨hw, hc, fun E => by rw [stdEvalStE_guard c pos st _ hg, consumeCalls_nil]; rfl⟩
  intro ys
  induction ys with
  | nil =>
    intro st a hw hc
    simp only [foldItemsKL]
    cases hg : takeGuard c st with
    | true => exact stop st a _ hw hc hg
    | false => exact ⟨hw, hc, fun E => rfl⟩
  | cons y ys ih =>
    intro st a hw hc
    simp only [foldItemsKL]
    cases hg : takeGuard c st with
    | true => exact stop st a _ hw hc hg
    | false =>
      obtain ⟨hw1, hc1, h1⟩ := h st a y hw hg hc
      simp only [Bool.false_eq_true, if_false]
      generalize feedKL cons c pos false st a y = R at hw1 hc1 h1 ⊢
      obtain ⟨s1, a1, l1, b1⟩ := R
      cases b1 with
      | true => exact ⟨hw1, hc1, fun E => h1 _⟩
      | false =>
        obtain ⟨hw2, hc2, h2⟩ := ih s1 a1 hw1 hc1
        refine ⟨hw2, hc2, fun E => ?_⟩
        have e1 := h1 (ys.map .item ++ E)
        simp only [Bool.false_eq_true, if_false] at e1
        simp only [List.map_cons, List.cons_append]
        rw [show Ev.item y :: (ys.map Ev.item ++ E) = [Ev.item y] ++ (ys.map Ev.item ++ E) from rfl, e1, h2 E,
          List.append_assoc]

theorem lok_outer {cons : Cons} {r : List Ad} {pos P : Nat} {ad : Ad} {k k' : Cell} {st : St} {a : CAcc}
    {I I' : List Ev} {R : St × CAcc × Log × Bool} (pre : Log)
    (hk : CellOK ad k') (hw : WF r st) (hg : takeGuard r st = false)
    (ih : LOK cons r (pos + 1) P st a I' R)
    (hcell : ∀ E, applyCellE pos ad k (I ++ E) = pre.map .call ++ (I' ++ applyCellE pos ad k' E)) :
    LOK cons (ad :: r) pos P (k :: st) a I (outer k' pre R) := by
  refine ⟨wf_cons.2 ⟨hk, ih.1⟩, ih.2.1, fun E => ?_⟩
  simp only [stdEvalStE, outer]
  rw [hcell, stdEvalStE_calls r (pos + 1) st hw hg, consumeCalls_calls, ih.2.2, List.append_assoc]

theorem lok_halt {cons : Cons} {r : List Ad} {pos P : Nat} {ad : Ad} {k k' : Cell} {st : St} {a : CAcc}
    {I : List Ev} (pre : Log) (b : Bool)
    (hk : CellOK ad k') (hw : WF r st) (hg : takeGuard r st = false) (hc : CWF cons a)
    (hcell : ∀ E, applyCellE pos ad k (I ++ E) = pre.map .call ++ if b then [] else applyCellE pos ad k' E) :
    LOK cons (ad :: r) pos P (k :: st) a I (k' :: st, a, pre, b) := by
  refine ⟨wf_cons.2 ⟨hk, hw⟩, hc, fun E => ?_⟩
  simp only [stdEvalStE]
  rw [hcell, stdEvalStE_calls r (pos + 1) st hw hg, consumeCalls_calls]
  cases b with
  | false => rfl
  | true => simp only [if_true, stdEvalStE_nil, consumeCalls_nil]

theorem stepLOK (cons : Cons) : ∀ c, NoRev c → ∀ pos P, P = pos + c.length → StepLOK cons c pos P := by
  intro c
  induction c with
  | nil =>
    intro _ pos P hP st a x hw _ hc
    obtain rfl : P = pos := hP
    obtain ⟨hc1, h1⟩ := consStep_calls P cons a x hc
    exact ⟨hw, hc1, h1⟩
  | cons ad r ih =>
    intro hnr pos P hP st a x hw hg hc
    obtain ⟨har, hnr'⟩ := noRev_cons.1 hnr
    have ih' := ih hnr' (pos + 1) P (by rw [hP, List.length_cons]; omega)
    cases st with
    | nil => exact hw.elim
    | cons k st =>
      obtain ⟨hk, hwr⟩ := wf_cons.1 hw
      rw [takeGuard_cons, Bool.or_eq_false_iff] at hg
      have hk' := cellOK_act hk false x
      have hcell := applyCellE_cons hk pos x
      rw [feedKL_cons, dirAfter_of_ne_rev har]
      generalize act ad false k x = A at hk' hcell
      cases A with
      | pass c' y => exact lok_outer _ hk' hwr hg.2 (ih' st a y hwr hg.2 hc) hcell
      | halt c' b => exact lok_halt _ b hk' hwr hg.2 hc hcell
      | nest c' ys => exact lok_outer _ hk' hwr hg.2 (manyL_of_step cons r _ P ih' ys st a hwr hc) hcell

theorem runLoopKL_fwd (c : List Ad) (hnr : NoRev c) (cons : Cons) :
    ∀ (xs : List Val) (st : St) (a : CAcc), WF c st → CWF cons a →
      (runLoopKL c false cons st a xs).2 =
        consumeCalls c.length (resid cons a) (stdEvalStE 0 c st (xs.map .item)) := by
  intro xs
  induction xs with
  | nil => intro st a _ _; rw [List.map_nil, stdEvalStE_nil, consumeCalls_nil]; rfl
  | cons x xs ih =>
    intro st a hw hc
    simp only [runLoopKL]
    cases hg : takeGuard c st with
    | true => rw [stdEvalStE_guard c 0 st _ hg, consumeCalls_nil]; rfl
    | false =>
      obtain ⟨hw1, hc1, h1⟩ := stepLOK cons c hnr 0 c.length (Nat.zero_add _).symm st a x hw hg hc
      simp only [Bool.false_eq_true, if_false]
      generalize feedKL cons c 0 false st a x = R at hw1 hc1 h1 ⊢
      obtain ⟨s1, a1, l1, b1⟩ := R
      rw [List.map_cons, show Ev.item x :: xs.map Ev.item = [Ev.item x] ++ xs.map Ev.item from rfl, h1]
      cases b1 with
      | true => simp
      | false => simp only [Bool.false_eq_true, if_false, ih s1 a1 hw1 hc1]

/-! ## the direction token: the logged loop nest under direction `d` is the forward logged
    loop nest of the normalised chain `fwd c d` (same method positions) on mirrored zip states -/

theorem foldItemsKL_onSt (g : St → St) (stop1 stop2 : St → Bool) (hstop : ∀ st, stop2 (g st) = stop1 st)
    (s1 s2 : St → CAcc → Val → St × CAcc × Log × Bool)
    (h : ∀ st a x, s2 (g st) a x = onSt g (s1 st a x)) :
    ∀ ys st a, foldItemsKL stop2 s2 (g st) a ys = onSt g (foldItemsKL stop1 s1 st a ys) := by
  intro ys
  induction ys with
  | nil => intro st a; simp only [foldItemsKL, hstop]; cases stop1 st <;> rfl
  | cons y ys ih =>
    intro st a
    simp only [foldItemsKL, hstop]
    cases stop1 st with
    | true => rfl
    | false =>
      simp only [Bool.false_eq_true, if_false]
      rw [h st a y]
      rcases s1 st a y with ⟨s', a', l, b⟩
      cases b with
      | true => rfl
      | false => simp only [onSt, ih s' a']

/-- `fwd` turns `flatten` into a `flat_map` (whose closure would be a logged call): chains with
    `flatten` are outside this part -/
def noFlatten : List Ad → Bool
  | [] => true
  | .flatten :: _ => false
  | _ :: r => noFlatten r

theorem noFlatten_cons {a : Ad} {r : List Ad} : noFlatten (a :: r) = true ↔ a ≠ .flatten ∧ noFlatten r = true := by
  cases a <;> simp [noFlatten]

theorem cellGuard_fwd (a : Ad) (d : Bool) (c : Cell) : cellGuard (fwdAd a d) (fwdCell a d c) = cellGuard a c := by
  cases a <;> first | rfl | (cases c <;> rfl)

theorem takeGuard_fwd : ∀ (c : List Ad) (d : Bool) (st : St),
    takeGuard (fwd c d) (fwdSt c d st) = takeGuard c st := by
  intro c
  induction c with
  | nil => intro d st; rfl
  | cons a r ih =>
    intro d st
    rw [fwd_cons]
    cases st with
    | nil => rfl
    | cons k st =>
      show takeGuard (fwdAd a d :: fwd r (dirAfter a d)) (fwdCell a d k :: fwdSt r (dirAfter a d) st) = _
      rw [takeGuard_cons, takeGuard_cons, cellGuard_fwd, ih]

/-- `flatten` logs nothing, the `flat_map` that `fwd` puts in its place would -/
theorem logOf_fwd {a : Ad} (h : a ≠ .flatten) (pos : Nat) (d : Bool) (c : Cell) (x : Val) :
    logOf pos (fwdAd a d) (fwdCell a d c) x = logOf pos a c x := by
  cases a <;> first | rfl | exact absurd rfl h | (cases c <;> rfl)

theorem feedKL_fwd (cons : Cons) : ∀ (c : List Ad), noFlatten c = true →
    ∀ (pos : Nat) (d : Bool) (st : St) (a : CAcc) (x : Val),
    feedKL cons (fwd c d) pos false (fwdSt c d st) a x = onSt (fwdSt c d) (feedKL cons c pos d st a x) := by
  intro c
  induction c with
  | nil => intro _ pos d st a x; rfl
  | cons ad r ih =>
    intro hnf pos d st a x
    obtain ⟨hf, hnf'⟩ := noFlatten_cons.1 hnf
    rw [fwd_cons]
    cases st with
    | nil => rw [feedKL_cons_nil]; exact feedKL_cons_nil _ _ _ _ _ _ _
    | cons k st =>
      show feedKL cons (fwdAd ad d :: fwd r (dirAfter ad d)) pos false
        (fwdCell ad d k :: fwdSt r (dirAfter ad d) st) a x = _
      rw [feedKL_cons, feedKL_cons, dirAfter_fwdAd, act_fwd, logOf_fwd hf]
      cases act ad d k x with
      | pass c' y => exact congrArg (outer (fwdCell ad d c') _) (ih hnf' _ _ st a y)
      | halt c' b => rfl
      | nest c' ys =>
        exact congrArg (outer (fwdCell ad d c') _)
          (foldItemsKL_onSt _ _ _ (takeGuard_fwd r _) _ _ (ih hnf' _ _) ys st a)

theorem runLoopKL_dir (c : List Ad) (hnf : noFlatten c = true) (d : Bool) (cons : Cons) :
    ∀ (xs : List Val) (st : St) (a : CAcc),
      runLoopKL c d cons st a xs = runLoopKL (fwd c d) false cons (fwdSt c d st) a xs := by
  intro xs
  induction xs with
  | nil => intro st a; rfl
  | cons x xs ih =>
    intro st a
    simp only [runLoopKL, feedKL_fwd cons c hnf, takeGuard_fwd]
    cases takeGuard c st with
    | true => rfl
    | false =>
      simp only [Bool.false_eq_true, if_false]
      rcases feedKL cons c 0 d st a x with ⟨s1, a1, l1, b1⟩
      simp only [onSt]
      cases b1 with
      | true => rfl
      | false => simp only [ih s1 a1]

end Konst.Iter.Lemmas
