import KonstVerif.Model.Chars
import KonstVerif.Spec.Chars
import KonstVerif.Lemmas.Utf8
import KonstVerif.Lemmas.Slice
import KonstVerif.Lemmas.DequeInv
/-
  One-step facts of `Chars` / `CharIndices` (and their reversed twins) on valid strings, packaged as
  `Deque.Refines` (Lemmas/DequeInv.lean), from which C07 gets every front/back history.
-/
namespace Konst.Lemmas.Chars
open Konst Konst.Utf8 Konst.Chr Konst.Chars Konst.Hist Konst.Spec.Utf8 Konst.Spec.Chars
open Konst.Lemmas.Utf8 Konst.Deque
open Konst.Lemmas.Slice (apply_length comp_apply comp_inBounds sliceFrom_of_le sliceUpTo_of_le whole_apply
  whole_inBounds eq_nil_or_snoc)

/-! ### the shared core of the `next` / `next_back` blocks -/

theorem splitAt_boundary (cs : List Nat) (hs : Scalars cs) (i : Nat) (hb : IsBoundary cs i) :
    Utf8.splitAt (encs cs) i = .ok (⟨0, i⟩, ⟨i, (encs cs).length - i⟩) := by
  have hle := boundary_le cs i hb
  have hf : isCharBoundaryForgiving (encs cs) i = true := (forgiving_iff cs hs i).mpr (Or.inr hb)
  rw [Utf8.splitAt, strUpTo_ok _ _ hf, strFrom_ok _ _ hf, sliceUpTo_of_le hle, sliceFrom_of_le hle]
  rfl

/-- front: boundary search, split and decode of the first character -/
theorem core_next (c : Nat) (cs : List Nat) (hs : Scalars (c :: cs)) :
    let this := enc c ++ encs cs
    let l := (enc c).length
    findNextCharBoundary this 0 = l ∧
    Utf8.splitAt this l = .ok (⟨0, l⟩, ⟨l, this.length - l⟩) ∧
    stringToChar ((⟨0, l⟩ : View).apply this) = c ∧
    (⟨l, this.length - l⟩ : View).apply this = encs cs := by
  intro this l
  refine ⟨findNext_first c cs hs, ?_, ?_, ?_⟩
  · have := splitAt_boundary (c :: cs) hs l ⟨1, by simp [l]⟩
    rwa [encs_cons] at this
  · have : (⟨0, l⟩ : View).apply this = enc c := by
      simp only [View.apply, List.drop_zero, this, l]; exact List.take_left' rfl
    rw [this]
    exact stringToUsv_enc c (by have := isScalar_lt c (hs c (by simp)); omega)
  · simp only [View.apply, this, l, List.drop_left' rfl]
    exact List.take_of_length_le (by simp)

/-- back: boundary search, split and decode of the last character -/
theorem core_back (cs : List Nat) (c : Nat) (hs : Scalars (cs ++ [c])) :
    let this := encs cs ++ enc c
    let p := (encs cs).length
    findPrevCharBoundary this this.length = some p ∧
    Utf8.splitAt this p = .ok (⟨0, p⟩, ⟨p, this.length - p⟩) ∧
    stringToChar ((⟨p, this.length - p⟩ : View).apply this) = c ∧
    (⟨0, p⟩ : View).apply this = encs cs := by
  intro this p
  have he : this = encs (cs ++ [c]) := (encs_snoc cs c).symm
  refine ⟨findPrev_last cs c hs, ?_, ?_, ?_⟩
  · have := splitAt_boundary (cs ++ [c]) hs p ⟨cs.length, by simp [p]⟩
    rwa [← he] at this
  · have : (⟨p, this.length - p⟩ : View).apply this = enc c := by
      simp only [View.apply, this, p, List.drop_left' rfl]
      exact List.take_of_length_le (by simp)
    rw [this]
    exact stringToUsv_enc c (by have := isScalar_lt c (hs c (by simp)); omega)
  · simp only [View.apply, List.drop_zero, this, p]; exact List.take_left' rfl

theorem encs_eq_nil (cs : List Nat) (h : encs cs = []) : cs = [] := encs_eq_nil_iff.mp h

theorem indexed_append (off : Nat) (cs : List Nat) (c : Nat) :
    indexed off (cs ++ [c]) = indexed off cs ++ [(off + (encs cs).length, c)] := by
  induction cs generalizing off with
  | nil => simp [indexed]
  | cons d cs ih => simp [indexed, ih, Nat.add_assoc]

theorem indexed_snd (off : Nat) (cs : List Nat) : (indexed off cs).map (·.2) = cs := by
  induction cs generalizing off with
  | nil => rfl
  | cons d cs ih => simp [indexed, ih]

theorem rest_view (s : List Nat) (v : View) (c : Nat) (cs : List Nat) (hib : v.InBounds s.length)
    (he : v.apply s = enc c ++ encs cs) :
    (v.comp ⟨(enc c).length, (enc c ++ encs cs).length - (enc c).length⟩).InBounds s.length ∧
    (v.comp ⟨(enc c).length, (enc c ++ encs cs).length - (enc c).length⟩).apply s = encs cs := by
  have hlen := apply_length hib
  rw [he] at hlen
  have hw : (⟨(enc c).length, (enc c ++ encs cs).length - (enc c).length⟩ : View).InBounds v.len := by
    unfold View.InBounds
    rw [← hlen, Nat.add_sub_cancel' (List.length_append ▸ Nat.le_add_right _ _)]
    exact Nat.le_refl _
  refine ⟨comp_inBounds hib hw, ?_⟩
  rw [comp_apply v _ s hw, he, View.apply, List.drop_left' rfl]
  exact List.take_of_length_le (by rw [List.length_append, Nat.add_sub_cancel_left]; exact Nat.le_refl _)

theorem init_view (s : List Nat) (v : View) (cs : List Nat) (c : Nat) (hib : v.InBounds s.length)
    (he : v.apply s = encs cs ++ enc c) :
    (v.comp ⟨0, (encs cs).length⟩).InBounds s.length ∧ (v.comp ⟨0, (encs cs).length⟩).apply s = encs cs := by
  have hlen := apply_length hib
  rw [he] at hlen
  have hw : (⟨0, (encs cs).length⟩ : View).InBounds v.len := by
    unfold View.InBounds
    rw [← hlen, Nat.zero_add, List.length_append]
    exact Nat.le_add_right _ _
  refine ⟨comp_inBounds hib hw, ?_⟩
  rw [comp_apply v _ s hw, he, View.apply, List.drop_zero]
  exact List.take_left' rfl

def CInv (s : List Nat) (it : Chars) : Prop :=
  it.this.InBounds s.length ∧ ∃ cs, Scalars cs ∧ it.this.apply s = encs cs

def cabs (s : List Nat) (it : Chars) : List Nat := (decodeAll (it.this.apply s)).getD []

theorem cabs_eq (s : List Nat) (it : Chars) (cs : List Nat) (hs : Scalars cs)
    (he : it.this.apply s = encs cs) : cabs s it = cs := by
  simp [cabs, he, decodeAll_encs cs hs]

theorem chars_next_nil (s : List Nat) (it : Chars) (he : it.this.apply s = []) :
    Chars.next s it = .ok none := by
  simp [Chars.next, he]

theorem chars_back_nil (s : List Nat) (it : Chars) (he : it.this.apply s = []) :
    Chars.nextBack s it = .ok none := by
  simp [Chars.nextBack, he]

theorem chars_next_cons (s : List Nat) (it : Chars) (c : Nat) (cs : List Nat)
    (hib : it.this.InBounds s.length) (hs : Scalars (c :: cs)) (he : it.this.apply s = encs (c :: cs)) :
    ∃ it', Chars.next s it = .ok (some (c, it')) ∧ it'.this.InBounds s.length ∧
      it'.this.apply s = encs cs ∧ it'.this.off = it.this.off + (enc c).length := by
  obtain ⟨h1, h2, h3, _⟩ := core_next c cs hs
  rw [encs_cons] at he
  obtain ⟨hb, ha⟩ := rest_view s it.this c cs hib he
  refine ⟨⟨it.this.comp _⟩, ?_, hb, ha, rfl⟩
  simp only [Chars.next, he, enc_append_isEmpty, h1, h2, h3, Bool.false_eq_true, if_false]

theorem chars_back_snoc (s : List Nat) (it : Chars) (cs : List Nat) (c : Nat)
    (hib : it.this.InBounds s.length) (hs : Scalars (cs ++ [c]))
    (he : it.this.apply s = encs (cs ++ [c])) :
    ∃ it', Chars.nextBack s it = .ok (some (c, it')) ∧ it'.this.InBounds s.length ∧
      it'.this.apply s = encs cs ∧ it'.this.off = it.this.off := by
  obtain ⟨h1, h2, h3, _⟩ := core_back cs c hs
  rw [encs_snoc] at he
  obtain ⟨hb, ha⟩ := init_view s it.this cs c hib he
  refine ⟨⟨it.this.comp _⟩, ?_, hb, ha, Nat.add_zero _⟩
  simp only [Chars.nextBack, he, append_enc_isEmpty, h1, h2, h3, Bool.false_eq_true, if_false]

theorem chars_refines (s : List Nat) :
    Refines (Chars.next s) (Chars.nextBack s) (CInv s) (cabs s) := by
  refine Refines.of_steps ?_ ?_
  · rintro it ⟨hib, cs, hs, he⟩
    cases cs with
    | nil => exact Or.inl ⟨chars_next_nil s it he, cabs_eq s it [] hs he⟩
    | cons c cs =>
      obtain ⟨it', h, hib', he', _⟩ := chars_next_cons s it c cs hib hs he
      exact Or.inr ⟨c, it', h, ⟨hib', cs, hs.tail, he'⟩,
        by rw [cabs_eq s it _ hs he, cabs_eq s it' _ hs.tail he']⟩
  · rintro it ⟨hib, cs, hs, he⟩
    rcases eq_nil_or_snoc cs with rfl | ⟨cs, c, rfl⟩
    · exact Or.inl ⟨chars_back_nil s it he, cabs_eq s it [] hs he⟩
    · obtain ⟨it', h, hib', he', _⟩ := chars_back_snoc s it cs c hib hs he
      exact Or.inr ⟨c, it', h, ⟨hib', cs, hs.init, he'⟩,
        by rw [cabs_eq s it _ hs he, cabs_eq s it' _ hs.init he']⟩

theorem chars_inv_init (cs : List Nat) (hs : Scalars cs) : CInv (encs cs) (chars (encs cs)) :=
  ⟨whole_inBounds _, cs, hs, whole_apply _⟩

theorem chars_abs_init (cs : List Nat) (hs : Scalars cs) : cabs (encs cs) (chars (encs cs)) = cs :=
  cabs_eq _ _ cs hs (whole_apply _)

def CIInv (s : List Nat) (it : CharIndices) : Prop :=
  it.this.InBounds s.length ∧ it.startOffset = it.this.off ∧
    ∃ cs, Scalars cs ∧ it.this.apply s = encs cs

def ciabs (s : List Nat) (it : CharIndices) : List (Nat × Nat) :=
  indexed it.startOffset ((decodeAll (it.this.apply s)).getD [])

theorem ciabs_eq (s : List Nat) (it : CharIndices) (cs : List Nat) (hs : Scalars cs)
    (he : it.this.apply s = encs cs) : ciabs s it = indexed it.startOffset cs := by
  simp [ciabs, he, decodeAll_encs cs hs]

theorem ci_next_nil (s : List Nat) (it : CharIndices) (he : it.this.apply s = []) :
    CharIndices.next s it = .ok none := by
  simp [CharIndices.next, he]

theorem ci_back_nil (s : List Nat) (it : CharIndices) (he : it.this.apply s = []) :
    CharIndices.nextBack s it = .ok none := by
  simp [CharIndices.nextBack, he]

theorem ci_next_cons (s : List Nat) (it : CharIndices) (c : Nat) (cs : List Nat)
    (hib : it.this.InBounds s.length) (hs : Scalars (c :: cs)) (he : it.this.apply s = encs (c :: cs)) :
    ∃ it', CharIndices.next s it = .ok (some ((it.startOffset, c), it')) ∧
      it'.this.InBounds s.length ∧ it'.this.apply s = encs cs ∧
      it'.this.off = it.this.off + (enc c).length ∧
      it'.startOffset = it.startOffset + (enc c).length := by
  obtain ⟨h1, h2, h3, _⟩ := core_next c cs hs
  rw [encs_cons] at he
  obtain ⟨hb, ha⟩ := rest_view s it.this c cs hib he
  refine ⟨⟨it.this.comp _, it.startOffset + (enc c).length⟩, ?_, hb, ha, rfl, rfl⟩
  simp only [CharIndices.next, he, enc_append_isEmpty, h1, h2, h3, Bool.false_eq_true, if_false]

theorem ci_back_snoc (s : List Nat) (it : CharIndices) (cs : List Nat) (c : Nat)
    (hib : it.this.InBounds s.length) (hs : Scalars (cs ++ [c]))
    (he : it.this.apply s = encs (cs ++ [c])) :
    ∃ it', CharIndices.nextBack s it = .ok (some ((it.startOffset + (encs cs).length, c), it')) ∧
      it'.this.InBounds s.length ∧ it'.this.apply s = encs cs ∧ it'.this.off = it.this.off ∧
      it'.startOffset = it.startOffset := by
  obtain ⟨h1, h2, h3, _⟩ := core_back cs c hs
  rw [encs_snoc] at he
  obtain ⟨hb, ha⟩ := init_view s it.this cs c hib he
  refine ⟨⟨it.this.comp _, it.startOffset⟩, ?_, hb, ha, Nat.add_zero _, rfl⟩
  simp only [CharIndices.nextBack, he, append_enc_isEmpty, h1, h2, h3, Bool.false_eq_true, if_false]

theorem ci_refines (s : List Nat) :
    Refines (CharIndices.next s) (CharIndices.nextBack s) (CIInv s) (ciabs s) := by
  refine Refines.of_steps ?_ ?_
  · rintro it ⟨hib, ho, cs, hs, he⟩
    cases cs with
    | nil => exact Or.inl ⟨ci_next_nil s it he, ciabs_eq s it [] hs he⟩
    | cons c cs =>
      obtain ⟨it', h, hib', he', ho1, ho2⟩ := ci_next_cons s it c cs hib hs he
      refine Or.inr ⟨_, it', h, ⟨hib', by rw [ho1, ho2, ho], cs, hs.tail, he'⟩, ?_⟩
      rw [ciabs_eq s it _ hs he, ciabs_eq s it' _ hs.tail he', ho2]
      rfl
  · rintro it ⟨hib, ho, cs, hs, he⟩
    rcases eq_nil_or_snoc cs with rfl | ⟨cs, c, rfl⟩
    · exact Or.inl ⟨ci_back_nil s it he, ciabs_eq s it [] hs he⟩
    · obtain ⟨it', h, hib', he', ho1, ho2⟩ := ci_back_snoc s it cs c hib hs he
      refine Or.inr ⟨_, it', h, ⟨hib', by rw [ho1, ho2, ho], cs, hs.init, he'⟩, ?_⟩
      rw [ciabs_eq s it _ hs he, ciabs_eq s it' _ hs.init he', ho2, indexed_append]

theorem ci_inv_init (cs : List Nat) (hs : Scalars cs) : CIInv (encs cs) (charIndices (encs cs)) :=
  ⟨whole_inBounds _, rfl, cs, hs, whole_apply _⟩

theorem ci_abs_init (cs : List Nat) (hs : Scalars cs) :
    ciabs (encs cs) (charIndices (encs cs)) = indexed 0 cs :=
  ciabs_eq _ _ cs hs (whole_apply _)

/-! ### reversed twins: the blocks swapped, the deque reversed -/

theorem mapSt_ok {ι σ τ : Type} (f : σ → τ) (r : Except Panic (Option (ι × σ))) :
    (∀ e, mapSt f r = .error e → r = .error e) ∧
    (mapSt f r = .ok none → r = .ok none) ∧
    (∀ x t, mapSt f r = .ok (some (x, t)) → ∃ s', r = .ok (some (x, s')) ∧ t = f s') := by
  cases r with
  | error p => simp [mapSt]
  | ok o =>
    cases o with
    | none => simp [mapSt]
    | some q =>
      obtain ⟨y, s0⟩ := q
      refine ⟨by simp [mapSt], by simp [mapSt], ?_⟩
      intro x t h
      simp only [mapSt, Except.ok.injEq, Option.some.injEq, Prod.mk.injEq] at h
      exact ⟨s0, by rw [h.1], h.2.symm⟩

theorem refines_rev {σ τ ι : Type} {next back : StepFn Panic σ ι} {inv : σ → Prop}
    {abs : σ → List ι} (R : Refines next back inv abs) (f : σ → τ) (g : τ → σ)
    (hgf : ∀ x, g (f x) = x) :
    Refines (fun t => mapSt f (back (g t))) (fun t => mapSt f (next (g t)))
      (fun t => inv (g t)) (fun t => (abs (g t)).reverse) where
  next_ok := fun t e hi hn => R.back_ok (g t) e hi ((mapSt_ok f _).1 e hn)
  next_none := fun t hi hn => by
    simp only [R.back_none (g t) hi ((mapSt_ok f _).2.1 hn), List.reverse_nil]
  next_some := fun t x t' hi hn => by
    obtain ⟨s', hb, rfl⟩ := (mapSt_ok f _).2.2 x t' hn
    obtain ⟨hi', ha⟩ := R.back_some (g t) x s' hi hb
    simp only [hgf]
    exact ⟨hi', by rw [ha]; simp⟩
  back_ok := fun t e hi hn => R.next_ok (g t) e hi ((mapSt_ok f _).1 e hn)
  back_none := fun t hi hn => by
    simp only [R.next_none (g t) hi ((mapSt_ok f _).2.1 hn), List.reverse_nil]
  back_some := fun t x t' hi hn => by
    obtain ⟨s', hb, rfl⟩ := (mapSt_ok f _).2.2 x t' hn
    obtain ⟨hi', ha⟩ := R.next_some (g t) x s' hi hb
    simp only [hgf]
    exact ⟨hi', by rw [ha]; simp⟩

theorem rchars_refines (s : List Nat) :
    Refines (RChars.next s) (RChars.nextBack s) (fun t => CInv s t.rev)
      (fun t => (cabs s t.rev).reverse) :=
  refines_rev (chars_refines s) Chars.rev RChars.rev (fun _ => rfl)

theorem rci_refines (s : List Nat) :
    Refines (RCharIndices.next s) (RCharIndices.nextBack s) (fun t => CIInv s t.rev)
      (fun t => (ciabs s t.rev).reverse) :=
  refines_rev (ci_refines s) CharIndices.rev RCharIndices.rev (fun _ => rfl)

end Konst.Lemmas.Chars
