import KonstVerif.Rs.Prelude
import KonstVerif.Rs.EvalAttr
/-
  Reasoning rules for the constructs of `Rs.Prelude`; how to prove a new translated function `f`.

  Loops.  `loop` / `while` / `while let` become `Rs.loop fuel f.loopN s`: the body is hoisted as
  `f.loopN : σ → Ctl (LoopExit ε σ β) σ`, `σ` being the tuple of the variables the loop assigns (a `while let`
  pattern is matched inside the body).  End of body and `continue` go round again; `break` is `.exit (.brk b)`
  (`β` is `σ` for `while`, `Empty` for a `loop` left only by `return`); `return v` is `.exit (.out v)`, from an
  inner loop `.exit (.out (.out v))`.

  Fuel.  One `fuel` is handed to every loop and callee of a function: a loop lemma has a fuel of its own per loop
  or callee it runs through, and the top-level theorem instantiates them all with `fuel`.

  Evaluating a body.  `simp only [f.loopN, rs_eval, h₁, …]`.  A conditional lemma (`uadd_ok`, `usub_ok`, `index_ok`,
  …, and the `↓` forms on `>>=`) fires only if its bound (`h₁ : a + b < 2 ^ 64`) is in the simp set too, or is given
  by hand (`Rs.uadd_ok h₁`).  So split cases on the input first, then evaluate in each case.

  Which rule.
  * `loop_eq`: the outcome is a function `F` of the entry state (measure `μ`, invariant `P`); the step is
    `rw [Rs.loopStep, f_loopN_eq]` and the cases of the body (`find_next_loop` in Equiv/Str.lean).
    `loop_rule`: the same with a relation between entry state and outcome (`exitOrFst` is one).
  * `loop_list`: walks a list and always ends by `break` with its state; no `return`, no panic in a turn.
  * `induction fuel` with `Rs.loop_succ`: the model function has a fuel of its own; generalise both
    (`find_loop` in Equiv/Bytes.lean, `skip_loop` in Equiv/ParserA.lean).
-/
namespace Rs

attribute [rs_eval] Ctl.pure_eq Ctl.bind_eq Ctl.bind_val Ctl.bind_exit Ctl.bind_panic Ctl.bind_ub Ctl.bind_nofuel
  Ctl.run_val Ctl.run_exit Ctl.run_panic Ctl.call_ok Ctl.call_panic Ctl.call_ub Ctl.call_nofuel

-- the tests of a generated `if` are `decide`s joined by `&&`: once the facts are known they evaluate
attribute [rs_eval] decide_true decide_false Bool.false_eq_true Bool.and_self Bool.and_false Bool.false_and
  Bool.and_true Bool.true_and and_self and_false false_and

/-! ### checked arithmetic and slice access within bounds -/

@[rs_eval] theorem uadd_ok {ε : Type} {bits a b : Nat} (h : a + b < 2 ^ bits) :
    (uadd bits a b : Ctl ε Nat) = .val (a + b) := if_pos h

@[rs_eval] theorem usub_ok {ε : Type} {bits a b : Nat} (h : b ≤ a) :
    (usub bits a b : Ctl ε Nat) = .val (a - b) := if_pos h

@[rs_eval] theorem umul_ok {ε : Type} {bits a b : Nat} (h : a * b < 2 ^ bits) :
    (umul bits a b : Ctl ε Nat) = .val (a * b) := if_pos h

@[rs_eval] theorem index_ok {ε α : Type} {s : List α} {i : Nat} (h : i < s.length) :
    (index s i : Ctl ε α) = .val s[i] := by
  simp [index, List.getElem?_eq_getElem h]

@[rs_eval] theorem rawParts_ok {ε α : Type} {s : List α} {off n : Nat} (h : off + n ≤ s.length) :
    (rawParts s off n : Ctl ε (List α)) = .val ((s.drop off).take n) := if_pos h

@[rs_eval] theorem unsnoc_nil {α : Type} : unsnoc ([] : List α) = none := rfl

@[rs_eval] theorem unsnoc_concat {α : Type} (s : List α) (x : α) : unsnoc (s ++ [x]) = some (s, x) := by
  simp [unsnoc]

/-! ### binds whose first part is known, as pre-lemmas (`↓`)

A value is passed to the rest of a generated `do` block before simp walks into it, so a `match` on it reduces at
once and no dead branch is visited.  (The blocks elaborate to `>>=`; `Ctl.bind_eq` turns what is left into
`Ctl.bind`.) -/

@[rs_eval ↓] theorem val_bind {ε α β : Type} (a : α) (f : α → Ctl ε β) : (Ctl.val a >>= f) = f a := rfl

@[rs_eval ↓] theorem pure_bind {ε α β : Type} (a : α) (f : α → Ctl ε β) : ((pure a : Ctl ε α) >>= f) = f a := rfl

@[rs_eval ↓] theorem call_ok_bind {ε α β : Type} (a : α) (f : α → Ctl ε β) :
    (Ctl.call (.ok a) >>= f) = f a := rfl

@[rs_eval ↓] theorem uadd_bind {ε β : Type} {bits a b : Nat} (f : Nat → Ctl ε β) (h : a + b < 2 ^ bits) :
    (uadd bits a b >>= f) = f (a + b) := by
  rw [uadd_ok h]
  rfl

@[rs_eval ↓] theorem usub_bind {ε β : Type} {bits a b : Nat} (f : Nat → Ctl ε β) (h : b ≤ a) :
    (usub bits a b >>= f) = f (a - b) := by
  rw [usub_ok h]
  rfl

theorem run_call_bind {α ρ : Type} {r : Res α} {v : α} (h : r = .ok v) (k : α → Ctl ρ ρ) :
    Ctl.run (Ctl.call r >>= k) = Ctl.run (k v) := by
  rw [h]
  rfl

/-! ### labelled blocks -/

@[rs_eval] theorem block_val {ε β : Type} (b : β) : block (ε := ε) (.val b) = .val b := rfl

@[rs_eval] theorem block_brk {ε β : Type} (b : β) : block (ε := ε) (.exit (.brk b)) = .val b := rfl

@[rs_eval] theorem block_out {ε β : Type} (e : ε) : block (β := β) (.exit (.out e)) = .exit e := rfl

/-! ### the loop rule -/

/-- one iteration of `Rs.loop` from `s`, the iterations after it being `k` -/
def loopStep {ε σ β : Type} (body : σ → Ctl (LoopExit ε σ β) σ) (k : σ → Ctl ε β) (s : σ) : Ctl ε β :=
  match body s with
  | .val s' => k s'
  | .exit (.cont s') => k s'
  | .exit (.brk b) => .val b
  | .exit (.out e) => .exit e
  | .panic => .panic
  | .ub => .ub
  | .nofuel => .nofuel

/-- Invariant rule for `Rs.loop`.  The loop states are given by an index: `mk i` is the state at `i` (for a loop
    that walks a list, what is left of the list together with the other loop variables).  `Q i r` says that `r` is an
    acceptable outcome of the loop entered at `i` (an invariant on `i` is a premise inside `Q`); `μ i` bounds the
    number of iterations still to come.  It is enough to show `Q` for one iteration followed by any `k` that
    satisfies `Q` at all indices of smaller measure. -/
theorem loop_rule_ix {ε σ β ι : Type} (body : σ → Ctl (LoopExit ε σ β) σ) (mk : ι → σ) (μ : ι → Nat)
    (Q : ι → Ctl ε β → Prop)
    (step : ∀ i k, (∀ i', μ i' < μ i → Q i' (k (mk i'))) → Q i (loopStep body k (mk i)))
    (n : Nat) (i : ι) (hn : μ i < n) : Q i (loop n body (mk i)) := by
  induction n generalizing i with
  | zero => omega
  | succ n ih => exact step i (loop n body) fun i' h => ih i' (by omega)

theorem loop_rule {ε σ β : Type} (body : σ → Ctl (LoopExit ε σ β) σ) (μ : σ → Nat) (Q : σ → Ctl ε β → Prop)
    (step : ∀ s k, (∀ s', μ s' < μ s → Q s' (k s')) → Q s (loopStep body k s))
    (n : Nat) (s : σ) (hn : μ s < n) : Q s (loop n body s) :=
  loop_rule_ix body id μ Q step n s hn

theorem loop_eq {ε σ β : Type} (body : σ → Ctl (LoopExit ε σ β) σ) (μ : σ → Nat) (P : σ → Prop)
    (F : σ → Ctl ε β)
    (step : ∀ s k, P s → (∀ s', P s' → μ s' < μ s → k s' = F s') → loopStep body k s = F s)
    (n : Nat) (s : σ) (hP : P s) (hn : μ s < n) : loop n body s = F s :=
  loop_rule body μ (fun s r => P s → r = F s)
    (fun s k ih hs => step s k hs fun s' hs' h => ih s' h hs') n s hn hP

/-- outcome of a loop that the model describes by an `Option`: `none` = the loop is left by the exit `e`,
    `some x` = it ends normally with `x` as first component of its state (the rest of the state is not used
    after the loop) -/
def exitOrFst {ε α γ : Type} (e : ε) (o : Option α) (r : Ctl ε (α × γ)) : Prop :=
  match o with
  | none => r = .exit e
  | some x => ∃ q, r = .val (x, q)

theorem exitOrFst.bind_eq {ε α γ β : Type} {e : ε} {o : Option α} {r : Ctl ε (α × γ)}
    (h : exitOrFst e o r) (f : α × γ → Ctl ε β) (g : α → Ctl ε β) (hf : ∀ x q, f (x, q) = g x) :
    r.bind f = o.elim (.exit e) g := by
  cases o with
  | none =>
    rw [show r = .exit e from h]
    rfl
  | some x =>
    obtain ⟨q, hq⟩ := h
    rw [hq]
    exact hf x q

/-! ### a loop that walks a list

`Rs.loop` over a slice iterator, forwards or backwards.  `mk l t` is the loop state when the items `l` are still to
come and the other loop variables hold `t`; `g l t` is what the loop is claimed to deliver from there (read off the
final state by `proj`), under an invariant `Inv l t` (no counter overflows, a result variable is still unset, …). -/

/-- what one turn with `x :: l` to come may do: go round again with `l` to come (falling off the end
    of the body or `continue`), the claim `g` and the invariant carried along, or `break` with the
    claimed result -/
inductive Turn {T τ σ ε ρ : Type} (mk : List T → τ → σ) (proj : σ → ρ) (g : List T → τ → ρ)
    (Inv : List T → τ → Prop) (x : T) (l : List T) (t : τ) : Ctl (LoopExit ε σ σ) σ → Prop
  | val (t' : τ) : Inv l t' → g (x :: l) t = g l t' → Turn mk proj g Inv x l t (.val (mk l t'))
  | cont (t' : τ) : Inv l t' → g (x :: l) t = g l t' → Turn mk proj g Inv x l t (.exit (.cont (mk l t')))
  | brk (s : σ) : proj s = g (x :: l) t → Turn mk proj g Inv x l t (.exit (.brk s))

/-- Covers only loops that end by `break` with the state: `Turn` has no `return` and no panic case.
    Fuel: one turn per item and the last one that finds the list exhausted. -/
theorem loop_list {T τ σ ε ρ : Type} (body : σ → Ctl (LoopExit ε σ σ) σ) (mk : List T → τ → σ)
    (proj : σ → ρ) (g : List T → τ → ρ) (Inv : List T → τ → Prop)
    (hnil : ∀ t, Inv [] t → ∃ s, body (mk [] t) = .exit (.brk s) ∧ proj s = g [] t)
    (hcons : ∀ x l t, Inv (x :: l) t → Turn mk proj g Inv x l t (body (mk (x :: l) t)))
    (n : Nat) (l : List T) (t : τ) (hn : l.length + 1 ≤ n) (hi : Inv l t) :
    ∃ s, loop n body (mk l t) = .val s ∧ proj s = g l t := by
  refine loop_rule_ix body (fun i : List T × τ => mk i.1 i.2) (·.1.length)
    (fun i r => Inv i.1 i.2 → ∃ s, r = .val s ∧ proj s = g i.1 i.2) ?_ n (l, t) hn hi
  rintro ⟨l, t⟩ k ih hi
  unfold loopStep
  cases l with
  | nil =>
    obtain ⟨s, hs, hp⟩ := hnil t hi
    rw [hs]
    exact ⟨s, rfl, hp⟩
  | cons x l =>
    have ht := hcons x l t hi
    generalize body (mk (x :: l) t) = B at ht
    cases ht with
    | val t' hi' hg => rw [hg]; exact ih (l, t') (Nat.lt_succ_self _) hi'
    | cont t' hi' hg => rw [hg]; exact ih (l, t') (Nat.lt_succ_self _) hi'
    | brk s hp => exact ⟨s, rfl, hp⟩

end Rs
