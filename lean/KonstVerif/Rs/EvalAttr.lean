import Lean.Meta.Tactic.Simp.RegisterCommand
/-
  The simp set `rs_eval`: evaluation rules of the `Rs` prelude (monad laws of `Ctl`, checked arithmetic
  within bounds, slice access within bounds).  The lemmas are tagged in `Rs/LoopLemmas.lean`.
-/
register_simp_attr rs_eval
